import GaeaVerif.Model.MgrReload
/-
  Lemmas about the reload machine of `Model/MgrReload.lean` that the theorems of
  C31, C32 and C35 rest on: lookups in a `Table` / `Pair` after an update; the
  relation `Rel m s` between a manager and the reference state `Spec` (active
  generation = configurations last committed, inactive generation = the pending
  prepare); what each operation returns on a manager in that relation, as an
  equation; that every operation keeps the relation and never panics
  (`step_refines`); that an operation changes what sessions see of a namespace
  only by a successful commit or delete of it (`step_keeps_view`); and prepare
  followed by commit: a successful prepare leaves the manager `Ready`
  (`prepare_ready`), and the commit of a `Ready` manager succeeds and puts the
  prepared version in force (`Ready.commit`).
-/
namespace GaeaVerif.C31
open GaeaVerif GaeaVerif.MgrReload

@[simp] theorem set_same (t : Table) (n : Name) (v : Ver) : (t.set n v) n = some v := by
  simp [Table.set]

@[simp] theorem set_other (t : Table) {n k : Name} (v : Ver) (h : k ≠ n) : (t.set n v) k = t k := by
  simp [Table.set, h]

@[simp] theorem erase_same (t : Table) (n : Name) : (t.erase n) n = none := by
  simp [Table.erase]

@[simp] theorem erase_other (t : Table) {n k : Name} (h : k ≠ n) : (t.erase n) k = t k := by
  simp [Table.erase, h]

theorem erase_set (t : Table) (n : Name) (v : Ver) : (t.erase n).set n v = t.set n v := by
  funext k; by_cases h : k = n <;> simp [Table.set, Table.erase, h]

@[simp] theorem put_same {α : Type} (a : Pair α) (i : Bool) (x : α) : (a.put i x) i = x := by
  simp [Pair.put]

@[simp] theorem put_not {α : Type} (a : Pair α) (i : Bool) (x : α) : (a.put (!i) x) i = a i := by
  cases i <;> simp [Pair.put]

/-- The manager `m` implements the abstract state `s`: the active generation
    holds exactly the configurations last committed; if a prepare is pending,
    the inactive generation is the active one with the version last prepared
    for `preparedName` put in. -/
structure Rel (m : Manager) (s : Spec) : Prop where
  ns : m.namespaces m.switchIndex = some s.active
  us : m.users m.switchIndex = some s.active
  prep : m.reloadPrepared = true → ∃ v, s.prepared m.preparedName = some v ∧
    m.namespaces (!m.switchIndex) = some (s.active.set m.preparedName v) ∧
    m.users (!m.switchIndex) = some (s.active.set m.preparedName v)

theorem rel_init (cfgs : List (Name × Ver)) : Rel (CreateManager cfgs) (Spec.init cfgs) := by
  constructor <;> simp [CreateManager, Spec.init]

theorem view_eq_active {m : Manager} {s : Spec} (h : Rel m s) (n : Name) :
    GetNamespace m n = some (s.active n) ∧ GetNamespaceByUser m n = some (s.active n) := by
  simp [GetNamespace, GetNamespaceByUser, h.ns, h.us]

/-! ### `Spec.step` on the three successful outcomes (every other outcome leaves the state as it is) -/

theorem step_prepare_ok (s : Spec) (n : Name) (v : Ver) (b : Bool) :
    s.step (.prepare n v b) .ok = { s with prepared := s.prepared.set n v } := rfl

theorem step_commit_ok {s : Spec} {n : Name} {v : Ver} (hv : s.prepared n = some v) :
    s.step (.commit n) .ok = { s with active := s.active.set n v } := by
  simp only [Spec.step, hv]

theorem step_delete_ok (s : Spec) (n : Name) : s.step (.delete n) .ok = { s with active := s.active.erase n } := rfl

/-! ### what each operation does to a manager that implements `s` -/

theorem prepare_eq {m : Manager} {s : Spec} (h : Rel m s) (n : Name) (v : Ver) :
    ReloadNamespacePrepare m n v true =
      ({ m with namespaces := m.namespaces.put (!m.switchIndex) (some (s.active.set n v)),
                users := m.users.put (!m.switchIndex) (some (s.active.set n v)),
                preparedName := n, reloadPrepared := true }, .ok) := by
  simp only [ReloadNamespacePrepare, ReloadNamespacePrepareTrace, h.ns, h.us, erase_set, Bool.not_true,
    Bool.false_eq_true, if_false]
  rfl

theorem prepare_unbuildable {m : Manager} {s : Spec} (h : Rel m s) (n : Name) (v : Ver) :
    ReloadNamespacePrepare m n v false = (m, .errBuild) := by
  simp only [ReloadNamespacePrepare, ReloadNamespacePrepareTrace, h.ns]
  rfl

theorem commit_not_prepared {m : Manager} {n : Name} (hn : (m.reloadPrepared && m.preparedName == n) = false) :
    ReloadNamespaceCommit m n = (m, .errNotPrepared) := by
  simp only [ReloadNamespaceCommit, ReloadNamespaceCommitTrace, hn]
  rfl

theorem commit_eq {m : Manager} {s : Spec} (h : Rel m s) {n : Name} (hp : m.reloadPrepared = true)
    (hn : m.preparedName = n) :
    ReloadNamespaceCommit m n = ({ m with reloadPrepared := false, switchIndex := !m.switchIndex }, .ok) := by
  subst hn
  obtain ⟨v, -, hns, -⟩ := h.prep hp
  simp [ReloadNamespaceCommit, ReloadNamespaceCommitTrace, hp, h.ns, GetNamespace, hns]

theorem delete_absent {m : Manager} {s : Spec} (h : Rel m s) {n : Name} (ha : s.active n = none) : DeleteNamespace m n = (m, .ok) := by
  simp only [DeleteNamespace, DeleteNamespaceTrace, h.ns, ha]
  rfl

theorem delete_eq {m : Manager} {s : Spec} (h : Rel m s) {n : Name} {w : Ver} (ha : s.active n = some w) :
    DeleteNamespace m n =
      ({ m with namespaces := m.namespaces.put (!m.switchIndex) (some (s.active.erase n)),
                users := m.users.put (!m.switchIndex) (some (s.active.erase n)),
                reloadPrepared := false, switchIndex := !m.switchIndex }, .ok) := by
  simp only [DeleteNamespace, DeleteNamespaceTrace, h.ns, h.us, ha]
  rfl

theorem prepare_refines {m : Manager} {s : Spec} (h : Rel m s) (n : Name) (v : Ver) (b : Bool) :
    Rel (ReloadNamespacePrepare m n v b).1 (s.step (.prepare n v b) (ReloadNamespacePrepare m n v b).2) ∧
    (ReloadNamespacePrepare m n v b).2 = (if b then .ok else .errBuild) := by
  cases b with
  | false =>
    rw [prepare_unbuildable h]
    exact ⟨h, rfl⟩
  | true =>
    rw [prepare_eq h]
    exact ⟨⟨by simp [step_prepare_ok, h.ns], by simp [step_prepare_ok, h.us], fun _ => ⟨v, by simp [step_prepare_ok]⟩⟩, rfl⟩

theorem commit_refines {m : Manager} {s : Spec} (h : Rel m s) (n : Name) :
    Rel (ReloadNamespaceCommit m n).1 (s.step (.commit n) (ReloadNamespaceCommit m n).2) ∧
    ((ReloadNamespaceCommit m n).2 = .errNotPrepared ∨
     ((ReloadNamespaceCommit m n).2 = .ok ∧ m.reloadPrepared = true ∧ m.preparedName = n ∧
        ∃ v, s.prepared n = some v)) := by
  cases hb : (m.reloadPrepared && m.preparedName == n) with
  | false =>
    rw [commit_not_prepared hb]
    exact ⟨h, .inl rfl⟩
  | true =>
    obtain ⟨hp, rfl⟩ : m.reloadPrepared = true ∧ m.preparedName = n := by
      simpa only [Bool.and_eq_true, beq_iff_eq] using hb
    obtain ⟨v, hv, hns, hus⟩ := h.prep hp
    rw [commit_eq h hp rfl]
    refine ⟨?_, .inr ⟨rfl, hp, rfl, v, hv⟩⟩
    rw [step_commit_ok hv]
    exact ⟨by simpa using hns, by simpa using hus, fun hf => by cases hf⟩

theorem delete_refines {m : Manager} {s : Spec} (h : Rel m s) (n : Name) :
    Rel (DeleteNamespace m n).1 (s.step (.delete n) (DeleteNamespace m n).2) ∧
    (DeleteNamespace m n).2 = .ok := by
  cases ha : s.active n with
  | none =>
    have he : s.active.erase n = s.active := by
      funext k; by_cases hk : k = n <;> simp [Table.erase, hk, ha]
    rw [delete_absent h ha]
    refine ⟨?_, rfl⟩
    rw [step_delete_ok, he]
    exact h
  | some w =>
    rw [delete_eq h ha]
    exact ⟨⟨by simp [step_delete_ok], by simp [step_delete_ok], fun hf => by cases hf⟩, rfl⟩

theorem step_refines {m : Manager} {s : Spec} (h : Rel m s) (op : Op) :
    Rel (step m op).1 (s.step op (step m op).2) ∧ (step m op).2 ≠ .panic := by
  cases op with
  | prepare n v b =>
    refine ⟨(prepare_refines h n v b).1, ?_⟩
    rw [step, (prepare_refines h n v b).2]; cases b <;> simp
  | commit n =>
    refine ⟨(commit_refines h n).1, ?_⟩
    rcases (commit_refines h n).2 with e | ⟨e, _⟩ <;> rw [step, e] <;> simp
  | delete n =>
    refine ⟨(delete_refines h n).1, ?_⟩
    rw [step, (delete_refines h n).2]; simp

theorem spec_active_unchanged (s : Spec) (op : Op) (o : Out) (n : Name)
    (hc : ¬ (op = .commit n ∧ o = .ok)) (hd : ¬ (op = .delete n ∧ o = .ok)) :
    (s.step op o).active n = s.active n := by
  rcases op with _ | k | k <;> cases o <;> try rfl
  · have hne : n ≠ k := fun e => hc ⟨e ▸ rfl, rfl⟩
    simp only [Spec.step]
    split
    · exact set_other _ _ hne
    · rfl
  · exact erase_other _ fun e => hd ⟨e ▸ rfl, rfl⟩

theorem step_keeps_view {m : Manager} {s : Spec} (h : Rel m s) (op : Op) (n : Name)
    (hc : ¬ (op = .commit n ∧ (step m op).2 = .ok)) (hd : ¬ (op = .delete n ∧ (step m op).2 = .ok)) :
    GetNamespace (step m op).1 n = GetNamespace m n ∧
    GetNamespaceByUser (step m op).1 n = GetNamespaceByUser m n := by
  have a := view_eq_active (step_refines h op).1 n
  rw [spec_active_unchanged s op _ n hc hd] at a
  have b := view_eq_active h n
  exact ⟨a.1.trans b.1.symm, a.2.trans b.2.symm⟩

/-! ### prepare, then commit -/

/-- A prepare of version `v` of `n` is pending on the manager. -/
def Ready (m : Manager) (n : Name) (v : Ver) : Prop :=
  ∃ s, Rel m s ∧ m.reloadPrepared = true ∧ m.preparedName = n ∧ s.prepared n = some v

/-- A prepare of `n` pending on the manager, if there is one, is of version `v`
    (the abstract `prepared` table is not determined by the manager otherwise). -/
def LastPrep (m : Manager) (n : Name) (v : Ver) : Prop := ∃ s, Rel m s ∧ s.prepared n = some v

theorem Ready.lastPrep {m : Manager} {n : Name} {v : Ver} (h : Ready m n v) : LastPrep m n v :=
  let ⟨s, h, _, _, hs⟩ := h; ⟨s, h, hs⟩

theorem LastPrep.good {m : Manager} {n : Name} {v : Ver} (h : LastPrep m n v) : ∃ s, Rel m s :=
  let ⟨s, h, _⟩ := h; ⟨s, h⟩

theorem prepare_ready {m : Manager} {s : Spec} (h : Rel m s) (n : Name) (v : Ver) :
    Ready (ReloadNamespacePrepare m n v true).1 n v := by
  have hr := (prepare_refines h n v true).1
  rw [prepare_eq h] at hr ⊢
  exact ⟨_, hr, rfl, rfl, set_same _ n v⟩

/-- Committing the pending prepare succeeds and puts its version in force. -/
theorem Ready.commit {m : Manager} {n : Name} {v : Ver} (h : Ready m n v) :
    (ReloadNamespaceCommit m n).2 = .ok ∧
    GetNamespace (ReloadNamespaceCommit m n).1 n = some (some v) ∧
    GetNamespaceByUser (ReloadNamespaceCommit m n).1 n = some (some v) := by
  obtain ⟨s, h, hp, hn, hv⟩ := h
  have hr := (commit_refines h n).1
  rw [commit_eq h hp hn] at hr ⊢
  rw [step_commit_ok hv] at hr
  have a := view_eq_active hr n
  simp only [set_same] at a
  exact ⟨rfl, a⟩

end GaeaVerif.C31
