import GaeaVerif.Model.IPAllow
/-
  Lemmas about the transliterated code of package `net` that C35's allow-list
  runs (`Model/IPAllow.lean`): byte strings as big-endian numbers (`beNat`),
  `CIDRMask` as rounding down to a network number (`beNat_masked`, `beq_masked`),
  `IPNet.Contains` on a network whose number is a masked address
  (`contains_masked`), what masking does to the IPv4-mapped marker
  (`masked_take12`), `To4` / `As16` / `IP.Equal`, and how the network numbers of
  a 4-byte address and of its 16-byte form are related (`netNum_split`).
-/
namespace GaeaVerif.C35
open GaeaVerif GaeaVerif.IPAllow

theorem and_ff (a : UInt8) : a &&& 0xff = a := UInt8.and_neg_one

theorem and_highBits (a j k : Nat) (ha : a < 2 ^ (j + k)) :
    a &&& (2 ^ j - 1) * 2 ^ k = a / 2 ^ k * 2 ^ k := by
  have hk : 0 < 2 ^ k := Nat.pow_pos (by decide)
  have hm : (a &&& (2 ^ j - 1) * 2 ^ k) % 2 ^ k = 0 := by
    rw [Nat.and_mod_two_pow, Nat.mul_mod_left, Nat.and_zero]
  have hd : (a &&& (2 ^ j - 1) * 2 ^ k) / 2 ^ k = a / 2 ^ k := by
    rw [Nat.and_div_two_pow, Nat.mul_div_cancel _ hk, Nat.and_two_pow_sub_one_eq_mod, Nat.mod_eq_of_lt]
    exact Nat.div_lt_of_lt_mul (by rwa [Nat.pow_add, Nat.mul_comm] at ha)
  rw [← hd, Nat.div_mul_cancel (Nat.dvd_of_mod_eq_zero hm)]

/-- The partial mask bytes `^byte(0xff >> n)`: 0x00, 0x80, 0xc0, …, 0xfe. -/
theorem maskByte_val : ∀ n, n < 8 →
    (~~~ ((0xff : UInt8) >>> UInt8.ofNat n)).toNat = (2 ^ n - 1) * 2 ^ (8 - n) := by decide

theorem maskByte_toNat (n : Nat) (hn : n < 8) (a : UInt8) :
    (a &&& (~~~ ((0xff : UInt8) >>> UInt8.ofNat n))).toNat = a.toNat / 2 ^ (8 - n) * 2 ^ (8 - n) := by
  rw [UInt8.toNat_and, maskByte_val n hn]
  refine and_highBits _ _ _ ?_
  rw [Nat.add_sub_cancel' (Nat.le_of_lt hn)]
  exact a.toNat_lt

theorem beNat_lt (a : Bytes) : beNat a < 256 ^ a.length := by
  induction a with
  | nil => simp [beNat]
  | cons b bs ih =>
    simp only [beNat, List.length_cons, Nat.pow_succ]
    have hb := UInt8.toNat_lt b
    have : b.toNat * 256 ^ bs.length ≤ 255 * 256 ^ bs.length := Nat.mul_le_mul_right _ (by omega)
    omega

theorem beNat_append (p x : Bytes) : beNat (p ++ x) = beNat p * 256 ^ x.length + beNat x := by
  induction p with
  | nil => simp [beNat]
  | cons b p ih =>
    simp only [List.cons_append, beNat, List.length_append, ih, Nat.pow_add, Nat.add_mul, Nat.mul_assoc,
      Nat.add_assoc]

theorem digit_eq (M a c r s : Nat) (hr : r < M) (hs : s < M) (h : a * M + r = c * M + s) : a = c ∧ r = s := by
  have hM : 0 < M := by omega
  have h1 : (a * M + r) / M = (c * M + s) / M := by rw [h]
  have h2 : (a * M + r) % M = (c * M + s) % M := by rw [h]
  rw [Nat.mul_comm a M, Nat.mul_comm c M] at h1 h2
  rw [Nat.mul_add_div hM, Nat.mul_add_div hM, Nat.div_eq_of_lt hr, Nat.div_eq_of_lt hs] at h1
  rw [Nat.mul_add_mod, Nat.mul_add_mod, Nat.mod_eq_of_lt hr, Nat.mod_eq_of_lt hs] at h2
  omega

theorem beNat_inj : ∀ (a c : Bytes), a.length = c.length → beNat a = beNat c → a = c := by
  intro a
  induction a with
  | nil => intro c h _; exact (List.length_eq_zero_iff.mp h.symm).symm
  | cons x xs ih =>
    intro c h he
    match c, h with
    | y :: ys, h =>
      simp only [List.length_cons, Nat.add_right_cancel_iff] at h
      simp only [beNat] at he
      rw [h] at he
      have hx := beNat_lt xs
      have hy := beNat_lt ys
      rw [h] at hx
      obtain ⟨h1, h2⟩ := digit_eq (256 ^ ys.length) x.toNat y.toNat (beNat xs) (beNat ys) hx hy he
      rw [UInt8.toNat_inj.mp h1, ih ys h h2]

theorem cidrMaskLoop_length (n l : Nat) : (cidrMaskLoop n l).length = l := by
  induction l generalizing n with
  | zero => simp [cidrMaskLoop]
  | succ l ih => unfold cidrMaskLoop; split <;> simp [ih]

theorem masked_length (n : Nat) {l : Nat} (a : Bytes) (ha : a.length = l) :
    (andBytes a (cidrMaskLoop n l)).length = l := by
  simp [andBytes, cidrMaskLoop_length, ha]

theorem pow256 (l : Nat) : 256 ^ l = 2 ^ (8 * l) := by rw [Nat.pow_mul]

theorem mul_mul_add_div (q M D x : Nat) (hD : 0 < D) : (q * (M * D) + x) / D = q * M + x / D := by
  rw [← Nat.mul_assoc, Nat.add_comm, Nat.add_mul_div_right _ _ hD, Nat.add_comm]

/-- Masking is rounding down: `n` network bits, `h` host bits. -/
theorem beNat_masked (l : Nat) : ∀ (n h : Nat) (a : Bytes), a.length = l → n + h = 8 * l →
    beNat (andBytes a (cidrMaskLoop n l)) = beNat a / 2 ^ h * 2 ^ h := by
  induction l with
  | zero => intro n h a ha _; rw [List.length_eq_zero_iff.mp ha]; simp [andBytes, beNat]
  | succ l ih =>
    intro n h a ha hn
    match a, ha with
    | a0 :: as, ha =>
      simp only [List.length_cons, Nat.add_right_cancel_iff] at ha
      have hx := beNat_lt as
      rw [ha, pow256] at hx
      have hlen := fun k => masked_length k as ha
      have andBytes_cons : ∀ m ms, andBytes (a0 :: as) (m :: ms) = (a0 &&& m) :: andBytes as ms := fun _ _ => rfl
      unfold cidrMaskLoop
      by_cases h8 : n ≥ 8
      · -- a whole byte of the prefix: `n = m + 8`, and `256^l = 2^m * 2^h`
        obtain ⟨m, rfl⟩ := Nat.exists_eq_add_of_le' h8
        have hm : m + h = 8 * l := by omega
        rw [if_pos h8, Nat.add_sub_cancel, andBytes_cons, and_ff, beNat, beNat, hlen, ha, ih m h as ha hm, pow256, ← hm,
          Nat.pow_add, mul_mul_add_div _ _ _ _ (Nat.pow_pos (by decide)), Nat.add_mul, Nat.mul_assoc]
      · -- the partial byte; nothing of the prefix is left for the other `l` bytes: `h = (8 - n) + 8l`
        have hr := ih 0 (8 * l) as ha (Nat.zero_add _)
        rw [Nat.div_eq_of_lt hx, Nat.zero_mul] at hr
        have hh : h = 8 - n + 8 * l := by omega
        rw [if_neg h8, andBytes_cons, beNat, beNat, hlen, ha, hr, maskByte_toNat n (by omega), hh, Nat.pow_add, pow256]
        have := mul_mul_add_div a0.toNat 1 (2 ^ (8 * l)) (beNat as) (Nat.pow_pos (by decide))
        rw [Nat.one_mul, Nat.div_eq_of_lt hx, Nat.mul_one, Nat.add_zero] at this
        rw [Nat.mul_comm (2 ^ (8 - n)), ← Nat.div_div_eq_div_mul, this, Nat.add_zero, Nat.mul_comm (2 ^ (8 * l)),
          Nat.mul_assoc]

theorem beq_masked (l n : Nat) (a c : Bytes) (ha : a.length = l) (hc : c.length = l) (hn : n ≤ 8 * l) :
    (andBytes a (cidrMaskLoop n l) == andBytes c (cidrMaskLoop n l))
      = (netNum (8 * l) n a == netNum (8 * l) n c) := by
  have hm := fun x hx => beNat_masked l n _ x hx (Nat.add_sub_cancel' hn)
  rw [Bool.eq_iff_iff, beq_iff_eq, beq_iff_eq, netNum, netNum]
  constructor
  · intro h
    have := congrArg beNat h
    rw [hm a ha, hm c hc] at this
    exact Nat.eq_of_mul_eq_mul_right (Nat.pow_pos (by decide)) this
  · intro h
    apply beNat_inj
    · rw [masked_length n a ha, masked_length n c hc]
    · rw [hm a ha, hm c hc, h]

theorem containsLoop_eq (ip : Bytes) : ∀ (nn m : Bytes), nn.length = ip.length → m.length = ip.length →
    containsLoop nn m ip = .ok (andBytes nn m == andBytes ip m) := by
  induction ip with
  | nil =>
    intro nn m h1 h2
    have : nn = [] := List.length_eq_zero_iff.mp h1
    have : m = [] := List.length_eq_zero_iff.mp h2
    subst_vars; simp [containsLoop, andBytes]
  | cons x ip ih =>
    intro nn m h1 h2
    match nn, m, h1, h2 with
    | n :: nn, k :: ms, h1, h2 =>
      simp only [List.length_cons, Nat.add_right_cancel_iff] at h1 h2
      by_cases h : n &&& k = x &&& k
      · rw [containsLoop, if_neg (by simp [h]), ih nn ms h1 h2]
        simp [andBytes, h]
      · rw [containsLoop, if_pos h]
        simp [andBytes, h]

theorem to4_len4 (c : Bytes) (h : c.length = 4) : to4 c = some c := by simp [to4, h]

theorem to4_some {c c4 : Bytes} (h : to4 c = some c4) :
    c4.length = 4 ∧ as16 c = v4InV6Prefix ++ c4 ∧ (c.length == 4 || c.length == 16) = true := by
  unfold to4 at h
  by_cases h4 : c.length = 4
  · rw [if_pos h4] at h; cases h
    exact ⟨h4, if_pos h4, by rw [h4]; rfl⟩
  · rw [if_neg h4] at h
    obtain ⟨⟨h16, hp⟩, hd⟩ := Option.ite_none_right_eq_some.mp h
    cases hd
    exact ⟨by rw [List.length_drop, h16], by rw [as16, if_neg h4, ← hp, List.take_append_drop], by rw [h16]; rfl⟩

theorem to4_none {c : Bytes} (h : to4 c = none) : c.length ≠ 4 ∧ as16 c = c := by
  have h4 : c.length ≠ 4 := fun h4 => by simp [to4, h4] at h
  exact ⟨h4, if_neg h4⟩

theorem to4_isSome_len16 (a : Bytes) (h : a.length = 16) : (to4 a).isSome = true ↔ a.take 12 = v4InV6Prefix := by
  by_cases hp : a.take 12 = v4InV6Prefix <;> simp [to4, h, hp]

theorem nnm_v4 (X m : Bytes) (hX : X.length = 4) (hm : m.length = 4) :
    networkNumberAndMask { ip := X, mask := m } = some (X, m) := by
  unfold networkNumberAndMask
  simp [to4_len4 X hX, hX, hm]

theorem nnm_v6_mapped (X m : Bytes) (hX : X.length = 16) (hm : m.length = 16)
    (hp : X.take 12 = v4InV6Prefix) :
    networkNumberAndMask { ip := X, mask := m } = some (X.drop 12, m.drop 12) := by
  unfold networkNumberAndMask
  have : to4 X = some (X.drop 12) := by simp [to4, hX, hp]
  simp [this, hX, hm]

theorem nnm_v6_plain (X m : Bytes) (hX : X.length = 16) (hm : m.length = 16)
    (hp : X.take 12 ≠ v4InV6Prefix) :
    networkNumberAndMask { ip := X, mask := m } = some (X, m) := by
  unfold networkNumberAndMask
  have : to4 X = none := by simp [to4, hX, hp]
  simp [this, hX, hm]

theorem andBytes_idem (a m : Bytes) : andBytes (andBytes a m) m = andBytes a m := by
  induction a generalizing m with
  | nil => simp [andBytes]
  | cons x xs ih =>
    cases m with
    | nil => simp [andBytes]
    | cons k ks =>
      simp only [andBytes, List.zipWith_cons_cons, List.cons.injEq]
      refine ⟨?_, by simpa [andBytes] using ih ks⟩
      rw [UInt8.and_assoc, UInt8.and_self]

theorem andBytes_ff (a : Bytes) (k : Nat) (h : a.length = k) : andBytes a (List.replicate k 0xff) = a := by
  induction a generalizing k with
  | nil => subst h; simp [andBytes]
  | cons x xs ih =>
    subst h
    simp only [andBytes, List.length_cons, List.replicate_succ, List.zipWith_cons_cons, and_ff, List.cons.injEq, true_and]
    simpa [andBytes] using ih _ rfl

theorem cidrMaskLoop_ge (k : Nat) : ∀ n l,
    cidrMaskLoop (n + 8 * k) (k + l) = List.replicate k 0xff ++ cidrMaskLoop n l := by
  induction k with
  | zero => intro n l; simp
  | succ k ih =>
    intro n l
    rw [show k + 1 + l = (k + l) + 1 by omega, cidrMaskLoop, if_pos (by omega),
      show n + 8 * (k + 1) - 8 = n + 8 * k by omega, ih, List.replicate_succ]
    rfl

theorem mask_ge96 (n : Nat) (h96 : 96 ≤ n) :
    cidrMaskLoop n 16 = List.replicate 12 0xff ++ cidrMaskLoop (n - 96) 4 := by
  conv => lhs; rw [← Nat.sub_add_cancel h96]
  exact cidrMaskLoop_ge 12 (n - 96) 4

theorem masked_ge96 (addr : Bytes) (n : Nat) (ha : addr.length = 16) (h96 : 96 ≤ n) :
    andBytes addr (cidrMaskLoop n 16) = addr.take 12 ++ andBytes (addr.drop 12) (cidrMaskLoop (n - 96) 4) := by
  have hl : (addr.take 12).length = 12 := by rw [List.length_take, ha]; rfl
  conv => lhs; rw [← List.take_append_drop 12 addr, mask_ge96 n h96]
  rw [andBytes, List.zipWith_append (by rw [hl, List.length_replicate])]
  exact congrArg (· ++ _) (andBytes_ff _ 12 hl)

theorem short_mask_not_mapped (addr : Bytes) (n : Nat) (ha : addr.length = 16) (hn : n < 96) :
    (andBytes addr (cidrMaskLoop n 16)).take 12 ≠ v4InV6Prefix := by
  intro h
  -- the masked address is a multiple of `2^(128-n)`, hence of `2^33`: its first 12 bytes are an even
  -- number, the marker `0xffff` is odd
  have hX := beNat_masked 16 n (128 - n) addr ha (by omega)
  have hl := masked_length n addr ha
  generalize andBytes addr (cidrMaskLoop n 16) = X at h hX hl
  have hr := beNat_lt (X.drop 12)
  rw [← List.take_append_drop 12 X, beNat_append, h, List.length_drop, hl,
    show 2 ^ (128 - n) = 2 ^ (95 - n) * 2 ^ 33 by rw [← Nat.pow_add]; congr 1; omega, ← Nat.mul_assoc] at hX
  rw [List.length_drop, hl] at hr
  have hP : beNat v4InV6Prefix = 65535 := by decide
  omega

theorem masked_take12 (addr : Bytes) (n : Nat) (ha : addr.length = 16) :
    (andBytes addr (cidrMaskLoop n 16)).take 12 = v4InV6Prefix ↔ addr.take 12 = v4InV6Prefix ∧ 96 ≤ n := by
  by_cases h96 : 96 ≤ n
  · rw [masked_ge96 addr n ha h96, List.take_left' (by rw [List.length_take, ha]; rfl)]
    exact (and_iff_left h96).symm
  · exact iff_of_false (short_mask_not_mapped addr n ha (by omega)) (fun h => h96 h.2)

theorem contains_masked (net : IPNet) (a : Bytes) (k l : Nat) (c : Bytes)
    (h : networkNumberAndMask net = some (andBytes a (cidrMaskLoop k l), cidrMaskLoop k l))
    (ha : a.length = l) (hk : k ≤ 8 * l) :
    contains net c = .ok (((to4 c).getD c).length == l &&
      netNum (8 * l) k a == netNum (8 * l) k ((to4 c).getD c)) := by
  have hm := cidrMaskLoop_length k l
  have hX := masked_length k a ha
  unfold contains
  simp only [h, Option.getD_some, hX]
  by_cases hl : ((to4 c).getD c).length = l
  · rw [if_neg (not_not_intro hl), containsLoop_eq _ _ _ (by omega) (by omega), andBytes_idem,
      beq_masked l k a _ ha hl hk, beq_iff_eq.mpr hl, Bool.true_and]
  · rw [if_pos hl, beq_false_of_ne hl, Bool.false_and]

theorem as16_len (a : Bytes) (h : a.length = 4 ∨ a.length = 16) : (as16 a).length = 16 := by
  unfold as16
  cases h with
  | inl h => simp [h, v4InV6Prefix]
  | inr h => simp [h]

theorem as16_len4 (a : Bytes) (h : a.length = 4) : as16 a = v4InV6Prefix ++ a := if_pos h

theorem as16_len16 (a : Bytes) (h : a.length = 16) : as16 a = a := if_neg (by omega)

theorem split12 (A c : Bytes) :
    (A.take 12 == v4InV6Prefix && A.drop 12 == c) = (A == v4InV6Prefix ++ c) := by
  rw [Bool.eq_iff_iff]
  simp only [Bool.and_eq_true, beq_iff_eq]
  constructor
  · rintro ⟨h1, h2⟩
    rw [← List.take_append_drop 12 A, h1, h2]
  · intro h
    subst h
    simp [v4InV6Prefix]

theorem ipEqual_len16 (A x : Bytes) (hA : A.length = 16) :
    ipEqual A x = ((x.length == 4 || x.length == 16) && A == as16 x) := by
  unfold ipEqual as16
  rw [hA]
  by_cases h16 : x.length = 16
  · simp [h16]
  · by_cases h4 : x.length = 4
    · simp [h4, split12]
    · simp [h4, h16, Ne.symm h16]

theorem ipEqual_mapped (ip a : Bytes) (h : a.length = 4) :
    ipEqual ip (v4InV6Prefix ++ a) = ipEqual ip a := by
  have h16 : (v4InV6Prefix ++ a).length = 16 := by rw [List.length_append, h]; rfl
  by_cases h1 : ip.length = 16
  · rw [ipEqual_len16 _ _ h1, ipEqual_len16 _ _ h1, as16_len16 _ h16, as16_len4 a h, h16, h]; rfl
  · unfold ipEqual
    rw [h16, h]
    by_cases h2 : ip.length = 4
    · simp [h2, v4InV6Prefix]
    · simp [h1, h2]

theorem cidrMask_ok (n len : Nat) (hl : len = 4 ∨ len = 16) (hn : n ≤ 8 * len) :
    cidrMask n (8 * len) = some (cidrMaskLoop n len) := by
  unfold cidrMask
  cases hl with
  | inl h => subst h; simp; omega
  | inr h => subst h; simp; omega

theorem pow256_4 (k : Nat) (hk : k ≤ 32) : (256 : Nat) ^ 4 = 2 ^ k * 2 ^ (32 - k) := by
  rw [← Nat.pow_add, Nat.add_sub_cancel' hk]

theorem netNum_split (p x : Bytes) (k : Nat) (hx : x.length = 4) (hk : k ≤ 32) :
    netNum 128 (k + 96) (p ++ x) = beNat p * 2 ^ k + netNum 32 k x := by
  unfold netNum
  rw [beNat_append, hx]
  have e : 128 - (k + 96) = 32 - k := by omega
  rw [e, pow256_4 k hk]
  exact mul_mul_add_div _ _ _ _ (Nat.pow_pos (by decide))

theorem netNum32_lt (x : Bytes) (k : Nat) (hx : x.length = 4) (hk : k ≤ 32) : netNum 32 k x < 2 ^ k := by
  unfold netNum
  have h := beNat_lt x
  rw [hx, pow256_4 k hk] at h
  exact Nat.div_lt_of_lt_mul (by rw [Nat.mul_comm]; exact h)

/-- Two 16-byte addresses with the same network number of 96 bits or more share their first 12 bytes:
    an address outside `::ffff:0:0/96` is in no IPv4 block. -/
theorem netNum_ge96_prefix (a c : Bytes) (n : Nat) (ha : a.length = 16) (hc : c.length = 16)
    (hn : 96 ≤ n) (hn' : n ≤ 128) (h : netNum 128 n a = netNum 128 n c) : a.take 12 = c.take 12 := by
  have ea : a = a.take 12 ++ a.drop 12 := (List.take_append_drop 12 a).symm
  have ec : c = c.take 12 ++ c.drop 12 := (List.take_append_drop 12 c).symm
  have hda : (a.drop 12).length = 4 := by simp [ha]
  have hdc : (c.drop 12).length = 4 := by simp [hc]
  have e96 : n = (n - 96) + 96 := by omega
  rw [ea, ec, e96, netNum_split _ _ (n - 96) hda (by omega), netNum_split _ _ (n - 96) hdc (by omega)] at h
  have h1 := netNum32_lt (a.drop 12) (n - 96) hda (by omega)
  have h2 := netNum32_lt (c.drop 12) (n - 96) hdc (by omega)
  obtain ⟨h3, _⟩ := digit_eq (2 ^ (n - 96)) _ _ _ _ h1 h2 h
  exact beNat_inj _ _ (by simp [ha, hc]) h3

theorem netNum_common_prefix (p x y : Bytes) (k : Nat) (hx : x.length = 4) (hy : y.length = 4) (hk : k ≤ 32) :
    (netNum 128 (k + 96) (p ++ x) == netNum 128 (k + 96) (p ++ y)) = (netNum 32 k x == netNum 32 k y) := by
  rw [netNum_split p x k hx hk, netNum_split p y k hy hk, Bool.eq_iff_iff]
  simp only [beq_iff_eq, Nat.add_left_cancel_iff]

end GaeaVerif.C35
