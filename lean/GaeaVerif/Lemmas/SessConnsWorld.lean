import GaeaVerif.Model.SessionConns
/-
  C18 / C19 / C23: the ledger invariant `WInv` of the backend world and its
  preservation by the primitives of Model/SessionConns.lean (pool get, backend
  call, close, recycle), by the statements and by the loops over connections.
  The preservation lemmas are stated for `Ledger w0`: the invariant with the
  parts that hold of every history (`qNone`), together with the fact that the
  ledger extends an earlier ledger `w0` (`Ext`), so that whatever keeps the
  invariant is thereby known never to drop, re-open or take back a connection.
-/
namespace GaeaVerif.SessionConns

theorem getElem?_snoc_some {α : Type} {l : List α} {a b : α} {i : Nat} :
    (l ++ [a])[i]? = some b ↔ l[i]? = some b ∨ (i = l.length ∧ b = a) := by
  rcases Nat.lt_trichotomy i l.length with h | h | h
  · simp [List.getElem?_append_left h, Nat.ne_of_lt h]
  · subst h; simp [eq_comm]
  · have h1 : l[i]? = none := by simp; omega
    have h2 : (l ++ [a])[i]? = none := by simp; omega
    simp [h1, h2, Nat.ne_of_gt h]

theorem getElem?_set_some {α : Type} {l : List α} {a b : α} {i j : Nat} (h : (l.set i a)[j]? = some b) :
    (j = i ∧ b = a) ∨ (j ≠ i ∧ l[j]? = some b) := by
  rw [List.getElem?_set] at h
  split at h
  · split at h <;> simp_all [eq_comm]
  · exact .inr ⟨fun e => by simp_all, h⟩

section updates
variable {l : List Conn} {a : Conn} {c : Nat}

theorem forall_set {P : Nat → Conn → Prop} (h : ∀ d dn, d ≠ c → l[d]? = some dn → P d dn) (hc : P c a) :
    ∀ d dn, (l.set c a)[d]? = some dn → P d dn := by
  intro d dn hd
  rcases getElem?_set_some hd with ⟨rfl, rfl⟩ | ⟨hne, hd⟩
  · exact hc
  · exact h d dn hne hd

theorem exists_set {P : Conn → Prop} {cn : Conn} {d : Nat} (hcn : l[c]? = some cn)
    (h : ∃ dn, l[d]? = some dn ∧ P dn) (hc : d = c → P cn → P a) : ∃ dn, (l.set c a)[d]? = some dn ∧ P dn := by
  obtain ⟨dn, hdn, hp⟩ := h
  by_cases e : d = c
  · subst e
    rw [hcn] at hdn; cases hdn
    exact ⟨a, by simp [(List.getElem?_eq_some_iff.1 hcn).1], hc rfl hp⟩
  · exact ⟨dn, by simp [Ne.symm e, hdn], hp⟩

theorem forall_snoc {P : Nat → Conn → Prop} (h : ∀ d dn, l[d]? = some dn → P d dn) (ha : P l.length a) :
    ∀ d dn, (l ++ [a])[d]? = some dn → P d dn := by
  intro d dn hd
  rcases getElem?_snoc_some.1 hd with hd | ⟨rfl, rfl⟩
  · exact h d dn hd
  · exact ha

theorem exists_snoc {P : Conn → Prop} {d : Nat} (h : ∃ dn, l[d]? = some dn ∧ P dn) :
    ∃ dn, (l ++ [a])[d]? = some dn ∧ P dn :=
  h.imp fun _ hd => ⟨getElem?_snoc_some.2 (.inl hd.1), hd.2⟩

end updates

abbrev CMap.keys (m : CMap) : List Nat := m.map (·.1)

theorem mem_vals {m : CMap} {c : Nat} : c ∈ m.vals ↔ ∃ s, (s, c) ∈ m := by
  simp [CMap.vals]

theorem mem_keys {m : CMap} {k : Nat} : k ∈ m.keys ↔ ∃ c, (k, c) ∈ m := by
  simp [CMap.keys]

theorem vals_append (A B : CMap) : (A ++ B).vals = A.vals ++ B.vals := by simp [CMap.vals]
theorem keys_append (A B : CMap) : (A ++ B).keys = A.keys ++ B.keys := by simp [CMap.keys]

theorem get?_none_iff {m : CMap} {k : Nat} : m.get? k = none ↔ k ∉ m.keys := by
  induction m with
  | nil => simp [CMap.get?, CMap.keys]
  | cons e m ih =>
    simp only [CMap.get?, CMap.keys, List.map_cons, List.mem_cons, not_or]
    split
    · simp_all
    · rename_i h; rw [ih]; exact ⟨fun h2 => ⟨fun e => h e.symm, h2⟩, fun h2 => h2.2⟩

theorem get?_some_mem {m : CMap} {k c : Nat} (h : m.get? k = some c) : (k, c) ∈ m := by
  induction m with
  | nil => simp [CMap.get?] at h
  | cons e m ih =>
    simp only [CMap.get?] at h
    split at h
    · rename_i hk; subst hk; cases h; simp
    · exact List.mem_cons_of_mem _ (ih h)

theorem put_of_not_mem {m : CMap} {k v : Nat} (h : k ∉ m.keys) : m.put k v = m ++ [(k, v)] := by
  simp only [CMap.put, List.append_cancel_right_eq, List.filter_eq_self, bne_iff_ne, ne_eq]
  exact fun e he hk => h (mem_keys.2 ⟨e.2, hk ▸ he⟩)

/-- removing the connection `c` from an ownership list -/
def drop (c : Nat) (O : CMap) : CMap := O.filter (fun e => e.2 != c)

theorem mem_drop {c : Nat} {O : CMap} {e : Nat × Nat} : e ∈ drop c O ↔ e ∈ O ∧ e.2 ≠ c := by
  simp [drop]

theorem drop_append (c : Nat) (A B : CMap) : drop c (A ++ B) = drop c A ++ drop c B := by
  simp [drop]

theorem drop_of_not_mem {c : Nat} {O : CMap} (h : c ∉ O.vals) : drop c O = O := by
  simp only [drop, List.filter_eq_self, bne_iff_ne, ne_eq]
  exact fun e he hc => h (mem_vals.2 ⟨e.1, hc ▸ he⟩)

theorem vals_drop (c : Nat) (O : CMap) : (drop c O).vals = O.vals.filter (· != c) := by
  simp [drop, CMap.vals, List.filter_map, Function.comp_def]

theorem drop_head {c s : Nat} {T : CMap} (h : c ∉ T.vals) : drop c ((s, c) :: T) = T := by
  simp only [drop, List.filter_cons, bne_self_eq_false, Bool.false_eq_true, if_false]
  exact drop_of_not_mem h

theorem drop_single (c sl : Nat) : drop c [(sl, c)] = [] := by simp [drop]

theorem drop_snoc {c sl : Nat} {A : CMap} (h : c ∉ A.vals) : drop c (A ++ [(sl, c)]) = A := by
  rw [drop_append, drop_of_not_mem h, drop_single, List.append_nil]

theorem insertBy_perm (key : Nat → Nat) (e : Nat × Nat) (l : CMap) : (insertBy key e l).Perm (e :: l) := by
  induction l with
  | nil => simp [insertBy]
  | cons x xs ih =>
    simp only [insertBy]
    split
    · exact List.Perm.refl _
    · exact (List.Perm.cons x ih).trans (List.Perm.swap e x xs)

theorem sortBy_perm (key : Nat → Nat) (m : CMap) : (sortBy key m).Perm m := by
  induction m with
  | nil => simp [sortBy]
  | cons x xs ih => exact (insertBy_perm key x _).trans (List.Perm.cons x ih)

theorem iterOrder_perm (ord : List Nat) (m : CMap) : (iterOrder ord m).Perm m := sortBy_perm _ m

theorem bySlice_perm (m : CMap) : (bySlice m).Perm m := sortBy_perm _ m

theorem mem_iter_vals {ord : List Nat} {m : CMap} {c : Nat} : c ∈ (iterOrder ord m).vals ↔ c ∈ m.vals :=
  ((iterOrder_perm ord m).map _).mem_iff

theorem nodup_snoc {l : List Nat} {a : Nat} (h : l.Nodup) (ha : a ∉ l) : (l ++ [a]).Nodup :=
  List.nodup_append.2 ⟨h, List.pairwise_singleton _ _, fun _ hx _ hy e => ha (List.mem_singleton.1 hy ▸ e ▸ hx)⟩

theorem perm_snoc_mid {α : Type} (A B : List α) (x : α) : (A ++ B ++ [x]).Perm (A ++ [x] ++ B) := by
  rw [List.append_assoc, List.append_assoc]
  exact (List.perm_append_comm (l₁ := B) (l₂ := [x])).append_left A

/-- no statement timeout is injected during this command -/
def NoT (ctx : Ctx) : Prop := ∀ f ∈ ctx.faults, f.mode ≠ .t

/-- the backend loses no connection during this command: no statement timeout,
    no call that leaves the connection closed, no ping failure, no failed fetch
    of the pending rows / results of a streamed answer (since fix 7cb439b the
    connection of a stream that is given up is closed) -/
def Calm (ctx : Ctx) : Prop :=
  ∀ f ∈ ctx.faults, f.mode ≠ .t ∧ f.mode ≠ .z ∧ f.k ≠ .p ∧ ¬(f.mode = .e ∧ (f.k = .m ∨ f.k = .n))

/-- which optional parts of the ledger invariant are tracked: `t` (nothing in
    flight between two backend interactions; holds of every history since a
    statement timeout closes the connection on both execution paths), `p` (a
    closed connection has been given back; needs histories without timeouts,
    connection losses and ping failures) -/
structure Q where
  t : Bool
  p : Bool

/-- the parts that hold of every history -/
def qNone : Q := { t := true, p := false }

/-- The ledger invariant.  `O` lists the connections that are out (taken from a
    pool and not given back) with their slices: at most one per slice; every
    other connection of the ledger was given back exactly once; no connection
    was touched after it was given back, nor handed out while another one of its
    slice was out; the connections of `M` are master connections; with `q`, no
    statement is in flight and no connection was given back in flight. -/
structure WInv (q : Q) (O : CMap) (M : List Nat) (w : World) : Prop where
  nodupC : O.vals.Nodup
  nodupS : O.keys.Nodup
  out : ∀ e ∈ O, ∃ cn : Conn, w.conns[e.2]? = some cn ∧ cn.returns = 0 ∧ cn.slice = e.1
  ret : ∀ (c : Nat) (cn : Conn), w.conns[c]? = some cn → c ∉ O.vals → cn.returns = 1
  flags : ∀ (c : Nat) (cn : Conn), w.conns[c]? = some cn → cn.uar = false ∧ cn.dup = false
  mast : ∀ c ∈ M, ∃ cn : Conn, w.conns[c]? = some cn ∧ cn.master = true
  quiet : q.t = true → ∀ (c : Nat) (cn : Conn), w.conns[c]? = some cn → cn.inflight = false ∧ cn.rif = false
  cr : q.p = true → ∀ (c : Nat) (cn : Conn), w.conns[c]? = some cn → cn.closed = true → 1 ≤ cn.returns

variable {q : Q} {O O' : CMap} {M M' : List Nat} {w w' w0 : World} {c : Nat}

theorem WInv.get (h : WInv q O M w) (hc : c ∈ O.vals) : ∃ cn : Conn, w.conns[c]? = some cn ∧ cn.returns = 0 :=
  let ⟨_, hs⟩ := mem_vals.1 hc
  let ⟨cn, hcn, h0, _⟩ := h.out _ hs
  ⟨cn, hcn, h0⟩

theorem WInv.mem_of_out (h : WInv q O M w) {cn : Conn} (hcn : w.conns[c]? = some cn)
    (h0 : cn.returns = 0) : c ∈ O.vals :=
  Decidable.by_contra fun hm => by have := h.ret c cn hcn hm; omega

@[simp] theorem emit_conns (e : Event) (w : World) : (w.emit e).conns = w.conns := rfl

theorem wi_congr {w' : World} (hc : w'.conns = w.conns) (h : WInv q O M w) : WInv q O M w' :=
  ⟨h.nodupC, h.nodupS, hc ▸ h.out, hc ▸ h.ret, hc ▸ h.flags, hc ▸ h.mast, hc ▸ h.quiet, hc ▸ h.cr⟩

theorem wi_set_keep {cn cn' : Conn} (h : WInv q O M w) (hc : c ∈ O.vals)
    (hcn : w.conns[c]? = some cn) (h0 : cn'.returns = 0) (hsl : cn'.slice = cn.slice)
    (hm : cn'.master = cn.master) (hu : cn'.uar = false) (hd : cn'.dup = cn.dup)
    (hq : q.t = true → cn'.inflight = false ∧ cn'.rif = false)
    (hcl : q.p = true → cn'.closed = false) :
    WInv q O M { w with conns := w.conns.set c cn' } where
  nodupC := h.nodupC
  nodupS := h.nodupS
  out e he := exists_set hcn (h.out e he) fun _ hp => ⟨h0, hsl ▸ hp.2⟩
  ret := forall_set (fun d dn _ => h.ret d dn) fun hn => absurd hc hn
  flags := forall_set (fun d dn _ => h.flags d dn) ⟨hu, hd ▸ (h.flags c cn hcn).2⟩
  mast d hd := exists_set hcn (h.mast d hd) fun _ hp => hm ▸ hp
  quiet ht := forall_set (fun d dn _ => h.quiet ht d dn) (hq ht)
  cr hp := forall_set (fun d dn _ => h.cr hp d dn) fun hc' => by rw [hcl hp] at hc'; cases hc'

theorem wi_set_ret {cn cn' : Conn} (h : WInv q O M w) (hcn : w.conns[c]? = some cn) (h1 : cn'.returns = 1)
    (hm : cn'.master = cn.master) (hu : cn'.uar = false) (hd : cn'.dup = cn.dup)
    (hq : q.t = true → cn'.inflight = false ∧ cn'.rif = false) :
    WInv q (drop c O) M { w with conns := w.conns.set c cn' } where
  nodupC := vals_drop c O ▸ h.nodupC.filter _
  nodupS := h.nodupS.sublist (List.filter_sublist.map _)
  out e he := exists_set hcn (h.out e (mem_drop.1 he).1) fun ec => absurd ec (mem_drop.1 he).2
  ret := forall_set (fun d dn hne hdn hd => h.ret d dn hdn fun hm =>
      hd (vals_drop c O ▸ List.mem_filter.2 ⟨hm, by simpa using hne⟩)) fun _ => h1
  flags := forall_set (fun d dn _ => h.flags d dn) ⟨hu, hd ▸ (h.flags c cn hcn).2⟩
  mast d hd := exists_set hcn (h.mast d hd) fun _ hp => hm ▸ hp
  quiet ht := forall_set (fun d dn _ => h.quiet ht d dn) (hq ht)
  cr hp := forall_set (fun d dn _ => h.cr hp d dn) fun _ => by omega

theorem WInv.emit (e : Event) (h : WInv q O M w) : WInv q O M (w.emit e) := wi_congr (w := w) rfl h

/-- the ledger only grows from `w` to `w'`: every connection is still there, given back at least as
    often, and still closed if it was closed -/
def Ext (w w' : World) : Prop :=
  ∀ (c : Nat) (cn : Conn), w.conns[c]? = some cn →
    ∃ cn' : Conn, w'.conns[c]? = some cn' ∧ cn.returns ≤ cn'.returns ∧ (cn.closed = true → cn'.closed = true)

theorem ext_of_conns (h : w'.conns = w.conns) : Ext w w' :=
  fun _ cn hcn => ⟨cn, h ▸ hcn, Nat.le_refl _, id⟩

theorem Ext.refl (w : World) : Ext w w := ext_of_conns rfl

theorem Ext.trans {a b c : World} (h1 : Ext a b) (h2 : Ext b c) : Ext a c := by
  intro i cn hcn
  obtain ⟨cn1, h1a, h1r, h1c⟩ := h1 i cn hcn
  obtain ⟨cn2, h2a, h2r, h2c⟩ := h2 i cn1 h1a
  exact ⟨cn2, h2a, Nat.le_trans h1r h2r, h2c ∘ h1c⟩

theorem ext_set {cn cn' : Conn} (hcn : w.conns[c]? = some cn) (hw : w'.conns = w.conns.set c cn')
    (hr : cn.returns ≤ cn'.returns) (hc : cn.closed = true → cn'.closed = true) : Ext w w' :=
  fun d dn hdn => hw ▸ exists_set (P := fun x => dn.returns ≤ x.returns ∧ (dn.closed = true → x.closed = true)) hcn
    ⟨dn, hdn, Nat.le_refl _, id⟩ fun e _ => by subst e; rw [hcn] at hdn; cases hdn; exact ⟨hr, hc⟩

theorem ext_poolGet (ctx : Ctx) (m : Bool) (sl : Nat) (w : World) : Ext w (poolGet ctx m sl w).1 := by
  by_cases hf : fault ctx (if m then .gm else .gs) sl = some .e
  · simp only [poolGet, hf, if_true]; exact Ext.refl _
  · simp only [poolGet, hf, if_false]
    exact fun d dn hdn => ⟨dn, getElem?_snoc_some.2 (.inl hdn), Nat.le_refl _, id⟩

theorem ext_call (ctx : Ctx) (k : CK) (c : Nat) (w : World) : Ext w (call ctx k c w).1 := by
  unfold call
  split
  · exact Ext.refl _
  next cn hcn => exact ext_set hcn rfl (Nat.le_refl _) (by simp only [Conn.afterCall]; intro h; simp [h])

theorem ext_close (c : Nat) (w : World) : Ext w (close c w) := by
  unfold close
  split
  · exact Ext.refl _
  next cn hcn => exact ext_set hcn rfl (Nat.le_refl _) (fun _ => rfl)

theorem ext_recycle (c : Nat) (w : World) : Ext w (recycle c w) := by
  unfold recycle
  split
  · exact Ext.refl _
  next cn hcn => exact ext_set hcn rfl (Nat.le_succ _) (by simp only [Conn.afterRecycle]; intro h; simp [h])

theorem ext_closeRecycle (c : Nat) (w : World) : Ext w (closeRecycle c w) :=
  (ext_close c w).trans (ext_recycle c _)

theorem isClosed_ext (h : Ext w w') (hc : isClosed c w = true) : isClosed c w' = true := by
  unfold isClosed at hc ⊢
  split at hc
  · obtain ⟨cn', hcn', _, hcl⟩ := h c _ ‹_›
    rw [hcn']; exact hcl hc
  · cases hc

theorem fault_mem {ctx : Ctx} {k : FK} {sl : Nat} {m : Mode} (h : fault ctx k sl = some m) :
    ∃ f ∈ ctx.faults, f.k = k ∧ f.slice = sl ∧ f.mode = m := by
  simp only [fault, Option.map_eq_some_iff] at h
  obtain ⟨f, hf, hm⟩ := h
  have := List.find?_some hf
  simp only [Bool.and_eq_true, beq_iff_eq] at this
  exact ⟨f, List.mem_of_find?_eq_some hf, this.1, this.2, hm⟩

theorem callRes_eq_t {ctx : Ctx} {k : CK} {cn : Conn} (h : callRes ctx k cn = .t) :
    k = .X ∧ fault ctx k.fk cn.slice = some .t := by
  unfold callRes at h
  split at h
  · cases h
  · cases hf : fault ctx k.fk cn.slice with
    | none => simp [hf] at h
    | some m => cases m <;> simp_all <;> split at h <;> simp_all

theorem callRes_eq_z {ctx : Ctx} {k : CK} {cn : Conn} (h : callRes ctx k cn = .z) :
    fault ctx k.fk cn.slice = some .z := by
  unfold callRes at h
  split at h
  · cases h
  · cases hf : fault ctx k.fk cn.slice with
    | none => simp [hf] at h
    | some m => cases m <;> simp_all <;> split at h <;> cases h

theorem callRes_ne_t (ctx : Ctx) (hT : NoT ctx) (k : CK) (cn : Conn) : callRes ctx k cn ≠ .t := fun h =>
  let ⟨f, hf, _, _, hm⟩ := fault_mem (callRes_eq_t h).2
  hT f hf hm

theorem callRes_ne_z (ctx : Ctx) (hT : Calm ctx) (k : CK) (cn : Conn) : callRes ctx k cn ≠ .z := fun h =>
  let ⟨f, hf, _, _, hm⟩ := fault_mem (callRes_eq_z h)
  (hT f hf).2.1 hm

theorem call_get (ctx : Ctx) (k : CK) {cn : Conn} (hcn : w.conns[c]? = some cn) :
    (call ctx k c w).1.conns[c]? = some (cn.afterCall k (callRes ctx k cn)) ∧
    (call ctx k c w).2 = callRes ctx k cn := by
  obtain ⟨hlt, rfl⟩ := List.getElem?_eq_some_iff.1 hcn
  simp [call, hlt]

theorem call_ne_z_of_calm (ctx : Ctx) (hT : Calm ctx) (k : CK) (c : Nat) (w : World) : (call ctx k c w).2 ≠ .z := by
  unfold call
  split
  · simp
  · exact callRes_ne_z ctx hT _ _

theorem closeRecycle_eq {cn : Conn} (hcn : w.conns[c]? = some cn) :
    closeRecycle c w = (World.emit (.recycle c)
      (World.emit (.close c) { w with conns := w.conns.set c cn.afterClose.afterRecycle })) := by
  have hlt : c < w.conns.length := (List.getElem?_eq_some_iff.1 hcn).1
  simp only [closeRecycle, close, hcn, recycle, emit_conns, List.getElem?_set, hlt, if_true, List.set_set]
  rfl

theorem isClosed_call_ok {ctx : Ctx} {k : CK} (hok : (call ctx k c w).2.isOk = true) :
    isClosed c (call ctx k c w).1 = false := by
  cases hcn : w.conns[c]? with
  | none => simp [call, hcn, Res.isOk] at hok
  | some cn =>
    obtain ⟨h1, h2⟩ := call_get ctx k hcn
    rw [h2] at hok
    have hcl : cn.closed = false := by
      cases hcl : cn.closed with
      | false => rfl
      | true => simp [callRes, hcl, Res.isOk] at hok
    have hz : callRes ctx k cn ≠ .z := fun e => by simp [e, Res.isOk] at hok
    simp [isClosed, h1, Conn.afterCall, hcl, hz]

theorem isClosed_executeUnshard_ok {ctx : Ctx} (hok : (executeUnshardSQLInSlice ctx c w).2.isOk = true) :
    isClosed c (executeUnshardSQLInSlice ctx c w).1 = false := by
  unfold executeUnshardSQLInSlice executeSingleSQLInSlice at hok ⊢
  generalize call ctx .U c w = p at hok ⊢
  obtain ⟨w1, r1⟩ := p
  dsimp only at hok ⊢
  by_cases hU : (!r1.isOk) = true
  · rw [if_pos hU] at hok; cases hok
  · rw [if_neg hU] at hok ⊢
    by_cases ht : (call ctx .X c w1).2 = .t
    · rw [if_pos ht] at hok; cases hok
    · rw [if_neg ht] at hok ⊢
      exact isClosed_call_ok hok

theorem executeSingle_ne_t (ctx : Ctx) (hT : NoT ctx) (c : Nat) (w : World) :
    (executeSingleSQLInSlice ctx c w).2 ≠ .t := by
  unfold executeSingleSQLInSlice
  generalize call ctx .U c w = p
  dsimp only
  split
  · simp
  · unfold call
    split
    · simp
    · exact callRes_ne_t ctx hT _ _

theorem eachConn_induction {P : World → Prop} (body : Nat → World → World × Option Bool) (merge : Bool → Bool → Bool) :
    ∀ (cs : List Nat) (w : World) (b : Bool), (∀ w, ∀ c ∈ cs, P w → P (body c w).1) → P w →
      P (eachConn body merge cs (w, b)).1 := by
  intro cs
  induction cs with
  | nil => exact fun _ _ _ h => h
  | cons c cs ih =>
    intro w b hf h
    have h1 := hf w c List.mem_cons_self h
    simp only [eachConn]
    split <;> rename_i heq <;> rw [heq] at h1 <;>
      exact ih _ _ (fun w x hx => hf w x (List.mem_cons_of_mem _ hx)) h1

theorem wi_foldl_keep (body : Nat → World → World)
    (hb : ∀ (w : World) (c : Nat), c ∈ O.vals → WInv q O M w → WInv q O M (body c w)) :
    ∀ (cs : List Nat) (w : World), (∀ c ∈ cs, c ∈ O.vals) → WInv q O M w →
      WInv q O M (cs.foldl (fun w c => body c w) w) :=
  fun cs _ hsub h => List.foldlRecOn cs _ h fun w hw c hc => hb w c (hsub c hc) hw

/-- the ledger invariant of a ledger that has only grown since `w0`.  The lemmas of the primitives carry
    it, so each of them also gives `Ext w0 w'` for the world it returns (see `Inv.rebase`). -/
structure Ledger (w0 : World) (O : CMap) (M : List Nat) (w : World) : Prop where
  inv : WInv qNone O M w
  ext : Ext w0 w

namespace Ledger
-- The lemma about a function `f` of the model is `Ledger.f`: below its declaration, up to `end Ledger`, the
-- model's own `f` has to be written `SessionConns.f`.

theorem perm (h : Ledger w0 O M w) (p : O.Perm O') : Ledger w0 O' M w where
  ext := h.ext
  inv := { h.inv with
    nodupC := ((p.map _).nodup_iff).1 h.inv.nodupC
    nodupS := ((p.map _).nodup_iff).1 h.inv.nodupS
    out := fun e he => h.inv.out e (p.mem_iff.2 he)
    ret := fun c cn hcn hc => h.inv.ret c cn hcn fun hm => hc (((p.map _).mem_iff).1 hm) }

theorem subM (h : Ledger w0 O M w) (hs : ∀ c ∈ M', c ∈ M) : Ledger w0 O M' w :=
  ⟨{ h.inv with mast := fun c hc => h.inv.mast c (hs c hc) }, h.ext⟩

theorem congr (hc : w'.conns = w.conns) (h : Ledger w0 O M w) : Ledger w0 O M w' :=
  ⟨wi_congr hc h.inv, h.ext.trans (ext_of_conns hc)⟩

theorem emit (e : Event) (h : Ledger w0 O M w) : Ledger w0 O M (w.emit e) := congr (w := w) rfl h

theorem poolGet (ctx : Ctx) (m : Bool) (sl : Nat) {r : Option Nat}
    (h : Ledger w0 O M w) (hs : sl ∉ O.keys) (hp : poolGet ctx m sl w = (w', r)) :
    (∃ c, r = some c ∧ c ∉ O.vals ∧ isClosed c w' = false ∧
      Ledger w0 (O ++ [(sl, c)]) (if m then M ++ [c] else M) w') ∨
    (r = none ∧ Ledger w0 O M w') := by
  have hx := h.ext.trans (ext_poolGet ctx m sl w)
  rw [hp] at hx
  by_cases hf : fault ctx (if m then .gm else .gs) sl = some .e
  · simp only [SessionConns.poolGet, hf, if_true] at hp
    cases hp; exact .inr ⟨rfl, h.emit _⟩
  · simp only [SessionConns.poolGet, hf, if_false] at hp
    cases hp
    have hi := h.inv
    have hn : w.conns.length ∉ O.vals := fun hm =>
      let ⟨_, hcn, _⟩ := hi.get hm
      Nat.lt_irrefl _ (List.getElem?_eq_some_iff.1 hcn).1
    have hdup : (w.conns.any fun c => c.slice == sl && c.returns == 0) = false := by
      rw [Bool.eq_false_iff]
      intro hany
      obtain ⟨cn, hmem, hc⟩ := List.any_eq_true.1 hany
      simp only [Bool.and_eq_true, beq_iff_eq] at hc
      obtain ⟨i, hcn⟩ := List.mem_iff_getElem?.1 hmem
      obtain ⟨s, hs'⟩ := mem_vals.1 (hi.mem_of_out hcn hc.2)
      obtain ⟨cn', hcn', _, hsl⟩ := hi.out _ hs'
      rw [hcn] at hcn'; cases hcn'
      exact hs (mem_keys.2 ⟨i, by rw [← hc.1, hsl]; exact hs'⟩)
    refine .inl ⟨_, rfl, hn, by simp [isClosed], ⟨?_, ?_, ?_, ?_, ?_, ?_, ?_, ?_⟩, hx⟩
    · exact vals_append .. ▸ nodup_snoc hi.nodupC hn
    · exact keys_append .. ▸ nodup_snoc hi.nodupS hs
    · intro e he
      rcases List.mem_append.1 he with he | he
      · exact exists_snoc (hi.out e he)
      · simp only [List.mem_singleton] at he; subst he
        exact ⟨_, getElem?_snoc_some.2 (.inr ⟨rfl, rfl⟩), rfl, rfl⟩
    · exact forall_snoc (fun d dn hdn hd => hi.ret d dn hdn fun hm => hd (by simp [vals_append, hm]))
        fun hd => absurd (by simp [CMap.vals]) hd
    · exact forall_snoc hi.flags ⟨rfl, hdup⟩
    · intro d hd
      have hd' : d ∈ M ∨ (m = true ∧ d = w.conns.length) := by
        cases m <;> simp_all
      rcases hd' with hd' | ⟨rfl, rfl⟩
      · exact exists_snoc (hi.mast d hd')
      · exact ⟨_, getElem?_snoc_some.2 (.inr ⟨rfl, rfl⟩), rfl⟩
    · exact fun ht => forall_snoc (hi.quiet ht) ⟨rfl, rfl⟩
    · exact fun hp => forall_snoc (hi.cr hp) (fun hc => by cases hc)

theorem sliceGetConn (ctx : Ctx) (fromSlave : Bool) (sl : Nat) {r : Option Nat}
    (h : Ledger w0 O M w) (hs : sl ∉ O.keys) (hp : sliceGetConn ctx fromSlave sl w = (w', r)) :
    (∃ c, r = some c ∧ c ∉ O.vals ∧ isClosed c w' = false ∧
      Ledger w0 (O ++ [(sl, c)]) (if fromSlave then M else M ++ [c]) w') ∨
    (r = none ∧ Ledger w0 O M w') := by
  have weaken : ∀ {m : Bool} {w1 w2 : World} {r : Option Nat}, Ledger w0 O M w1 → SessionConns.poolGet ctx m sl w1 = (w2, r) →
      (∃ c, r = some c ∧ c ∉ O.vals ∧ isClosed c w2 = false ∧ Ledger w0 (O ++ [(sl, c)]) M w2) ∨
      (r = none ∧ Ledger w0 O M w2) := fun h hp =>
    (h.poolGet ctx _ sl hs hp).imp_left fun ⟨c, hr, hn, hcl, hw⟩ =>
      ⟨c, hr, hn, hcl, hw.subM fun d hd => by split <;> simp [hd]⟩
  unfold SessionConns.sliceGetConn at hp
  cases fromSlave with
  | false => simpa using h.poolGet ctx true sl hs hp
  | true =>
    simp only [Bool.not_true, Bool.false_eq_true, if_false, if_true] at hp ⊢
    split at hp
    · split at hp
      · cases hp; exact weaken h ‹_›
      · rcases weaken h ‹_› with ⟨_, hr, _⟩ | ⟨_, hw⟩
        · cases hr
        · exact weaken hw hp
    · exact weaken h hp

theorem call_of_ne_t (ctx : Ctx) (k : CK) (h : Ledger w0 O M w) (hc : c ∈ O.vals)
    (hne : ∀ cn : Conn, w.conns[c]? = some cn → callRes ctx k cn ≠ .t) :
    Ledger w0 O M (call ctx k c w).1 := by
  refine ⟨?_, h.ext.trans (ext_call ctx k c w)⟩
  obtain ⟨cn, hcn, h0⟩ := h.inv.get hc
  simp only [SessionConns.call, hcn]
  refine (wi_set_keep (cn' := cn.afterCall k _) h.inv hc hcn h0 rfl rfl ?_ rfl ?_ ?_).emit _
  · simp [Conn.afterCall, h0, (h.inv.flags c cn hcn).1]
  · intro ht
    have := h.inv.quiet ht c cn hcn
    simp only [Conn.afterCall, this.1, this.2, Bool.false_or, and_true]
    split
    · rfl
    · simpa using hne cn hcn
  · exact nofun

/-- a backend call other than a statement (which alone can time out) -/
theorem call (ctx : Ctx) (k : CK) (h : Ledger w0 O M w) (hc : c ∈ O.vals)
    (hk : k ≠ .X := by decide) : Ledger w0 O M (call ctx k c w).1 :=
  h.call_of_ne_t ctx k hc fun _ _ ht => hk (callRes_eq_t ht).1

theorem callX (ctx : Ctx) (h : Ledger w0 O M w) (hc : c ∈ O.vals)
    (hne : (SessionConns.call ctx .X c w).2 ≠ .t) : Ledger w0 O M (SessionConns.call ctx .X c w).1 :=
  h.call_of_ne_t ctx .X hc fun _ hcn => (call_get ctx .X hcn).2 ▸ hne

/-- a statement that times out, and the `Close` that follows on both execution
    paths: the connection is out, closed, and nothing is in flight -/
theorem callX_close (ctx : Ctx) (h : Ledger w0 O M w) (hc : c ∈ O.vals)
    (ht : (SessionConns.call ctx .X c w).2 = .t) : Ledger w0 O M (close c (SessionConns.call ctx .X c w).1) := by
  refine ⟨?_, h.ext.trans ((ext_call ctx .X c w).trans (ext_close c _))⟩
  obtain ⟨cn, hcn, h0⟩ := h.inv.get hc
  obtain ⟨hlt, hget⟩ := List.getElem?_eq_some_iff.1 hcn
  have hr : callRes ctx .X cn = .t := (call_get ctx .X hcn).2 ▸ ht
  have hw : WInv qNone O M { w with conns := w.conns.set c (cn.afterCall .X .t).afterClose } := by
    refine wi_set_keep h.inv hc hcn h0 rfl rfl ?_ rfl ?_ nofun
    · simp [Conn.afterCall, Conn.afterClose, h0, (h.inv.flags c cn hcn).1]
    · intro hq
      simp [Conn.afterCall, Conn.afterClose, (h.inv.quiet hq c cn hcn).2]
  refine wi_congr ?_ hw
  simp [SessionConns.call, SessionConns.close, hlt, hget, hr]

theorem close (h : Ledger w0 O M w) (hc : c ∈ O.vals) : Ledger w0 O M (close c w) := by
  refine ⟨?_, h.ext.trans (ext_close c w)⟩
  obtain ⟨cn, hcn, h0⟩ := h.inv.get hc
  simp only [SessionConns.close, hcn]
  refine (wi_set_keep (cn' := cn.afterClose) h.inv hc hcn h0 rfl rfl ?_ rfl ?_ nofun).emit _
  · simp [Conn.afterClose, h0, (h.inv.flags c cn hcn).1]
  · intro hq
    simp [Conn.afterClose, (h.inv.quiet hq c cn hcn).2]

theorem recycle (h : Ledger w0 O M w) (hc : c ∈ O.vals) : Ledger w0 (drop c O) M (recycle c w) := by
  refine ⟨?_, h.ext.trans (ext_recycle c w)⟩
  obtain ⟨cn, hcn, h0⟩ := h.inv.get hc
  simp only [SessionConns.recycle, hcn]
  refine (wi_set_ret (cn' := cn.afterRecycle) h.inv hcn ?_ rfl ?_ rfl ?_).emit _
  · simp [Conn.afterRecycle, h0]
  · simp [Conn.afterRecycle, (h.inv.flags c cn hcn).1]
  · intro hq
    have := h.inv.quiet hq c cn hcn
    simp [Conn.afterRecycle, this.1, this.2]

theorem closeRecycle (h : Ledger w0 O M w) (hc : c ∈ O.vals) :
    Ledger w0 (drop c O) M (closeRecycle c w) := by
  refine ⟨?_, h.ext.trans (ext_closeRecycle c w)⟩
  obtain ⟨cn, hcn, h0⟩ := h.inv.get hc
  rw [closeRecycle_eq hcn]
  refine ((wi_set_ret (cn' := cn.afterClose.afterRecycle) h.inv hcn ?_ rfl ?_ rfl ?_).emit _).emit _
  · simp [Conn.afterRecycle, Conn.afterClose, h0]
  · simp [Conn.afterRecycle, Conn.afterClose, h0, (h.inv.flags c cn hcn).1]
  · intro hq
    simp [Conn.afterRecycle, Conn.afterClose, (h.inv.quiet hq c cn hcn).2]

/-- `executeSingleSQLInSlice` and the `Close` that follows a statement timeout on both execution paths -/
theorem executeSingle_close (ctx : Ctx) (h : Ledger w0 O M w) (hc : c ∈ O.vals) :
    Ledger w0 O M (if (executeSingleSQLInSlice ctx c w).2 = .t then SessionConns.close c (executeSingleSQLInSlice ctx c w).1
      else (executeSingleSQLInSlice ctx c w).1) := by
  unfold executeSingleSQLInSlice
  have h1 := h.call ctx .U hc
  generalize SessionConns.call ctx .U c w = p at h1
  obtain ⟨w1, r1⟩ := p
  dsimp only
  split
  · exact h1
  · split
    · exact h1.callX_close ctx hc ‹_›
    · exact h1.callX ctx hc ‹_›

theorem executeUnshard (ctx : Ctx) (h : Ledger w0 O M w) (hc : c ∈ O.vals) :
    Ledger w0 O M (executeUnshardSQLInSlice ctx c w).1 := by
  unfold executeUnshardSQLInSlice
  have h1 := h.executeSingle_close ctx hc
  generalize executeSingleSQLInSlice ctx c w = p at h1
  obtain ⟨w1, r1⟩ := p
  dsimp only at h1 ⊢
  split <;> simp_all

theorem executeMultiple (ctx : Ctx) (rs : Bool) (h : Ledger w0 O M w) (hc : c ∈ O.vals) :
    Ledger w0 O M (executeMultipleSQLInSlice ctx rs c w).1 := by
  unfold executeMultipleSQLInSlice executeCompleteSQLInSlice
  have h1 := h.executeSingle_close ctx hc
  generalize executeSingleSQLInSlice ctx c w = p at h1
  obtain ⟨w1, r1⟩ := p
  dsimp only at h1 ⊢
  split
  · -- the statement succeeded (no timeout): its rows are fetched, which cannot time out either
    have hnt : r1 ≠ .t := fun e => by simp_all [Res.isOk]
    rw [if_neg hnt] at h1
    have h2 := h1.call ctx .M hc
    generalize SessionConns.call ctx .M c w1 = pM at h2
    have hne : (if pM.2.isOk = true then Res.ok else Res.e) ≠ Res.t := by split <;> simp
    simpa [hne] using h2
  · dsimp only
    split <;> simp_all

theorem execShard (ctx : Ctx) (rs : Bool) :
    ∀ (cs : List Nat) (w : World), (∀ c ∈ cs, c ∈ O.vals) → Ledger w0 O M w →
      Ledger w0 O M (execShard ctx rs cs w).1 := by
  intro cs
  induction cs with
  | nil => exact fun w _ h => h
  | cons c cs ih =>
    intro w hsub h
    exact ih _ (fun d hd => hsub d (List.mem_cons_of_mem _ hd)) (h.executeMultiple ctx rs (hsub c List.mem_cons_self))

theorem streamRest (ctx : Ctx) (h : Ledger w0 O M w) (hc : c ∈ O.vals) :
    Ledger w0 O M (streamRest ctx c w) := by
  unfold SessionConns.streamRest
  have h1 : Ledger w0 O M (if moreRows c w then
      (let (w, r) := SessionConns.call ctx .M c w; (w, r.isOk)) else (w, true)).1 := by
    split
    · exact h.call ctx .M hc
    · exact h
  generalize (if moreRows c w then (let (w, r) := SessionConns.call ctx .M c w; (w, r.isOk)) else (w, true)) = p at h1
  dsimp only
  split
  · exact h1.call ctx .N hc
  · exact h1

theorem stream (ctx : Ctx) (h : Ledger w0 O M w) (hc : c ∈ O.vals) :
    Ledger w0 O M (closeGivenUp c (SessionConns.streamRest ctx c w)) := by
  unfold closeGivenUp
  split
  · exact (h.streamRest ctx hc).close hc
  · exact h.streamRest ctx hc

theorem head_out {s : Nat} {E R : CMap} (h : Ledger w0 ((s, c) :: E ++ R) M w) :
    c ∈ CMap.vals ((s, c) :: E ++ R) ∧ drop c ((s, c) :: E ++ R) = E ++ R :=
  ⟨List.mem_cons_self, drop_head (List.nodup_cons.1 h.inv.nodupC).1⟩

theorem foldl_drop (body : Nat → World → World)
    (hb : ∀ (O : CMap) (w : World) (c : Nat), c ∈ O.vals → Ledger w0 O M w → Ledger w0 (drop c O) M (body c w)) :
    ∀ (E R : CMap) (w : World), Ledger w0 (E ++ R) M w →
      Ledger w0 R M (E.vals.foldl (fun w c => body c w) w) := by
  intro E
  induction E with
  | nil => exact fun R w h => h
  | cons e E ih => exact fun R w h => ih R _ (h.head_out.2 ▸ hb _ w e.2 h.head_out.1 h)

theorem eachConn_drop (body : Nat → World → World × Option Bool) (merge : Bool → Bool → Bool)
    (hb : ∀ (O : CMap) (w : World) (c : Nat), c ∈ O.vals → Ledger w0 O M w → Ledger w0 (drop c O) M (body c w).1) :
    ∀ (E R : CMap) (w : World) (b : Bool), Ledger w0 (E ++ R) M w →
      Ledger w0 R M (eachConn body merge E.vals (w, b)).1 := by
  intro E
  induction E with
  | nil => exact fun R w b h => h
  | cons e E ih =>
    intro R w b h
    have h2 := h.head_out.2 ▸ hb _ w e.2 h.head_out.1 h
    simp only [CMap.vals, List.map_cons, eachConn]
    split <;> rename_i heq <;> rw [heq] at h2 <;> exact ih R _ _ h2

theorem beginAll (ctx : Ctx) :
    ∀ (cs : List Nat) (w : World), (∀ c ∈ cs, c ∈ O.vals) → Ledger w0 O M w →
      Ledger w0 O M (beginAll ctx cs w).1 := by
  intro cs
  induction cs with
  | nil => exact fun w _ h => h
  | cons c cs ih =>
    intro w hsub h
    have h2 := h.call ctx .B (hsub c List.mem_cons_self)
    simp only [SessionConns.beginAll]
    split
    · exact ih _ (fun d hd => hsub d (List.mem_cons_of_mem _ hd)) h2
    · exact h2

theorem pingAll (ctx : Ctx) :
    ∀ (cs : List Nat) (w : World), (∀ c ∈ cs, c ∈ O.vals) → Ledger w0 O M w →
      Ledger w0 O M (pingAll ctx cs w).1 := by
  intro cs
  induction cs with
  | nil => exact fun w _ h => h
  | cons c cs ih =>
    intro w hsub h
    have hc := hsub c List.mem_cons_self
    have h2 := h.call ctx .P hc
    simp only [SessionConns.pingAll]
    split
    · exact ih _ (fun d hd => hsub d (List.mem_cons_of_mem _ hd)) h2
    · exact h2.close hc

theorem rollbackTx (ctx : Ctx) (hc : c ∈ O.vals) (h : Ledger w0 O M w) :
    Ledger w0 (drop c O) M (rollbackTx ctx c w).1 := by
  unfold SessionConns.rollbackTx
  split
  · exact h.recycle hc
  · exact (h.call ctx .R hc).recycle hc

theorem rollbackKs (ctx : Ctx) (hc : c ∈ O.vals) (h : Ledger w0 O M w) :
    Ledger w0 O M (rollbackKs ctx c w).1 := by
  unfold SessionConns.rollbackKs
  split
  · exact h
  · exact h.call ctx .R hc

theorem pingDrop (inTx : Bool) (hc : c ∈ O.vals) (h : Ledger w0 O M w) :
    Ledger w0 (drop c O) M (pingDrop inTx c w) := by
  unfold SessionConns.pingDrop
  split
  · exact h.closeRecycle hc
  · exact h.recycle hc

end Ledger

end GaeaVerif.SessionConns
