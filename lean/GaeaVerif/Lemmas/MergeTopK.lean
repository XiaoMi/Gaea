import GaeaVerif.Lemmas.MergeDedup
/-
  C02 helper lemmas: merging per-shard top-(o+c) prefixes, generic in the
  element type and in the (total, transitive) comparison; the same for
  duplicate-free sorted lists whose elements may occur on several shards (SELECT
  DISTINCT rows, GROUP BY keys); the LIMIT window of the merge against the
  per-shard windows (`window_merge`); small facts about lists of lists.
-/
namespace GaeaVerif.Merge
open List

section TopK
variable {α : Type} {le : α → α → Bool}

/-- how many of the candidates `P` sort before or with `r`: with `n` of them, `r` is not needed for the first `n` -/
def countLe (le : α → α → Bool) (P : List α) (r : α) : Nat := (P.filter (fun p => le p r)).length

theorem countLe_perm {P Q : List α} (h : P.Perm Q) (r : α) : countLe le P r = countLe le Q r := by
  unfold countLe; exact (h.filter _).length_eq

theorem countLe_append (P Q : List α) (r : α) : countLe le (P ++ Q) r = countLe le P r + countLe le Q r := by
  simp [countLe]

theorem count_lt_of_mem_take (trans : ∀ a b c, le a b → le b c → le a c) (r : α) :
    ∀ (l : List α) (n : Nat), l.Pairwise (fun a b => le a b) → ∀ x ∈ l.take n, le x r = false → countLe le l r < n
  | [], n, _, x, hx, _ => by simp at hx
  | y :: l', 0, _, x, hx, _ => by simp at hx
  | y :: l', n + 1, hs, x, hx, hxr => by
    rw [List.take_succ_cons, List.mem_cons] at hx
    have hs' := List.pairwise_cons.mp hs
    rcases hx with rfl | hx
    · -- nothing at or after `x` sorts before `r`
      have hnone : ∀ z ∈ x :: l', le z r = false := by
        intro z hz
        rcases List.mem_cons.mp hz with rfl | hz
        · exact hxr
        · exact Bool.eq_false_iff.mpr fun h => Bool.false_ne_true (hxr.symm.trans (trans x z r (hs'.1 z hz) h))
      have : (x :: l').filter (fun p => le p r) = [] := by
        apply List.filter_eq_nil_iff.mpr
        intro z hz; simp [hnone z hz]
      simp [countLe, this]
    · have ih := count_lt_of_mem_take trans r l' n hs'.2 x hx hxr
      simp only [countLe] at ih ⊢
      rw [List.filter_cons]
      split
      · simp only [List.length_cons]; omega
      · omega

theorem take_le_of_count (trans : ∀ a b c, le a b → le b c → le a c) (total : ∀ a b, le a b || le b a)
    (P R : List α) (n : Nat) (H : ∀ r ∈ R, n ≤ countLe le P r) :
    ∀ x ∈ (P.mergeSort le).take n, ∀ r ∈ R, le x r = true := by
  intro x hx r hr
  cases h : le x r
  · have hs := List.pairwise_mergeSort trans total P
    have := count_lt_of_mem_take trans r (P.mergeSort le) n hs x hx h
    rw [countLe_perm (List.mergeSort_perm P le) r] at this
    have := H r hr
    omega
  · rfl

theorem take_le_of_mem_drop {L : List α} {n : Nat} {r : α} (hs : L.Pairwise (fun a b => le a b))
    (hr : r ∈ L.drop n) : n < L.length ∧ ∀ x ∈ L.take n, le x r = true := by
  refine ⟨?_, fun x hx => ?_⟩
  · have := List.length_pos_of_mem hr
    simp at this; omega
  · rw [← List.take_append_drop n L, List.pairwise_append] at hs
    exact hs.2.2 x hx r hr

theorem topk_sorted (trans : ∀ a b c, le a b → le b c → le a c) (total : ∀ a b, le a b || le b a)
    (P R : List α) (n : Nat) (H : ∀ r ∈ R, n ≤ countLe le P r) :
    ((P.mergeSort le).take n ++ ((P.mergeSort le).drop n ++ R).mergeSort le).Pairwise (fun a b => le a b) := by
  have hs := List.pairwise_mergeSort trans total P
  rw [List.pairwise_append]
  refine ⟨?_, List.pairwise_mergeSort trans total _, ?_⟩
  · exact hs.sublist (List.take_sublist _ _)
  · intro a ha b hb
    rw [List.mem_mergeSort, List.mem_append] at hb
    rcases hb with hb | hb
    · exact (take_le_of_mem_drop hs hb).2 a ha
    · exact take_le_of_count trans total P R n H a ha b hb

theorem topk_perm (P R : List α) (n : Nat) :
    ((P.mergeSort le).take n ++ ((P.mergeSort le).drop n ++ R).mergeSort le).Perm (P ++ R) := by
  have h1 : (((P.mergeSort le).drop n ++ R).mergeSort le).Perm ((P.mergeSort le).drop n ++ R) := List.mergeSort_perm _ _
  have h2 : ((P.mergeSort le).take n ++ ((P.mergeSort le).drop n ++ R)).Perm (P ++ R) := by
    rw [← List.append_assoc, List.take_append_drop]
    exact (List.mergeSort_perm P le).append_right R
  exact (h1.append_left _).trans h2

theorem window_prefix (A X : List α) (o c : Nat) (h : X ≠ [] → o + c ≤ A.length) :
    ((A ++ X).drop o).take c = (A.drop o).take c := by
  by_cases hX : X = []
  · subst hX; simp
  · have hl := h hX
    rw [List.drop_append_of_le_length (by omega)]
    rw [List.take_append_of_le_length (by simp; omega)]

/-- the core of the top-k argument: `P` are the candidates kept, `R` the rest -/
theorem topk_candidates (trans : ∀ a b c, le a b → le b c → le a c)
    (total : ∀ a b, le a b || le b a) (P R : List α) (o c : Nat)
    (H : ∀ r ∈ R, o + c ≤ countLe le P r) :
    ∃ S : List α, S.Perm (P ++ R) ∧ S.Pairwise (fun a b => le a b) ∧
      (S.drop o).take c = ((P.mergeSort le).drop o).take c := by
  refine ⟨(P.mergeSort le).take (o + c) ++ ((P.mergeSort le).drop (o + c) ++ R).mergeSort le,
    topk_perm P R (o + c), topk_sorted trans total P R (o + c) H, ?_⟩
  rw [window_prefix, List.take_drop, List.take_drop, List.take_take, Nat.min_self]
  intro hne
  rw [List.length_take, List.length_mergeSort]
  have : o + c ≤ P.length := by
    by_cases hd : (P.mergeSort le).drop (o + c) = []
    · have hR : R ≠ [] := by
        intro hR
        apply hne
        simp [hd, hR]
      obtain ⟨r, hr⟩ := List.exists_mem_of_ne_nil R hR
      have h1 : o + c ≤ countLe le P r := H r hr
      have h2 : countLe le P r ≤ P.length := List.length_filter_le _ _
      omega
    · have h1 := List.length_pos_iff.mpr hd
      rw [List.length_drop, List.length_mergeSort] at h1
      omega
  omega

/-- shard lists: the first `n` of every list / the rest -/
def heads (n : Nat) (Ls : List (List α)) : List α := (Ls.map (List.take n)).flatten
def tails (n : Nat) (Ls : List (List α)) : List α := (Ls.map (List.drop n)).flatten

theorem heads_tails_perm (n : Nat) : ∀ Ls : List (List α), (heads n Ls ++ tails n Ls).Perm Ls.flatten
  | [] => by simp [heads, tails]
  | L :: Ls => by
    have ih := heads_tails_perm n Ls
    simp only [heads, tails, List.map_cons, List.flatten_cons] at ih ⊢
    -- (take ++ H) ++ (drop ++ T) ~ (take ++ drop) ++ (H ++ T)
    rw [List.append_assoc]
    refine ((List.perm_append_comm_assoc _ _ _).append_left _).trans ?_
    rw [← List.append_assoc, List.take_append_drop]
    exact ih.append_left L

theorem countLe_heads (n : Nat) (r : α) : ∀ (Ls : List (List α)) (L : List α), L ∈ Ls →
    countLe le (L.take n) r ≤ countLe le (heads n Ls) r
  | [], _, h => by simp at h
  | L' :: Ls, L, h => by
    simp only [heads, List.map_cons, List.flatten_cons]
    rw [countLe_append]
    rcases List.mem_cons.mp h with rfl | h
    · omega
    · have := countLe_heads n r Ls L h
      simp only [heads] at this
      omega

theorem tails_count (n : Nat) (Ls : List (List α)) (hs : ∀ L ∈ Ls, L.Pairwise (fun a b => le a b)) :
    ∀ r ∈ tails n Ls, n ≤ countLe le (heads n Ls) r := by
  intro r hr
  obtain ⟨L, hL, hrD⟩ := List.mem_flatMap.mp hr
  obtain ⟨hlen, hall⟩ := take_le_of_mem_drop (hs L hL) hrD
  have : countLe le (L.take n) r = n := by
    simp only [countLe]
    rw [List.filter_eq_self.mpr (by simpa using hall)]
    simp; omega
  have := countLe_heads (le := le) n r Ls L hL
  omega

/-- **Top-k merge.**  Every shard list is sorted; merging (sorting) the first
    `o+c` elements of every shard and taking `[o, o+c)` is the window
    `[o, o+c)` of some sorted arrangement of all elements. -/
theorem topk_merge (trans : ∀ a b c, le a b → le b c → le a c) (total : ∀ a b, le a b || le b a)
    (Ls : List (List α)) (hs : ∀ L ∈ Ls, L.Pairwise (fun a b => le a b)) (o c : Nat) :
    ∃ S : List α, S.Perm Ls.flatten ∧ S.Pairwise (fun a b => le a b) ∧
      (S.drop o).take c = (((heads (o + c) Ls).mergeSort le).drop o).take c := by
  obtain ⟨S, hp, hs', hw⟩ := topk_candidates trans total (heads (o + c) Ls) (tails (o + c) Ls) o c
    (tails_count (o + c) Ls hs)
  exact ⟨S, hp.trans (heads_tails_perm (o + c) Ls), hs', hw⟩

theorem mem_heads (n : Nat) (Ls : List (List α)) (x : α) :
    x ∈ heads n Ls ↔ ∃ L ∈ Ls, x ∈ L.take n :=
  List.mem_flatMap

theorem mem_drop_of_not_mem_take {L : List α} {n : Nat} {k : α} (hk : k ∈ L) (hnot : k ∉ L.take n) :
    k ∈ L.drop n := by
  rw [← List.take_append_drop n L] at hk
  exact (List.mem_append.mp hk).resolve_left hnot

end TopK

/-! ### duplicate-free shard lists -/

section TopKNodup
variable {α : Type} [DecidableEq α] {le : α → α → Bool}

theorem count_dedup_heads {Ls : List (List α)} {L : List α} (hL : L ∈ Ls) (hnd : L.Nodup) {n : Nat}
    (hlen : n ≤ L.length) {r : α} (hall : ∀ x ∈ L.take n, le x r = true) :
    n ≤ countLe le (dedup (heads n Ls)) r := by
  have := (hnd.sublist (List.take_sublist n L)).length_le_of_subset fun x hx =>
    List.mem_filter.mpr ⟨(mem_dedup _ _).mpr ((mem_heads _ _ _).mpr ⟨L, hL, hx⟩), hall x hx⟩
  rw [List.length_take] at this
  exact Nat.le_trans (by omega) this

/-- **Top-k merge of duplicate-free lists.**  Every shard list is sorted and
    without duplicates (an element may be on several shards); removing the
    duplicates among the first `o+c` elements of every shard, sorting and taking
    `[o, o+c)` is the window `[o, o+c)` of a sorted arrangement of the distinct
    elements of all shards. -/
theorem topk_nodup (trans : ∀ a b c, le a b → le b c → le a c) (total : ∀ a b, le a b || le b a)
    (Ls : List (List α)) (hs : ∀ L ∈ Ls, L.Pairwise (fun a b => le a b)) (hnd : ∀ L ∈ Ls, L.Nodup)
    (o c : Nat) :
    ∃ S : List α, S.Perm (dedup Ls.flatten) ∧ S.Pairwise (fun a b => le a b) ∧
      (S.drop o).take c = (((dedup (heads (o + c) Ls)).mergeSort le).drop o).take c := by
  let P := dedup (heads (o + c) Ls)
  let D := dedup Ls.flatten
  let R := D.filter fun x => x ∉ P
  have hheads_sub : ∀ x ∈ heads (o + c) Ls, x ∈ Ls.flatten := by
    intro x hx
    obtain ⟨L, hL, hxL⟩ := (mem_heads _ _ _).mp hx
    exact List.mem_flatten.mpr ⟨L, hL, List.mem_of_mem_take hxL⟩
  have hP_sub : ∀ x ∈ P, x ∈ D := by
    intro x hx
    exact (mem_dedup _ _).mpr (hheads_sub x ((mem_dedup _ _).mp hx))
  have hPR : (P ++ R).Perm D := by
    rw [List.perm_ext_iff_of_nodup _ (nodup_dedup _)]
    · intro x
      simp only [R, List.mem_append, List.mem_filter, decide_eq_true_eq]
      constructor
      · rintro (hx | ⟨hx, _⟩)
        · exact hP_sub x hx
        · exact hx
      · intro hx
        by_cases hxP : x ∈ P
        · exact Or.inl hxP
        · exact Or.inr ⟨hx, hxP⟩
    · rw [List.nodup_append]
      refine ⟨nodup_dedup _, (nodup_dedup _).filter _, ?_⟩
      intro a ha b hb e
      simp only [R, List.mem_filter, decide_eq_true_eq] at hb
      exact hb.2 (e ▸ ha)
  -- `r ∉ P` lies beyond the first `o+c` of its shard list; these are distinct, so `o+c` candidates before `r`
  have H : ∀ r ∈ R, o + c ≤ countLe le P r := by
    intro r hr
    simp only [R, List.mem_filter, decide_eq_true_eq] at hr
    obtain ⟨hrD, hrP⟩ := hr
    obtain ⟨L, hL, hrL⟩ := List.mem_flatten.mp ((mem_dedup _ _).mp hrD)
    have hdrop := mem_drop_of_not_mem_take hrL fun hin =>
      hrP ((mem_dedup _ _).mpr ((mem_heads _ _ _).mpr ⟨L, hL, hin⟩))
    obtain ⟨hlen, hall⟩ := take_le_of_mem_drop (hs L hL) hdrop
    exact count_dedup_heads hL (hnd L hL) (Nat.le_of_lt hlen) hall
  obtain ⟨S, hp, hss, hwin⟩ := topk_candidates trans total P R o c H
  exact ⟨S, hp.trans hPR, hss, hwin⟩

/-- an element among the first `n` of the sorted candidates is among the first
    `n` of every shard list that holds it (the comparison is antisymmetric on
    the elements present) -/
theorem take_complete (trans : ∀ a b c, le a b → le b c → le a c) (total : ∀ a b, le a b || le b a)
    (Ls : List (List α)) (hs : ∀ L ∈ Ls, L.Pairwise (fun a b => le a b)) (hnd : ∀ L ∈ Ls, L.Nodup)
    (antisymm : ∀ a ∈ Ls.flatten, ∀ b ∈ Ls.flatten, le a b = true → le b a = true → a = b) (n : Nat) :
    ∀ k ∈ ((dedup (heads n Ls)).mergeSort le).take n, ∀ L ∈ Ls, k ∈ L → k ∈ L.take n := by
  intro k hk L hL hkL
  apply Classical.byContradiction
  intro hnot
  -- `k` beyond `L.take n`: the `n` distinct elements of `L.take n` are `≤` its last one `r`, so `n`
  -- candidates are `≤ r`; but `r ≤ k`, `r ≠ k`, so `k` is not `≤ r`, and `k` is among the first `n`
  -- sorted candidates: fewer than `n` candidates are `≤ r`
  have hn : 0 < n := Nat.pos_of_ne_zero fun h => by simp [h] at hk
  have hdrop := mem_drop_of_not_mem_take hkL hnot
  obtain ⟨hlen, hallk⟩ := take_le_of_mem_drop (hs L hL) hdrop
  have hTne : L.take n ≠ [] := by
    intro h
    rcases List.take_eq_nil_iff.mp h with h0 | h0
    · omega
    · subst h0; simp at hlen
  let r := (L.take n).getLast hTne
  have hrT : r ∈ L.take n := List.getLast_mem hTne
  have hrk : le r k = true := hallk r hrT
  have hxr : ∀ x ∈ L.take n, le x r = true := by
    intro x hx
    have hT := (hs L hL).sublist (List.take_sublist n L)
    rw [← List.dropLast_concat_getLast hTne, List.pairwise_append] at hT
    rw [← List.dropLast_concat_getLast hTne] at hx
    rcases List.mem_append.mp hx with h1 | h1
    · exact hT.2.2 x h1 r (by simp [r])
    · simp only [List.mem_singleton] at h1
      subst h1
      have := total r r
      simpa using this
  have hne : r ≠ k := by
    intro e
    have hnd' : (L.take n ++ L.drop n).Nodup := by rw [List.take_append_drop]; exact hnd L hL
    rw [List.nodup_append] at hnd'
    exact hnd'.2.2 r hrT k hdrop e
  have hkr : le k r = false := Bool.eq_false_iff.mpr fun h =>
    hne (antisymm r (List.mem_flatten.mpr ⟨L, hL, List.mem_of_mem_take hrT⟩)
      k (List.mem_flatten.mpr ⟨L, hL, hkL⟩) hrk h)
  have hsorted := List.pairwise_mergeSort trans total (dedup (heads n Ls))
  have hlt := count_lt_of_mem_take trans r _ n hsorted k hk hkr
  rw [countLe_perm (List.mergeSort_perm _ le) r] at hlt
  have hcount := count_dedup_heads hL (hnd L hL) (Nat.le_of_lt hlen) hxr
  omega

end TopKNodup

/-! ### the LIMIT windows of the shards and of the merge -/

section Window
variable {α : Type} {le : α → α → Bool}

theorem window_map {β : Type} (f : α → β) (lim : Option (Nat × Nat)) (l : List α) :
    window lim (l.map f) = (window lim l).map f := by
  cases lim with
  | none => rfl
  | some oc => simp [window, List.map_take, List.map_drop]

theorem mem_window (lim : Option (Nat × Nat)) (l : List α) (x : α) (h : x ∈ window lim l) : x ∈ l := by
  cases lim with
  | none => exact h
  | some oc => exact List.mem_of_mem_drop (List.mem_of_mem_take h)

theorem map_window_none (Ls : List (List α)) : Ls.map (window none) = Ls := List.map_id'' (fun _ => rfl) Ls

/-- the per-shard window is absent, or it is `[0, o+c)` where the merge takes `[o, o+c)` -/
def ShardLimit (lim lim' : Option (Nat × Nat)) : Prop :=
  lim' = none ∨ ∃ o c, lim = some (o, c) ∧ lim' = some (0, o + c)

theorem window_merge (trans : ∀ a b c, le a b → le b c → le a c) (total : ∀ a b, le a b || le b a)
    (Ls : List (List α)) (hs : ∀ L ∈ Ls, L.Pairwise (fun a b => le a b)) {lim lim' : Option (Nat × Nat)}
    (hl : ShardLimit lim lim') :
    ∃ S : List α, S.Perm Ls.flatten ∧ S.Pairwise (fun a b => le a b) ∧
      window lim S = window lim ((Ls.map (window lim')).flatten.mergeSort le) := by
  rcases hl with rfl | ⟨o, c, rfl, rfl⟩
  · rw [map_window_none]
    exact ⟨_, List.mergeSort_perm _ _, List.pairwise_mergeSort trans total _, rfl⟩
  · exact topk_merge trans total Ls hs o c

theorem window_merge_nodup [DecidableEq α] (trans : ∀ a b c, le a b → le b c → le a c)
    (total : ∀ a b, le a b || le b a) (Ls : List (List α)) (hs : ∀ L ∈ Ls, L.Pairwise (fun a b => le a b))
    (hnd : ∀ L ∈ Ls, L.Nodup) {lim lim' : Option (Nat × Nat)} (hl : ShardLimit lim lim') :
    ∃ S : List α, S.Perm (dedup Ls.flatten) ∧ S.Pairwise (fun a b => le a b) ∧
      window lim S = window lim ((dedup (Ls.map (window lim')).flatten).mergeSort le) := by
  rcases hl with rfl | ⟨o, c, rfl, rfl⟩
  · rw [map_window_none]
    exact ⟨_, List.mergeSort_perm _ _, List.pairwise_mergeSort trans total _, rfl⟩
  · exact topk_nodup trans total Ls hs hnd o c

end Window

/-! ### lists of lists -/

theorem mem_flatten_map_congr {α β : Type} {f g : α → List β} {l : List α} {x : β}
    (h : ∀ a ∈ l, (x ∈ f a ↔ x ∈ g a)) : x ∈ (l.map f).flatten ↔ x ∈ (l.map g).flatten :=
  List.mem_flatMap.trans ((exists_congr fun a => and_congr_right (h a)).trans List.mem_flatMap.symm)

theorem sublist_flatten_of_sublist {α : Type} {l l' : List (List α)} (h : l.Sublist l') : l.flatten.Sublist l'.flatten := by
  induction h with
  | slnil => exact List.Sublist.refl _
  | cons a _ ih => simp only [List.flatten_cons]; exact List.sublist_append_of_sublist_right ih
  | cons_cons a _ ih => simp only [List.flatten_cons]; exact List.Sublist.append (List.Sublist.refl a) ih

theorem flatten_sublist_of_forall {α : Type} (f : List α → List α) : ∀ (ts : List (List α)),
    (∀ t ∈ ts, (f t).Sublist t) → (ts.map f).flatten.Sublist ts.flatten
  | [], _ => by simp
  | t :: ts, h => by
    simp only [List.map_cons, List.flatten_cons]
    exact List.Sublist.append (h t (by simp)) (flatten_sublist_of_forall f ts (fun x hx => h x (by simp [hx])))

theorem filter_take_of_nodup {α β : Type} [DecidableEq β] (f : α → β) (C : List α) (n : Nat) (k : β)
    (hnd : (C.map f).Nodup) (hk : k ∈ C.map f → k ∈ (C.map f).take n) :
    (C.take n).filter (fun x => f x = k) = C.filter (fun x => f x = k) := by
  conv => rhs; rw [← List.take_append_drop n C]
  rw [List.filter_append]
  have : (C.drop n).filter (fun x => decide (f x = k)) = [] := by
    apply List.filter_eq_nil_iff.mpr
    intro x hx hfx
    simp only [decide_eq_true_eq] at hfx
    have hkC : k ∈ C.map f := List.mem_map.mpr ⟨x, List.mem_of_mem_drop hx, hfx⟩
    have hkT := hk hkC
    rw [← List.take_append_drop n C, List.map_append, List.nodup_append] at hnd
    rw [← List.map_take] at hkT
    exact hnd.2.2 k hkT k (List.mem_map.mpr ⟨x, hx, hfx⟩) rfl
  rw [this, List.append_nil]

theorem mem_window_take {α : Type} (l : List α) (o c : Nat) (x : α) (h : x ∈ (l.drop o).take c) : x ∈ l.take (o + c) := by
  rw [List.take_drop] at h
  exact List.mem_of_mem_drop h

end GaeaVerif.Merge
