import GaeaVerif.Model.C10Config
/-
  Helper lemmas for C10: outcomes that are not a panic, Go maps as write logs,
  association lists, `includeSlice`, consecutive index lists, the loop of
  parseHashRuleSliceInfos.
-/
namespace GaeaVerif.C10
open GaeaVerif

/-- inversion of the `match x with | .ok a => … | .fail => .fail | .panic => .panic` steps -/
macro "r_cases " h:ident " : " x:term " with " a:ident ha:ident : tactic =>
  `(tactic| (have hex : ∃ a, $x = R.ok a := by
               cases hx : $x with
               | ok a => exact ⟨a, rfl⟩
               | fail => rw [hx] at $h:ident; simp at $h:ident
               | panic => rw [hx] at $h:ident; simp at $h:ident
             refine Exists.elim hex (fun $a $ha => ?_)
             rw [$ha:ident] at $h:ident
             try simp only at $h:ident))

/-! ### the steps `if bad then .fail else …` -/

theorem ite_fail_ne_panic {α : Type} {c : Prop} [Decidable c] {x : R α} (h : x ≠ .panic) :
    (if c then .fail else x) ≠ .panic := by
  split
  · nofun
  · exact h

theorem ite_fail_eq_ok {α : Type} {c : Prop} [Decidable c] {x : R α} {a : α} :
    (if c then .fail else x) = .ok a ↔ ¬ c ∧ x = .ok a := by
  split <;> simp [*]

/-! ### outcomes that are not a panic -/

/-- `x` does not panic, and `P` holds of what it returns if it returns (an error outcome says nothing) -/
def Safe {α : Type} (x : R α) (P : α → Prop) : Prop := x ≠ .panic ∧ ∀ a, x = .ok a → P a

theorem Safe.ok {α : Type} {P : α → Prop} {a : α} (h : P a) : Safe (.ok a) P :=
  ⟨nofun, fun _ e => by cases e; exact h⟩

theorem Safe.fail {α : Type} {P : α → Prop} : Safe (.fail : R α) P := ⟨nofun, nofun⟩

theorem Safe.imp {α : Type} {P Q : α → Prop} {x : R α} (h : Safe x P) (hpq : ∀ a, P a → Q a) : Safe x Q :=
  ⟨h.1, fun a e => hpq a (h.2 a e)⟩

theorem Safe.ite_fail {α : Type} {c : Prop} [Decidable c] {x : R α} {P : α → Prop} (h : ¬ c → Safe x P) :
    Safe (if c then .fail else x) P := by
  split
  · exact Safe.fail
  · exact h ‹_›

theorem Safe.cases {α : Type} {x : R α} {P : α → Prop} (h : Safe x P) : (∃ a, x = .ok a ∧ P a) ∨ x = .fail :=
  (R.ok_or_fail h.1).imp_left fun ⟨a, e⟩ => ⟨a, e, h.2 a e⟩

/-! ### write logs -/

theorem distinctCount_of_nodup : ∀ (l : List Int), l.Nodup → distinctCount l = l.length
  | [], _ => rfl
  | a :: l, h => by
    have h' := List.nodup_cons.mp h
    simp [distinctCount, h'.1, distinctCount_of_nodup l h'.2]
    omega

theorem mapGet_mem : ∀ (m : IntMap) (k v : Int), mapGet m k = some v → (k, v) ∈ m
  | [], _, _, h => by simp [mapGet] at h
  | (k', v') :: rest, k, v, h => by
    unfold mapGet at h
    split at h
    · next x hx =>
      cases h
      exact List.mem_cons_of_mem _ (mapGet_mem rest k v hx)
    · next hx =>
      split at h
      · next hk => cases h; subst hk; exact List.mem_cons_self
      · cases h

theorem mapGet_isSome_iff : ∀ (m : IntMap) (k : Int), (mapGet m k).isSome ↔ k ∈ m.map (·.1)
  | [], k => by simp [mapGet]
  | (k', v') :: rest, k => by
    have ih := mapGet_isSome_iff rest k
    simp only [mapGet, List.map_cons, List.mem_cons, ← ih]
    cases mapGet rest k <;> by_cases hk : k' = k <;> simp [hk, eq_comm]

/-! ### association lists keyed by (db, table) -/

theorem lookup_append_single {α : Type} (m : List ((Str × Str) × α)) (k : Str × Str) (v : α) (k' : Str × Str) :
    lookup (m ++ [(k, v)]) k' = if k = k' then some v else lookup m k' := by
  induction m with
  | nil => simp [lookup]
  | cons a m ih =>
    obtain ⟨ka, va⟩ := a
    simp only [List.cons_append, lookup, ih]
    by_cases h : k = k'
    · simp [h]
    · simp [h]

theorem lookup_mem {α : Type} : ∀ (m : List ((Str × Str) × α)) (k : Str × Str) (v : α),
    lookup m k = some v → (k, v) ∈ m
  | [], _, _, h => by simp [lookup] at h
  | (k', v') :: rest, k, v, h => by
    unfold lookup at h
    split at h
    · next x hx => cases h; exact List.mem_cons_of_mem _ (lookup_mem rest k v hx)
    · split at h
      · next hk => cases h; subst hk; exact List.mem_cons_self
      · cases h

theorem mem_of_includeSlice {names : List Str} {s : Str} (h : includeSlice names s = true) : s ∈ names := by
  unfold includeSlice at h
  obtain ⟨x, hx, he⟩ := List.any_eq_true.mp h
  simp only [decide_eq_true_eq] at he
  subst he; exact hx

/-! ### consecutive integer lists -/

def consec (s : Int) (n : Nat) : List Int := (List.range n).map fun (j : Nat) => (j : Int) + s

theorem length_consec (s : Int) (n : Nat) : (consec s n).length = n := by simp [consec]

theorem mem_consec {s : Int} {n : Nat} {x : Int} : x ∈ consec s n ↔ s ≤ x ∧ x < s + n := by
  simp only [consec, List.mem_map, List.mem_range]
  constructor
  · rintro ⟨j, hj, rfl⟩; omega
  · intro h; exact ⟨(x - s).toNat, by omega, by omega⟩

theorem consec_mem_of_lt {n : Nat} {x : Int} (h0 : 0 ≤ x) (h1 : x < n) : x ∈ consec 0 n :=
  mem_consec.mpr ⟨h0, by omega⟩

theorem consec_pairwise (s : Int) (n : Nat) : (consec s n).Pairwise (· < ·) := by
  refine List.Pairwise.map _ ?_ List.pairwise_lt_range
  intro a b h; omega

theorem consec_append (s : Int) (m k : Nat) : consec s m ++ consec (s + m) k = consec s (m + k) := by
  simp only [consec, List.range_add, List.map_append, List.map_map, List.append_cancel_left_eq]
  apply List.map_congr_left
  intro j _; simp only [Function.comp]; omega

theorem pairwise_lt_nodup {l : List Int} (h : l.Pairwise (· < ·)) : l.Nodup := by
  refine List.Pairwise.imp ?_ h
  intro a b hab; omega

theorem hashTables_safe : ∀ (locs : List Int) (i s : Int), Safe (hashTables locs i s) fun t =>
    t.map (·.1) = consec s locs.sum.toNat ∧ 0 ≤ locs.sum ∧ (∀ kv ∈ t, i ≤ kv.2 ∧ kv.2 < i + locs.length)
  | [], i, s => Safe.ok (by simp [consec])
  | loc :: rest, i, s => by
    unfold hashTables
    refine Safe.ite_fail fun hloc => ?_
    rcases (hashTables_safe rest (i + 1) (s + loc)).cases with ⟨r, hr, hk, hs, hv⟩ | hr <;> simp only [hr]
    · have hloc' : ((loc.toNat : Nat) : Int) = loc := by omega
      refine Safe.ok ⟨?_, by simp only [List.sum_cons]; omega, ?_⟩
      · simp only [List.map_append, List.map_map, hk, List.sum_cons]
        rw [show (loc + rest.sum).toNat = loc.toNat + rest.sum.toNat by omega, ← consec_append, hloc']
        rfl
      · intro kv hkv
        simp only [List.length_cons]
        rcases List.mem_append.mp hkv with h1 | h1
        · obtain ⟨j, _, rfl⟩ := List.mem_map.mp h1
          simp only; omega
        · have := hv kv h1; omega
    · exact Safe.fail

end GaeaVerif.C10
