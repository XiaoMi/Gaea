import GaeaVerif.Lemmas.BufOwn
/-
  Isolation of the sessions that share the packet buffer pool (Model/BufOwn.lean):
  what a session observes in any interleaving is what it observes alone.
  Used by Props/C38.lean.
-/
namespace GaeaVerif.BufOwn
open GaeaVerif

/-! ### a session's state up to the names of its buffers -/

def Rd.norm : Rd → Rd
  | .data _ len => .data 0 len
  | r => r

theorem Rd.ok_of_norm {a b : Rd} (h : a.norm = b.norm) : a.ok = b.ok := by
  cases a <;> cases b <;> cases h <;> rfl

/-- `s` with other names for its buffers -/
def Sess.rename (s : Sess) (cur' : Option Nat) (rd' : Rd) : Sess :=
  { s with conn := { s.conn with cur := cur' }, rd := rd' }

/-- Session `t` over memory `m'` is session `s` over memory `m` with other
    names for its buffers, and what has arrived of the packet `s` is reading
    (never more than the packet's length) has arrived for `t` as well. -/
def Rel (m : Mem) (s : Sess) (m' : Mem) (t : Sess) : Prop :=
  ∃ (cur' : Option Nat) (rd' : Rd),
    t = s.rename cur' rd' ∧ s.conn.cur.isSome = cur'.isSome ∧ s.rd.norm = rd'.norm ∧ s.filled ≤ s.conn.len ∧
    (∀ (a a' : Nat) (b b' : Buf), s.conn.cur = some a → cur' = some a' → m.bufs[a]? = some b → m'.bufs[a']? = some b' →
      b.data.take s.filled = b'.data.take s.filled)

theorem rel_init : Rel Mem.init Sess.init Mem.init Sess.init :=
  ⟨none, .none, rfl, rfl, rfl, Nat.le_refl 0, fun _ _ _ _ => nofun⟩

theorem isSome_cases {a b : Option Nat} (h : a.isSome = b.isSome) : a = none ∧ b = none ∨ ∃ x y, a = some x ∧ b = some y := by
  cases a <;> cases b <;> cases h
  · exact Or.inl ⟨rfl, rfl⟩
  · exact Or.inr ⟨_, _, rfl, rfl⟩

/-- A continuation looks at the shared memory through the packet, which is the same for both if it is
    looked at, and through slices kept, of which there are none. -/
theorem contCore_rename (cfg : Cfg) (hsw : cfg.v.copySwitch = true) (hnl : cfg.v.copyNull = true) {pkt pkt' : Bytes}
    {res res' : AuthRef → Bytes} (s : Sess) (cur' : Option Nat) (rd' : Rd) (c : Cont) (rest : List Instr)
    (hrd : s.rd.norm = rd'.norm) (hno : s.hs.buf = Option.none) (hres : ∀ b, res' (.own b) = res (.own b))
    (hpkt : c.reads = true → pkt' = pkt) :
    contCore cfg pkt' res' (s.rename cur' rd') c rest =
      Prod.map (Sess.rename · cur' rd') id (contCore cfg pkt res s c rest) := by
  have hok : rd'.ok = s.rd.ok := (Rd.ok_of_norm hrd).symm
  have hown : ∀ i a, s.hs = .info i a → ∃ b, a = .own b := fun i a hs => by
    cases a
    · exact ⟨_, rfl⟩
    · rw [hs] at hno
      cases hno
  have hview : s.hs.view res' = s.hs.view res := by
    cases hs : s.hs <;> try rfl
    obtain ⟨b, rfl⟩ := hown _ _ hs
    simp only [HsRes.view, hres]
  cases c
  case doneGreet | loop | closed => rfl
  case doneResp | doneHs => simp only [contCore, Sess.rename, Prod.map_apply, id_eq, hview]
  case check =>
    cases hu : s.hsUnused
    · simp only [contCore, Sess.rename, Prod.map_apply, id_eq, hu, Bool.not_false, if_true]
    · cases hs : s.hs with
      | info i a =>
        obtain ⟨b, rfl⟩ := hown i a hs
        simp only [contCore, Sess.rename, hu, hs, died, Bool.not_true, Bool.false_eq_true, if_false, hres]
        generalize Crash.handleHandshakeAuth cfg.cv cfg.known cfg.hashed _ = q
        cases q <;> rfl
      | _ => simp only [contCore, Sess.rename, Prod.map_apply, id_eq, hu, hs, Bool.not_true, Bool.false_eq_true, if_false]
  case hsTail =>
    cases hs : s.hs with
    | info i a =>
      obtain ⟨b, rfl⟩ := hown i a hs
      simp only [contCore, Sess.rename, hs, died, hres]
      generalize Crash.handleHandshakeAuth cfg.cv cfg.known cfg.hashed _ = q
      cases q <;> rfl
    | _ => simp only [contCore, Sess.rename, Prod.map_apply, id_eq, hs]
  case hs1 =>
    cases hpkt rfl
    cases hk : s.rd.ok
    · simp only [contCore, Sess.rename, Prod.map_apply, id_eq, hk, hok, Bool.false_eq_true, if_false]
    · simp only [contCore, Sess.rename, hk, hok, died, hnl, Bool.or_true, if_true]
      generalize Crash.readHandshakeResponse cfg.plugin _ none = q
      cases q with
      | err e => cases e <;> rfl
      | info i => rfl
      | panic => rfl
  case hs2 =>
    cases hpkt rfl
    cases hk : s.rd.ok
    · simp only [contCore, Sess.rename, Prod.map_apply, id_eq, hk, hok, Bool.false_eq_true, if_false]
    · simp only [contCore, Sess.rename, hk, hok, died, hsw, if_true]
      generalize Crash.readHandshakeResponse cfg.plugin s.first _ = q
      cases q <;> rfl
  case cmd =>
    cases hpkt rfl
    cases hk : s.rd.ok
    · simp only [contCore, Sess.rename, Prod.map_apply, id_eq, hk, hok, Bool.false_eq_true, if_false]
    · cases pkt with
      | nil => simp only [contCore, Sess.rename, Prod.map_apply, id_eq, hk, hok, if_true]
      | cons c d =>
        simp only [contCore, Sess.rename, hk, hok, if_true]
        generalize Crash.executeCommand cfg.cv cfg.allowed s.st c d = q
        obtain ⟨st', r⟩ := q
        cases r <;> rfl


/-! ### one event at a session and at its copy -/

theorem rel_view {m m' : Mem} {s : Sess} {cur' : Option Nat} {rd' : Rd} (hh : Held m s.conn)
    (hh' : Held m' { s.conn with cur := cur' }) (hv : ViewOk s) (hv' : ViewOk (s.rename cur' rd'))
    (hr : s.rd.norm = rd'.norm)
    (hd : ∀ (a a' : Nat) (b b' : Buf), s.conn.cur = some a → cur' = some a' → m.bufs[a]? = some b → m'.bufs[a']? = some b' →
      b.data.take s.filled = b'.data.take s.filled) :
    s.rd.view m = rd'.view m' := by
  cases hrd : s.rd <;> cases hrd' : rd' <;> rw [hrd, hrd'] at hr <;> cases hr <;> try rfl
  -- both are slices of the buffers held, filled to the length of the packet
  rename_i id len id'
  obtain ⟨hc, _, hf⟩ := hv id len hrd
  obtain ⟨hc', _, _⟩ := hv' id' len hrd'
  obtain ⟨_, b, hb, _⟩ := hh.cur id hc
  obtain ⟨_, b', hb', _⟩ := hh'.cur id' hc'
  simp only [Rd.view, hb, hb']
  exact hf ▸ hd id id' b b' hc hc' hb hb'

/-- the outcomes of an event at a session and at its copy -/
inductive StepRel : Option (Mem × Sess × List Obs) → Option (Mem × Sess × List Obs) → Prop
  | none : StepRel none none
  | some {m1 m1' : Mem} {s1 t1 : Sess} {obs : List Obs} : Rel m1 s1 m1' t1 → StepRel (some (m1, s1, obs)) (some (m1', t1, obs))

theorem Held.put {m : Mem} {c : Conn} {a : Nat} (hh : Held m c) (hp : PoolOk m) (hc : c.cur = some a) :
    ∃ m1, poolPut m a = some m1 := by
  obtain ⟨_, b, hb, _⟩ := hh.cur a hc
  exact poolPut_some hp (List.getElem?_eq_some_iff.mp hb).1

theorem tick_rel (cfg : Cfg) (hv : cfg.v = Variant.fixed) {m m' : Mem} {s t : Sess} (hp : PoolOk m) (hh : Held m s.conn)
    (hp' : PoolOk m') (hh' : Held m' t.conn) (hg : Good s) (hg' : Good t) (h : Rel m s m' t) :
    StepRel (stepSess cfg m s .tick) (stepSess cfg m' t .tick) := by
  obtain ⟨cur', rd', rfl, hc, hr, hf, hd⟩ := h
  obtain ⟨hsw, hnl, hrc⟩ := fixed_flags hv
  -- after a panic, and wherever the buffer held, the last read and the bytes received stay as they are
  have same : ∀ s1 : Sess, s1.conn.cur = s.conn.cur → s1.conn.len = s.conn.len → s1.rd = s.rd → s1.filled = s.filled →
      Rel m s1 m' (s1.rename cur' rd') := fun s1 h1 h2 h3 h4 =>
    ⟨cur', rd', rfl, h1 ▸ hc, h3 ▸ hr, h2 ▸ h4 ▸ hf, h1 ▸ h4 ▸ hd⟩
  have hs' : Shape (s.rename cur' rd') s.todo := hg'.shape
  have htt : (s.rename cur' rd').todo = s.todo := rfl
  simp only [stepSess, tick, htt]
  cases htodo : s.todo with
  | nil => exact .none
  | cons i rest =>
    rw [htodo] at hs'
    cases i with
    | readHdr => exact .none
    | readBody => exact .none
    | enter =>
      simp only [readEnter, Sess.rename]
      by_cases hpol : s.conn.policy ≠ .unused
      · simp only [eq_true hpol, if_true, diedT]
        exact .some (same _ rfl rfl rfl rfl)
      · simp only [eq_false hpol, if_false]
        exact .some (same _ rfl rfl rfl rfl)
    | recycle =>
      simp only [recycleRead, Sess.rename]
      by_cases hpol : s.conn.policy ≠ .read
      · simp only [eq_true hpol, if_true, diedT]
        exact .some (same _ rfl rfl rfl rfl)
      simp only [eq_false hpol, if_false]
      rcases isSome_cases hc with ⟨hcur, rfl⟩ | ⟨a, a', hcur, rfl⟩
      · simp only [hcur]
        exact .some ⟨none, rd', rfl, hcur ▸ rfl, hr, hf, fun _ _ _ _ _ => nofun⟩
      · obtain ⟨m1, h1⟩ := hh.put hp hcur
        obtain ⟨m1', h1'⟩ := hh'.put hp' rfl
        simp only [hcur, h1, h1', hrc, if_true]
        exact .some ⟨none, rd', rfl, rfl, hr, hf, fun _ _ _ _ => nofun⟩
    | start n =>
      simp only [startEphemeral, Sess.rename]
      by_cases hpol : s.conn.policy ≠ .unused
      · simp only [eq_true hpol, if_true, diedT]
        exact .some (same _ rfl rfl rfl rfl)
      simp only [eq_false hpol, if_false]
      obtain ⟨⟨id, m1⟩, h1⟩ := poolGet_some hp n
      obtain ⟨⟨id', m1'⟩, h1'⟩ := poolGet_some hp' n
      simp only [h1, h1']
      exact .some ⟨some id', rd', rfl, rfl, hr, Nat.zero_le n, fun _ _ _ _ _ _ _ _ => rfl⟩
    | flush =>
      simp only [writeEphemeral, Sess.rename]
      by_cases hpol : s.conn.policy ≠ .write
      · simp only [eq_true hpol, if_true, diedT]
        exact .some (same _ rfl rfl rfl rfl)
      simp only [eq_false hpol, if_false]
      rcases isSome_cases hc with ⟨hcur, rfl⟩ | ⟨a, a', hcur, rfl⟩
      · simp only [hcur]
        exact .some (same _ rfl rfl rfl rfl)
      · obtain ⟨m1, h1⟩ := hh.put hp hcur
        obtain ⟨m1', h1'⟩ := hh'.put hp' rfl
        simp only [hcur, h1, h1']
        exact .some ⟨none, rd', rfl, rfl, hr, hf, fun _ _ _ _ => nofun⟩
    | k c =>
      have hs := htodo ▸ hg.shape
      simp only [cont, show (s.rename cur' rd').rd = rd' from rfl]
      rw [contCore_rename cfg hsw hnl (res := AuthRef.resolve m) (res' := AuthRef.resolve m') s cur' rd' c rest hr hg.noAlias
        (fun b => rfl) fun hreads => (rel_view hh hh' (hs.1 hreads) (hs'.1 hreads) hr hd).symm]
      obtain ⟨h1, h2, h3⟩ := contCore_frame cfg (s.rd.view m) (AuthRef.resolve m) s c rest
      exact .some (same _ (by rw [h1]) (by rw [h1]) h2 h3)

theorem feedHdr_rel (cfg : Cfg) {m m' : Mem} {s t : Sess} (n : Nat) (hp : PoolOk m) (hp' : PoolOk m') (h : Rel m s m' t) :
    StepRel (stepSess cfg m s (.hdr n)) (stepSess cfg m' t (.hdr n)) := by
  obtain ⟨cur', rd', rfl, hc, hr, hf, hd⟩ := h
  simp only [stepSess, feedHdr, Sess.rename]
  cases htodo : s.todo with
  | nil => exact .none
  | cons i rest =>
    cases i <;> try exact .none
    by_cases h0 : n = 0
    · simp only [readBegin, h0, if_true, Option.map_some]
      exact .some ⟨cur', .empty, rfl, hc, rfl, Nat.zero_le _, fun _ _ _ _ _ _ _ _ => rfl⟩
    · by_cases hlt : n < maxSize
      · obtain ⟨⟨id, m1⟩, h1⟩ := poolGet_some hp n
        obtain ⟨⟨id', m1'⟩, h1'⟩ := poolGet_some hp' n
        simp only [readBegin, h0, hlt, if_true, if_false, h1, h1', Option.map_some]
        exact .some ⟨some id', .none, rfl, rfl, rfl, Nat.zero_le n, fun _ _ _ _ _ _ _ _ => rfl⟩
      · simp only [readBegin, h0, hlt, if_false, Option.map_some]
        exact .some ⟨cur', rd', rfl, hc, hr, hf, hd⟩

theorem feedEof_rel (cfg : Cfg) {m m' : Mem} {s t : Sess} (h : Rel m s m' t) :
    StepRel (stepSess cfg m s .eof) (stepSess cfg m' t .eof) := by
  obtain ⟨cur', rd', rfl, hc, hr, hf, hd⟩ := h
  simp only [stepSess, feedEof, Sess.rename]
  cases htodo : s.todo with
  | nil => exact .none
  | cons i rest =>
    cases i <;> first | exact .none | exact .some ⟨cur', .err, rfl, hc, rfl, hf, hd⟩

theorem fill_rel {m m' : Mem} {c c' : Conn} {a a' off : Nat} {d : Bytes} (hp : PoolOk m) (hh : Held m c) (hp' : PoolOk m')
    (hh' : Held m' c') (hc : c.cur = some a) (hc' : c'.cur = some a') (hlen : c'.len = c.len) (hoff : off + d.length ≤ c.len)
    (hd : ∀ (b b' : Buf), m.bufs[a]? = some b → m'.bufs[a']? = some b' → b.data.take off = b'.data.take off) :
    ∃ m1 m1', fill m c off d = some m1 ∧ fill m' c' off d = some m1' ∧
      ∀ (x x' : Nat) (b b' : Buf), c.cur = some x → c'.cur = some x' → m1.bufs[x]? = some b → m1'.bufs[x']? = some b' →
        b.data.take (off + d.length) = b'.data.take (off + d.length) := by
  obtain ⟨_, b, hb, hl⟩ := hh.cur a hc
  obtain ⟨_, b', hb', hl'⟩ := hh'.cur a' hc'
  have hcap := (hp.caps a b hb).1
  have hcap' := (hp'.caps a' b' hb').1
  have hbnd : off + d.length ≤ b.data.length := by omega
  have hbnd' : off + d.length ≤ b'.data.length := by omega
  refine ⟨{ m with bufs := m.bufs.set a { b with data := writeAt b.data off d } },
    { m' with bufs := m'.bufs.set a' { b' with data := writeAt b'.data off d } },
    by simp only [BufOwn.fill, hc, hb, if_pos hbnd], by simp only [BufOwn.fill, hc', hb', if_pos hbnd'], fun x x' c1 c1' hx hx' h1 h1' => ?_⟩
  cases hc.symm.trans hx
  cases hc'.symm.trans hx'
  cases (List.getElem?_set_self (List.getElem?_eq_some_iff.mp hb).1).symm.trans h1
  cases (List.getElem?_set_self (List.getElem?_eq_some_iff.mp hb').1).symm.trans h1'
  simp only
  rw [take_writeAt _ _ _ hbnd, take_writeAt _ _ _ hbnd', hd b b' hb hb']

theorem feedBody_rel (cfg : Cfg) {m m' : Mem} {s t : Sess} (bs : Bytes) (hp : PoolOk m) (hh : Held m s.conn) (hp' : PoolOk m')
    (hh' : Held m' t.conn) (h : Rel m s m' t) : StepRel (stepSess cfg m s (.body bs)) (stepSess cfg m' t (.body bs)) := by
  obtain ⟨cur', rd', rfl, hc, hr, hf, hd⟩ := h
  simp only [stepSess, feedBody, Sess.rename]
  cases htodo : s.todo with
  | nil => exact .none
  | cons i rest =>
    cases i <;> try exact .none
    rcases isSome_cases hc with ⟨hcur, rfl⟩ | ⟨a, a', hcur, rfl⟩
    · simp only [BufOwn.fill, hcur]
      exact .some ⟨none, rd', rfl, hcur ▸ rfl, hr, hf, fun _ _ _ _ _ => nofun⟩
    · have hbs : s.filled + (bs.take (s.conn.len - s.filled)).length ≤ s.conn.len := by
        rw [List.length_take]
        omega
      obtain ⟨m1, m1', h1, h1', hdata⟩ := fill_rel hp hh hp' hh' hcur rfl rfl hbs fun b b' => hd a a' b b' hcur rfl
      simp only [Sess.rename] at h1'
      simp only [h1, h1']
      by_cases hfull : s.filled + (bs.take (s.conn.len - s.filled)).length = s.conn.len
      · simp only [hcur, eq_true hfull, if_true, Option.map_some]
        exact .some ⟨some a', .data a' s.conn.len, rfl, hc, rfl, hbs, hdata⟩
      · simp only [eq_false hfull, if_false, Option.map_some]
        exact .some ⟨some a', rd', rfl, hc, hr, hbs, hdata⟩

theorem stepSess_rel (cfg : Cfg) (hv : cfg.v = Variant.fixed) {m m' : Mem} {s t : Sess} (e : Ev) (hp : PoolOk m)
    (hh : Held m s.conn) (hp' : PoolOk m') (hh' : Held m' t.conn) (hg : Good s) (hg' : Good t)
    (h : Rel m s m' t) : StepRel (stepSess cfg m s e) (stepSess cfg m' t e) := by
  cases e with
  | tick => exact tick_rel cfg hv hp hh hp' hh' hg hg' h
  | start p =>
    obtain ⟨cur', rd', rfl, h⟩ := h
    by_cases hst : (s.todo.isEmpty && !s.dead) = true <;> simp only [stepSess, Sess.rename, hst]
    · exact .some ⟨cur', rd', rfl, h⟩
    · exact .none
  | hdr n => exact feedHdr_rel cfg n hp hp' h
  | body b => exact feedBody_rel cfg b hp hh hp' hh' h
  | eof => exact feedEof_rel cfg h


/-! ### the whole run -/

/-- the events of session `j`, as events of the only session of a system of its own -/
def projEvs (j : Nat) (evs : List (Nat × Ev)) : List (Nat × Ev) :=
  evs.filterMap (fun p => if p.1 = j then some (0, p.2) else none)

/-- what session `j` lets the outside see in a run -/
def obsFor (j : Nat) (l : List (Nat × Obs)) : List Obs :=
  l.filterMap (fun p => if p.1 = j then some p.2 else none)

theorem obsFor_step (j i : Nat) (obs : List Obs) (more : List (Nat × Obs)) :
    obsFor j (obs.map (fun o => (i, o)) ++ more) = (if i = j then obs else []) ++ obsFor j more := by
  unfold obsFor
  rw [List.filterMap_append, List.filterMap_map]
  by_cases h : i = j <;> simp [h, Function.comp_def]

/-- session `j` of `w` and the only session of `u` are copies of each other -/
structure Sim (j : Nat) (w u : Sys) : Prop where
  ownW : Own w
  ownU : Own u
  goodW : GoodSys w
  goodU : GoodSys u
  rel : ∃ s t, w.sess[j]? = some s ∧ u.sess[0]? = some t ∧ Rel w.mem s u.mem t

theorem sim_init (n j : Nat) (hj : j < n) : Sim j (Sys.init n) (Sys.init 1) :=
  ⟨own_init n, own_init 1, goodSys_init n, goodSys_init 1, Sess.init, Sess.init,
    List.getElem?_replicate_of_lt hj, rfl, rel_init⟩

theorem sim_step_self (cfg : Cfg) (hv : cfg.v = Variant.fixed) {j : Nat} {w u : Sys} (sim : Sim j w u) (e : Ev)
    (he : RealEv cfg e) :
    Sim j (Sys.step cfg w j e).1 (Sys.step cfg u 0 e).1 ∧ (Sys.step cfg w j e).2 = (Sys.step cfg u 0 e).2 := by
  obtain ⟨hsw, hnl, hrc⟩ := fixed_flags hv
  obtain ⟨s, t, hs, ht, hrel⟩ := sim.rel
  have hwO := step_own cfg hrc w sim.ownW j e
  have hwG := step_good cfg hsw hnl w sim.goodW j e he
  have huO := step_own cfg hrc u sim.ownU 0 e
  have huG := step_good cfg hsw hnl u sim.goodU 0 e he
  have hr := stepSess_rel cfg hv e sim.ownW.pool (sim.ownW.held j s hs) sim.ownU.pool (sim.ownU.held 0 t ht)
    (sim.goodW j s hs) (sim.goodU 0 t ht) hrel
  rw [step_eq cfg w j e] at hwO hwG ⊢
  rw [step_eq cfg u 0 e] at huO huG ⊢
  simp only [hs, ht] at hwO hwG huO huG ⊢
  generalize stepSess cfg w.mem s e = r at hr hwO hwG ⊢
  generalize stepSess cfg u.mem t e = r' at hr huO huG ⊢
  cases hr with
  | none => exact ⟨sim, rfl⟩
  | some hr =>
    exact ⟨⟨hwO, huO, hwG, huG, _, _, List.getElem?_set_self (List.getElem?_eq_some_iff.mp hs).1,
      List.getElem?_set_self (List.getElem?_eq_some_iff.mp ht).1, hr⟩, rfl⟩

/-- another session moves: the buffer session `j` holds stays as it is -/
theorem sim_step_other (cfg : Cfg) (hv : cfg.v = Variant.fixed) {j : Nat} {w u : Sys} (sim : Sim j w u) {i : Nat} (hij : i ≠ j)
    (e : Ev) (he : RealEv cfg e) : Sim j (Sys.step cfg w i e).1 u := by
  obtain ⟨hsw, hnl, hrc⟩ := fixed_flags hv
  obtain ⟨s, t, hs, ht, cur', rd', heq, hc, hrd, hf, hd⟩ := sim.rel
  have hwO := step_own cfg hrc w sim.ownW i e
  have hwG := step_good cfg hsw hnl w sim.goodW i e he
  rw [step_eq cfg w i e] at hwO hwG ⊢
  cases hsi : w.sess[i]? with
  | none => exact sim
  | some si =>
    simp only [hsi] at hwO hwG ⊢
    cases h1 : stepSess cfg w.mem si e with
    | none => exact sim
    | some r1 =>
      obtain ⟨m1, s1, o1⟩ := r1
      simp only [h1] at hwO hwG ⊢
      have htr := stepSess_trans hrc sim.ownW.pool (sim.ownW.held i si hsi) h1
      refine ⟨hwO, sim.ownU, hwG, sim.goodU, s, t, (List.getElem?_set_ne hij).trans hs, ht, cur', rd', heq, hc, hrd, hf,
        fun a a' b b' ha ha' hb hb' => ?_⟩
      obtain ⟨_, b0, hb0, _⟩ := (sim.ownW.held j s hs).cur a ha
      have hne : si.conn.cur ≠ some a := fun hsa => sim.ownW.distinct i j si s a hij hsi hs hsa ha
      cases (htr.frame a b0 hb0 hne).symm.trans hb
      exact hd a a' _ b' ha ha' hb0 hb'

theorem sim_run (cfg : Cfg) (hv : cfg.v = Variant.fixed) (j : Nat) (evs : List (Nat × Ev)) :
    ∀ (w u : Sys), Sim j w u → (∀ e ∈ evs, RealEv cfg e.2) →
      obsFor j (Sys.run cfg w evs).2 = obsFor 0 (Sys.run cfg u (projEvs j evs)).2 := by
  induction evs with
  | nil => intro w u _ _; rfl
  | cons ev rest ih =>
    intro w u sim hreal
    obtain ⟨i, e⟩ := ev
    have he : RealEv cfg e := hreal (i, e) List.mem_cons_self
    have hrest : ∀ e' ∈ rest, RealEv cfg e'.2 := fun e' h' => hreal e' (List.mem_cons_of_mem _ h')
    by_cases hij : i = j
    · subst hij
      obtain ⟨sim', ho⟩ := sim_step_self cfg hv sim e he
      have hproj : projEvs i ((i, e) :: rest) = (0, e) :: projEvs i rest := by simp [projEvs]
      rw [hproj]
      simp only [Sys.run]
      rw [obsFor_step, obsFor_step, if_pos rfl, if_pos rfl, ho, ih _ _ sim' hrest]
    · have hproj : projEvs j ((i, e) :: rest) = projEvs j rest := by simp [projEvs, hij]
      rw [hproj]
      simp only [Sys.run]
      rw [obsFor_step, if_neg hij, List.nil_append]
      exact ih _ u (sim_step_other cfg hv sim hij e he) hrest

end GaeaVerif.BufOwn
