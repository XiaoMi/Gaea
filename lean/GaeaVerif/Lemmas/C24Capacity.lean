import GaeaVerif.Lemmas.C24Sums
import GaeaVerif.Lemmas.C24Step
/-
  The effect of a `Step` on the capacity counter, the `scaling` semaphore and `rp.lock`, the ranks
  of their holders, and the occurrences of a resource (a case analysis over `Step` each).
-/
namespace GaeaVerif.C24
open GaeaVerif.ResourcePool

section
variable {p : Pool} {a : Alt} {t : Thread} {r : Res}

theorem Step.capacity_eq (h : Step p a t r) (hh : holder t = 0) : r.pool.capacity = p.capacity ∧ closeP r.thr = 0 := by
  cases h <;> first | exact ⟨rfl, rfl⟩ | cases hh

theorem Step.capacity_bounds (h : Step p a t r) (hl : Local p t) :
    0 ≤ r.pool.capacity ∧ r.pool.capacity + closeP r.thr ≤ p.maxCap := by
  obtain ⟨hA, -, -, -, -, hb, hcap⟩ := hl
  cases h <;> simp only [closeP, A] at hA hb ⊢ <;> omega

/-- The swaps of scale-out and ScaleCapacity refuse an old value of 0. -/
theorem Step.at_capacity_zero (h : Step p a t r) (hA : A p.maxCap t) (h0 : p.capacity = 0) :
    r.pool.capacity = 0 ∧ inLoop r.thr ≤ inLoop t := by
  cases h <;> first | exact ⟨h0, Nat.le_refl _⟩ | exact ⟨h0, Nat.zero_le _⟩ | (simp only [A] at hA; omega)

theorem Step.zeroing_capacity (h : Step p a t r) (hl : Local p t) : zeroing r.thr → r.pool.capacity = 0 := by
  obtain ⟨hA, -, -, hz, -, -, -⟩ := hl
  cases h <;> simp only [zeroing, A, false_implies, true_implies, imp_self] at hA hz ⊢
  all_goals first | exact hz | omega

/-- The channel is closed by `sClose` only. -/
theorem Step.closed_eq (h : Step p a t r) :
    r.pool.closed = p.closed
    ∨ (zeroing t ∧ holder t = 1 ∧ inLoop r.thr = 0 ∧ r.pool.capacity = p.capacity) := by
  cases h <;> first | exact .inl rfl | exact .inr ⟨trivial, rfl, rfl, rfl⟩

theorem Step.scaling_eq (h : Step p a t r) (hl : Local p t) :
    b2n r.pool.scaling + holder t = b2n p.scaling + holder r.thr := by
  obtain ⟨-, -, -, -, hh, -, -⟩ := hl
  cases h <;> simp only [holder, b2n_true, b2n_false, *]
  all_goals simp_all [holder]

theorem Step.casOk_thr (h : Step p a t r) : casOk r.pool r.thr := by
  cases h <;> simp only [casOk]

/-- `hal`: an idle sweep that died in its send (`cSendClosed`) would leave `idleBusy` raised. -/
theorem Step.locks (h : Step p a t r)
    (hlock : lockW t = 1 → p.lock = true) (hsweep : sweepF t ≤ p.idleBusy) (htick : tickF t ≤ p.capBusy)
    (hal : r.thr.pc ≠ .dead) :
    b2n r.pool.lock + lockW t = b2n p.lock + lockW r.thr
    ∧ sweepF r.thr + p.idleBusy = sweepF t + r.pool.idleBusy
    ∧ tickF r.thr + p.capBusy = tickF t + r.pool.capBusy := by
  cases h <;> simp only [lockW, sweepF, tickF, b2n_true, b2n_false, and_self, *]
  all_goals simp_all [lockW, sweepF, tickF]
  all_goals omega

theorem Step.rank_lt (h : Step p a t r) (hh : holder t = 1) (hA : A p.maxCap t) (hc : casOk p t) :
    holder r.thr = 0 ∨ rank r.pool r.thr < rank p t := by
  cases h <;> first | cases hh | skip
  all_goals simp_all [holder, rank, A, casOk]
  all_goals omega

theorem Step.lockRank_lt (h : Step p a t r) (hh : lockW t = 1) (hc : casOk p t) :
    lockRank r.thr < lockRank t ∧ (lockW r.thr = 0 ↔ lockRank r.thr = 0) := by
  cases h <;> first | cases hh | skip
  all_goals simp_all [lockW, lockRank, casOk]

theorem count_concat (r : Nat) (l : List Slot) (w : Slot) :
    (l ++ [w]).count (some r) = l.count (some r) + slotRes r w := by
  cases w <;> simp [slotRes, List.count_singleton]

theorem Step.res {q : Res} (h : Step p a t q) (r : Nat) :
    q.pool.chan.count (some r) + resW r q.thr
      ≤ p.chan.count (some r) + resW r t + (if p.nextRes = r ∧ p.nextRes < q.pool.nextRes then 1 else 0)
    ∧ p.nextRes ≤ q.pool.nextRes := by
  cases h <;> simp only [resW, pcRes, slotRes, List.count_cons, count_concat, List.count_nil,
    beq_iff_eq, Option.some.injEq, reduceCtorEq, Nat.lt_irrefl, and_false, ite_false, Nat.le_refl, and_true,
    Nat.add_zero, Nat.zero_add, Nat.lt_add_one, Nat.le_add_right, *]
  all_goals omega

end

end GaeaVerif.C24
