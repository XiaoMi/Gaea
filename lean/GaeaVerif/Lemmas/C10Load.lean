import GaeaVerif.Lemmas.C10Router
/-
  C10: `Namespace.Verify` against `NewRouter`, function by function.  The models
  copy of a function does not panic, and where it accepts, the router's copy
  accepts the same input: `Safe x P` with `P` speaking of the router's copy.
-/
namespace GaeaVerif.C10
open GaeaVerif

/-! ### one rule -/

theorem verifyHash_safe (l : List Int) (s : List Str) :
    Safe (verifyHashRuleSliceInfos l s) fun t => parseHashRuleSliceInfos l s = .ok (t.map (·.1), t) := by
  unfold verifyHashRuleSliceInfos parseHashRuleSliceInfos
  refine Safe.ite_fail fun hlen => ?_
  rw [if_neg hlen]
  rcases R.ok_or_fail (hashTables_safe l 0 0).1 with ⟨t, ht⟩ | ht <;> simp only [ht]
  · refine Safe.ite_fail fun hs => ?_
    rw [if_neg hs]
    exact Safe.ok rfl
  · exact Safe.fail

/-- the database list of a Mycat or global rule is read, and its length compared, in the same way by both copies -/
theorem dbCount_safe {α β : Type} (d : List Str) (n : Int) (a : α) (b : β) :
    Safe (match getRealDatabases d with
      | .ok dbs => if n ≠ dbs.length then R.fail else R.ok a
      | .fail => .fail
      | .panic => .panic) fun a' => a' = a ∧
      (match getRealDatabases d with
      | .ok dbs => if n ≠ dbs.length then R.fail else R.ok b
      | .fail => .fail
      | .panic => .panic) = .ok b := by
  rcases R.ok_or_fail (getRealDatabases_ne_panic d) with ⟨dbs, hd⟩ | hd <;> simp only [hd]
  · refine Safe.ite_fail fun hn => ?_
    rw [if_neg hn]
    exact Safe.ok ⟨rfl, rfl⟩
  · exact Safe.fail

theorem verifyMycatHash_safe (l : List Int) (s d : List Str) :
    Safe (verifyMycatHashRuleSliceInfos l s d) fun t =>
      parseMycatHashRuleSliceInfos l s d = .ok (t.map (·.1), t) := by
  unfold verifyMycatHashRuleSliceInfos parseMycatHashRuleSliceInfos
  rcases (verifyHash_safe l s).cases with ⟨t, ht, hp⟩ | ht
  · simp only [ht, hp]
    exact (dbCount_safe d _ t (t.map (·.1), t)).imp fun _ h => h.1 ▸ h.2
  · simp only [ht]; exact Safe.fail

theorem verifyGlobal_safe (l : List Int) (s d : List Str) :
    Safe (verifyGlobalTableRuleSliceInfos l s d) fun _ => ∃ it, parseGlobalTableRuleSliceInfos l s d = .ok it := by
  unfold verifyGlobalTableRuleSliceInfos parseGlobalTableRuleSliceInfos
  rcases (verifyHash_safe l s).cases with ⟨t, ht, hp⟩ | ht
  · simp only [ht, hp]
    by_cases hd : d.length ≠ 0
    · rw [if_pos hd, if_pos hd]
      exact (dbCount_safe d _ () (t.map (·.1), t)).imp fun _ h => ⟨_, h.2⟩
    · rw [if_neg hd, if_neg hd]; exact Safe.ok ⟨_, rfl⟩
  · simp only [ht]; exact Safe.fail

theorem dateLoop_safe (p1 p2 : Str → R (List Int)) (hp : StrictOf p1 p2) :
    ∀ (drs : List Str) (i : Int) (acc : List Int) (m : IntMap),
      Safe (dateLoop p1 drs i acc m) fun r => dateLoop p2 drs i acc m = .ok r
  | [], _, _, _ => Safe.ok rfl
  | dr :: rest, i, acc, m => by
    unfold dateLoop
    rcases (hp dr).cases with ⟨nums, h1, hne, h2⟩ | h1
    · simp only [h1, h2]
      obtain _ | ⟨n0, tl⟩ := nums
      · exact absurd rfl hne  -- `nums[0]` is in range
      · cases acc.getLast? with
        | none => exact dateLoop_safe p1 p2 hp rest _ _ _
        | some last =>
          simp only
          refine Safe.ite_fail fun hlt => ?_
          rw [if_neg hlt]
          exact dateLoop_safe p1 p2 hp rest _ _ _
    · simp only [h1]; exact Safe.fail

theorem verifyDate_safe (p1 p2 : Str → R (List Int)) (hp : StrictOf p1 p2) (drs sl : List Str) :
    Safe (verifyDateRuleSliceInfos p1 drs sl) fun _ => ∃ it, parseDateRuleSliceInfos p2 drs sl = .ok it := by
  unfold verifyDateRuleSliceInfos parseDateRuleSliceInfos
  refine Safe.ite_fail fun hlen => ?_
  rw [if_neg hlen]
  rcases (dateLoop_safe p1 p2 hp drs 0 [] []).cases with ⟨r, h1, h2⟩ | h1 <;> simp only [h1]
  · exact Safe.ok ⟨r, h2⟩
  · exact Safe.fail

theorem shardVerify_safe (s : Shard) : Safe (shardVerify s) fun _ => ∃ r, parseRuleSliceInfos s = .ok r := by
  have hH := (verifyHash_safe s.locations s.slices).cases
  have hL := fun n => R.ok_or_fail (partitionLongInit_safe n s.partitionCount s.partitionLength).1
  cases hrt : rtOf s.typ <;> simp only [shardVerify, parseRuleSliceInfos, hrt]
  case hash | mod =>
    rcases hH with ⟨t, ht, hp⟩ | ht
    · simp only [ht, hp]; exact Safe.ok ⟨_, rfl⟩
    · simp only [ht]; exact Safe.fail
  case range =>
    rcases hH with ⟨t, ht, hp⟩ | ht
    · simp only [ht, hp]
      -- the table count is positive, so `make([]NumKeyRange, count)` does not panic
      have hsum := (parseHash_spec _ _ _ t hp).2.2
      rcases R.ok_or_fail (parseNumSharding_ne_panic s.locations s.tableRowLimit (by omega)) with ⟨rs, hr⟩ | hr <;>
        simp only [hr]
      · refine Safe.ite_fail fun hn => ?_
        rw [if_neg hn]
        exact Safe.ok ⟨_, rfl⟩
      · exact Safe.fail
    · simp only [ht]; exact Safe.fail
  case day => exact (verifyDate_safe _ _ parseDayRange_strict _ _).imp fun _ ⟨it, h⟩ => ⟨_, by rw [h]⟩
  case month => exact (verifyDate_safe _ _ parseMonthRange_strict _ _).imp fun _ ⟨it, h⟩ => ⟨_, by rw [h]⟩
  case year => exact (verifyDate_safe _ _ parseYearRange_strict _ _).imp fun _ ⟨it, h⟩ => ⟨_, by rw [h]⟩
  case global =>
    exact (verifyGlobal_safe _ _ _).imp fun _ ⟨it, h⟩ => ⟨_, by rw [h]⟩
  case default | linked | unknown => exact Safe.fail
  all_goals
    rcases (verifyMycatHash_safe s.locations s.slices s.databases).cases with ⟨t, ht, hp⟩ | ht
    case inr => simp only [ht]; exact Safe.fail
    simp only [ht, hp]
  case mycatMod => exact Safe.ok ⟨_, rfl⟩
  case mycatLong =>
    rcases hL (mapLen t) with ⟨seg, hs⟩ | hs <;> simp only [hs]
    · exact Safe.ok ⟨_, rfl⟩
    · exact Safe.fail
  case mycatString =>
    rcases hL (mapLen t) with ⟨seg, hs⟩ | hs <;> simp only [hs]
    · rcases R.ok_or_fail (parseHashSliceStartEnd_ne_panic s.hashSlice) with ⟨se, he⟩ | he <;> simp only [he]
      · exact Safe.ok ⟨_, rfl⟩
      · exact Safe.fail
    · exact Safe.fail
  case mycatMurmur =>
    rcases R.ok_or_fail (parseMurmur_ne_panic s.seed s.virtualBucketTimes) with ⟨sv, hv⟩ | hv <;> simp only [hv]
    · exact Safe.ok ⟨_, rfl⟩
    · exact Safe.fail
  case mycatPadding =>
    rcases R.ok_or_fail (parsePaddingMod_safe s.padFrom s.padLength s.modBegin s.modEnd (mapLen t)).1 with
      ⟨p, hp⟩ | hp <;> simp only [hp]
    · exact Safe.ok ⟨_, rfl⟩
    · exact Safe.fail

theorem shardVerify_parseRule_safe (s : Shard) : Safe (shardVerify s) fun _ =>
    ∃ idx t sh dbs, parseRule s = .ok ⟨s.db, toLower s.table, toLower s.key, s.typ, s.slices, idx, t, sh, dbs⟩ :=
  (shardVerify_safe s).imp fun _ ⟨⟨idx, t, sh⟩, hr⟩ =>
    let ⟨dbs, hb, _⟩ := parseRule_of_sliceInfos s idx t sh hr
    ⟨idx, t, sh, dbs, hb⟩

/-! ### the rule list -/

/-- relation between the type map of `verifyShardRules` and the rule map of
    `NewRouter` while both walk the same rule list -/
structure LoadInv (rv : TypeMap) (rr : RuleMap) (lv : List Shard) : Prop where
  sub : ∀ k r, lookup rr k = some r → ∃ b, r = .base b ∧ rtOf b.ruleType ≠ .linked ∧ (lookup rv k).isSome
  sup : ∀ k t, lookup rv k = some t → rtOf t ≠ .linked →
    ∃ b, lookup rr k = some (.base b) ∧ rtOf b.ruleType ≠ .linked
  linked : ∀ s ∈ lv, rtOf s.typ = .linked ∧
    ∃ t, lookup rv (s.db, toLower s.table) = some t ∧ rtOf t = .linked

theorem lookup_append_fresh {α : Type} {m : List ((Str × Str) × α)} {k k' : Str × Str} {v t : α}
    (hnew : ¬ (lookup m k).isSome) (ht : lookup m k' = some t) : lookup (m ++ [(k, v)]) k' = some t := by
  rw [lookup_append_single, if_neg]
  · exact ht
  · rintro rfl
    simp [ht] at hnew

theorem LoadInv.fresh {rv : TypeMap} {rr : RuleMap} {lv : List Shard} (inv : LoadInv rv rr lv) {k : Str × Str}
    (hnew : ¬ (lookup rv k).isSome) : ¬ (lookup rr k).isSome := by
  intro hsome
  obtain ⟨r, hr⟩ := Option.isSome_iff_exists.mp hsome
  obtain ⟨_, _, _, hs⟩ := inv.sub k r hr
  exact hnew hs

theorem LoadInv.add_linked {rv : TypeMap} {rr : RuleMap} {lv : List Shard} (inv : LoadInv rv rr lv) (s : Shard)
    (hl : rtOf s.typ = .linked) (hnew : ¬ (lookup rv (s.db, toLower s.table)).isSome) :
    LoadInv (rv ++ [((s.db, toLower s.table), s.typ)]) rr (lv ++ [s]) := by
  refine ⟨fun k r hr => ?_, fun k t ht hnl => ?_, fun s' hs' => ?_⟩
  · obtain ⟨b, hb, hnl, hs⟩ := inv.sub k r hr
    obtain ⟨t, ht⟩ := Option.isSome_iff_exists.mp hs
    exact ⟨b, hb, hnl, by rw [lookup_append_fresh hnew ht]; rfl⟩
  · rw [lookup_append_single] at ht
    split at ht
    · cases ht; exact absurd hl hnl
    · exact inv.sup k t ht hnl
  · rcases List.mem_append.mp hs' with h1 | h1
    · obtain ⟨hl', t, ht, htl⟩ := inv.linked s' h1
      exact ⟨hl', t, lookup_append_fresh hnew ht, htl⟩
    · cases List.mem_singleton.mp h1
      exact ⟨hl, s.typ, by rw [lookup_append_single, if_pos rfl], hl⟩

theorem LoadInv.add_base {rv : TypeMap} {rr : RuleMap} {lv : List Shard} (inv : LoadInv rv rr lv)
    (k : Str × Str) (typ : Str) (b : BaseRule) (hb : b.ruleType = typ) (hnl : rtOf typ ≠ .linked)
    (hnew : ¬ (lookup rv k).isSome) :
    LoadInv (rv ++ [(k, typ)]) (rr ++ [(k, .base b)]) lv := by
  refine ⟨fun k' r hr => ?_, fun k' t ht hnl' => ?_, fun s' hs' => ?_⟩
  · by_cases heq : k = k'
    · rw [lookup_append_single, if_pos heq] at hr ⊢
      cases hr; exact ⟨b, rfl, hb ▸ hnl, rfl⟩
    · rw [lookup_append_single, if_neg heq] at hr ⊢
      exact inv.sub k' r hr
  · by_cases heq : k = k'
    · rw [lookup_append_single, if_pos heq]
      exact ⟨b, rfl, hb ▸ hnl⟩
    · rw [lookup_append_single, if_neg heq] at ht ⊢
      exact inv.sup k' t ht hnl'
  · obtain ⟨hl', t, ht, htl⟩ := inv.linked s' hs'
    exact ⟨hl', t, lookup_append_fresh hnew ht, htl⟩

theorem rulesLoop_safe (names : List Str) :
    ∀ (shards lv : List Shard) (rv : TypeMap) (rr : RuleMap), LoadInv rv rr lv →
      Safe (verifyRulesLoop names shards lv rv) fun p =>
        ∃ rr', routerRulesLoop names shards lv rr = .ok (p.1, rr') ∧ LoadInv p.2 rr' p.1
  | [], lv, rv, rr, inv => Safe.ok ⟨rr, rfl, inv⟩
  | s :: rest, lv, rv, rr, inv => by
    unfold verifyRulesLoop routerRulesLoop
    refine Safe.ite_fail fun hinc => ?_
    rw [if_neg hinc]
    split
    · exact Safe.fail
    · next hrt =>
      refine Safe.ite_fail fun hnew => ?_
      rw [if_pos hrt]
      exact rulesLoop_safe names rest _ _ rr (inv.add_linked s hrt hnew)
    · next hnd hnl =>
      rcases (shardVerify_parseRule_safe s).cases with ⟨u, hv, idx, t, sh, dbs, hb⟩ | hv
      · simp only [hv, hb]
        refine Safe.ite_fail fun hnew => ?_
        rw [if_neg hnl, if_neg hnd, if_neg (inv.fresh hnew)]
        exact rulesLoop_safe names rest lv _ _ (inv.add_base _ s.typ _ rfl hnl hnew)
      · simp only [hv]; exact Safe.fail

theorem linkedLoop_safe (rv : TypeMap) :
    ∀ (linked : List Shard) (rr : RuleMap),
      (∀ s ∈ linked, rtOf s.typ = .linked ∧ ∃ t, lookup rv (s.db, toLower s.table) = some t ∧ rtOf t = .linked) →
      (∀ k t, lookup rv k = some t → rtOf t ≠ .linked →
        ∃ b, lookup rr k = some (.base b) ∧ rtOf b.ruleType ≠ .linked) →
      Safe (verifyLinkedLoop rv linked) fun _ => ∃ rr', routerLinkedLoop linked rr = .ok rr'
  | [], rr, _, _ => Safe.ok ⟨rr, rfl⟩
  | s :: rest, rr, hl, hJ => by
    unfold verifyLinkedLoop routerLinkedLoop
    cases ht : lookup rv (s.db, toLower s.parentTable) with
    | none => exact Safe.fail
    | some t =>
      refine Safe.ite_fail fun hnl => ?_
      obtain ⟨b, hb, hbnl⟩ := hJ _ t ht hnl
      obtain ⟨hsl, t', ht', ht'l⟩ := hl s List.mem_cons_self
      have hc : createLinkedRule rr s = .ok (.linked s.db (toLower s.table) (toLower s.key) b) := by
        unfold createLinkedRule
        rw [if_neg (by simp [hsl]), hb]
        exact if_neg hbnl
      rw [hc]
      refine linkedLoop_safe rv rest _ (fun s' hs' => hl s' (List.mem_cons_of_mem _ hs')) ?_
      -- the entry written is keyed by a linked rule's table, the entries read here are not
      intro k t2 ht2 hnl2
      obtain ⟨b2, hb2, hb2nl⟩ := hJ k t2 ht2 hnl2
      refine ⟨b2, ?_, hb2nl⟩
      rw [lookup_append_single, if_neg]
      · exact hb2
      · rintro rfl
        cases ht'.symm.trans ht2
        exact hnl2 ht'l

/-! ### the namespace -/

theorem verify_safe (n : Namespace) : Safe (verify n) fun _ => ∃ r, newRouter n = .ok r := by
  unfold verify verifySlices verifyDefaultSlice verifyDefaultSliceExists
  by_cases h1 : n.slices.isEmpty = true
  · simp only [if_pos h1]; exact Safe.fail
  by_cases h2 : verifyEachSlice n.slices [] = true
  case neg => simp only [if_neg h1, if_neg h2]; exact Safe.fail
  by_cases hinc : (!n.defaultSlice.isEmpty && !includeSlice (sliceNames n) n.defaultSlice) = true
  · simp only [if_neg h1, if_pos h2, if_pos hinc]; exact Safe.fail
  by_cases hne : n.defaultSlice.isEmpty = true
  · simp only [if_neg h1, if_pos h2, if_neg hinc, if_pos hne]; exact Safe.fail
  simp only [if_neg h1, if_pos h2, if_neg hinc, if_neg hne]
  have hdef : includeSlice (sliceNames n) n.defaultSlice = true := by simpa [hne] using hinc
  unfold verifyShardRules
  rcases (rulesLoop_safe (sliceNames n) n.shardRules [] [] [] ⟨by simp [lookup], by simp [lookup], by simp⟩).cases with
    ⟨p, hl, rr, hrr, inv⟩ | hl
  · simp only [hl]
    refine (linkedLoop_safe p.2 p.1 rr inv.linked inv.sup).imp fun _ ⟨rr', h⟩ => ⟨⟨rr', n.defaultSlice⟩, ?_⟩
    unfold newRouter
    rw [if_neg (by simp [hdef]), hrr]
    simp only [h]
  · simp only [hl]; exact Safe.fail

end GaeaVerif.C10
