/-
  `strings.Split(s, sep)` for a one-element separator, once for every carrier.
  The models split texts over `Char`, `UInt8` and `Nat` codes (`Tok.splitAll`,
  `IPAllow.splitOn`, `ShardGo.splitOn`, `Sequence.splitComma`); each is
  `Split.split`, by one equation beside the model's lemmas (`Tok.splitAll_eq`,
  `IPAllow.splitOn_eq`, `ShardLemmas.splitOn_eq`, `C34.splitComma_eq`).
  Splitting undoes joining on the separator (`split_append`, `split_no_sep`) and
  is undone by it (`intercalate_split`), no piece holds the separator, and the
  pieces together are the text without it.  `strings.Cut` at the first
  separator is `Split.cut` in the same way (`C13.splitColon_eq`, `C13.splitDot_eq`,
  `ShardLemmas.cutAt_eq`, `IPAllow.cutSlash_eq`).  Core Lean only.
-/
namespace GaeaVerif.Split

variable {α β : Type} [DecidableEq α] [DecidableEq β]

def split (sep : α) : List α → List (List α)
  | [] => [[]]
  | c :: cs =>
    if c = sep then [] :: split sep cs
    else match split sep cs with
      | p :: ps => (c :: p) :: ps
      | [] => [[c]]

theorem split_ne_nil (sep : α) (s : List α) : split sep s ≠ [] := by
  fun_cases split sep s <;> exact List.cons_ne_nil _ _

theorem split_cons_of_ne {sep c : α} (h : c ≠ sep) {cs p : List α} {ps : List (List α)}
    (hs : split sep cs = p :: ps) : split sep (c :: cs) = (c :: p) :: ps := by
  rw [split, if_neg h, hs]

theorem split_no_sep {sep : α} {a : List α} (h : ∀ b ∈ a, b ≠ sep) : split sep a = [a] := by
  induction a with
  | nil => rfl
  | cons x xs ih =>
    exact split_cons_of_ne (h x List.mem_cons_self) (ih fun b hb => h b (List.mem_cons_of_mem _ hb))

theorem split_append (sep : α) (a b : List α) : split sep (a ++ sep :: b) = split sep a ++ split sep b := by
  induction a with
  | nil => exact if_pos rfl
  | cons c a ih =>
    obtain ⟨p, ps, h⟩ := List.exists_cons_of_ne_nil (split_ne_nil sep a)
    by_cases hc : c = sep
    · rw [List.cons_append, split, if_pos hc, ih, split, if_pos hc]; rfl
    · rw [List.cons_append, split_cons_of_ne hc (ih.trans (congrArg (· ++ _) h)), split_cons_of_ne hc h]; rfl

theorem split_append_sep {sep : α} {a : List α} (h : ∀ b ∈ a, b ≠ sep) (b : List α) :
    split sep (a ++ sep :: b) = a :: split sep b := by
  rw [split_append, split_no_sep h]; rfl

theorem ne_sep_of_mem_split (sep : α) (s : List α) : ∀ c ∈ split sep s, ∀ b ∈ c, b ≠ sep := by
  fun_induction split sep s with
  | case1 => intro c hc; cases List.mem_singleton.mp hc; exact List.forall_mem_nil _
  | case2 cs ih => exact List.forall_mem_cons.mpr ⟨List.forall_mem_nil _, ih⟩
  | case3 c cs h p ps hs ih =>
    rw [hs] at ih
    obtain ⟨hp, hps⟩ := List.forall_mem_cons.mp ih
    exact List.forall_mem_cons.mpr ⟨List.forall_mem_cons.mpr ⟨h, hp⟩, hps⟩
  | case4 c cs h hs => exact absurd hs (split_ne_nil sep cs)

theorem flatten_split (sep : α) (s : List α) : (split sep s).flatten = s.filter (· != sep) := by
  fun_induction split sep s with
  | case1 => rfl
  | case2 cs ih => simp [ih]
  | case3 c cs h p ps hs ih => rw [hs] at ih; simp [h, ← ih]
  | case4 c cs h hs => exact absurd hs (split_ne_nil sep cs)

/-- `strings.Join(strings.Split(s, sep), sep) = s`. -/
theorem intercalate_split (sep : α) (s : List α) : List.intercalate [sep] (split sep s) = s := by
  induction s with
  | nil => rfl
  | cons c cs ih =>
    obtain ⟨p, ps, h⟩ := List.exists_cons_of_ne_nil (split_ne_nil sep cs)
    rw [h] at ih
    by_cases hc : c = sep
    · rw [split, if_pos hc, h, hc, ← ih]; rfl
    · rw [split_cons_of_ne hc h, ← ih]; cases ps <;> rfl

theorem split_map (f : α → β) {sep : α} {sep' : β} (hf : ∀ c, f c = sep' ↔ c = sep) (s : List α) :
    split sep' (s.map f) = (split sep s).map (List.map f) := by
  fun_induction split sep s with
  | case1 => rfl
  | case2 cs ih => rw [List.map_cons, split, if_pos ((hf _).mpr rfl), ih]; rfl
  | case3 c cs h p ps hs ih =>
    rw [hs] at ih
    rw [List.map_cons, split_cons_of_ne (mt (hf c).mp h) ih]; rfl
  | case4 c cs h hs => exact absurd hs (split_ne_nil sep cs)

/-! ### cutting at the first separator -/

/-- `strings.Cut(s, sep)`: the text before and after the first separator. -/
def cut (sep : α) : List α → Option (List α × List α)
  | [] => none
  | c :: cs => if c = sep then some ([], cs) else (cut sep cs).map fun p => (c :: p.1, p.2)

theorem cut_none {sep : α} {a : List α} (h : ∀ b ∈ a, b ≠ sep) : cut sep a = none := by
  induction a with
  | nil => rfl
  | cons x xs ih =>
    rw [cut, if_neg (h x List.mem_cons_self), ih fun b hb => h b (List.mem_cons_of_mem _ hb)]; rfl

theorem cut_some {sep : α} {a : List α} (h : ∀ b ∈ a, b ≠ sep) (b : List α) :
    cut sep (a ++ sep :: b) = some (a, b) := by
  induction a with
  | nil => exact if_pos rfl
  | cons x xs ih =>
    rw [List.cons_append, cut, if_neg (h x List.mem_cons_self), ih fun b hb => h b (List.mem_cons_of_mem _ hb)]; rfl

theorem eq_of_cut_some {sep : α} {s i f : List α} (h : cut sep s = some (i, f)) : s = i ++ sep :: f := by
  induction s generalizing i with
  | nil => cases h
  | cons c cs ih =>
    rw [cut] at h
    split at h
    · rename_i hc; cases h; rw [hc]; rfl
    · cases hs : cut sep cs with
      | none => rw [hs] at h; cases h
      | some p =>
        obtain ⟨a, b⟩ := p
        rw [hs] at h; cases h
        rw [ih hs]; rfl

theorem cut_map (f : α → β) {sep : α} {sep' : β} (hf : ∀ c, f c = sep' ↔ c = sep) (s : List α) :
    cut sep' (s.map f) = (cut sep s).map fun p => (p.1.map f, p.2.map f) := by
  induction s with
  | nil => rfl
  | cons c cs ih =>
    rw [List.map_cons, cut, cut, ih]
    by_cases h : c = sep
    · rw [if_pos h, if_pos ((hf c).mpr h)]; rfl
    · rw [if_neg h, if_neg (mt (hf c).mp h)]; cases cut sep cs <;> rfl

end GaeaVerif.Split
