import GaeaVerif.Model.BufOwn
/-
  Lemmas about Model/BufOwn.lean used by Props/C38.lean: the bucket arithmetic
  of util/bucketpool, the effect of Get / Put on the pool, the ownership
  invariant of the system, and the shape of the sessions in which a recycled
  buffer is never read again.
-/
namespace GaeaVerif.BufOwn
open GaeaVerif

/-! ### bits.Len64 and findPool -/

theorem bitLenAux_le (f n : Nat) : bitLenAux f n ≤ f := by
  induction f generalizing n with
  | zero => exact Nat.le_refl 0
  | succ f ih =>
    unfold bitLenAux
    split
    · exact Nat.zero_le _
    · have := ih (n / 2); omega

theorem bitLenAux_le_iff (f n k : Nat) (h : n < 2 ^ f) : bitLenAux f n ≤ k ↔ n < 2 ^ k := by
  induction f generalizing n k with
  | zero =>
    cases Nat.lt_one_iff.mp h
    exact iff_of_true (Nat.zero_le k) (Nat.two_pow_pos k)
  | succ f ih =>
    unfold bitLenAux
    by_cases h0 : n = 0
    · cases h0
      exact iff_of_true (Nat.zero_le k) (Nat.two_pow_pos k)
    · rw [if_neg h0]
      cases k with
      | zero => exact iff_of_false (by omega) (by omega)
      | succ k =>
        rw [Nat.pow_succ, ← Nat.div_lt_iff_lt_mul (by decide)] at h ⊢
        rw [← ih _ k h, Nat.add_comm, Nat.add_le_add_iff_right]

/-- `d &&& (d - 1) = 0` singles out the powers of two: a `d` strictly between `2 ^ k` and `2 ^ (k + 1)` and its
    predecessor both have bit `k` -/
theorem eq_two_pow (d k : Nat) (hlo : 2 ^ k ≤ d) (hhi : d < 2 ^ (k + 1)) (h : d &&& (d - 1) = 0) : d = 2 ^ k := by
  refine Nat.le_antisymm (Nat.le_of_not_lt fun hgt => ?_) hlo
  have bit : ∀ x, 2 ^ k ≤ x → x < 2 ^ (k + 1) → x >>> k = 1 := fun x h1 h2 => by
    rw [Nat.shiftRight_eq_div_pow]
    exact Nat.div_eq_of_lt_le (by omega) (by rw [Nat.pow_succ] at h2; omega)
  have := congrArg (· >>> k) h
  simp only [Nat.shiftRight_and_distrib, bit d hlo hhi, bit (d - 1) (by omega) (by omega), Nat.zero_shiftRight] at this
  exact absurd this (by decide)

theorem findPool_fits {size k : Nat} (h : findPool size = some k) : k < nBuckets ∧ size ≤ bucketSize k := by
  unfold findPool at h
  by_cases hs : size > maxSize
  · rw [if_pos hs] at h; cases h
  rw [if_neg hs] at h
  have hsz := Nat.div_add_mod size minSize
  have hr := Nat.mod_lt size (show 0 < minSize by decide)
  simp only [bitLen] at h
  generalize size / minSize = d at h hsz
  generalize size % minSize = r at h hsz hr
  unfold bucketSize nBuckets
  simp only [minSize, maxSize] at hs hsz hr ⊢
  have hd : d < 2 ^ 17 := by omega
  have iff := fun k => bitLenAux_le_iff 64 d k (Nat.lt_trans hd (by decide))
  have hL := (iff 17).mpr hd
  have hhi := (iff _).mp (Nat.le_refl _)
  split at h <;> cases h
  · rename_i hc
    simp only [Bool.and_eq_true, beq_iff_eq, bne_iff_ne, ne_eq] at hc
    obtain ⟨⟨hrem, hne⟩, hand⟩ := hc
    -- `d` is not below `2 ^ (Len64 d - 1)`, hence equal to it
    have hpos : ¬ bitLenAux 64 d ≤ 0 := fun hle => by have := (iff 0).mp hle; omega
    have hlo : ¬ d < 2 ^ (bitLenAux 64 d - 1) := fun hlt => by have := (iff _).mpr hlt; omega
    have hp := eq_two_pow d _ (Nat.le_of_not_lt hlo) (by rw [Nat.sub_add_cancel (by omega)]; exact hhi) hand
    rw [if_pos (by omega), ← hp]
    omega
  · split <;> omega

/-- `Put` returns a buffer of bucket `k` to bucket `k` -/
theorem findPool_bucketSize : ∀ k, k < nBuckets → findPool (bucketSize k) = some k := by decide +kernel

/-- the buckets `bucketpool.New(MinPacketSize, MaxPacketSize)` creates -/
theorem newSizes_eq : newSizes 64 minSize maxSize = (List.range nBuckets).map bucketSize := by decide


/-! ### sync.Pool -/

theorem SyncPool.perm_put (p : SyncPool) (x : Nat) : (p.put x).ids.Perm (x :: p.ids) := by
  rcases p with ⟨_ | z, sh⟩
  · exact List.Perm.refl _
  · exact List.Perm.swap x z sh

theorem SyncPool.get_some (p p' : SyncPool) (y : Nat) (h : p.get = some (y, p')) : p.ids = y :: p'.ids := by
  rcases p with ⟨_ | x, _ | ⟨z, r⟩⟩ <;> cases h <;> rfl

theorem SyncPool.get_none (p : SyncPool) (h : p.get = none) : p.ids = [] := by
  rcases p with ⟨_ | x, _ | ⟨z, r⟩⟩ <;> cases h
  rfl

/-! ### the pool as a whole -/

theorem getElem?_set_some {α : Type} {l : List α} {i j : Nat} {a b : α} (h : (l.set i a)[j]? = some b) :
    j = i ∧ b = a ∨ j ≠ i ∧ l[j]? = some b := by
  rw [List.getElem?_set] at h
  by_cases e : i = j
  · rw [if_pos e] at h
    split at h <;> cases h
    exact Or.inl ⟨e.symm, rfl⟩
  · rw [if_neg e] at h
    exact Or.inr ⟨fun e' => e e'.symm, h⟩

/-- buffer `x` is in some bucket -/
def InPool (m : Mem) (x : Nat) : Prop := ∃ (k : Nat) (p : SyncPool), m.pools[k]? = some p ∧ x ∈ p.ids

/-- a buffer's backing array has its capacity, which is that of a bucket or too large to be pooled -/
def CapOk (b : Buf) : Prop := b.data.length = b.cap ∧ (maxSize < b.cap ∨ ∃ k, k < nBuckets ∧ b.cap = bucketSize k)

structure PoolOk (m : Mem) : Prop where
  len : m.pools.length = nBuckets
  nodup : ∀ (k : Nat) (p : SyncPool), m.pools[k]? = some p → p.ids.Nodup
  disj : ∀ (k k' : Nat) (p p' : SyncPool) (x : Nat), k ≠ k' → m.pools[k]? = some p → m.pools[k']? = some p' → x ∈ p.ids → x ∉ p'.ids
  size : ∀ (k : Nat) (p : SyncPool) (x : Nat), m.pools[k]? = some p → x ∈ p.ids → ∃ b, m.bufs[x]? = some b ∧ b.cap = bucketSize k
  caps : ∀ (x : Nat) (b : Buf), m.bufs[x]? = some b → CapOk b

theorem PoolOk.bound {m : Mem} (h : PoolOk m) {x : Nat} (hx : InPool m x) : x < m.bufs.length := by
  obtain ⟨k, p, hk, hp⟩ := hx
  obtain ⟨b, hb, _⟩ := h.size k p x hk hp
  exact (List.getElem?_eq_some_iff.mp hb).1

theorem poolOk_init : PoolOk Mem.init := by
  have empty : ∀ {k : Nat} {p : SyncPool}, Mem.init.pools[k]? = some p → p.ids = [] := fun h => by
    rw [List.eq_of_mem_replicate (List.mem_of_getElem? h)]; rfl
  refine ⟨List.length_replicate .., fun k p h => ?_, fun k k' p p' x _ h _ hx => ?_, fun k p x h hx => ?_, fun x b h => ?_⟩
  · rw [empty h]; exact List.nodup_nil
  · rw [empty h] at hx; cases hx
  · rw [empty h] at hx; cases hx
  · cases h

theorem PoolOk.setBufs {m : Mem} (h : PoolOk m) {bufs : List Buf}
    (keep : ∀ (x : Nat) (b : Buf), m.bufs[x]? = some b → ∃ b', bufs[x]? = some b' ∧ b'.cap = b.cap)
    (caps : ∀ (x : Nat) (b : Buf), bufs[x]? = some b → CapOk b) : PoolOk { m with bufs := bufs } := by
  refine ⟨h.len, h.nodup, h.disj, fun k p x hk hx => ?_, caps⟩
  obtain ⟨b, hb, hc⟩ := h.size k p x hk hx
  obtain ⟨b', hb', hc'⟩ := keep x b hb
  exact ⟨b', hb', hc'.trans hc⟩

theorem PoolOk.setPool {m : Mem} (h : PoolOk m) {k : Nat} {p p' : SyncPool} (hk : m.pools[k]? = some p) (hnd : p'.ids.Nodup)
    (hnew : ∀ x, x ∈ p'.ids → x ∈ p.ids ∨ ¬ InPool m x ∧ ∃ b, m.bufs[x]? = some b ∧ b.cap = bucketSize k) :
    PoolOk { m with pools := m.pools.set k p' } ∧
    ∀ x, InPool { m with pools := m.pools.set k p' } x → x ∈ p'.ids ∨ InPool m x ∧ x ∉ p.ids := by
  have old : ∀ {j q}, (m.pools.set k p')[j]? = some q → j = k ∧ q = p' ∨ j ≠ k ∧ m.pools[j]? = some q := getElem?_set_some
  have sep : ∀ {j q x}, j ≠ k → m.pools[j]? = some q → x ∈ p'.ids → x ∉ q.ids := fun hj hq hx hxq =>
    (hnew _ hx).elim (fun hp => h.disj _ _ _ _ _ hj hq hk hxq hp) (fun hn => hn.1 ⟨_, _, hq, hxq⟩)
  refine ⟨⟨by simp [h.len], fun j q hq => ?_, fun j j' q q' x hne hq hq' hx hx' => ?_, fun j q x hq hx => ?_, h.caps⟩, ?_⟩
  · rcases old hq with ⟨_, rfl⟩ | ⟨_, hq⟩
    · exact hnd
    · exact h.nodup j q hq
  · rcases old hq with ⟨hj, e⟩ | ⟨hj, hq⟩ <;> rcases old hq' with ⟨hj', e'⟩ | ⟨hj', hq'⟩
    · exact hne (hj.trans hj'.symm)
    · exact sep hj' hq' (e ▸ hx) hx'
    · exact sep hj hq (e' ▸ hx') hx
    · exact h.disj j j' q q' x hne hq hq' hx hx'
  · rcases old hq with ⟨rfl, rfl⟩ | ⟨_, hq⟩
    · exact (hnew x hx).elim (h.size _ p x hk) (·.2)
    · exact h.size j q x hq hx
  · rintro x ⟨j, q, hq, hx⟩
    rcases old hq with ⟨rfl, rfl⟩ | ⟨hj, hq⟩
    · exact Or.inl hx
    · exact Or.inr ⟨⟨j, q, hq, hx⟩, h.disj j k q p x hj hq hk hx⟩

theorem poolGet_cases {m m' : Mem} {n id : Nat} (hg : poolGet m n = some (id, m')) :
    (∃ cap, CapOk ⟨cap, List.replicate cap 0⟩ ∧ n ≤ cap ∧ alloc m cap = (id, m')) ∨
    (∃ k p p' b, m.pools[k]? = some p ∧ p.get = some (id, p') ∧ m.bufs[id]? = some b ∧ n ≤ b.cap ∧
      m' = { m with pools := m.pools.set k p' }) := by
  revert hg
  fun_cases poolGet m n <;> intro hg <;> cases hg
  · rename_i hf
    refine Or.inl ⟨n, ⟨List.length_replicate .., Or.inl ?_⟩, Nat.le_refl n, rfl⟩
    revert hf
    fun_cases findPool n <;> intro hf <;> first | assumption | cases hf
  · exact Or.inr ⟨_, _, _, _, ‹_›, ‹_›, ‹_›, ‹_›, rfl⟩
  · exact Or.inl ⟨_, ⟨List.length_replicate .., Or.inr ⟨_, (findPool_fits ‹_›).1, rfl⟩⟩, ‹_›, rfl⟩

theorem poolGet_spec {m m' : Mem} {n id : Nat} (h : PoolOk m) (hg : poolGet m n = some (id, m')) :
    PoolOk m' ∧ ¬ InPool m' id ∧ (∀ x, InPool m' x → InPool m x) ∧ (InPool m id ∨ id = m.bufs.length) ∧
    (∀ (x : Nat) (b : Buf), m.bufs[x]? = some b → m'.bufs[x]? = some b) ∧ (∃ b, m'.bufs[id]? = some b ∧ n ≤ b.cap) := by
  rcases poolGet_cases hg with ⟨cap, hcap, hn, ha⟩ | ⟨k, p, p', b, hp, hget, hb, hn, rfl⟩
  · cases ha
    have keep : ∀ (x : Nat) (b : Buf), m.bufs[x]? = some b → (m.bufs ++ [⟨cap, List.replicate cap 0⟩])[x]? = some b :=
      fun x b hb => by rw [List.getElem?_append_left (List.getElem?_eq_some_iff.mp hb).1]; exact hb
    refine ⟨h.setBufs (fun x b hb => ⟨b, keep x b hb, rfl⟩) fun x b hb => ?_, fun hin => Nat.lt_irrefl _ (h.bound hin),
      fun x hx => hx, Or.inr rfl, keep, _, List.getElem?_concat_length .., hn⟩
    rcases List.mem_append.mp (List.mem_of_getElem? hb) with hm | hm
    · obtain ⟨i, hi⟩ := List.getElem?_of_mem hm
      exact h.caps i b hi
    · cases List.mem_singleton.mp hm
      exact hcap
  · have hids := SyncPool.get_some p p' id hget
    have hnd := h.nodup k p hp
    rw [hids] at hnd
    have hmem : ∀ x, x ∈ p'.ids → x ∈ p.ids := fun x hx => hids ▸ List.mem_cons_of_mem _ hx
    have hid : id ∈ p.ids := hids ▸ List.mem_cons_self ..
    obtain ⟨hok, hin⟩ := h.setPool hp (List.nodup_cons.mp hnd).2 fun x hx => Or.inl (hmem x hx)
    exact ⟨hok, fun hi => (hin id hi).elim (List.nodup_cons.mp hnd).1 (·.2 hid),
      fun x hx => (hin x hx).elim (fun hx => ⟨k, p, hp, hmem x hx⟩) (·.1), Or.inl ⟨k, p, hp, hid⟩, fun x b hb => hb, b, hb, hn⟩

theorem poolPut_spec {m m' : Mem} {id : Nat} (h : PoolOk m) (hid : ¬ InPool m id) (hp : poolPut m id = some m') :
    PoolOk m' ∧ (∀ x, InPool m' x → x = id ∨ InPool m x) ∧ m'.bufs = m.bufs := by
  revert hp
  fun_cases poolPut m id <;> intro hp <;> cases hp
  · exact ⟨h, fun x hx => Or.inr hx, rfl⟩
  · rename_i b hb k hf p hq
    have hcap : b.cap = bucketSize k := by
      rcases (h.caps id b hb).2 with hbig | ⟨k', hk', hc⟩
      · unfold findPool at hf
        rw [if_pos hbig] at hf
        cases hf
      · rw [hc, findPool_bucketSize k' hk'] at hf
        cases hf
        exact hc
    have perm := p.perm_put id
    have mem : ∀ x, x ∈ (p.put id).ids → x = id ∨ x ∈ p.ids := fun x hx => List.mem_cons.mp (perm.mem_iff.mp hx)
    obtain ⟨hok, hin⟩ := h.setPool hq
      (perm.nodup_iff.mpr (List.nodup_cons.mpr ⟨fun hx => hid ⟨k, p, hq, hx⟩, h.nodup k p hq⟩))
      fun x hx => (mem x hx).elim (fun e => Or.inr (e ▸ ⟨hid, b, hb, hcap⟩)) Or.inl
    exact ⟨hok, fun x hx => (hin x hx).elim (fun hx => (mem x hx).imp_right fun hx => ⟨k, p, hq, hx⟩) fun hx => Or.inr hx.1, rfl⟩

theorem poolGet_some {m : Mem} (h : PoolOk m) (n : Nat) : ∃ r, poolGet m n = some r := by
  have bucket : ∀ {k}, findPool n = some k → m.pools[k]? ≠ none := fun hf hk =>
    Nat.not_le.mpr (h.len ▸ (findPool_fits hf).1) (List.getElem?_eq_none_iff.mp hk)
  have first : ∀ {k p id p'}, m.pools[k]? = some p → p.get = some (id, p') → ∃ b, m.bufs[id]? = some b ∧ b.cap = bucketSize k :=
    fun hp hget => h.size _ _ _ hp (SyncPool.get_some _ _ _ hget ▸ List.mem_cons_self ..)
  fun_cases poolGet m n
  · exact ⟨_, rfl⟩
  · exact absurd ‹_› (bucket ‹_›)
  · obtain ⟨b, hb, _⟩ := first ‹_› ‹_›
    cases ‹m.bufs[_]? = none›.symm.trans hb
  · exact ⟨_, rfl⟩
  · rename_i b hb hn
    obtain ⟨_, hb', hc⟩ := first ‹_› ‹_›
    cases hb.symm.trans hb'
    exact absurd (hc ▸ (findPool_fits ‹_›).2) hn
  · exact ⟨_, rfl⟩
  · exact absurd (findPool_fits ‹_›).2 ‹_›

theorem poolPut_some {m : Mem} {id : Nat} (h : PoolOk m) (hlt : id < m.bufs.length) : ∃ m', poolPut m id = some m' := by
  fun_cases poolPut m id
  · exact absurd hlt (Nat.not_lt.mpr (List.getElem?_eq_none_iff.mp ‹_›))
  · exact ⟨_, rfl⟩
  · exact absurd (h.len ▸ (findPool_fits ‹_›).1) (Nat.not_lt.mpr (List.getElem?_eq_none_iff.mp ‹_›))
  · exact ⟨_, rfl⟩


/-! ### one connection's step, seen from the shared memory -/

/-- what a connection knows about the buffer it holds -/
structure Held (m : Mem) (c : Conn) : Prop where
  cur : ∀ (x : Nat), c.cur = some x → ¬ InPool m x ∧ ∃ b, m.bufs[x]? = some b ∧ c.len ≤ b.cap

/-- What a step of the connection `c` may do: the pool stays well formed, it
    grows by nothing but the buffer `c` gives up, the buffer `c` holds
    afterwards is its old one or one taken from the pool or a new one, and no
    buffer other than the one `c` holds changes. -/
structure Trans (m : Mem) (c : Conn) (m' : Mem) (c' : Conn) : Prop where
  pool : PoolOk m'
  grow : ∀ (x : Nat), InPool m' x → InPool m x ∨ (c.cur = some x ∧ c'.cur ≠ some x)
  cur : ∀ (x : Nat), c'.cur = some x → ¬ InPool m' x ∧ (∃ b, m'.bufs[x]? = some b ∧ c'.len ≤ b.cap) ∧
      (c.cur = some x ∨ InPool m x ∨ m.bufs.length ≤ x)
  frame : ∀ (x : Nat) (b : Buf), m.bufs[x]? = some b → c.cur ≠ some x → m'.bufs[x]? = some b
  caps : ∀ (x : Nat) (b : Buf), m.bufs[x]? = some b → ∃ b', m'.bufs[x]? = some b' ∧ b'.cap = b.cap

theorem Trans.policy {m : Mem} {c : Conn} (hp : PoolOk m) (hh : Held m c) (p : Policy) :
    Trans m c m { c with policy := p } :=
  ⟨hp, fun _ hx => Or.inl hx, fun x hx => ⟨(hh.cur x hx).1, (hh.cur x hx).2, Or.inl hx⟩,
   fun _ _ hb _ => hb, fun _ b hb => ⟨b, hb, rfl⟩⟩

theorem Trans.refl {m : Mem} {c : Conn} (hp : PoolOk m) (hh : Held m c) : Trans m c m c :=
  Trans.policy hp hh c.policy

theorem Trans.acquire {m m' : Mem} {c : Conn} {n id : Nat} (hp : PoolOk m) (p : Policy)
    (hg : poolGet m n = some (id, m')) : Trans m c m' { c with policy := p, cur := some id, len := n } := by
  obtain ⟨h1, h2, h3, h4, h5, h6⟩ := poolGet_spec hp hg
  refine ⟨h1, fun x hx => Or.inl (h3 x hx), fun x hx => ?_, fun x b hb _ => h5 x b hb, fun x b hb => ⟨b, h5 x b hb, rfl⟩⟩
  cases hx
  exact ⟨h2, h6, Or.inr (h4.imp_right fun e => Nat.le_of_eq e.symm)⟩

theorem Trans.release {m m' : Mem} {c : Conn} {id : Nat} (hp : PoolOk m) (hh : Held m c) (hc : c.cur = some id)
    (hput : poolPut m id = some m') : Trans m c m' { c with policy := .unused, cur := none } := by
  obtain ⟨h1, h2, h3⟩ := poolPut_spec hp (hh.cur id hc).1 hput
  refine ⟨h1, fun x hx => ?_, fun x => nofun, fun x b hb _ => h3 ▸ hb, fun x b hb => ⟨b, h3 ▸ hb, rfl⟩⟩
  rcases h2 x hx with rfl | h
  · exact Or.inr ⟨hc, nofun⟩
  · exact Or.inl h

theorem writeAt_length (d : Bytes) (off : Nat) (b : Bytes) (h : off + b.length ≤ d.length) : (writeAt d off b).length = d.length := by
  simp only [writeAt, List.length_append, List.length_take, List.length_drop]
  omega

theorem take_writeAt (d : Bytes) (off : Nat) (b : Bytes) (h : off + b.length ≤ d.length) :
    (writeAt d off b).take (off + b.length) = d.take off ++ b := by
  unfold writeAt
  have h1 : (d.take off ++ b).length = off + b.length := by
    simp only [List.length_append, List.length_take]; omega
  rw [List.take_append_of_le_length (by omega), List.take_of_length_le (by omega)]

theorem Trans.fill {m m' : Mem} {c : Conn} {off : Nat} {d : Bytes} (hp : PoolOk m) (hh : Held m c)
    (hf : fill m c off d = some m') : Trans m c m' c := by
  revert hf
  fun_cases BufOwn.fill m c off d <;> intro hf <;> cases hf
  rename_i id hc buf hb hbound
  obtain ⟨hnin, _, hb0, hlen⟩ := hh.cur id hc
  cases hb.symm.trans hb0
  have new : (m.bufs.set id { buf with data := writeAt buf.data off d })[id]? = some { buf with data := writeAt buf.data off d } :=
    List.getElem?_set_self (List.getElem?_eq_some_iff.mp hb).1
  have keep : ∀ (x : Nat) (b : Buf), m.bufs[x]? = some b →
      ∃ b', (m.bufs.set id { buf with data := writeAt buf.data off d })[x]? = some b' ∧ b'.cap = b.cap := fun x b hx => by
    by_cases e : id = x
    · cases e
      cases hb.symm.trans hx
      exact ⟨_, new, rfl⟩
    · exact ⟨b, (List.getElem?_set_ne e).trans hx, rfl⟩
  refine ⟨hp.setBufs keep fun x b hx => ?_, fun x hx => Or.inl hx, fun x hx => ?_, fun x b hx hne => ?_, keep⟩
  · rcases getElem?_set_some hx with ⟨_, rfl⟩ | ⟨_, hx⟩
    · have := hp.caps id buf hb
      exact ⟨(writeAt_length _ _ _ hbound).trans this.1, this.2⟩
    · exact hp.caps x b hx
  · cases hc.symm.trans hx
    exact ⟨hnin, ⟨_, new, hlen⟩, Or.inl hc⟩
  · exact (List.getElem?_set_ne fun (e : id = x) => hne (e ▸ hc)).trans hx

/-! the functions of mysql/conn.go -/

theorem trans_readEnter {m : Mem} {c c' : Conn} (hp : PoolOk m) (hh : Held m c) (h : readEnter c = some c') :
    Trans m c m c' := by
  unfold readEnter at h
  split at h <;> cases h
  exact Trans.policy hp hh .read

theorem trans_readBegin {m m' : Mem} {c c' : Conn} {hdr : Option Nat} {k : RdKind} (hp : PoolOk m) (hh : Held m c)
    (h : readBegin m c hdr = some (m', c', k)) : Trans m c m' c' := by
  revert h
  fun_cases readBegin m c hdr <;> intro h <;> cases h
  · exact Trans.refl hp hh
  · exact Trans.refl hp hh
  · exact Trans.acquire hp c.policy ‹_›
  · exact Trans.refl hp hh

theorem trans_recycleRead {v : Variant} (hv : v.recycleClears = true) {m m' : Mem} {c c' : Conn} (hp : PoolOk m) (hh : Held m c)
    (h : recycleRead v m c = some (m', c')) : Trans m c m' c' := by
  revert h
  fun_cases recycleRead v m c <;> intro h <;> cases h
  · exact Trans.policy hp hh .unused
  · rw [hv]
    exact Trans.release hp hh ‹_› ‹_›

theorem trans_startEphemeral {m m' : Mem} {c c' : Conn} {n : Nat} (hp : PoolOk m)
    (h : startEphemeral m c n = some (m', c')) : Trans m c m' c' := by
  revert h
  fun_cases startEphemeral m c n <;> intro h <;> cases h
  exact Trans.acquire hp .write ‹_›

theorem trans_writeEphemeral {m m' : Mem} {c c' : Conn} (hp : PoolOk m) (hh : Held m c)
    (h : writeEphemeral m c = some (m', c')) : Trans m c m' c' := by
  revert h
  fun_cases writeEphemeral m c <;> intro h <;> cases h
  exact Trans.release hp hh ‹_› ‹_›


/-! ### the whole system -/

/-- **The ownership invariant.**  The pool is well formed (no buffer twice in
    a bucket or in two buckets, every pooled buffer has the size of its
    bucket); a buffer a connection holds is not in the pool and is large
    enough for the packet it was taken for; no two connections hold the same
    buffer. -/
structure Own (w : Sys) : Prop where
  pool : PoolOk w.mem
  held : ∀ (i : Nat) (s : Sess), w.sess[i]? = some s → Held w.mem s.conn
  distinct : ∀ (i j : Nat) (s t : Sess) (x : Nat), i ≠ j → w.sess[i]? = some s → w.sess[j]? = some t →
      s.conn.cur = some x → t.conn.cur ≠ some x

theorem init_sess {n i : Nat} {s : Sess} (h : (Sys.init n).sess[i]? = some s) : s = Sess.init :=
  List.eq_of_mem_replicate (List.mem_of_getElem? h)

theorem own_init (n : Nat) : Own (Sys.init n) := by
  refine ⟨poolOk_init, fun i s hs => ?_, fun i j s t x _ hs _ hx => ?_⟩ <;> cases init_sess hs
  · exact ⟨fun x => nofun⟩
  · cases hx

theorem own_update {w : Sys} {i : Nat} {s s' : Sess} {m' : Mem} (h : Own w) (hs : w.sess[i]? = some s)
    (ht : Trans w.mem s.conn m' s'.conn) : Own ⟨m', w.sess.set i s'⟩ := by
  -- the buffer session `i` holds after the step is held by nobody else
  have key : ∀ {l : Nat} {v : Sess} {x : Nat}, l ≠ i → w.sess[l]? = some v → s'.conn.cur = some x → v.conn.cur ≠ some x := by
    intro l v x hl hv hc hx
    obtain ⟨hnin, b, hb, _⟩ := (h.held l v hv).cur x hx
    rcases (ht.cur x hc).2.2 with h1 | h1 | h1
    · exact h.distinct i l s v x (Ne.symm hl) hs hv h1 hx
    · exact hnin h1
    · exact Nat.not_lt.mpr h1 (List.getElem?_eq_some_iff.mp hb).1
  refine ⟨ht.pool, fun j t hj => ⟨fun x hx => ?_⟩, fun j k t u x hjk hj hk hx hx' => ?_⟩
  · rcases getElem?_set_some hj with ⟨_, e⟩ | ⟨e, hj⟩
    · cases e
      exact ⟨(ht.cur x hx).1, (ht.cur x hx).2.1⟩
    · obtain ⟨hnin, b, hb, hlen⟩ := (h.held j t hj).cur x hx
      obtain ⟨b', hb', hc⟩ := ht.caps x b hb
      exact ⟨fun hin => (ht.grow x hin).elim hnin fun hc => h.distinct i j s t x (Ne.symm e) hs hj hc.1 hx, b', hb', hc ▸ hlen⟩
  · rcases getElem?_set_some hj with ⟨ej, e⟩ | ⟨ej, hj⟩ <;> rcases getElem?_set_some hk with ⟨ek, e'⟩ | ⟨ek, hk⟩
    · exact hjk (ej.trans ek.symm)
    · exact key ek hk (e ▸ hx) hx'
    · exact key ej hj (e' ▸ hx') hx
    · exact h.distinct j k t u x hjk hj hk hx hx'


/-! ### the steps of a session -/

theorem contCore_frame (cfg : Cfg) (pkt : Bytes) (res : AuthRef → Bytes) (s : Sess) (c : Cont) (rest : List Instr) :
    (contCore cfg pkt res s c rest).1.conn = s.conn ∧ (contCore cfg pkt res s c rest).1.rd = s.rd ∧
    (contCore cfg pkt res s c rest).1.filled = s.filled := by
  fun_cases contCore cfg pkt res s c rest <;> exact ⟨rfl, rfl, rfl⟩

theorem tick_trans {cfg : Cfg} (hv : cfg.v.recycleClears = true) {m m' : Mem} {s s' : Sess} {obs : List Obs}
    (hp : PoolOk m) (hh : Held m s.conn) (h : tick cfg m s = .ok m' s' obs) : Trans m s.conn m' s'.conn := by
  revert h
  fun_cases tick cfg m s <;> intro h <;> cases h
  -- each of the four functions of mysql/conn.go panics or returns; last, a continuation
  · exact Trans.refl hp hh
  · exact trans_readEnter hp hh ‹_›
  · exact Trans.refl hp hh
  · exact trans_recycleRead hv hp hh ‹_›
  · exact Trans.refl hp hh
  · exact trans_startEphemeral hp ‹_›
  · exact Trans.refl hp hh
  · exact trans_writeEphemeral hp hh ‹_›
  · rw [(contCore_frame ..).1]
    exact Trans.refl hp hh

/-! ### the effect of one event on the session it concerns -/

/-- what the event `e` does to the shared memory and to the session it
    concerns (`none`: the event is not enabled) -/
def stepSess (cfg : Cfg) (m : Mem) (s : Sess) : Ev → Option (Mem × Sess × List Obs)
  | .tick =>
    match tick cfg m s with
    | .ok m1 s1 obs => some (m1, s1, obs)
    | _ => none
  | .start p => if s.todo.isEmpty && !s.dead then some (m, { s with todo := p }, []) else none
  | .hdr n => (feedHdr m s n).map (fun r => (r.1, r.2, []))
  | .body b => (feedBody m s b).map (fun r => (r.1, r.2, []))
  | .eof => (feedEof m s).map (fun r => (r.1, r.2, []))

theorem step_eq (cfg : Cfg) (w : Sys) (i : Nat) (e : Ev) :
    Sys.step cfg w i e =
      match w.sess[i]? with
      | none => (w, [])
      | some s =>
        match stepSess cfg w.mem s e with
        | none => (w, [])
        | some (m1, s1, obs) => (⟨m1, w.sess.set i s1⟩, obs) := by
  unfold Sys.step
  cases hs : w.sess[i]? with
  | none => rfl
  | some s =>
    cases e with
    | tick => simp only [stepSess]; cases tick cfg w.mem s <;> rfl
    | start p => simp only [stepSess]; split <;> rfl
    | hdr n => simp only [stepSess]; cases feedHdr w.mem s n <;> rfl
    | body b => simp only [stepSess]; cases feedBody w.mem s b <;> rfl
    | eof => simp only [stepSess]; cases feedEof w.mem s <;> rfl

theorem stepSess_cases {cfg : Cfg} {m m1 : Mem} {s s1 : Sess} {e : Ev} {obs : List Obs}
    (h : stepSess cfg m s e = some (m1, s1, obs)) :
    e = .tick ∧ tick cfg m s = .ok m1 s1 obs ∨ (∃ p, e = .start p ∧ m1 = m ∧ s1 = { s with todo := p }) ∨
    (∃ n, e = .hdr n ∧ feedHdr m s n = some (m1, s1)) ∨ (∃ b, e = .body b ∧ feedBody m s b = some (m1, s1)) ∨
    e = .eof ∧ feedEof m s = some (m1, s1) := by
  cases e <;> simp only [stepSess] at h
  · split at h <;> cases h
    exact Or.inl ⟨rfl, ‹_›⟩
  · split at h <;> cases h
    exact Or.inr (Or.inl ⟨_, rfl, rfl, rfl⟩)
  all_goals
    obtain ⟨r, hf, e⟩ := Option.map_eq_some_iff.mp h
    cases e
  · exact Or.inr (Or.inr (Or.inl ⟨_, rfl, hf⟩))
  · exact Or.inr (Or.inr (Or.inr (Or.inl ⟨_, rfl, hf⟩)))
  · exact Or.inr (Or.inr (Or.inr (Or.inr ⟨rfl, hf⟩)))

theorem stepSess_trans {cfg : Cfg} (hv : cfg.v.recycleClears = true) {m m1 : Mem} {s s1 : Sess} {e : Ev} {obs : List Obs}
    (hp : PoolOk m) (hh : Held m s.conn) (h : stepSess cfg m s e = some (m1, s1, obs)) : Trans m s.conn m1 s1.conn := by
  rcases stepSess_cases h with ⟨_, h⟩ | ⟨_, _, rfl, rfl⟩ | ⟨n, _, h⟩ | ⟨b, _, h⟩ | ⟨_, h⟩
  · exact tick_trans hv hp hh h
  · exact Trans.refl hp hh
  -- bytes arrive: what is done to memory and connection is done by `readBegin` or `fill`, or nothing is done
  · revert h
    fun_cases feedHdr m s n <;> intro h <;> cases h <;> first | exact trans_readBegin hp hh ‹_› | exact Trans.refl hp hh
  · revert h
    fun_cases feedBody m s b <;> intro h <;> cases h <;> first | exact Trans.fill hp hh ‹_› | exact Trans.refl hp hh
  · revert h
    fun_cases feedEof m s <;> intro h <;> cases h <;> first | exact trans_readBegin hp hh ‹_› | exact Trans.refl hp hh

theorem step_own (cfg : Cfg) (hv : cfg.v.recycleClears = true) (w : Sys) (h : Own w) (i : Nat) (e : Ev) :
    Own (Sys.step cfg w i e).1 := by
  rw [step_eq]
  split
  · exact h
  · rename_i s hs
    split
    · exact h
    · exact own_update h hs (stepSess_trans hv h.pool (h.held i s hs) ‹_›)

theorem sysRun_inv (cfg : Cfg) {P : Sys → Prop} {Q : Ev → Prop}
    (step : ∀ (w : Sys) (i : Nat) (e : Ev), P w → Q e → P (Sys.step cfg w i e).1) (w : Sys) (h : P w)
    (evs : List (Nat × Ev)) (he : ∀ e ∈ evs, Q e.2) : P (Sys.run cfg w evs).1 := by
  induction evs generalizing w with
  | nil => exact h
  | cons e rest ih =>
    exact ih _ (step w e.1 e.2 h (he e List.mem_cons_self)) fun e' he' => he e' (List.mem_cons_of_mem _ he')

theorem run_own (cfg : Cfg) (hv : cfg.v.recycleClears = true) (w : Sys) (h : Own w) (evs : List (Nat × Ev)) :
    Own (Sys.run cfg w evs).1 :=
  sysRun_inv cfg (Q := fun _ => True) (fun w i e h _ => step_own cfg hv w h i e) w h evs fun _ _ => trivial

theorem fixed_flags {cfg : Cfg} (hv : cfg.v = Variant.fixed) :
    cfg.v.copySwitch = true ∧ cfg.v.copyNull = true ∧ cfg.v.recycleClears = true := by
  rw [hv]
  exact ⟨rfl, rfl, rfl⟩


/-! ### a recycled buffer is never read again -/

/-- the buffer a slice returned by a read points to -/
def Rd.buf : Rd → Option Nat
  | .data id _ => Option.some id
  | _ => Option.none

/-- the buffer the kept auth response points to -/
def HsRes.buf : HsRes → Option Nat
  | .info _ (.alias id _ _) => Option.some id
  | _ => Option.none

/-- continuations that look at the packet just read -/
def Cont.reads : Cont → Bool
  | .hs1 => true
  | .hs2 => true
  | .cmd => true
  | _ => false

/-- The pooled buffers the next atomic step of the session reads: the packet
    (`Rd.view`) or the kept auth response (`AuthRef.resolve`). -/
def stepReads (s : Sess) : List Nat :=
  match s.todo with
  | .k c :: _ =>
    match c with
    | .hs1 => s.rd.buf.toList
    | .hs2 => s.rd.buf.toList
    | .cmd => s.rd.buf.toList
    | .doneResp => s.hs.buf.toList
    | .doneHs => s.hs.buf.toList
    | .check => s.hs.buf.toList
    | .hsTail => s.hs.buf.toList
    | _ => []
  | _ => []

/-- every continuation that looks at a packet directly follows the read of that packet -/
def okTail : List Instr → Bool
  | [] => true
  | .readHdr :: .k _ :: r => okTail r
  | .readBody :: .k _ :: r => okTail r
  | .k c :: r => !c.reads && okTail r
  | .enter :: r => okTail r
  | .recycle :: r => okTail r
  | .start _ :: r => okTail r
  | .flush :: r => okTail r
  | .readHdr :: r => okTail r
  | .readBody :: r => okTail r

/-- the slice the last read returned is a slice of the buffer the connection holds -/
def ViewOk (s : Sess) : Prop := ∀ id len, s.rd = .data id len → s.conn.cur = some id ∧ s.conn.len = len ∧ s.filled = len

/-- a continuation at the head that looks at the packet finds it in the buffer the connection holds -/
def Shape (s : Sess) : List Instr → Prop
  | .k c :: r => (c.reads = true → ViewOk s) ∧ okTail r = true
  | t => okTail t = true

/-- The shape of a session that runs the programs of the repaired source. -/
structure Good (s : Sess) : Prop where
  noAlias : s.hs.buf = Option.none
  shape : Shape s s.todo

theorem okTail_writes (n : Nat) (r : List Instr) : okTail (writes n ++ r) = okTail r := by
  induction n with
  | zero => rfl
  | succ n ih => exact ih

theorem okTail_readBody (t : List Instr) : okTail (.readBody :: t) = okTail (.readHdr :: t) := by
  rcases t with _ | ⟨_ | _, _⟩ <;> rfl

theorem shape_of_okTail (s : Sess) (t : List Instr) (h : okTail t = true) : Shape s t := by
  rcases t with _ | ⟨_ | _, r⟩ <;> try exact h
  rename_i c
  simp only [okTail, Bool.and_eq_true, Bool.not_eq_true'] at h
  exact ⟨fun hc => Bool.noConfusion (h.1.symm.trans hc), h.2⟩

theorem good_of_okTail (s : Sess) (h1 : s.hs.buf = Option.none) (h2 : okTail s.todo = true) : Good s :=
  ⟨h1, shape_of_okTail s s.todo h2⟩

theorem shape_after_read {s : Sess} {rest : List Instr} (h : okTail (.readHdr :: rest) = true) (hv : ViewOk s) :
    Shape s rest := by
  rcases rest with _ | ⟨_ | _, r⟩ <;> try exact shape_of_okTail _ _ h
  exact ⟨fun _ => hv, h⟩

theorem contCore_good {cfg : Cfg} (hsw : cfg.v.copySwitch = true) (hnl : cfg.v.copyNull = true) (pkt : Bytes)
    (res : AuthRef → Bytes) {s : Sess} {c : Cont} {rest : List Instr} (hno : s.hs.buf = Option.none) (hr : okTail rest = true) :
    Good (contCore cfg pkt res s c rest).1 := by
  refine good_of_okTail _ ?_ ?_
  -- the response kept: the old one, or bytes of its own because of the two copies
  · fun_cases contCore cfg pkt res s c rest <;>
      first | exact hno | rfl | simp +zetaDelta only [hsw, hnl, Bool.or_true, if_true, HsRes.buf]
  -- the new list: instructions that read nothing, then `rest`
  · fun_cases contCore cfg pkt res s c rest
    all_goals try first | exact hr | rfl
    -- left: the answer to a command, the packets of the response and then `loop` or `closed`
    show okTail (writes _ ++ (if _ then _ else _) :: rest) = true
    rw [okTail_writes]
    split <;> exact hr

theorem tick_good {cfg : Cfg} (hsw : cfg.v.copySwitch = true) (hnl : cfg.v.copyNull = true) {m m' : Mem} {s s' : Sess}
    {obs : List Obs} (hg : Good s) (h : tick cfg m s = .ok m' s' obs) : Good s' := by
  have hs := hg.shape
  revert h
  fun_cases tick cfg m s <;> intro h <;> cases h <;> rw [‹s.todo = _›] at hs
  -- a function of mysql/conn.go: after a panic nothing is left to do, otherwise the rest of the list
  iterate 4
    · exact good_of_okTail _ hg.noAlias rfl
    · exact good_of_okTail _ hg.noAlias hs
  · exact contCore_good hsw hnl _ _ hg.noAlias hs.2

theorem feedHdr_good {m m' : Mem} {s s' : Sess} {n : Nat} (hg : Good s) (h : feedHdr m s n = some (m', s')) : Good s' := by
  have hs := hg.shape
  revert h
  fun_cases feedHdr m s n <;> intro h <;> cases h <;> rw [‹s.todo = _›] at hs
  · exact good_of_okTail _ hg.noAlias rfl
  · exact ⟨hg.noAlias, (okTail_readBody _).trans hs⟩
  · exact good_of_okTail _ hg.noAlias rfl
  · exact ⟨hg.noAlias, shape_after_read hs fun _ _ => nofun⟩

theorem feedBody_good {m m' : Mem} {s s' : Sess} {b : Bytes} (hg : Good s) (h : feedBody m s b = some (m', s')) : Good s' := by
  have hs := hg.shape
  revert h
  fun_cases feedBody m s b <;> intro h <;> cases h <;> rw [‹s.todo = _›] at hs
  · exact good_of_okTail _ hg.noAlias rfl
  · -- the packet is complete: it is in the buffer the connection holds
    refine ⟨hg.noAlias, shape_after_read ((okTail_readBody _).symm.trans hs) fun id len hd => ?_⟩
    simp +zetaDelta only at hd
    split at hd <;> cases hd
    exact ⟨‹_›, rfl, ‹_›⟩
  · exact ⟨hg.noAlias, by rw [‹s.todo = _›]; exact hs⟩

theorem feedEof_good {m m' : Mem} {s s' : Sess} (hg : Good s) (h : feedEof m s = some (m', s')) : Good s' := by
  have hs := hg.shape
  revert h
  fun_cases feedEof m s <;> intro h <;> cases h <;> rw [‹s.todo = _›] at hs
  · exact good_of_okTail _ hg.noAlias rfl
  · exact ⟨hg.noAlias, shape_after_read hs fun _ _ => nofun⟩
  · exact ⟨hg.noAlias, shape_after_read ((okTail_readBody _).symm.trans hs) fun _ _ => nofun⟩

/-- the goroutines the proxy starts on a connection -/
def RealProg (cfg : Cfg) (p : List Instr) : Prop :=
  p = progGreet cfg ∨ p = progResp ∨ p = progCheck ∨ p = progHs cfg ∨ p = progRun

theorem realProg_okTail {cfg : Cfg} {p : List Instr} (h : RealProg cfg p) : okTail p = true := by
  rcases h with h | h | h | h | h <;> subst h <;> rfl

/-- events whose `start` events start real programs only -/
def RealEv (cfg : Cfg) : Ev → Prop
  | .start p => RealProg cfg p
  | _ => True

theorem stepSess_good_of_okTail {cfg : Cfg} (hsw : cfg.v.copySwitch = true) (hnl : cfg.v.copyNull = true) {m m1 : Mem}
    {s s1 : Sess} {e : Ev} {obs : List Obs} (hg : Good s) (he : ∀ p, e = .start p → okTail p = true)
    (h : stepSess cfg m s e = some (m1, s1, obs)) : Good s1 := by
  rcases stepSess_cases h with ⟨_, h⟩ | ⟨p, hp, _, rfl⟩ | ⟨_, _, h⟩ | ⟨_, _, h⟩ | ⟨_, h⟩
  · exact tick_good hsw hnl hg h
  · exact good_of_okTail _ hg.noAlias (he p hp)
  · exact feedHdr_good hg h
  · exact feedBody_good hg h
  · exact feedEof_good hg h

theorem stepSess_good {cfg : Cfg} (hsw : cfg.v.copySwitch = true) (hnl : cfg.v.copyNull = true) {m m1 : Mem} {s s1 : Sess}
    {e : Ev} {obs : List Obs} (hg : Good s) (he : RealEv cfg e) (h : stepSess cfg m s e = some (m1, s1, obs)) : Good s1 :=
  stepSess_good_of_okTail hsw hnl hg (fun _ hp => realProg_okTail (hp ▸ he)) h

def GoodSys (w : Sys) : Prop := ∀ (i : Nat) (s : Sess), w.sess[i]? = some s → Good s

theorem goodSys_init (n : Nat) : GoodSys (Sys.init n) := fun _ _ hs => init_sess hs ▸ ⟨rfl, rfl⟩

theorem step_good (cfg : Cfg) (hsw : cfg.v.copySwitch = true) (hnl : cfg.v.copyNull = true) (w : Sys) (h : GoodSys w)
    (i : Nat) (e : Ev) (he : RealEv cfg e) : GoodSys (Sys.step cfg w i e).1 := by
  rw [step_eq]
  split
  · exact h
  · rename_i s hs
    split
    · exact h
    · intro j t hj
      rcases getElem?_set_some hj with ⟨_, rfl⟩ | ⟨_, hj⟩
      · exact stepSess_good hsw hnl (h i s hs) he ‹_›
      · exact h j t hj

theorem run_good (cfg : Cfg) (hsw : cfg.v.copySwitch = true) (hnl : cfg.v.copyNull = true) (w : Sys) (h : GoodSys w)
    (evs : List (Nat × Ev)) (he : ∀ e ∈ evs, RealEv cfg e.2) : GoodSys (Sys.run cfg w evs).1 :=
  sysRun_inv cfg (fun w i e h he => step_good cfg hsw hnl w h i e he) w h evs he

theorem good_reads_held {s : Sess} (hg : Good s) : ∀ id ∈ stepReads s, s.conn.cur = some id := by
  intro id hid
  have hs := hg.shape
  unfold stepReads at hid
  split at hid
  · rename_i c r ht
    rw [ht] at hs
    -- a packet looked at is in the buffer held; a kept response points to no buffer
    have hrd : c.reads = true → id ∈ s.rd.buf.toList → s.conn.cur = some id := fun hc hid => by
      cases hrd : s.rd <;> rw [hrd] at hid <;> cases hid
      · exact (hs.1 hc _ _ hrd).1
      · contradiction
    cases c
    case hs1 | hs2 | cmd => exact hrd rfl hid
    case doneResp | doneHs | check | hsTail =>
      rw [hg.noAlias] at hid
      cases hid
    all_goals cases hid
  · cases hid

end GaeaVerif.BufOwn
