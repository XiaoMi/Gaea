import GaeaVerif.Model.StmtLex
/-
  Lemmas about the lexical specification `Model/StmtLex.lean`, shared by the
  theorems of C14 and C15: what the scanners of single elements return; the
  lexer as the iteration of one step (`LexStep`: `lexStep_total`,
  `LexStep.lexF`; `Lexes`, its iteration: `Lexes.of_lexF`, `Lexes.lexF`, `Lexes.lex` for the fuel of `lex`), from
  which the facts about token streams are derived; the offsets of the markers and the items cut at them.
-/
namespace GaeaVerif.StmtLex
open GaeaVerif

/-! ### string literals and quoted identifiers -/

theorem scanQIdent_eq (t : Bytes) : scanQIdent t = scanStr true cBQuote t := by
  fun_induction scanQIdent t <;> simp_all [scanStr]

/-- The raw bodies of `q`-delimited literals. -/
inductive StrBody (nbe : Bool) (q : UInt8) : Bytes → Prop
  | nil : StrBody nbe q []
  | esc (d : UInt8) {b : Bytes} : ¬ nbe → StrBody nbe q b → StrBody nbe q (cBackslash :: d :: b)
  | dbl {b : Bytes} : StrBody nbe q b → StrBody nbe q (q :: q :: b)
  | byte {c : UInt8} {b : Bytes} : ¬ (c = cBackslash ∧ ¬ nbe) → c ≠ q → StrBody nbe q b → StrBody nbe q (c :: b)

theorem scanStr_some {nbe : Bool} {q : UInt8} {t body rest : Bytes} (h : scanStr nbe q t = some (body, rest)) :
    StrBody nbe q body ∧ t = body ++ q :: rest ∧ rest.head? ≠ some q ∧ ¬ (q = cBackslash ∧ ¬ nbe) := by
  fun_induction scanStr nbe q t generalizing body rest
  case case1 => cases h
  case case2 c hc =>
    cases h; obtain ⟨rfl, hc⟩ := hc
    exact ⟨.nil, rfl, by simp, fun ⟨e, hn⟩ => hc.elim hn (fun h => h e)⟩
  case case3 => cases h
  case case4 c d r hc ih =>
    obtain ⟨⟨b, r'⟩, hb, heq⟩ := Option.map_eq_some_iff.mp h
    cases heq; obtain ⟨h1, rfl, h3⟩ := ih hb
    exact ⟨hc.1 ▸ .esc d hc.2 h1, rfl, h3⟩
  case case5 r hc ih =>
    obtain ⟨⟨b, r'⟩, hb, heq⟩ := Option.map_eq_some_iff.mp h
    cases heq; obtain ⟨h1, rfl, h3⟩ := ih hb
    exact ⟨.dbl h1, rfl, h3⟩
  case case6 d r hd hc =>
    cases h
    exact ⟨.nil, rfl, by simpa using hd, hc⟩
  case case7 c d r hc hcq ih =>
    obtain ⟨⟨b, r'⟩, hb, heq⟩ := Option.map_eq_some_iff.mp h
    cases heq; obtain ⟨h1, h2, h3⟩ := ih hb
    exact ⟨.byte hc hcq h1, by rw [h2]; rfl, h3⟩

theorem scanStr_body {nbe : Bool} {q : UInt8} {body : Bytes} (hb : StrBody nbe q body)
    (hq : ¬ (q = cBackslash ∧ ¬ nbe)) {X : Bytes} (hX : X.head? ≠ some q) :
    scanStr nbe q (body ++ q :: X) = some (body, X) := by
  induction hb with
  | nil =>
    cases X with
    | nil => simpa [scanStr, Decidable.or_iff_not_imp_right] using hq
    | cons d X' =>
      have hd : d ≠ q := by simpa using hX
      rw [List.nil_append, scanStr, if_neg hq, if_pos rfl, if_neg hd]
  | esc d hn _ ih => rw [List.cons_append, List.cons_append, scanStr, if_pos ⟨rfl, hn⟩, ih]; rfl
  | dbl _ ih =>
    rw [List.cons_append, List.cons_append, scanStr, if_pos rfl, if_pos rfl, ih]
    split <;> rfl
  | @byte c b hc hcq _ ih =>
    obtain ⟨d, r, hdr⟩ : ∃ d r, b ++ q :: X = d :: r := by cases b <;> simp
    rw [List.cons_append, hdr, scanStr, if_neg hc, if_neg hcq, ← hdr, ih]; rfl

theorem scanStr_split (nbe : Bool) (q : UInt8) (t body rest : Bytes)
    (h : scanStr nbe q t = some (body, rest)) : t = body ++ q :: rest := (scanStr_some h).2.1

theorem scanQIdent_split (t body rest : Bytes)
    (h : scanQIdent t = some (body, rest)) : t = body ++ cBQuote :: rest :=
  scanStr_split _ _ _ _ _ (scanQIdent_eq t ▸ h)

theorem scanStr_resuffix {nbe : Bool} {q : UInt8} {t body r : Bytes} (h : scanStr nbe q t = some (body, r))
    {X : Bytes} (hX : X.head? ≠ some q) : scanStr nbe q (body ++ q :: X) = some (body, X) :=
  scanStr_body (scanStr_some h).1 (scanStr_some h).2.2.2 hX

theorem scanQIdent_resuffix {t body r : Bytes} (h : scanQIdent t = some (body, r))
    {X : Bytes} (hX : X.head? ≠ some cBQuote) : scanQIdent (body ++ cBQuote :: X) = some (body, X) := by
  rw [scanQIdent_eq] at h ⊢; exact scanStr_resuffix h hX

/-! ### comments -/

theorem scanBlock_some {t body rest : Bytes} (h : scanBlock t = some (body, rest)) :
    t = body ++ cStar :: cSlash :: rest ∧
      ∀ X, scanBlock (body ++ cStar :: cSlash :: X) = some (body, X) := by
  fun_induction scanBlock t generalizing body rest
  case case1 => cases h
  case case2 => cases h
  case case3 c d r hc =>
    cases h; obtain ⟨rfl, rfl⟩ := hc
    exact ⟨rfl, fun X => by simp [scanBlock]⟩
  case case4 c d r hc ih =>
    obtain ⟨⟨b, r'⟩, hb, heq⟩ := Option.map_eq_some_iff.mp h
    cases heq; obtain ⟨h1, h2⟩ := ih hb
    refine ⟨by rw [h1]; rfl, fun X => ?_⟩
    -- `b ++ "*/" ++ X` goes on with `d`, like `d :: r = b ++ "*/" ++ r'`: no `*/` at `c` there either
    obtain ⟨r2, hr2⟩ : ∃ r2, b ++ cStar :: cSlash :: X = d :: r2 := by
      cases b with
      | nil => exact ⟨cSlash :: X, by rw [List.cons.inj h1 |>.1]; rfl⟩
      | cons b0 b' => exact ⟨b' ++ cStar :: cSlash :: X, by rw [List.cons.inj h1 |>.1]; rfl⟩
    rw [List.cons_append, hr2, scanBlock, if_neg hc, ← hr2, h2]; rfl

theorem scanBlock_split (t body rest : Bytes)
    (h : scanBlock t = some (body, rest)) : t = body ++ cStar :: cSlash :: rest := (scanBlock_some h).1

theorem scanLine_cons (c : UInt8) (rest : Bytes) :
    scanLine (c :: rest) =
      if c = cNewline then ([c], rest) else (c :: (scanLine rest).1, (scanLine rest).2) := by
  simp only [scanLine]

theorem scanLine_split (t : Bytes) : t = (scanLine t).1 ++ (scanLine t).2 := by
  induction t with
  | nil => rfl
  | cons c rest ih =>
    rw [scanLine_cons]
    split
    · rfl
    · simp only [List.cons_append, ← ih]

theorem scanLine_of_no_newline (t : Bytes) (h : cNewline ∉ t) : scanLine t = (t, []) := by
  induction t with
  | nil => rfl
  | cons c r ih =>
    rw [scanLine_cons, if_neg (fun e => h (by simp [e])), ih (fun e => h (by simp [e]))]

theorem scanLine_fst_append (t X : Bytes) (h : cNewline ∈ t) :
    scanLine ((scanLine t).1 ++ X) = ((scanLine t).1, X) := by
  induction t with
  | nil => simp at h
  | cons c r ih =>
    rw [scanLine_cons]
    by_cases hc : c = cNewline
    · simp [hc, scanLine]
    · have hr : cNewline ∈ r := (List.mem_cons.mp h).resolve_left (Ne.symm hc)
      simp only [if_neg hc, List.cons_append]
      rw [scanLine_cons, if_neg hc, ih hr]

def spaceHead : Bytes → Bool
  | e :: _ => isSpaceOrControl e
  | [] => false

theorem dashComment_cons (d : UInt8) (Y : Bytes) : dashComment (d :: Y) = (d == cDash && spaceHead Y) := by
  cases Y <;> simp [dashComment, spaceHead]

theorem dashComment_scanLine (rest X : Bytes) (h : dashComment rest = true) :
    dashComment ((scanLine rest).1 ++ X) = true := by
  match rest, h with
  | d :: e :: r, h =>
    simp only [dashComment, Bool.and_eq_true, beq_iff_eq] at h
    obtain ⟨rfl, he⟩ := h
    rw [scanLine_cons, if_neg (by decide), scanLine_cons]
    split <;> simp [dashComment, he]

/-! ### the first element of a text -/

/-- Nothing begins at the byte `c` in front of `rest`: it is an ordinary byte. -/
def Plain (v : Bool) (c : UInt8) (rest : Bytes) : Prop :=
  ¬ (c = cSQuote ∨ c = cDQuote) ∧ c ≠ cBQuote ∧ ¬ (c = cHash ∨ (c = cDash ∧ dashComment rest = true)) ∧
  ¬ (c = cSlash ∧ rest.head? = some cStar) ∧ ¬ (c = cStar ∧ v = true ∧ rest.head? = some cSlash) ∧ c ≠ cQMark

/-- `LexStep nbe v c rest tok v' rest'`: lexed in `/*! */`-state `v`, the text `c :: rest`
    begins with the element `tok`, behind which `rest'` is left to be lexed in state `v'`.
    One constructor per branch of `lexF`. -/
inductive LexStep (nbe v : Bool) : UInt8 → Bytes → Tok → Bool → Bytes → Prop
  | str {c rest body rest'} : c = cSQuote ∨ c = cDQuote → scanStr nbe c rest = some (body, rest') →
      LexStep nbe v c rest (.str c body) v rest'
  | qident {rest body rest'} : scanQIdent rest = some (body, rest') →
      LexStep nbe v cBQuote rest (.qident body) v rest'
  | line {c rest} : ¬ (c = cSQuote ∨ c = cDQuote) → c ≠ cBQuote →
      c = cHash ∨ (c = cDash ∧ dashComment rest = true) →
      LexStep nbe v c rest (.lineComment (c :: (scanLine rest).1)) v (scanLine rest).2
  | verOpen {rest} : LexStep nbe v cSlash (cStar :: cBang :: rest) .verOpen true rest
  | block {rest body rest'} : rest.head? ≠ some cBang → scanBlock rest = some (body, rest') →
      LexStep nbe v cSlash (cStar :: rest) (.blockComment body) v rest'
  | verClose {rest} : v = true → LexStep nbe v cStar (cSlash :: rest) .verClose false rest
  | param {rest} : LexStep nbe v cQMark rest .param v rest
  | other {c rest} : Plain v c rest → LexStep nbe v c rest (.other c) v rest

/-- A literal, quoted identifier or block comment that begins at `c` is not terminated. -/
def LexFail (nbe : Bool) (c : UInt8) (rest : Bytes) : Prop :=
  ((c = cSQuote ∨ c = cDQuote) ∧ scanStr nbe c rest = none) ∨ (c = cBQuote ∧ scanQIdent rest = none) ∨
  ∃ r, c = cSlash ∧ rest = cStar :: r ∧ r.head? ≠ some cBang ∧ scanBlock r = none

theorem lexStep_total (nbe v : Bool) (c : UInt8) (rest : Bytes) :
    LexFail nbe c rest ∨ ∃ tok v' rest', LexStep nbe v c rest tok v' rest' := by
  by_cases h1 : c = cSQuote ∨ c = cDQuote
  · cases hs : scanStr nbe c rest with
    | none => exact .inl (.inl ⟨h1, hs⟩)
    | some p => exact .inr ⟨_, _, _, .str h1 hs⟩
  by_cases h2 : c = cBQuote
  · subst h2
    cases hs : scanQIdent rest with
    | none => exact .inl (.inr (.inl ⟨rfl, hs⟩))
    | some p => exact .inr ⟨_, _, _, .qident hs⟩
  by_cases h3 : c = cHash ∨ (c = cDash ∧ dashComment rest = true)
  · exact .inr ⟨_, _, _, .line h1 h2 h3⟩
  by_cases h4 : c = cSlash ∧ rest.head? = some cStar
  · obtain ⟨rfl, h4⟩ := h4
    obtain ⟨r, rfl⟩ := List.head?_eq_some_iff.mp h4
    by_cases h5 : r.head? = some cBang
    · obtain ⟨r', rfl⟩ := List.head?_eq_some_iff.mp h5
      exact .inr ⟨_, _, _, .verOpen⟩
    · cases hs : scanBlock r with
      | none => exact .inl (.inr (.inr ⟨r, rfl, rfl, h5, hs⟩))
      | some p => exact .inr ⟨_, _, _, .block h5 hs⟩
  by_cases h6 : c = cStar ∧ v = true ∧ rest.head? = some cSlash
  · obtain ⟨rfl, hv, h6⟩ := h6
    obtain ⟨r, rfl⟩ := List.head?_eq_some_iff.mp h6
    exact .inr ⟨_, _, _, .verClose hv⟩
  by_cases h7 : c = cQMark
  · subst h7; exact .inr ⟨_, _, _, .param⟩
  · exact .inr ⟨_, _, _, .other ⟨h1, h2, h3, h4, h6, h7⟩⟩

theorem LexStep.lexF {nbe v : Bool} {c : UInt8} {rest : Bytes} {tok : Tok} {v' : Bool} {rest' : Bytes}
    (h : LexStep nbe v c rest tok v' rest') (n : Nat) :
    lexF nbe (n + 1) v (c :: rest) = (lexF nbe n v' rest').map (tok :: ·) := by
  cases h with
  | str h1 hs => rw [StmtLex.lexF, if_pos h1, hs]
  | qident hs => rw [StmtLex.lexF, if_neg (by decide), if_pos rfl, hs]
  | line h1 h2 h3 => rw [StmtLex.lexF, if_neg h1, if_neg h2, if_pos h3]
  | verOpen => simp [StmtLex.lexF, cSlash, cStar, cBang, cSQuote, cDQuote, cBQuote, cHash, cDash]
  | block h5 hs =>
    rw [cBang] at h5
    simp [StmtLex.lexF, cSlash, cStar, cSQuote, cDQuote, cBQuote, cHash, cDash, cBang, h5, hs]
  | verClose hv => simp [StmtLex.lexF, cSlash, cStar, cSQuote, cDQuote, cBQuote, cHash, cDash, hv]
  | param => simp [StmtLex.lexF, cQMark, cSlash, cStar, cSQuote, cDQuote, cBQuote, cHash, cDash]
  | other h =>
    obtain ⟨h1, h2, h3, h4, h6, h7⟩ := h
    rw [StmtLex.lexF, if_neg h1, if_neg h2, if_neg h3, if_neg h4, if_neg h6, if_neg h7]

theorem LexFail.lexF {nbe : Bool} {c : UInt8} {rest : Bytes} (h : LexFail nbe c rest) (n : Nat) (v : Bool) :
    lexF nbe (n + 1) v (c :: rest) = none := by
  rcases h with ⟨h1, hs⟩ | ⟨rfl, hs⟩ | ⟨r, rfl, rfl, h5, hs⟩
  · rw [StmtLex.lexF, if_pos h1, hs]
  · rw [StmtLex.lexF, if_neg (by decide), if_pos rfl, hs]
  · rw [cBang] at h5
    simp [StmtLex.lexF, cSlash, cStar, cSQuote, cDQuote, cBQuote, cHash, cDash, cBang, h5, hs]

/-- `Lexes nbe v text toks`: lexed in `/*! */`-state `v`, `text` is the sequence of elements `toks`. -/
inductive Lexes (nbe : Bool) : Bool → Bytes → List Tok → Prop
  | nil : Lexes nbe false [] []
  | cons {v c rest tok v' rest' ts} : LexStep nbe v c rest tok v' rest' → Lexes nbe v' rest' ts →
      Lexes nbe v (c :: rest) (tok :: ts)

theorem Lexes.of_lexF {nbe : Bool} {fuel : Nat} {v : Bool} {text : Bytes} {toks : List Tok}
    (h : lexF nbe fuel v text = some toks) : Lexes nbe v text toks := by
  induction fuel generalizing v text toks with
  | zero => cases h
  | succ n ih =>
    cases text with
    | nil => cases v <;> cases h; exact .nil
    | cons c rest =>
      rcases lexStep_total nbe v c rest with hf | ⟨tok, v', rest', hs⟩
      · rw [hf.lexF] at h; cases h
      · rw [hs.lexF] at h
        obtain ⟨ts, hts, rfl⟩ := Option.map_eq_some_iff.mp h
        exact .cons hs (ih hts)

theorem Lexes.lexF {nbe : Bool} {v : Bool} {text : Bytes} {toks : List Tok} (h : Lexes nbe v text toks) :
    ∀ n, toks.length < n → lexF nbe n v text = some toks := by
  induction h with
  | nil => intro n hn; cases n with | zero => cases hn | succ n => rfl
  | cons hs _ ih =>
    intro n hn
    cases n with
    | zero => cases hn
    | succ n => rw [hs.lexF, ih n (Nat.lt_of_succ_lt_succ hn)]; rfl

/-! ### the token stream covers the text -/

theorem rawOf_cons (t : Tok) (ts : List Tok) : rawOf (t :: ts) = t.raw ++ rawOf ts := by
  simp [rawOf]

theorem rawOf_append (a b : List Tok) : rawOf (a ++ b) = rawOf a ++ rawOf b := by
  simp [rawOf]

theorem LexStep.raw {nbe v : Bool} {c : UInt8} {rest : Bytes} {tok : Tok} {v' : Bool} {rest' : Bytes}
    (h : LexStep nbe v c rest tok v' rest') : c :: rest = tok.raw ++ rest' := by
  cases h with
  | str _ hs => rw [scanStr_split _ _ _ _ _ hs]; simp [Tok.raw]
  | qident hs => rw [scanQIdent_split _ _ _ hs]; simp [Tok.raw]
  | line => exact congrArg _ (scanLine_split _)
  | block _ hs => rw [scanBlock_split _ _ _ hs]; simp [Tok.raw]
  | _ => rfl

theorem Lexes.raw {nbe : Bool} {v : Bool} {text : Bytes} {toks : List Tok} (h : Lexes nbe v text toks) :
    rawOf toks = text := by
  induction h with
  | nil => rfl
  | cons hs _ ih => rw [rawOf_cons, ih, hs.raw]

theorem lexF_raw (nbe : Bool) (fuel : Nat) (v : Bool) (text : Bytes) (toks : List Tok)
    (h : lexF nbe fuel v text = some toks) : rawOf toks = text := (Lexes.of_lexF h).raw

theorem lex_raw (nbe : Bool) (text : Bytes) (toks : List Tok) (h : lex nbe text = some toks) :
    rawOf toks = text := lexF_raw nbe _ false text toks h

/-- What the lexer guarantees of every element it returns, beyond its shape. -/
def Tok.Lexed : Tok → Prop
  | .lineComment raw => ∃ c r, raw = c :: r ∧ (c = cHash ∨ c = cDash)
  | .other b => b ≠ cQMark
  | _ => True

theorem LexStep.lexed {nbe v : Bool} {c : UInt8} {rest : Bytes} {tok : Tok} {v' : Bool} {rest' : Bytes}
    (h : LexStep nbe v c rest tok v' rest') : tok.Lexed := by
  cases h with
  | line _ _ h3 => exact ⟨_, _, rfl, h3.imp id And.left⟩
  | other h => exact h.2.2.2.2.2
  | _ => trivial

theorem Tok.Lexed.raw_ne_nil {t : Tok} (h : t.Lexed) : t.raw ≠ [] := by
  cases t <;> simp [Tok.raw]
  obtain ⟨c, r, rfl, _⟩ := h; simp

theorem LexStep.length {nbe v : Bool} {c : UInt8} {rest : Bytes} {tok : Tok} {v' : Bool} {rest' : Bytes}
    (hs : LexStep nbe v c rest tok v' rest') : rest.length + 1 = tok.len + rest'.length ∧ 0 < tok.len := by
  have := congrArg List.length hs.raw
  rw [List.length_cons, List.length_append] at this
  exact ⟨this, List.length_pos_iff.mpr hs.lexed.raw_ne_nil⟩

theorem Lexes.lexed {nbe : Bool} {v : Bool} {text : Bytes} {toks : List Tok} (h : Lexes nbe v text toks) :
    ∀ t ∈ toks, t.Lexed := by
  induction h with
  | nil => simp
  | cons hs _ ih => exact fun t ht => (List.mem_cons.mp ht).elim (· ▸ hs.lexed) (ih t)

theorem Lexes.head_quote {nbe : Bool} {v : Bool} {r : Bytes} {toks : List Tok}
    (h : Lexes nbe v (cSQuote :: r) toks) : ∃ b ts, toks = Tok.str cSQuote b :: ts := by
  cases h with
  | cons hs _ =>
    cases hs with
    | str => exact ⟨_, _, rfl⟩
    | line h1 => exact absurd (.inl rfl) h1
    | other hp => exact absurd (.inl rfl) hp.1

/-- The lexer never classifies a `?` as an ordinary byte: a `?` in the text
    lies in a string literal, a quoted identifier, a comment, or is a
    parameter marker. -/
theorem lexF_other_ne_qmark (nbe : Bool) (fuel : Nat) (v : Bool) (text : Bytes) (toks : List Tok)
    (h : lexF nbe fuel v text = some toks) : ∀ b, Tok.other b ∈ toks → b ≠ cQMark :=
  fun _ hb => (Lexes.of_lexF h).lexed _ hb

end GaeaVerif.StmtLex

namespace GaeaVerif.C15
open GaeaVerif GaeaVerif.StmtLex

theorem lexF_raw_ne_nil (nbe : Bool) (fuel : Nat) (v : Bool) (text : Bytes) (toks : List Tok)
    (h : lexF nbe fuel v text = some toks) : ∀ t ∈ toks, t.raw ≠ [] :=
  fun t ht => ((Lexes.of_lexF h).lexed t ht).raw_ne_nil

theorem lexF_raw_ne_qmark (nbe : Bool) (fuel : Nat) (v : Bool) (text : Bytes) (toks : List Tok)
    (h : lexF nbe fuel v text = some toks) : ∀ t ∈ toks, t ≠ .param → t.raw ≠ [cQMark] := by
  intro t ht hp
  have := (Lexes.of_lexF h).lexed t ht
  cases t with
  | lineComment raw =>
    obtain ⟨c, r, rfl, hc⟩ := this
    intro e; cases e; revert hc; decide
  | other b => intro e; cases e; exact this rfl
  | param => exact absurd rfl hp
  | _ => simp [Tok.raw]

/-- The fuel of the lexer only has to exceed the number of tokens. -/
theorem lexF_any_fuel (nbe : Bool) (n : Nat) (v : Bool) (t : Bytes) (r : List Tok)
    (h : lexF nbe n v t = some r) : ∀ m, r.length < m → lexF nbe m v t = some r :=
  (Lexes.of_lexF h).lexF

theorem toks_length_le (ts : List Tok) (hne : ∀ t ∈ ts, t.raw ≠ []) : ts.length ≤ (rawOf ts).length := by
  induction ts with
  | nil => simp
  | cons t ts ih =>
    have h1 := List.length_pos_iff.mpr (hne t (by simp))
    have h2 := ih (fun t h => hne t (List.mem_cons_of_mem _ h))
    rw [rawOf_cons, List.length_append, List.length_cons]
    omega

end GaeaVerif.C15

namespace GaeaVerif.StmtLex
open GaeaVerif

/-- The fuel `lex` gives is enough: every element covers at least one byte. -/
theorem Lexes.lex {nbe : Bool} {text : Bytes} {toks : List Tok} (h : Lexes nbe false text toks) :
    lex nbe text = some toks :=
  h.lexF _ (Nat.lt_succ_of_le (h.raw ▸ C15.toks_length_le _ fun t ht => (h.lexed t ht).raw_ne_nil))

/-! ### offsets of the markers -/

theorem paramOffsets_param (i : Nat) (ts : List Tok) :
    paramOffsets i (Tok.param :: ts) = i :: paramOffsets (i + 1) ts := rfl

theorem paramOffsets_nonparam (i : Nat) (t : Tok) (ts : List Tok) (h : t ≠ Tok.param) :
    paramOffsets i (t :: ts) = paramOffsets (i + t.len) ts := by
  cases t with
  | param => exact absurd rfl h
  | _ => rfl

theorem mem_paramOffsets_cons (i : Nat) (t : Tok) (ts : List Tok) (o : Nat) :
    o ∈ paramOffsets i (t :: ts) ↔ (t = .param ∧ o = i) ∨ o ∈ paramOffsets (i + t.len) ts := by
  cases t <;> simp [paramOffsets, Tok.len, Tok.raw]

/-- The reported offsets are exactly the positions of the marker elements in the text. -/
theorem paramOffsets_iff (i : Nat) (toks : List Tok) (o : Nat) :
    o ∈ paramOffsets i toks ↔
      ∃ pre post, toks = pre ++ Tok.param :: post ∧ o = i + (rawOf pre).length := by
  induction toks generalizing i with
  | nil => simp [paramOffsets]
  | cons t ts ih =>
    rw [mem_paramOffsets_cons, ih]
    constructor
    · rintro (⟨rfl, rfl⟩ | ⟨pre, post, rfl, rfl⟩)
      · exact ⟨[], ts, rfl, rfl⟩
      · exact ⟨t :: pre, post, rfl, by simp [rawOf_cons, Tok.len]; omega⟩
    · rintro ⟨pre, post, h1, rfl⟩
      cases pre with
      | nil => cases h1; exact .inl ⟨rfl, rfl⟩
      | cons p pre' => cases h1; exact .inr ⟨pre', post, rfl, by simp [rawOf_cons, Tok.len]; omega⟩

/-! ### the items `CalcParams` cuts -/

/-- The items `CalcParams` cuts a token stream into, the bytes of the current
    piece so far being `cur`. -/
def pieces (cur : Bytes) : List Tok → List Bytes
  | [] => if cur ≠ [] then [cur] else []
  | t :: ts =>
    match t with
    | .param => cur :: [cQMark] :: pieces [] ts
    | t => pieces (cur ++ t.raw) ts

theorem pieces_nonparam (cur : Bytes) (t : Tok) (ts : List Tok) (ht : t ≠ .param) :
    pieces cur (t :: ts) = pieces (cur ++ t.raw) ts := by
  cases t with
  | param => exact absurd rfl ht
  | _ => rfl

theorem cutItems_pieces (toks : List Tok) : ∀ (pre cur : Bytes),
    cutItems (pre ++ cur ++ rawOf toks) pre.length (paramOffsets (pre.length + cur.length) toks) = pieces cur toks := by
  induction toks with
  | nil =>
    intro pre cur
    simp only [rawOf, List.flatMap_nil, List.append_nil, paramOffsets, cutItems, pieces]
    cases cur <;> simp
  | cons t ts ih =>
    intro pre cur
    by_cases ht : t = .param
    · subst ht
      rw [paramOffsets_param]
      simp only [cutItems, pieces]
      have e1 : List.take (pre.length + cur.length - pre.length)
          (List.drop pre.length (pre ++ cur ++ rawOf (Tok.param :: ts))) = cur := by
        simp [List.append_assoc]
      rw [e1]
      have := ih (pre ++ cur ++ [cQMark]) []
      simp only [List.length_append, List.length_cons, List.length_nil, List.append_nil, Nat.add_zero,
        Nat.zero_add] at this
      have e2 : pre ++ cur ++ rawOf (Tok.param :: ts) = pre ++ cur ++ [cQMark] ++ rawOf ts := by
        simp [rawOf_cons, Tok.raw, List.append_assoc]
      rw [e2, this]
    · rw [paramOffsets_nonparam _ t ts ht, pieces_nonparam cur t ts ht]
      have := ih pre (cur ++ t.raw)
      simp only [List.length_append, Tok.len] at this ⊢
      have e2 : pre ++ cur ++ rawOf (t :: ts) = pre ++ (cur ++ t.raw) ++ rawOf ts := by
        simp [rawOf_cons, List.append_assoc]
      rw [e2, ← this]
      congr 2; omega

theorem flatten_pieces (toks : List Tok) : ∀ cur : Bytes, (pieces cur toks).flatten = cur ++ rawOf toks := by
  induction toks with
  | nil => intro cur; simp only [pieces, rawOf]; split <;> simp_all
  | cons t ts ih =>
    intro cur
    by_cases ht : t = .param
    · subst ht; simp [pieces, ih, rawOf_cons, Tok.raw]
    · rw [pieces_nonparam cur t ts ht, ih, rawOf_cons, List.append_assoc]

end GaeaVerif.StmtLex
