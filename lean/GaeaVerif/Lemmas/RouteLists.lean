import GaeaVerif.Model.Route
/-
  Set semantics of the list routines of proxy/plan/util.go on ascending
  duplicate-free lists (helper lemmas for C01/C05).
-/
namespace GaeaVerif.Route

abbrev Sorted (l : List Int) : Prop := l.Pairwise (· < ·)

theorem makeList_mem (s e a : Int) : a ∈ makeList s e ↔ s ≤ a ∧ a < e := by
  unfold makeList
  split
  · simp; omega
  · simp only [List.mem_map, List.mem_range]
    constructor
    · rintro ⟨i, hi, rfl⟩; omega
    · intro h; exact ⟨(a - s).toNat, by omega, by omega⟩

theorem makeList_sorted (s e : Int) : Sorted (makeList s e) := by
  unfold makeList
  split
  · exact List.Pairwise.nil
  · rw [Sorted, List.pairwise_map]
    have : (List.range (e - s).toNat).Pairwise (· < ·) := List.pairwise_lt_range
    exact this.imp (by intro a b h; omega)

theorem interList_sublist (l1 l2 : List Int) : (interList l1 l2).Sublist l1 ∧ (interList l1 l2).Sublist l2 := by
  fun_induction interList l1 l2 with
  | case1 => exact ⟨List.Sublist.refl _, List.nil_sublist _⟩
  | case2 => exact ⟨List.nil_sublist _, List.Sublist.refl _⟩
  | case3 x xs ys ih => exact ⟨ih.1.cons_cons _, ih.2.cons_cons _⟩
  | case4 x xs y ys hne hlt ih => exact ⟨ih.1.cons _, ih.2⟩
  | case5 x xs y ys hne hlt ih => exact ⟨ih.1, ih.2.cons _⟩

theorem mem_of_mem_interList (l1 l2 : List Int) (a : Int) (h : a ∈ interList l1 l2) : a ∈ l1 ∧ a ∈ l2 :=
  ⟨(interList_sublist l1 l2).1.subset h, (interList_sublist l1 l2).2.subset h⟩

theorem head_le_of_sorted {y : Int} {ys : List Int} (h : Sorted (y :: ys)) {a : Int} (ha : a ∈ y :: ys) : y ≤ a := by
  rcases List.mem_cons.mp ha with rfl | ha
  · exact Int.le_refl _
  · exact Int.le_of_lt ((List.pairwise_cons.mp h).1 a ha)

theorem sorted_bounds (l : List Int) (hs : Sorted l) (i : Int) (hi : i ∈ l) : l.headD 0 ≤ i ∧ i ≤ l.getLastD 0 := by
  induction l generalizing i with
  | nil => cases hi
  | cons a as ih =>
    refine ⟨head_le_of_sorted hs hi, ?_⟩
    cases as with
    | nil => simp_all
    | cons b bs =>
      have h2 := List.pairwise_cons.mp hs
      have hlast := fun j hj => (ih h2.2 j hj).2
      simp only [List.getLastD_cons] at hlast ⊢
      rcases List.mem_cons.mp hi with rfl | hi'
      · have := hlast b List.mem_cons_self
        have := h2.1 b List.mem_cons_self
        omega
      · exact hlast i hi'

theorem sorted_append (a b : List Int) (ha : Sorted a) (hb : Sorted b)
    (h : ∀ x y, a.getLast? = some x → b.head? = some y → x < y) : Sorted (a ++ b) := by
  rw [Sorted, List.pairwise_append]
  refine ⟨ha, hb, fun x hx y hy => ?_⟩
  have h1 := (sorted_bounds a ha x hx).2
  have h2 := (sorted_bounds b hb y hy).1
  have := h (a.getLastD 0) (b.headD 0)
    (by cases a with | nil => cases hx | cons _ _ => simp [List.getLastD_eq_getLast?, List.getLast?_cons])
    (by cases b with | nil => cases hy | cons _ _ => rfl)
  omega

theorem interList_mem (l1 l2 : List Int) (h1 : Sorted l1) (h2 : Sorted l2) (a : Int) :
    a ∈ interList l1 l2 ↔ a ∈ l1 ∧ a ∈ l2 := by
  refine ⟨mem_of_mem_interList l1 l2 a, ?_⟩
  -- the loop drops the smaller head, which the other ascending list cannot hold
  fun_induction interList l1 l2 with
  | case1 => simp
  | case2 => simp
  | case3 x xs ys ih =>
    intro ⟨ha, hb⟩
    rcases List.mem_cons.mp ha with rfl | ha
    · exact List.mem_cons_self
    · rcases List.mem_cons.mp hb with rfl | hb
      · exact List.mem_cons_self
      · exact List.mem_cons_of_mem _ (ih (List.pairwise_cons.mp h1).2 (List.pairwise_cons.mp h2).2 ⟨ha, hb⟩)
  | case4 x xs y ys hne hlt ih =>
    intro ⟨ha, hb⟩
    have := head_le_of_sorted h2 hb
    rcases List.mem_cons.mp ha with rfl | ha
    · omega
    · exact ih (List.pairwise_cons.mp h1).2 h2 ⟨ha, hb⟩
  | case5 x xs y ys hne hlt ih =>
    intro ⟨ha, hb⟩
    have := head_le_of_sorted h1 ha
    rcases List.mem_cons.mp hb with rfl | hb
    · omega
    · exact ih h1 (List.pairwise_cons.mp h2).2 ⟨ha, hb⟩

theorem interList_sorted (l1 l2 : List Int) (h1 : Sorted l1) : Sorted (interList l1 l2) :=
  h1.sublist (interList_sublist l1 l2).1

theorem unionList_mem (l1 l2 : List Int) (a : Int) : a ∈ unionList l1 l2 ↔ a ∈ l1 ∨ a ∈ l2 := by
  fun_induction unionList l1 l2 with
  | case1 => simp
  | case2 => simp
  | case3 x xs y ys hlt ih => simp [ih]; grind
  | case4 x xs y ys hnlt hgt ih => simp [ih]; grind
  | case5 x xs y ys hnlt hngt ih =>
    have : x = y := by omega
    subst this; simp [ih]; grind

theorem unionList_sorted (l1 l2 : List Int) (h1 : Sorted l1) (h2 : Sorted l2) : Sorted (unionList l1 l2) := by
  -- the head that is kept is below everything left in either list
  fun_induction unionList l1 l2 with
  | case1 => exact h2
  | case2 => exact h1
  | case3 x xs y ys hlt ih =>
    refine List.pairwise_cons.mpr ⟨fun a ha => ?_, ih (List.pairwise_cons.mp h1).2 h2⟩
    rcases (unionList_mem _ _ _).1 ha with ha | ha
    · exact (List.pairwise_cons.mp h1).1 a ha
    · have := head_le_of_sorted h2 ha; omega
  | case4 x xs y ys hnlt hgt ih =>
    refine List.pairwise_cons.mpr ⟨fun a ha => ?_, ih h1 (List.pairwise_cons.mp h2).2⟩
    rcases (unionList_mem _ _ _).1 ha with ha | ha
    · have := head_le_of_sorted h1 ha; omega
    · exact (List.pairwise_cons.mp h2).1 a ha
  | case5 x xs y ys hnlt hngt ih =>
    have : x = y := by omega
    subst this
    refine List.pairwise_cons.mpr ⟨fun a ha => ?_, ih (List.pairwise_cons.mp h1).2 (List.pairwise_cons.mp h2).2⟩
    rcases (unionList_mem _ _ _).1 ha with ha | ha
    · exact (List.pairwise_cons.mp h1).1 a ha
    · exact (List.pairwise_cons.mp h2).1 a ha

theorem insertUniq_mem (a x : Int) (l : List Int) : x ∈ insertUniq a l ↔ x = a ∨ x ∈ l := by
  induction l with
  | nil => simp [insertUniq]
  | cons b bs ih =>
    simp only [insertUniq]
    split
    · simp
    · split
      · rename_i h; subst h; simp
      · simp [ih]; grind

theorem insertUniq_sorted (a : Int) (l : List Int) (h : Sorted l) : Sorted (insertUniq a l) := by
  induction l with
  | nil => simp [insertUniq, Sorted]
  | cons b bs ih =>
    simp only [insertUniq]
    split
    · refine List.pairwise_cons.mpr ⟨fun c hc => ?_, h⟩
      have := head_le_of_sorted h hc; omega
    · split
      · exact h
      · refine List.pairwise_cons.mpr ⟨fun c hc => ?_, ih (List.pairwise_cons.mp h).2⟩
        rcases (insertUniq_mem _ _ _).1 hc with rfl | hc
        · omega
        · exact (List.pairwise_cons.mp h).1 c hc

theorem sortDedup_mem (l : List Int) (x : Int) : x ∈ sortDedup l ↔ x ∈ l := by
  induction l with
  | nil => simp [sortDedup]
  | cons a as ih => exact (insertUniq_mem a x (sortDedup as)).trans (by simp [ih])

theorem sortDedup_sorted (l : List Int) : Sorted (sortDedup l) := by
  induction l with
  | nil => simp [sortDedup, Sorted]
  | cons a as ih => exact insertUniq_sorted a _ ih

end GaeaVerif.Route
