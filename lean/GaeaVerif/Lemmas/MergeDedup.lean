import GaeaVerif.Model.MergeSql
/-
  C02 helper lemmas: first occurrences (`dedup`, `dedupBy`).
-/
namespace GaeaVerif.Merge

section Dedup
variable {α : Type} [DecidableEq α]

theorem mem_dedupAux : ∀ (l seen : List α) (a : α), a ∈ dedupAux seen l ↔ a ∈ l ∧ a ∉ seen
  | [], _, _ => by simp [dedupAux]
  | b :: l, seen, a => by
    simp only [dedupAux]
    split
    · rename_i hb
      rw [mem_dedupAux l seen a]
      constructor
      · rintro ⟨h1, h2⟩; exact ⟨by simp [h1], h2⟩
      · rintro ⟨h1, h2⟩
        rcases List.mem_cons.mp h1 with rfl | h1
        · exact absurd hb h2
        · exact ⟨h1, h2⟩
    · rename_i hb
      rw [List.mem_cons, mem_dedupAux l (b :: seen) a]
      constructor
      · rintro (rfl | ⟨h1, h2⟩)
        · exact ⟨by simp, hb⟩
        · exact ⟨by simp [h1], fun h => h2 (by simp [h])⟩
      · rintro ⟨h1, h2⟩
        by_cases e : a = b
        · left; exact e
        · right
          rcases List.mem_cons.mp h1 with rfl | h1
          · exact absurd rfl e
          · exact ⟨h1, by simp [e, h2]⟩

theorem mem_dedup (l : List α) (a : α) : a ∈ dedup l ↔ a ∈ l := by
  simp [dedup, mem_dedupAux]

theorem nodup_dedupAux : ∀ (l seen : List α), (dedupAux seen l).Nodup
  | [], _ => by simp [dedupAux]
  | b :: l, seen => by
    simp only [dedupAux]
    split
    · exact nodup_dedupAux l seen
    · rw [List.nodup_cons]
      refine ⟨?_, nodup_dedupAux l (b :: seen)⟩
      rw [mem_dedupAux]; simp

theorem nodup_dedup (l : List α) : (dedup l).Nodup := nodup_dedupAux l []

theorem dedupAux_append_singleton : ∀ (l seen : List α) (a : α),
    dedupAux seen (l ++ [a]) = if a ∈ seen ∨ a ∈ l then dedupAux seen l else dedupAux seen l ++ [a]
  | [], seen, a => by
    by_cases h : a ∈ seen <;> simp [dedupAux, h]
  | b :: l, seen, a => by
    simp only [List.cons_append, dedupAux]
    split
    · rename_i hb
      rw [dedupAux_append_singleton l seen a]
      by_cases h1 : a ∈ seen
      · simp [h1]
      · by_cases h2 : a ∈ l
        · simp [h2]
        · have : a ≠ b := fun e => h1 (e ▸ hb)
          simp [h1, h2, this]
    · rename_i hb
      rw [dedupAux_append_singleton l (b :: seen) a]
      by_cases h0 : a = b
      · subst h0; simp
      · by_cases h1 : a ∈ seen
        · simp [h1]
        · by_cases h2 : a ∈ l
          · simp [h2]
          · simp [h0, h1, h2]

theorem dedup_append_singleton (l : List α) (a : α) :
    dedup (l ++ [a]) = if a ∈ l then dedup l else dedup l ++ [a] := by
  simp [dedup, dedupAux_append_singleton]

theorem dedup_perm_of_mem_iff {l1 l2 : List α} (h : ∀ a, a ∈ l1 ↔ a ∈ l2) : (dedup l1).Perm (dedup l2) := by
  rw [List.perm_ext_iff_of_nodup (nodup_dedup _) (nodup_dedup _)]
  intro a
  rw [mem_dedup, mem_dedup, h]

theorem dedupAux_eq_dedupByAux : ∀ (l seen : List α), dedupAux seen l = dedupByAux id seen l
  | [], _ => rfl
  | a :: l, seen => by
    simp only [dedupAux, dedupByAux, id, dedupAux_eq_dedupByAux l]

end Dedup

section DedupBy
variable {α β γ : Type}

theorem mem_of_mem_dedupByAux [DecidableEq β] (f : α → β) : ∀ (l : List α) (seen : List β) (x : α), x ∈ dedupByAux f seen l → x ∈ l
  | [], _, _, h => by simp [dedupByAux] at h
  | a :: l, seen, x, h => by
    simp only [dedupByAux] at h
    split at h
    · exact List.mem_cons_of_mem _ (mem_of_mem_dedupByAux f l seen x h)
    · rcases List.mem_cons.mp h with rfl | h
      · exact List.mem_cons_self
      · exact List.mem_cons_of_mem _ (mem_of_mem_dedupByAux f l _ x h)

theorem mem_of_mem_dedupBy [DecidableEq β] (f : α → β) {l : List α} {x : α} (h : x ∈ dedupBy f l) : x ∈ l :=
  mem_of_mem_dedupByAux f l [] x h

theorem dedupByAux_comp_inj [DecidableEq β] [DecidableEq γ] (h : α → β) (f : β → γ) {S : List β} (hinj : ∀ a ∈ S, ∀ b ∈ S, f a = f b → a = b) :
    ∀ (l : List α) (seen : List β), (∀ b ∈ seen, b ∈ S) → (∀ a ∈ l, h a ∈ S) →
    dedupByAux (fun x => f (h x)) (seen.map f) l = dedupByAux h seen l
  | [], _, _, _ => rfl
  | a :: l, seen, hs, hl => by
    have ha := hl a List.mem_cons_self
    have hl' := fun x hx => hl x (List.mem_cons_of_mem _ hx)
    have hiff : f (h a) ∈ seen.map f ↔ h a ∈ seen :=
      ⟨fun hm => by obtain ⟨b, hb, e⟩ := List.mem_map.mp hm; exact hinj b (hs b hb) _ ha e ▸ hb,
        List.mem_map_of_mem⟩
    simp only [dedupByAux, hiff]
    split
    · exact dedupByAux_comp_inj h f hinj l seen hs hl'
    · congr 1
      exact dedupByAux_comp_inj h f hinj l (h a :: seen) (List.forall_mem_cons.mpr ⟨ha, hs⟩) hl'

theorem dedupBy_eq_dedup [DecidableEq α] [DecidableEq β] (f : α → β) (l : List α) (hinj : ∀ a ∈ l, ∀ b ∈ l, f a = f b → a = b) :
    dedupBy f l = dedup l :=
  (dedupByAux_comp_inj id f hinj l [] (by simp) (fun _ ha => ha)).trans (dedupAux_eq_dedupByAux l []).symm

theorem dedupByAux_map {δ : Type} [DecidableEq γ] (f : β → γ) (g : δ → β) : ∀ (l : List δ) (seen : List γ),
    dedupByAux f seen (l.map g) = (dedupByAux (fun x => f (g x)) seen l).map g
  | [], _ => rfl
  | a :: l, seen => by
    simp only [List.map_cons, dedupByAux]
    split
    · exact dedupByAux_map f g l seen
    · simp only [List.map_cons]; congr 1; exact dedupByAux_map f g l _

theorem map_dedupBy [DecidableEq β] (f : α → β) (l : List α) : (dedupBy f l).map f = dedup (l.map f) :=
  ((dedupAux_eq_dedupByAux _ _).trans (dedupByAux_map id f l [])).symm

theorem dedupByAux_of_nodup [DecidableEq β] (f : α → β) : ∀ (l : List α) (seen : List β),
    (l.map f).Nodup → (∀ a ∈ l, f a ∉ seen) → dedupByAux f seen l = l
  | [], _, _, _ => rfl
  | a :: l, seen, hnd, hs => by
    simp only [List.map_cons, List.nodup_cons] at hnd
    simp only [dedupByAux]
    rw [if_neg (hs a List.mem_cons_self)]
    congr 1
    apply dedupByAux_of_nodup f l (f a :: seen) hnd.2
    intro b hb
    simp only [List.mem_cons, not_or]
    exact ⟨fun e => hnd.1 (e ▸ List.mem_map_of_mem hb), hs b (List.mem_cons_of_mem _ hb)⟩

theorem dedupBy_of_nodup [DecidableEq β] (f : α → β) (l : List α) (h : (l.map f).Nodup) : dedupBy f l = l :=
  dedupByAux_of_nodup f l [] h (by simp)

theorem dedup_of_nodup [DecidableEq α] (l : List α) (h : l.Nodup) : dedup l = l :=
  (dedupAux_eq_dedupByAux l []).trans (dedupBy_of_nodup id l (by simpa using h))

theorem dedupBy_le_one [DecidableEq β] (f : α → β) (l : List α) (h : l.length ≤ 1) : dedupBy f l = l :=
  dedupBy_of_nodup f l (by match l, h with | [], _ => simp | [a], _ => simp)

end DedupBy

end GaeaVerif.Merge
