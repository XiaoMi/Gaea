import GaeaVerif.Lemmas.MergeRow
import GaeaVerif.Model.MergeLead
/-
  C02 helper lemmas: GROUP BY statements whose ORDER BY starts with the GROUP BY
  columns.  The leading ORDER BY keys induce an order on the group keys
  (`leG`) that is total, transitive and antisymmetric on the keys present; the
  comparison of two groups by the whole ORDER BY key is decided by it.
-/
namespace GaeaVerif.Merge

theorem leadCols_mem (g : List Nat) : ∀ (keys : List (Item × Bool)), ∀ c ∈ leadCols g keys, c ∈ g
  | [], c, h => by simp [leadCols] at h
  | (.col x, d) :: ks, c, h => by
    simp only [leadCols] at h
    split at h
    · rename_i hx
      rcases List.mem_cons.mp h with rfl | h
      · simpa using hx
      · exact leadCols_mem g ks c h
    · simp at h
  | (.agg _ _ _, _) :: _, c, h => by simp [leadCols] at h
  | (.const _, _) :: _, c, h => by simp [leadCols] at h

theorem leadCols_take (g : List Nat) : ∀ (keys : List (Item × Bool)),
    (keys.take (leadCols g keys).length).map (·.1) = (leadCols g keys).map Item.col
  | [] => by simp [leadCols]
  | (.col x, d) :: ks => by
    simp only [leadCols]
    split
    · simp [leadCols_take g ks]
    · simp
  | (.agg _ _ _, _) :: _ => by simp [leadCols]
  | (.const _, _) :: _ => by simp [leadCols]

theorem leadCols_length_le (g : List Nat) (keys : List (Item × Bool)) : (leadCols g keys).length ≤ keys.length := by
  have := congrArg List.length (leadCols_take g keys)
  simp at this
  omega

theorem getD_map_idxOf {α β : Type} [BEq α] [LawfulBEq α] (f : α → β) (d : β) {l : List α} {a : α}
    (h : a ∈ l) : (l.map f).getD (l.idxOf a) d = f a := by
  have hlt := List.idxOf_lt_length_of_mem h
  simp [List.getD, List.getElem?_eq_getElem hlt, List.getElem_idxOf hlt]

/-- the leading ORDER BY values of a group, read from its key -/
def projKey (g lead : List Nat) (κ : List Val) : List Val := lead.map fun c => κ.getD (g.idxOf c) .null

/-- the order of the groups: the leading ORDER BY keys on the GROUP BY key -/
def leG (g lead : List Nat) (dirs : List Bool) (κ κ' : List Val) : Bool :=
  leKey (dirs.take lead.length) (projKey g lead κ) (projKey g lead κ')

theorem leG_total (g lead : List Nat) (dirs : List Bool) (a b : List Val) :
    (leG g lead dirs a b || leG g lead dirs b a) = true :=
  leKey_total _ _ _

theorem leG_trans (g lead : List Nat) (dirs : List Bool) (a b c : List Val) :
    leG g lead dirs a b = true → leG g lead dirs b c = true → leG g lead dirs a c = true :=
  leKey_trans _ _ _ _

theorem projKey_groupKey (g lead : List Nat) (hl : ∀ c ∈ lead, c ∈ g) (r : Row) :
    projKey g lead (groupKey g r) = lead.map fun c => r.getD c .null :=
  List.map_congr_left fun c hc => getD_map_idxOf (fun c => r.getD c .null) .null (hl c hc)

theorem leG_antisymm_cov (g : List Nat) (keys : List (Item × Bool)) (hcov : leadCovers g keys = true) (r r' : Row)
    (h1 : leG g (leadCols g keys) (keys.map (·.2)) (groupKey g r) (groupKey g r') = true)
    (h2 : leG g (leadCols g keys) (keys.map (·.2)) (groupKey g r') (groupKey g r) = true) :
    groupKey g r = groupKey g r' := by
  simp only [leG, projKey_groupKey g _ (leadCols_mem g keys)] at h1 h2
  have hget := leKey_eqv_getD _ _ _ h1 h2
  have hlen := leadCols_length_le g keys
  refine List.map_congr_left fun c hcg => ?_
  obtain ⟨i, hi, rfl⟩ := List.getElem_of_mem (by simpa using List.all_eq_true.mp hcov c hcg : c ∈ leadCols g keys)
  simpa [List.getD, hi] using hget i (by simp; omega)

theorem keys_lead (g : List Nat) (keys : List (Item × Bool)) (r : Row) (rs : List Row) :
    (keys.map fun k => evalItem (r :: rs) k.1) =
      ((leadCols g keys).map fun c => r.getD c .null) ++
        ((keys.drop (leadCols g keys).length).map fun k => evalItem (r :: rs) k.1) := by
  conv => lhs; rw [← List.take_append_drop (leadCols g keys).length keys]
  rw [List.map_append]
  congr 1
  simpa only [List.map_map, Function.comp_def, evalItem] using
    congrArg (List.map (evalItem (r :: rs))) (leadCols_take g keys)

theorem leKey_groups (g : List Nat) (keys : List (Item × Bool)) (r r' : Row) (rs rs' : List Row) :
    leKey (keys.map (·.2)) (keys.map fun k => evalItem (r :: rs) k.1) (keys.map fun k => evalItem (r' :: rs') k.1) =
      if leG g (leadCols g keys) (keys.map (·.2)) (groupKey g r) (groupKey g r') &&
         leG g (leadCols g keys) (keys.map (·.2)) (groupKey g r') (groupKey g r)
      then leKey ((keys.map (·.2)).drop (leadCols g keys).length)
        ((keys.drop (leadCols g keys).length).map fun k => evalItem (r :: rs) k.1)
        ((keys.drop (leadCols g keys).length).map fun k => evalItem (r' :: rs') k.1)
      else leG g (leadCols g keys) (keys.map (·.2)) (groupKey g r) (groupKey g r') := by
  have hl := leadCols_mem g keys
  have hlen := leadCols_length_le g keys
  rw [keys_lead g keys r rs, keys_lead g keys r' rs']
  conv => lhs; rw [← List.take_append_drop (leadCols g keys).length (keys.map (·.2))]
  rw [leKey_append]
  have hlt : ((keys.map (·.2)).take (leadCols g keys).length).length = (leadCols g keys).length := by
    simp; omega
  simp only [hlt, leG, projKey_groupKey g _ hl]
  rw [leKey_append_left _ _ _ _ _ (by simp [hlt]) (by simp [hlt]),
    leKey_append_left _ _ _ _ _ (by simp [hlt]) (by simp [hlt])]
  simp

theorem leKey_groups_le (g : List Nat) (keys : List (Item × Bool)) (r r' : Row) (rs rs' : List Row)
    (h : leKey (keys.map (·.2)) (keys.map fun k => evalItem (r :: rs) k.1)
      (keys.map fun k => evalItem (r' :: rs') k.1) = true) :
    leG g (leadCols g keys) (keys.map (·.2)) (groupKey g r) (groupKey g r') = true := by
  rw [leKey_groups g keys r r' rs rs'] at h
  split at h
  · rename_i hb
    simp only [Bool.and_eq_true] at hb
    exact hb.1
  · exact h

theorem leKey_groups_ne (g : List Nat) (keys : List (Item × Bool)) (r r' : Row) (rs rs' : List Row)
    (hne : groupKey g r ≠ groupKey g r') (hcov : leadCovers g keys = true) :
    leKey (keys.map (·.2)) (keys.map fun k => evalItem (r :: rs) k.1) (keys.map fun k => evalItem (r' :: rs') k.1) =
      leG g (leadCols g keys) (keys.map (·.2)) (groupKey g r) (groupKey g r') := by
  rw [leKey_groups g keys r r' rs rs', if_neg]
  intro hboth
  simp only [Bool.and_eq_true] at hboth
  exact hne (leG_antisymm_cov g keys hcov r r' hboth.1 hboth.2)

end GaeaVerif.Merge
