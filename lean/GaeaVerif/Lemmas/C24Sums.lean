import GaeaVerif.Model.ResourcePool
/-
  Definitions for C24: sums over the thread list, the per-thread measures of the inductive
  invariant with their tables, and the thread-local view `Local` of the invariant.
-/
namespace GaeaVerif.C24
open GaeaVerif.ResourcePool

def sumN (f : Thread → Nat) (l : List Thread) : Nat := (l.map f).sum
def sumI (f : Thread → Int) (l : List Thread) : Int := (l.map f).sum

@[simp] theorem sumN_nil (f : Thread → Nat) : sumN f [] = 0 := rfl
@[simp] theorem sumN_cons (f : Thread → Nat) (t : Thread) (l : List Thread) :
    sumN f (t :: l) = f t + sumN f l := by simp [sumN]
@[simp] theorem sumI_nil (f : Thread → Int) : sumI f [] = 0 := rfl
@[simp] theorem sumI_cons (f : Thread → Int) (t : Thread) (l : List Thread) :
    sumI f (t :: l) = f t + sumI f l := by simp [sumI]

theorem sumN_append (f : Thread → Nat) (l m : List Thread) : sumN f (l ++ m) = sumN f l + sumN f m := by
  simp [sumN]

theorem sumI_append (f : Thread → Int) (l m : List Thread) : sumI f (l ++ m) = sumI f l + sumI f m := by
  simp [sumI]

theorem sumN_eraseIdx (f : Thread → Nat) (l : List Thread) (i : Nat) (t : Thread) (h : l[i]? = some t) :
    sumN f l = f t + sumN f (l.eraseIdx i) := by
  induction l generalizing i with
  | nil => simp at h
  | cons a l ih =>
    cases i with
    | zero => simp at h; subst h; simp
    | succ i => simp at h; have := ih i h; simp; omega

theorem sumN_set (f : Thread → Nat) (l : List Thread) (i : Nat) (t x : Thread) (h : l[i]? = some t) :
    sumN f (l.set i x) + f t = sumN f l + f x := by
  have hi : i < l.length := (List.getElem?_eq_some_iff.mp h).1
  have := sumN_eraseIdx f (l.set i x) i x (by simp [hi])
  rw [List.eraseIdx_set_eq] at this
  have := sumN_eraseIdx f l i t h
  omega

theorem sumI_set (f : Thread → Int) (l : List Thread) (i : Nat) (t x : Thread) (h : l[i]? = some t) :
    sumI f (l.set i x) + f t = sumI f l + f x := by
  induction l generalizing i with
  | nil => simp at h
  | cons a l ih =>
    cases i with
    | zero => simp at h; subst h; simp; omega
    | succ i => simp at h; have := ih i h; simp; omega

theorem sumN_elem_le (f : Thread → Nat) (l : List Thread) (i : Nat) (t : Thread) (h : l[i]? = some t) :
    f t ≤ sumN f l := by
  have := sumN_eraseIdx f l i t h
  omega

theorem sumN_eq_zero_of_sumN_eq_zero (f g : Thread → Nat) (hfg : ∀ t, g t = 0 → f t = 0) (l : List Thread)
    (h : sumN g l = 0) : sumN f l = 0 := by
  induction l with
  | nil => simp
  | cons a l ih =>
    simp at h ⊢
    exact ⟨hfg a h.1, ih h.2⟩

theorem sumN_map_zero {α : Type} (f : Thread → Nat) (g : α → Thread) (hz : ∀ x, f (g x) = 0) (l : List α) :
    sumN f (l.map g) = 0 := by
  induction l with
  | nil => simp
  | cons a l ih => simp [hz, ih]

theorem sumI_map_zero {α : Type} (f : Thread → Int) (g : α → Thread) (hz : ∀ x, f (g x) = 0) (l : List α) :
    sumI f (l.map g) = 0 := by
  induction l with
  | nil => simp
  | cons a l ih => simp [hz, ih]

theorem sumN_le_of (f g : Thread → Nat) (h : ∀ t, f t ≤ g t) (l : List Thread) : sumN f l ≤ sumN g l := by
  induction l with
  | nil => simp
  | cons a l ih => have := h a; simp; omega

theorem sumN_congr (f g : Thread → Nat) (l : List Thread) (h : ∀ t ∈ l, f t = g t) : sumN f l = sumN g l := by
  induction l with
  | nil => simp
  | cons a l ih =>
    have h1 := h a (by simp)
    have h2 := ih (fun t ht => h t (by simp [ht]))
    simp; omega

theorem sumN_eq_zero (f : Thread → Nat) (l : List Thread) (h : ∀ t ∈ l, f t = 0) : sumN f l = 0 := by
  induction l with
  | nil => simp
  | cons a l ih =>
    have h1 := h a (by simp)
    have h2 := ih (fun t ht => h t (by simp [ht]))
    simp; omega

theorem sumI_eq_zero (f : Thread → Int) (l : List Thread) (h : ∀ t ∈ l, f t = 0) : sumI f l = 0 := by
  induction l with
  | nil => simp
  | cons a l ih =>
    have h1 := h a (by simp)
    have h2 := ih (fun t ht => h t (by simp [ht]))
    simp; omega

theorem sumN_two_le (f : Thread → Nat) (l : List Thread) (i j : Nat) (a b : Thread) (hij : i ≠ j)
    (hi : l[i]? = some a) (hj : l[j]? = some b) : f a + f b ≤ sumN f l := by
  obtain ⟨k, hk⟩ := List.mem_iff_getElem?.mp (List.mem_eraseIdx_iff_getElem?.mpr ⟨j, fun e => hij e.symm, hj⟩)
  have := sumN_elem_le f _ k b hk
  have := sumN_eraseIdx f l i a hi
  omega

theorem sumN_eq_of_others_zero (f g : Thread → Nat) (hfg : ∀ t, g t = 0 → f t = 0)
    (l : List Thread) (i : Nat) (t : Thread) (h : l[i]? = some t) (hg : sumN g l ≤ g t) :
    sumN f l = f t := by
  have := sumN_eraseIdx g l i t h
  have := sumN_eq_zero_of_sumN_eq_zero f g hfg (l.eraseIdx i) (by omega)
  have := sumN_eraseIdx f l i t h
  omega

theorem exists_of_sumN_pos (f : Thread → Nat) (hle : ∀ t, f t ≤ 1) (l : List Thread) (h : 0 < sumN f l) :
    ∃ (j : Nat) (u : Thread), l[j]? = some u ∧ f u = 1 := by
  induction l with
  | nil => simp at h
  | cons a l ih =>
    simp at h
    by_cases ha : 0 < f a
    · exact ⟨0, a, rfl, by have := hle a; omega⟩
    · obtain ⟨j, u, hj, hu⟩ := ih (by omega)
      exact ⟨j + 1, u, hj, hu⟩

/-- Slots (tokens) a thread holds inside an operation, by program counter. -/
def pcTok : Pc → Nat
  | .soAvail _ | .gMake _ | .gFailSend | .gAct _ | .gAvail _ | .gInUse _
  | .pAct | .pSend _ | .cAct _ _ | .cSend _ _ _ => 1
  | .soRelease _ ok => if ok then 1 else 0
  | .soUnlock _ ok _ => if ok then 1 else 0
  | _ => 0

/-- Slots held by a thread: inside an operation, or as resources of its client. -/
def tok (t : Thread) : Nat := pcTok t.pc + t.held.length

/-- Slots a growing ScaleCapacity still has to put into the channel. -/
def growP (t : Thread) : Nat :=
  match t.pc with
  | .sGrowSend c old i => (c - old - i).toNat
  | .sGrowAvail c old i => (c - old - i - 1).toNat
  | _ => 0

/-- Slots a shrinking ScaleCapacity still has to take out of the channel: the
    capacity counter is already lowered by them. -/
def closeP (t : Thread) : Nat :=
  match t.pc with
  | .sShrRecv c old i => (old - c - i).toNat
  | .sShrAct c old i | .sShrAvail c old i => (old - c - i - 1).toNat
  | _ => 0

/-- 1 for a thread that holds the `scaling` semaphore: ScaleCapacity between
    Acquire and the deferred Release, a scale-out between TryAcquire and Release. -/
def holder (t : Thread) : Nat :=
  match t.pc with
  | .soCap2 _ | .soAdd _ _ | .soAvail _ | .soRelease _ _
  | .sLoad _ | .sCas _ _ | .sShrRecv _ _ _ | .sShrAct _ _ _ | .sShrAvail _ _ _
  | .sGrowSend _ _ _ | .sGrowAvail _ _ _ | .sClose | .sUnlock => 1
  | _ => 0

/-- 1 for a thread inside the shrink/grow loops of ScaleCapacity or about to close the channel. -/
def inLoop (t : Thread) : Nat :=
  match t.pc with
  | .sShrRecv _ _ _ | .sShrAct _ _ _ | .sShrAvail _ _ _
  | .sGrowSend _ _ _ | .sGrowAvail _ _ _ | .sClose => 1
  | _ => 0

/-- A ScaleCapacity(0) after its swap: the capacity counter is 0 and stays 0. -/
def zeroing (t : Thread) : Prop :=
  match t.pc with
  | .sShrRecv c _ _ | .sShrAct c _ _ | .sShrAvail c _ _ => c = 0
  | .sClose => True
  | _ => False

/-- 1 for a thread inside closeIdleResources. -/
def sweepF (t : Thread) : Nat :=
  match t.pc with
  | .cLoad | .cRecv _ _ | .cAct _ _ | .cSend _ _ _ => 1
  | _ => 0

/-- 1 for a thread inside scaleInResources (the timer callback, not its goroutine). -/
def tickF (t : Thread) : Nat :=
  match t.pc with
  | .tLock | .tCap | .tTodo | .tUnlock => 1
  | _ => 0

/-- 1 for a thread that holds `rp.lock`. -/
def lockW (t : Thread) : Nat :=
  match t.pc with
  | .soCap _ | .soTry _ | .soCap2 _ | .soAdd _ _ | .soAvail _ | .soRelease _ _ | .soUnlock _ _ _
  | .tCap | .tTodo | .tUnlock => 1
  | _ => 0

/-- Contribution of a thread to the `inUse` counter. -/
def inUseW (t : Thread) : Nat :=
  t.held.length + (match t.pc with | .pAct | .pSend _ | .pInUse => 1 | _ => 0)

/-- Lag of the `available` counter behind the channel length caused by a thread. -/
def avW (t : Thread) : Int :=
  match t.pc with
  | .gMake _ | .gFailSend | .gAct _ | .gAvail _ | .cAct _ _ | .cSend _ _ _
  | .sShrAct _ _ _ | .sShrAvail _ _ _ => 1
  | .soRelease _ ok => if ok then 1 else 0
  | .soUnlock _ ok _ => if ok then 1 else 0
  | .pInUse | .pAvail | .sGrowAvail _ _ _ => -1
  | _ => 0

/-- Program-counter assertions (facts about a thread's local variables). -/
def A (maxCap : Nat) (t : Thread) : Prop :=
  match t.pc with
  | .soAdd _ c => 0 < c ∧ c < maxCap
  | .sLock c | .sLoad c => 0 ≤ c ∧ c ≤ maxCap
  | .sCas c old => 0 ≤ c ∧ c ≤ maxCap ∧ old ≠ 0 ∧ old ≠ c
  | .sShrRecv c old i | .sShrAct c old i | .sShrAvail c old i => 0 ≤ c ∧ 0 ≤ i ∧ i < old - c
  | .sGrowSend c old i | .sGrowAvail c old i => 0 < c ∧ 0 ≤ i ∧ i < c - old
  | _ => True

def b2n (b : Bool) : Nat := if b then 1 else 0
@[simp] theorem b2n_true : b2n true = 1 := rfl
@[simp] theorem b2n_false : b2n false = 0 := rfl
theorem b2n_le_one (b : Bool) : b2n b ≤ 1 := by cases b <;> simp
theorem b2n_pos {b : Bool} (h : 0 < b2n b) : b = true := by cases b <;> simp_all

theorem holder_le_one (t : Thread) : holder t ≤ 1 := by
  obtain ⟨prog, pc, held, child⟩ := t
  cases pc <;> simp [holder]

theorem lockW_le_one (t : Thread) : lockW t ≤ 1 := by
  obtain ⟨prog, pc, held, child⟩ := t
  cases pc <;> simp [lockW]

theorem sweepF_le_one (t : Thread) : sweepF t ≤ 1 := by
  obtain ⟨prog, pc, held, child⟩ := t
  cases pc <;> simp [sweepF]

theorem tickF_le_one (t : Thread) : tickF t ≤ 1 := by
  obtain ⟨prog, pc, held, child⟩ := t
  cases pc <;> simp [tickF]

theorem inLoop_le_holder (t : Thread) : inLoop t ≤ holder t := by
  obtain ⟨prog, pc, held, child⟩ := t
  cases pc <;> simp [holder, inLoop]

theorem closeP_zero_of_inLoop (t : Thread) (h : inLoop t = 0) : closeP t = 0 := by
  obtain ⟨prog, pc, held, child⟩ := t
  cases pc <;> simp_all [inLoop, closeP]

theorem inLoop_zero_of_holder (t : Thread) (h : holder t = 0) : inLoop t = 0 := by
  have := inLoop_le_holder t; omega

theorem closeP_zero_of_holder (t : Thread) (h : holder t = 0) : closeP t = 0 :=
  closeP_zero_of_inLoop t (inLoop_zero_of_holder t h)

/-! ## Resource occurrences (for "no resource is issued twice") -/

def slotRes (r : Nat) : Slot → Nat
  | some x => if x = r then 1 else 0
  | none => 0

def pcRes (r : Nat) : Pc → Nat
  | .gAct x | .gAvail x | .gInUse x => if x = r then 1 else 0
  | .pSend w => slotRes r w
  | .cSend _ _ w => slotRes r w
  | _ => 0

/-- Occurrences of resource `r` at a thread: held by its client or carried by
    the operation in progress. -/
def resW (r : Nat) (t : Thread) : Nat := t.held.count r + pcRes r t.pc

def evIsPanic : Ev → Bool
  | .panicPutFull | .panicPutClosed | .panicSendClosed | .panicCloseClosed => true
  | _ => false

/-- The fragment Get / Put / Put(nil) / sweep / Close. -/
def basicOp : Op → Bool
  | .get _ | .put | .drop | .sweep | .close | .age => true
  | _ => false

/-- The compare-and-swap of the holder of the semaphore sees the value it loaded. -/
def casOk (p : Pool) (t : Thread) : Prop :=
  match t.pc with
  | .soAdd _ c => p.capacity = c
  | .sCas _ old => p.capacity = old
  | _ => True

theorem casOk_of_not_holder (p : Pool) (t : Thread) (h : holder t = 0) : casOk p t := by
  obtain ⟨prog, pc, held, child⟩ := t
  cases pc <;> simp_all [holder, casOk]

theorem casOk_congr {p q : Pool} {t : Thread} (h : q.capacity = p.capacity) (hc : casOk p t) : casOk q t := by
  obtain ⟨prog, pc, held, child⟩ := t
  cases pc <;> simp_all [casOk]

/-- A bound on the steps the holder of the semaphore still takes before it releases
    it (the capacity counter only changes by its own steps). -/
def rank (p : Pool) (t : Thread) : Nat :=
  match t.pc with
  | .soCap2 _ => 4 | .soAdd _ _ => 3 | .soAvail _ => 2 | .soRelease _ _ => 1
  | .sLoad c => 3 * (p.capacity - c).toNat + 2 * (c - p.capacity).toNat + 4
  | .sCas c old => 3 * (old - c).toNat + 2 * (c - old).toNat + 3
  | .sShrRecv c old i => 3 * (old - c - i).toNat + 2
  | .sShrAct c old i => 3 * (old - c - i - 1).toNat + 4
  | .sShrAvail c old i => 3 * (old - c - i - 1).toNat + 3
  | .sGrowSend c old i => 2 * (c - old - i).toNat + 2
  | .sGrowAvail c old i => 2 * (c - old - i - 1).toNat + 3
  | .sClose => 2 | .sUnlock => 1
  | _ => 0

theorem rank_congr {p q : Pool} (t : Thread) (h : q.capacity = p.capacity) : rank q t = rank p t := by
  obtain ⟨prog, pc, held, child⟩ := t
  cases pc <;> simp_all [rank]

/-- The same for `rp.lock`: a bound on the steps left before the unlock. -/
def lockRank (t : Thread) : Nat :=
  match t.pc with
  | .soCap _ => 7 | .soTry _ => 6 | .soCap2 _ => 5 | .soAdd _ _ => 4 | .soAvail _ => 3
  | .soRelease _ _ => 2 | .soUnlock _ _ _ => 1
  | .tCap => 3 | .tTodo => 2 | .tUnlock => 1
  | _ => 0

/-- What the invariant says about one thread against the pool: the hypothesis of the lemmas about one
    step (C24Ledger, C24Capacity) and of `enabled_or_blocked` (C24Blocked). -/
structure Local (p : Pool) (t : Thread) : Prop where
  asserts : A p.maxCap t
  closed : p.closed = true → tok t = 0 ∧ growP t = 0 ∧ inLoop t = 0
  room : p.chan.length + tok t + growP t ≤ p.maxCap
  zero : zeroing t → p.capacity = 0
  scaling : holder t = 1 → p.scaling = true
  bound : p.capacity + closeP t ≤ p.maxCap
  capNonneg : 0 ≤ p.capacity

end GaeaVerif.C24
