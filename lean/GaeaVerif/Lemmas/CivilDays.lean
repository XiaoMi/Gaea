import GaeaVerif.Model.ShardPlace
/-
  The civil-from-days function of Model/ShardPlace.lean (`civilOfDays`, the
  executable instance of the time-zone parameter `civilOf` of C09) runs forward:
  the day number `year·10000 + month·100 + day` is strictly increasing in the
  day count, and month and day stay within 1…12 and 1…31.  `RouteCal.fixedZone_ok`
  (Lemmas/RouteCalendar.lean) discharges with it the monotone-placement
  hypotheses of the calendar rules of C01 for unix timestamp keys in a zone
  with a fixed offset.

  The proof decomposes a day of the 400-year era into century, 4-year cycle,
  year and day of year, and checks the closed formulas of the algorithm against
  that decomposition.  `omega` is kept to few variables at a time: quotients are
  settled by `div_of_rem` from an explicit remainder and then hidden from it.
-/
namespace GaeaVerif.CivilDays
open GaeaVerif.ShardPlace

/-- `YYYYMMDD` as a number (the function `C09.compactNum`, `CalKind.num .day` of Lemmas/RouteCalendar.lean). -/
def civilNum (c : Civil) : Int := c.year * 10000 + c.month * 100 + c.day

/-- `civilOfDays` by parts.  `yoeOf`: the year of the era, 365 into day `doe` of the 400-year era less
    the leap days gone by; `doyOf` the day of that year (years begin on 1 March). -/
def yoeOf (doe : Int) : Int := (doe - doe / 1460 + doe / 36524 - doe / 146096) / 365
def doyOf (doe : Int) : Int := doe - (365 * yoeOf doe + yoeOf doe / 4 - yoeOf doe / 100)

theorem div_of_rem {a k r : Int} (b : Int) (hb : 0 < b) (h : a = b * k + r) (hr : 0 ≤ r ∧ r < b) :
    a / b = k :=
  ((Int.ediv_emod_unique hb).mpr ⟨by rw [h, Int.add_comm], hr⟩).1

/-- Day `doe` of the era is day `u` of year `t` of 4-year cycle `q` of century `c`. -/
structure Decomp (doe c q t u : Int) : Prop where
  eq : doe = 36524 * c + 1461 * q + 365 * t + u
  hc : 0 ≤ c ∧ c ≤ 3
  hq : 0 ≤ q ∧ q ≤ 24
  ht : 0 ≤ t ∧ t ≤ 3
  hu : 0 ≤ u ∧ u ≤ 365
  leap : u = 365 → t = 3 ∧ (q < 24 ∨ c = 3)

theorem dec_exists (doe : Int) (h : 0 ≤ doe ∧ doe < 146097) : ∃ c q t u, Decomp doe c q t u := by
  -- the last day of the era and the last day of a 4-year cycle are day 365 of their year
  by_cases hl : doe = 146096
  · exact ⟨3, 24, 3, 365, by omega, by omega, by omega, by omega, by omega, fun _ => by omega⟩
  · by_cases h4 : doe % 36524 % 1461 = 1460
    · exact ⟨doe / 36524, doe % 36524 / 1461, 3, 365, by omega, by omega, by omega, by omega, by omega,
        fun _ => by omega⟩
    · exact ⟨doe / 36524, doe % 36524 / 1461, doe % 36524 % 1461 / 365, doe % 36524 % 1461 % 365,
        by omega, by omega, by omega, by omega, by omega, fun _ => by omega⟩

/-- 1460-day blocks run ahead of the 4-year cycles by the `24c + q` leap days gone by; `e` says
    whether they have got a whole block ahead. -/
theorem dec_blocks (doe c q t u : Int) (h : Decomp doe c q t u) :
    ∃ e, (0 ≤ e ∧ e ≤ 1 ∧ (u = 0 → e = 0) ∧ (u = 365 → e = 1)) ∧ doe / 1460 = 25 * c + q + e := by
  obtain ⟨eq, hc, hq, ht, hu, leap⟩ := h
  by_cases hw : 24 * c + q + 365 * t + u < 1460
  · exact ⟨0, by omega, div_of_rem 1460 (by decide) (r := 24 * c + q + 365 * t + u) (by omega) (by omega)⟩
  · exact ⟨1, by omega,
      div_of_rem 1460 (by decide) (r := 24 * c + q + 365 * t + u - 1460) (by omega) (by omega)⟩

/-- The two century corrections disagree on the last day of the era only, and cancel there. -/
theorem dec_centuries (doe c q t u : Int) (h : Decomp doe c q t u) : doe / 36524 - doe / 146096 = c := by
  obtain ⟨eq, hc, hq, ht, hu, leap⟩ := h
  by_cases hl : doe = 146096
  · have : c = 3 := by omega
    rw [hl, this]; decide
  · rw [div_of_rem 36524 (by decide) (k := c) (r := 1461 * q + 365 * t + u) (by omega) (by omega),
      div_of_rem 146096 (by decide) (k := 0) (r := doe) (by omega) (by omega)]; omega

theorem dec_yoe (doe c q t u : Int) (h : Decomp doe c q t u) : yoeOf doe = 100 * c + 4 * q + t := by
  obtain ⟨e, he, hA⟩ := dec_blocks doe c q t u h
  have hBC := dec_centuries doe c q t u h
  have eq := h.eq
  have hu := h.hu
  unfold yoeOf
  -- with the quotients known the rest is linear: keep them out of `omega`'s sight
  generalize doe / 1460 = A at *
  generalize doe / 36524 = B at *
  generalize doe / 146096 = C at *
  exact div_of_rem 365 (by decide) (r := u - e) (by omega) (by omega)

theorem dec_doy (doe c q t u : Int) (h : Decomp doe c q t u) : doyOf doe = u := by
  have hy := dec_yoe doe c q t u h
  obtain ⟨eq, hc, hq, ht, hu, leap⟩ := h
  unfold doyOf; rw [hy]; omega

/-- Day `u` of a year that begins on 1 March: month counted from March (`mpOf`), calendar month, day of
    the month; `hOf` is `month·100 + day`, with 10000 more for January and February, which belong to
    the next calendar year (so `civilNum = year of the era · 10000 + hOf`: `compact_eq`). -/
def mpOf (u : Int) : Int := (5 * u + 2) / 153
def mOf (u : Int) : Int := if mpOf u < 10 then mpOf u + 3 else mpOf u - 9
def dOf (u : Int) : Int := u - (153 * mpOf u + 2) / 5 + 1
def hOf (u : Int) : Int := (if mOf u ≤ 2 then 10000 else 0) + mOf u * 100 + dOf u

theorem md_bounds (u : Int) (h : 0 ≤ u ∧ u ≤ 365) : 1 ≤ mOf u ∧ mOf u ≤ 12 ∧ 1 ≤ dOf u ∧ dOf u ≤ 31 := by
  unfold mOf dOf mpOf; split <;> omega

/-- March-based months keep their order when January and February move to the next year. -/
theorem h_eq (u : Int) (h : 0 ≤ u ∧ u ≤ 365) :
    hOf u = mpOf u * 100 + (if mpOf u < 10 then 300 else 9100) + dOf u := by
  have : 0 ≤ mpOf u ∧ mpOf u ≤ 11 := by unfold mpOf; omega
  unfold hOf mOf
  by_cases hp : mpOf u < 10
  · rw [if_pos hp, if_pos hp, if_neg (by omega)]; omega
  · rw [if_neg hp, if_neg hp, if_pos (by omega)]; omega

theorem h_mono (u u' : Int) (h : 0 ≤ u) (h' : u' ≤ 365) (hlt : u < u') : hOf u < hOf u' := by
  have hp : mpOf u ≤ mpOf u' := by unfold mpOf; omega
  have hd := (md_bounds u (by omega)).2.2
  have hd' := (md_bounds u' (by omega)).2.2
  rw [h_eq u (by omega), h_eq u' (by omega)]
  by_cases e : mpOf u = mpOf u'
  · -- the same month: the day moves on
    have : dOf u < dOf u' := by unfold dOf; rw [e]; omega
    rw [e]; omega
  · -- a later month outweighs any day
    generalize mpOf u = p at *
    generalize mpOf u' = p' at *
    generalize dOf u = d at *
    generalize dOf u' = d' at *
    split <;> split <;> omega

theorem h_bounds (u : Int) (h : 0 ≤ u ∧ u ≤ 365) : 301 ≤ hOf u ∧ hOf u ≤ 10231 := by
  have := md_bounds u h
  unfold hOf
  generalize mOf u = m at *
  generalize dOf u = d at *
  split <;> omega

theorem civil_eq (z : Int) :
    civilOfDays z =
      let doe := (z + 719468) % 146097
      let era := (z + 719468) / 146097
      let u := doyOf doe
      { year := if mOf u ≤ 2 then yoeOf doe + era * 400 + 1 else yoeOf doe + era * 400,
        month := (mOf u).toNat, day := (dOf u).toNat } := by
  rfl

theorem doe_range (z : Int) : 0 ≤ (z + 719468) % 146097 ∧ (z + 719468) % 146097 < 146097 := by omega

theorem yoe_doy_bounds (doe : Int) (h : 0 ≤ doe ∧ doe < 146097) :
    0 ≤ yoeOf doe ∧ yoeOf doe ≤ 399 ∧ 0 ≤ doyOf doe ∧ doyOf doe ≤ 365 := by
  obtain ⟨c, q, t, u, hd⟩ := dec_exists doe h
  rw [dec_yoe doe c q t u hd, dec_doy doe c q t u hd]
  obtain ⟨eq, hc, hq, ht, hu, leap⟩ := hd
  omega

theorem compact_eq (z : Int) :
    civilNum (civilOfDays z) =
      (yoeOf ((z + 719468) % 146097) + (z + 719468) / 146097 * 400) * 10000 + hOf (doyOf ((z + 719468) % 146097)) := by
  rw [civil_eq]
  have hb := yoe_doy_bounds _ (doe_range z)
  have hm := md_bounds (doyOf ((z + 719468) % 146097)) ⟨hb.2.2.1, hb.2.2.2⟩
  simp only [civilNum, hOf]
  split <;> omega

/-- The first day of a later year of the era lies at least 365 days further on. -/
theorem yearStart_mono (y y' : Int) (h : y' < y) :
    365 * y' + y' / 4 - y' / 100 + 365 ≤ 365 * y + y / 4 - y / 100 := by
  omega

/-- Within an era: an earlier year, or the same year and an earlier day of it. -/
theorem within_era_mono (doe doe' : Int) (h : 0 ≤ doe) (hlt : doe < doe') (h' : doe' < 146097) :
    yoeOf doe * 10000 + hOf (doyOf doe) < yoeOf doe' * 10000 + hOf (doyOf doe') := by
  have b1 := yoe_doy_bounds doe ⟨h, by omega⟩
  have b2 := yoe_doy_bounds doe' ⟨by omega, h'⟩
  have hh1 := h_bounds _ ⟨b1.2.2.1, b1.2.2.2⟩
  have hh2 := h_bounds _ ⟨b2.2.2.1, b2.2.2.2⟩
  have e1 : doyOf doe = doe - (365 * yoeOf doe + yoeOf doe / 4 - yoeOf doe / 100) := rfl
  have e2 : doyOf doe' = doe' - (365 * yoeOf doe' + yoeOf doe' / 4 - yoeOf doe' / 100) := rfl
  by_cases hyy : yoeOf doe = yoeOf doe'
  · have := h_mono _ _ b1.2.2.1 b2.2.2.2 (by rw [e1, e2, hyy]; omega)
    rw [hyy]; omega
  · by_cases hgt : yoeOf doe' < yoeOf doe
    · have := yearStart_mono _ _ hgt
      omega
    · omega

theorem civil_strict_mono (z z' : Int) (h : z < z') : civilNum (civilOfDays z) < civilNum (civilOfDays z') := by
  rw [compact_eq, compact_eq]
  have r1 := doe_range z
  have r2 := doe_range z'
  by_cases he : (z + 719468) / 146097 = (z' + 719468) / 146097
  · have := within_era_mono _ _ r1.1 (by omega) r2.2
    rw [← he]; omega
  · -- a later era: 400 years outweigh any year and day of an era
    have b1 := yoe_doy_bounds _ r1
    have b2 := yoe_doy_bounds _ r2
    have hh1 := h_bounds _ ⟨b1.2.2.1, b1.2.2.2⟩
    have hh2 := h_bounds _ ⟨b2.2.2.1, b2.2.2.2⟩
    have : (z + 719468) / 146097 < (z' + 719468) / 146097 := by omega
    omega

theorem civil_bounds (z : Int) : 1 ≤ (civilOfDays z).month ∧ (civilOfDays z).month ≤ 12 ∧
    1 ≤ (civilOfDays z).day ∧ (civilOfDays z).day ≤ 31 := by
  rw [civil_eq]
  have hb := yoe_doy_bounds _ (doe_range z)
  have hm := md_bounds (doyOf ((z + 719468) % 146097)) ⟨hb.2.2.1, hb.2.2.2⟩
  simp only
  omega

end GaeaVerif.CivilDays
