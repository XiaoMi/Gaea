import GaeaVerif.Model.ShardPlace
import GaeaVerif.Spec.Mycat
import GaeaVerif.Lemmas.ShardStr
/-
  The loops of `MycatPartitionLongShard.Init` (shard_mycat.go): for valid
  parameters they run without a panic and fill `segment` so that every slot
  holds the index of the partition whose interval of slots contains it
  (`MycatSpec.segmentOf`).
-/
namespace GaeaVerif.ShardLemmas
open GaeaVerif.ShardGo GaeaVerif.ShardPlace

/-! ### prefix sums: the array `ai` -/

def psums (s : Int) : List Nat → List Int
  | [] => [s]
  | l :: ls => s :: psums (s + l) ls

theorem psums_length (s : Int) (l : List Nat) : (psums s l).length = l.length + 1 := by
  induction l generalizing s with
  | nil => rfl
  | cons a as ih => simp [psums, ih]

theorem psums_snoc (s : Int) (l : List Nat) (x : Nat) :
    psums s (l ++ [x]) = psums s l ++ [s + total l + x] := by
  induction l generalizing s with
  | nil => simp [psums, total_nil]
  | cons a as ih => simp only [List.cons_append, psums, ih, total_cons]; congr 2; simp; omega

theorem psums_get (s : Int) (done rest : List Nat) (tail : List Int) :
    (psums s (done ++ rest) ++ tail).getD done.length 0 = s + total done := by
  induction done generalizing s with
  | nil => cases rest <;> simp [psums, total_nil]
  | cons a as ih =>
    simp only [List.cons_append, psums, List.length_cons, List.getD_cons_succ, total_cons]
    rw [ih]; omega

theorem getD_append_len (A : List Int) (v : Int) (Z : List Int) : (A ++ v :: Z).getD A.length 0 = v := by
  simp

/-! ### array reads and writes that stay in range -/

theorem arrSet_at (A : List Int) (x v : Int) (Z : List Int) (i : Int) (hi : i = A.length) :
    arrSet (A ++ x :: Z) i v = .ok (A ++ v :: Z) := by
  subst hi
  unfold arrSet
  rw [if_pos ⟨by omega, by simp; omega⟩, Int.toNat_natCast]
  simp

theorem arrGet_psums (s : Int) (done rest : List Nat) (tail : List Int) (i : Int) (hi : i = done.length) :
    arrGet (psums s (done ++ rest) ++ tail) i = .ok (s + total done) := by
  subst hi
  unfold arrGet
  rw [if_pos ⟨by omega, by simp [psums_length]; omega⟩, Int.toNat_natCast, psums_get]

/-! ### the loop that fills `ai` -/

/-- Body of the inner loop of `initAi` for partition group `i`. -/
def aiStep (lengthList : List Int) (i : Nat) (st : List Int × Int) : Out (List Int × Int) :=
  match arrGet st.1 st.2, arrGet lengthList i with
  | .ok prev, .ok l =>
    match arrSet st.1 (st.2 + 1) (prev + l) with
    | .ok ai' => .ok (ai', st.2 + 1)
    | _ => .panic
  | _, _ => .panic

theorem initAi_unfold (countList lengthList ai0 : List Int) :
    initAi countList lengthList ai0 =
      forRange 0 countList.length (fun i st =>
        forRange 0 (countList.getD i 0).toNat (fun _ st => aiStep lengthList i st) st) (ai0, 0) := rfl

theorem aiStep_ok (lengthList : List Int) (i : Nat) (l : Nat) (hl : arrGet lengthList i = .ok (l : Int))
    (done : List Nat) (z : Nat) :
    aiStep lengthList i (psums 0 done ++ List.replicate (z + 1) 0, (done.length : Int)) =
      .ok (psums 0 (done ++ [l]) ++ List.replicate z 0, ((done ++ [l]).length : Int)) := by
  have h1 := arrGet_psums 0 done [] (0 :: List.replicate z 0) done.length rfl
  rw [List.append_nil] at h1
  unfold aiStep
  simp only [List.replicate_succ, h1, hl]
  rw [arrSet_at _ _ _ _ _ (by rw [psums_length]; rfl), psums_snoc]
  simp

/-- The inner loop of `initAi` for a group of `c` partitions of length `l`: with the prefix sums of `done` in
    place and `z + c` zeros behind them, it appends the `c` further sums and uses up `c` of the zeros. -/
theorem aiInner (lengthList : List Int) (i : Nat) (l : Nat) (hl : arrGet lengthList i = .ok (l : Int))
    (c : Nat) (k0 : Nat) (done : List Nat) (z : Nat) :
    forRange k0 c (fun _ st => aiStep lengthList i st)
        (psums 0 done ++ List.replicate (z + c) 0, (done.length : Int)) =
      .ok (psums 0 (done ++ List.replicate c l) ++ List.replicate z 0,
           ((done ++ List.replicate c l).length : Int)) := by
  induction c generalizing k0 done with
  | zero => simp [forRange]
  | succ c ih =>
    rw [forRange, show z + (c + 1) = (z + c) + 1 from rfl]
    simp only [aiStep_ok lengthList i l hl done (z + c), ih (k0 + 1) (done ++ [l])]
    simp [List.replicate_succ]

theorem arrGet_ints (l : List Nat) (i : Nat) (h : i < l.length) : arrGet (ints l) i = .ok (l[i] : Int) := by
  unfold arrGet
  rw [if_pos ⟨by omega, by simp [ints]; omega⟩]
  simp [ints, List.getD_eq_getElem?_getD, h]

/-- The outer loop of `initAi` with the groups `cpre`, `lpre` behind it and `crest`, `lrest` to go. -/
theorem aiOuter (cpre lpre crest lrest : List Nat) (hpre : cpre.length = lpre.length)
    (hrest : crest.length = lrest.length) (done : List Nat) (z : Nat) :
    forRange cpre.length crest.length (fun i st =>
        forRange 0 ((ints (cpre ++ crest)).getD i 0).toNat
          (fun _ st => aiStep (ints (lpre ++ lrest)) i st) st)
        (psums 0 done ++ List.replicate (z + (MycatSpec.segmentLengths crest lrest).length) 0, (done.length : Int)) =
      .ok (psums 0 (done ++ MycatSpec.segmentLengths crest lrest) ++ List.replicate z 0,
           ((done ++ MycatSpec.segmentLengths crest lrest).length : Int)) := by
  induction crest generalizing cpre lpre lrest done with
  | nil => simp [forRange, MycatSpec.segmentLengths]
  | cons c crest ih =>
    obtain _ | ⟨l, lrest⟩ := lrest
    · cases hrest
    have hc : ((ints (cpre ++ c :: crest)).getD cpre.length 0).toNat = c := by simp [ints]
    have hl : arrGet (ints (lpre ++ l :: lrest)) cpre.length = .ok (l : Int) := by
      rw [hpre]; exact (arrGet_ints _ _ (by simp)).trans (by simp)
    have e : z + (MycatSpec.segmentLengths (c :: crest) (l :: lrest)).length =
        (z + (MycatSpec.segmentLengths crest lrest).length) + c := by
      simp [MycatSpec.segmentLengths]; omega
    have hi := ih (cpre ++ [c]) (lpre ++ [l]) lrest (by simp [hpre]) (by simpa using hrest)
      (done ++ List.replicate c l)
    rw [List.length_cons, forRange, hc, e]
    simp only [aiInner _ cpre.length l hl c 0 done]
    rw [List.append_assoc, List.append_assoc, List.singleton_append, List.singleton_append, List.length_append,
      List.length_singleton] at hi
    rw [hi]
    simp [MycatSpec.segmentLengths, List.append_assoc]

theorem segmentLengths_length (count length : List Nat) (hlen : count.length = length.length) :
    (MycatSpec.segmentLengths count length).length = total count := by
  induction count generalizing length with
  | nil => simp [MycatSpec.segmentLengths, total_nil]
  | cons c cs ih =>
    cases length with
    | nil => simp at hlen
    | cons l ls =>
      simp only [MycatSpec.segmentLengths, List.zip_cons_cons, List.flatMap_cons, List.length_append,
        List.length_replicate, total_cons]
      have := ih ls (by simpa using hlen)
      simp only [MycatSpec.segmentLengths] at this
      rw [this]

theorem validPartition_iff (count length : List Nat) :
    MycatSpec.validPartition count length = true ↔
      count.length = length.length ∧ total (MycatSpec.segmentLengths count length) = 1024 := by
  unfold MycatSpec.validPartition total
  rw [Bool.and_eq_true, beq_iff_eq, beq_iff_eq]

theorem initAi_eq (count length : List Nat) (hlen : count.length = length.length) :
    initAi (ints count) (ints length)
        (List.replicate (total count + 1) 0) =
      .ok (psums 0 (MycatSpec.segmentLengths count length), (total count : Int)) := by
  rw [initAi_unfold]
  have h := aiOuter [] [] count length rfl hlen [] 0
  simp only [segmentLengths_length count length hlen, List.length_nil, List.nil_append, Nat.zero_add] at h
  have e1 : List.replicate (total count + 1) (0 : Int) = psums 0 [] ++ List.replicate (total count) 0 := by
    simp [psums, List.replicate_succ]
  have e2 : (ints count).length = count.length := by simp [ints]
  rw [e1, e2]
  simpa using h

/-! ### the loop that fills `segment` -/

/-- The finished table: `l` slots holding `j0`, then the next partition, … -/
def segTable (j0 : Nat) : List Nat → List Int
  | [] => []
  | l :: ls => List.replicate l (j0 : Int) ++ segTable (j0 + 1) ls

theorem segTable_length (j0 : Nat) (lens : List Nat) : (segTable j0 lens).length = total lens := by
  induction lens generalizing j0 with
  | nil => rfl
  | cons l ls ih => simp [segTable, ih, total_cons]

theorem segTable_snoc (j0 : Nat) (done : List Nat) (l : Nat) :
    segTable j0 (done ++ [l]) = segTable j0 done ++ List.replicate l ((j0 + done.length : Nat) : Int) := by
  induction done generalizing j0 with
  | nil => simp [segTable]
  | cons a as ih =>
    simp only [List.cons_append, segTable, ih, List.append_assoc, List.length_cons]
    congr 3; omega

/-- The inner loop of `initSegment`: `n` writes of `v` from the end of `A` on replace `n` of the zeros behind it. -/
theorem forRange_arrSet_replicate (lo v : Int) (n k0 : Nat) (A : List Int) (hA : (A.length : Int) = lo + k0) (z : Nat) :
    forRange k0 n (fun k seg => arrSet seg (lo + k) v) (A ++ List.replicate (z + n) 0) =
      .ok (A ++ List.replicate n v ++ List.replicate z 0) := by
  induction n generalizing k0 A with
  | zero => simp [forRange]
  | succ n ih =>
    rw [forRange, show z + (n + 1) = (z + n) + 1 from rfl, List.replicate_succ]
    simp only [arrSet_at A 0 v _ (lo + k0) hA.symm]
    have := ih (k0 + 1) (A ++ [v]) (by simp; omega)
    simp only [List.append_assoc, List.singleton_append] at this
    rw [this]
    simp [List.replicate_succ]

theorem initSegment_unfold (ai seg0 : List Int) :
    initSegment ai seg0 =
      forRange 1 (ai.length - 1) (fun i seg =>
        match arrGet ai ((i : Int) - 1), arrGet ai i with
        | .ok lo, .ok hi =>
          forRange 0 (hi - lo).toNat (fun k seg => arrSet seg (lo + k) ((i : Int) - 1)) seg
        | _, _ => .panic) seg0 := rfl

/-- The outer loop of `initSegment` with the partitions `done` behind it and `rest` to go: the table holds
    `segTable 0 done`, then zeros, and each round turns the next `l` zeros into the index of its partition. -/
theorem segOuter (rest done : List Nat) (z : Nat) :
    forRange (done.length + 1) rest.length (fun i seg =>
        match arrGet (psums 0 (done ++ rest)) ((i : Int) - 1), arrGet (psums 0 (done ++ rest)) i with
        | .ok lo, .ok hi =>
          forRange 0 (hi - lo).toNat (fun k seg => arrSet seg (lo + k) ((i : Int) - 1)) seg
        | _, _ => .panic) (segTable 0 done ++ List.replicate (z + total rest) 0) =
      .ok (segTable 0 (done ++ rest) ++ List.replicate z 0) := by
  induction rest generalizing done with
  | nil => simp [forRange, total_nil]
  | cons l rest ih =>
    -- `ai[i-1]` and `ai[i]` for `i = len(done) + 1`
    have g1 := arrGet_psums 0 done (l :: rest) [] (((done.length + 1 : Nat) : Int) - 1) (by omega)
    have g2 := arrGet_psums 0 (done ++ [l]) rest [] ((done.length + 1 : Nat) : Int) (by simp)
    rw [List.append_nil] at g1 g2
    rw [List.append_assoc, List.singleton_append, total_append, total_cons, total_nil] at g2
    simp only [Int.zero_add, Nat.add_zero] at g1 g2
    rw [List.length_cons, forRange]
    simp only [g1, g2]
    have hn : (((total done + l : Nat) : Int) - total done).toNat = l := by omega
    have hz : z + total (l :: rest) = (z + total rest) + l := by rw [total_cons]; omega
    rw [hn, hz, forRange_arrSet_replicate _ _ l 0 (segTable 0 done) (by simp [segTable_length]) (z + total rest)]
    have hv : (((done.length + 1 : Nat) : Int) - 1) = ((0 + done.length : Nat) : Int) := by omega
    have hi := ih (done ++ [l])
    rw [List.append_assoc, List.singleton_append, List.length_append, List.length_singleton] at hi
    rw [hv, ← segTable_snoc]
    exact hi

/-- **For valid parameters `Init` succeeds and `segment` is the table of partition
    indexes** (every slot 0 … 1023 holds its partition). -/
theorem initLists_ok (count length : List Nat) (hv : MycatSpec.validPartition count length = true) :
    MycatPartitionLongShard.initLists (total count) (ints count) (ints length) =
      .ok (segTable 0 (MycatSpec.segmentLengths count length)) := by
  obtain ⟨hlen, htot'⟩ := (validPartition_iff count length).mp hv
  unfold MycatPartitionLongShard.initLists
  have e1 : (ints count).length = (ints length).length := by simp [ints, hlen]
  rw [if_neg (by simp [e1]), sumInts_map]
  simp only [ne_eq, not_true_eq_false, if_false]
  rw [if_neg (by omega)]
  have e2 : ((total count : Int) + 1).toNat = total count + 1 := by omega
  rw [e2, initAi_eq count length hlen]
  simp only
  have hl : (psums 0 (MycatSpec.segmentLengths count length)).length =
      (MycatSpec.segmentLengths count length).length + 1 := psums_length _ _
  have g := arrGet_psums 0 (MycatSpec.segmentLengths count length) [] []
    (((psums 0 (MycatSpec.segmentLengths count length)).length : Int) - 1) (by omega)
  rw [List.append_nil, List.append_nil, htot'] at g
  rw [g]
  simp only [PartitionLength]
  rw [initSegment_unfold, hl, Nat.add_sub_cancel]
  have h := segOuter (MycatSpec.segmentLengths count length) [] 0
  have e3 : segTable 0 [] = [] := rfl
  simp only [List.nil_append, List.length_nil, Nat.zero_add, htot', e3, List.replicate_zero,
    List.append_nil] at h
  exact h

/-! ### the table against the reference's `segmentOf` -/

theorem segmentOf_cons_lt {l slot : Nat} (ls : List Nat) (h : slot < l) :
    MycatSpec.segmentOf (l :: ls) slot = some 0 := by
  rw [MycatSpec.segmentOf, if_pos h]

theorem segmentOf_cons_ge {l slot : Nat} (ls : List Nat) (h : ¬ slot < l) :
    MycatSpec.segmentOf (l :: ls) slot = (MycatSpec.segmentOf ls (slot - l)).map (· + 1) := by
  rw [MycatSpec.segmentOf, if_neg h]

theorem segTable_get (lens : List Nat) (j0 slot i : Nat) (h : MycatSpec.segmentOf lens slot = some i) :
    (segTable j0 lens).getD slot 0 = ((j0 + i : Nat) : Int) := by
  induction lens generalizing j0 slot i with
  | nil => simp [MycatSpec.segmentOf] at h
  | cons l ls ih =>
    unfold segTable
    by_cases hs : slot < l
    · rw [segmentOf_cons_lt ls hs] at h
      cases h
      rw [List.getD_eq_getElem?_getD, List.getElem?_append_left (by simpa using hs)]
      simp [hs]
    · rw [segmentOf_cons_ge ls hs] at h
      obtain ⟨i', hr, rfl⟩ := Option.map_eq_some_iff.mp h
      rw [List.getD_eq_getElem?_getD, List.getElem?_append_right (by simp; omega), List.length_replicate,
        ← List.getD_eq_getElem?_getD, ih (j0 + 1) (slot - l) i' hr]
      congr 1; omega

theorem segmentOf_isSome (lens : List Nat) (slot : Nat) (h : slot < total lens) :
    ∃ i, MycatSpec.segmentOf lens slot = some i ∧ i < lens.length := by
  induction lens generalizing slot with
  | nil => simp [total_nil] at h
  | cons l ls ih =>
    by_cases hs : slot < l
    · exact ⟨0, segmentOf_cons_lt ls hs, by simp⟩
    · rw [total_cons] at h
      obtain ⟨i, hi, hlt⟩ := ih (slot - l) (by omega)
      exact ⟨i + 1, by rw [segmentOf_cons_ge ls hs, hi]; rfl, by simp; omega⟩

end GaeaVerif.ShardLemmas
