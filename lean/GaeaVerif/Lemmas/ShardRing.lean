import GaeaVerif.Model.ShardPlace
import GaeaVerif.Spec.Mycat
import GaeaVerif.Lemmas.ShardStr
/-
  From `MycatPartitionMurmurHashShard` (shard_mycat.go, util/murmur.go) to Mycat's
  PartitionByMurmurHash (Spec/Mycat.lean), in three parts.
  * The murmur3-32 arithmetic of util/murmur.go (int64 products truncated to int32, rotation
    spelled as two shifts) equals Guava's 32-bit arithmetic: `HashUnencodedChars_eq`.
  * The key-sorted association list with `tmPut` / `tmCeiling` / `tmMin` (the model of the gods
    tree map in shard_mycat.go) against Java's `TreeMap` as the reference describes it: after a
    sequence of puts, `get` returns the last value put under a key, `tailMap(h).firstKey()` is
    the least key `≥ h`: `ring_ceiling`.
  * `generateBucketMap` (shard_mycat.go) performs exactly the puts of Mycat's
    `generateBucketMap`: same node names (`SHARD-i-NODE-0-NODE-1…`), same hashes, same order:
    `generateBucketMap_eq`.
-/
namespace GaeaVerif.ShardLemmas
open GaeaVerif.ShardGo GaeaVerif.ShardPlace

theorem trunc_mul (k : BitVec 32) (c : BitVec 64) :
    ((k.signExtend 64) * c).setWidth 32 = k * c.setWidth 32 := by
  rw [BitVec.setWidth_mul _ _ (by decide)]
  congr 1
  -- truncating the sign extension gives `k` back: bit `i < 32` of it is bit `i` of `k`
  ext i hi
  rw [BitVec.getElem_setWidth, BitVec.getLsbD_signExtend]
  simp only [hi, Nat.lt_trans hi (by decide : 32 < 64), decide_true, Bool.true_and, ↓reduceIte,
    BitVec.getLsbD_eq_getElem]

theorem rotl_eq (x : BitVec 32) (d : Nat) (hd : d < 32) : ShardPlace.rotateLeft x d = x.rotateLeft d := by
  unfold ShardPlace.rotateLeft
  rw [BitVec.rotateLeft_def]
  simp [Nat.mod_eq_of_lt hd]

theorem mixK1_eq (k : BitVec 32) : ShardPlace.mixK1 k = MycatSpec.mixK1 k := by
  unfold ShardPlace.mixK1 MycatSpec.mixK1
  simp only [trunc_mul, rotl_eq _ 15 (by decide)]
  rfl

theorem mixH1_eq (h k : BitVec 32) : ShardPlace.mixH1 h k = MycatSpec.mixH1 h k := by
  unfold ShardPlace.mixH1 MycatSpec.mixH1
  simp only [rotl_eq _ 13 (by decide)]
  rw [BitVec.setWidth_add _ _ (by decide), trunc_mul]
  rfl

theorem fmix_eq (h l : BitVec 32) : ShardPlace.fmix h l = MycatSpec.fmix h l := rfl

theorem murmurBody_eq (l : List Nat) (h : BitVec 32) : murmurBody l h = MycatSpec.hashChars l h := by
  fun_induction murmurBody l h with
  | case1 u0 u1 rest h ih => unfold MycatSpec.hashChars; rw [← mixK1_eq, ← mixH1_eq, ih]
  | case2 u0 h => unfold MycatSpec.hashChars; rw [mixK1_eq]
  | case3 h => unfold MycatSpec.hashChars; rfl

theorem HashUnencodedChars_eq (seed : Int) (s : GoStr) :
    HashUnencodedChars seed s = MycatSpec.hashUnencodedChars (BitVec.ofInt 32 seed) (utf16Units s) := by
  unfold HashUnencodedChars MycatSpec.hashUnencodedChars
  dsimp only
  rw [murmurBody_eq, fmix_eq]

def KeysSorted (m : List (Int × Int)) : Prop := m.Pairwise (fun a b => a.1 < b.1)

theorem mem_tmPut (m : List (Int × Int)) (hs : KeysSorted m) (k v : Int) (e : Int × Int) :
    e ∈ tmPut m k v ↔ e = (k, v) ∨ (e ∈ m ∧ e.1 ≠ k) := by
  induction m with
  | nil => simp [tmPut]
  | cons a rest ih =>
    obtain ⟨k', v'⟩ := a
    obtain ⟨hlt, hs'⟩ := List.pairwise_cons.mp hs
    unfold tmPut
    by_cases h1 : k < k'
    · have hne : e ∈ (k', v') :: rest → e.1 ≠ k := by
        rintro (_ | ⟨_, h⟩)
        · exact Int.ne_of_gt h1
        · exact Int.ne_of_gt (Int.lt_trans h1 (hlt e h))
      rw [if_pos h1, List.mem_cons, and_iff_left_of_imp hne]
    · rw [if_neg h1]
      by_cases h2 : k = k'
      · subst h2
        rw [if_pos rfl, List.mem_cons, List.mem_cons]
        constructor
        · rintro (h | h)
          · exact .inl h
          · exact .inr ⟨.inr h, Int.ne_of_gt (hlt e h)⟩
        · rintro (h | ⟨rfl | h, hne⟩)
          · exact .inl h
          · exact absurd rfl hne
          · exact .inr h
      · have hne : e = (k', v') → e.1 ≠ k := fun h => by rw [h]; exact Ne.symm h2
        rw [if_neg h2, List.mem_cons, ih hs', List.mem_cons, or_and_right, and_iff_left_of_imp hne,
          or_left_comm]

theorem sorted_tmPut (m : List (Int × Int)) (hs : KeysSorted m) (k v : Int) :
    KeysSorted (tmPut m k v) := by
  induction m with
  | nil => exact List.pairwise_singleton _ _
  | cons a rest ih =>
    obtain ⟨k', v'⟩ := a
    obtain ⟨hlt, hs'⟩ := List.pairwise_cons.mp hs
    unfold tmPut
    by_cases h1 : k < k'
    · rw [if_pos h1]
      refine List.pairwise_cons.mpr ⟨?_, hs⟩
      rintro b (_ | ⟨_, h⟩)
      · exact h1
      · exact Int.lt_trans h1 (hlt b h)
    · rw [if_neg h1]
      by_cases h2 : k = k'
      · subst h2
        rw [if_pos rfl]
        exact List.pairwise_cons.mpr ⟨hlt, hs'⟩
      · rw [if_neg h2]
        refine List.pairwise_cons.mpr ⟨?_, ih hs'⟩
        intro b hb
        rcases (mem_tmPut rest hs' k v b).mp hb with rfl | ⟨h, _⟩
        · exact ((Int.lt_trichotomy k k').resolve_left h1).resolve_left h2
        · exact hlt b h

theorem sorted_unique (m : List (Int × Int)) (hs : KeysSorted m) (a b : Int × Int)
    (ha : a ∈ m) (hb : b ∈ m) (hk : a.1 = b.1) : a = b :=
  List.Pairwise.forall_of_forall_of_flip (R := fun x y => x.1 = y.1 → x = y) (fun _ _ _ => rfl)
    (hs.imp fun h e => absurd e (Int.ne_of_lt h)) (hs.imp fun h e => absurd e.symm (Int.ne_of_lt h))
    ha hb hk

theorem tmCeiling_eq_find? (m : List (Int × Int)) (h : Int) :
    tmCeiling m h = m.find? fun e => decide (h ≤ e.1) := by
  induction m with
  | nil => rfl
  | cons a rest ih =>
    unfold tmCeiling
    rw [List.find?_cons]
    by_cases hk : h ≤ a.1
    · rw [if_pos hk, decide_eq_true hk]
    · rw [if_neg hk, decide_eq_false hk, ih]

theorem tmMin_eq_find? (m : List (Int × Int)) : tmMin m = m.find? fun _ => true := by
  cases m <;> rfl

theorem find?_least (m : List (Int × Int)) (hs : KeysSorted m) (q : Int → Bool) (e : Int × Int)
    (h : m.find? (fun x => q x.1) = some e) : ∀ e' ∈ m, q e'.1 = true → e.1 ≤ e'.1 := by
  obtain ⟨_, as, bs, rfl, has⟩ := List.find?_eq_some_iff_append.mp h
  obtain ⟨_, hbs, _⟩ := List.pairwise_append.mp hs
  intro e' he' hq
  rcases List.mem_append.mp he' with h1 | h1
  · have := has e' h1; simp [hq] at this
  · rcases List.mem_cons.mp h1 with rfl | h2
    · exact Int.le_refl _
    · exact Int.le_of_lt (List.rel_of_pairwise_cons hbs h2)

def tmBuild (m0 : List (Int × Int)) (puts : List (Int × Int)) : List (Int × Int) :=
  puts.foldl (fun m p => tmPut m p.1 p.2) m0

theorem tmBuild_append (m : List (Int × Int)) (a b : List (Int × Int)) :
    tmBuild (tmBuild m a) b = tmBuild m (a ++ b) := by
  unfold tmBuild; rw [List.foldl_append]

def lastPutInt (puts : List (Int × Int)) (k : Int) : Option Int :=
  (puts.reverse.find? (·.1 = k)).map (·.2)

theorem lastPutInt_nil (k : Int) : lastPutInt [] k = none := rfl

theorem tmBuild_spec (puts : List (Int × Int)) :
    KeysSorted (tmBuild [] puts) ∧ ∀ k v, (k, v) ∈ tmBuild [] puts ↔ lastPutInt puts k = some v := by
  unfold tmBuild lastPutInt
  rw [List.foldl_eq_foldr_reverse]
  -- the last put is the outermost: induction over the puts from the last to the first
  induction puts.reverse with
  | nil => exact ⟨List.Pairwise.nil, by simp⟩
  | cons p r ih =>
    refine ⟨sorted_tmPut _ ih.1 _ _, fun k v => ?_⟩
    rw [List.foldr_cons, mem_tmPut _ ih.1, ih.2, List.find?_cons]
    by_cases hp : p.1 = k
    · subst hp
      simp only [Prod.mk.injEq, true_and, ne_eq, not_true_eq_false, and_false, or_false, decide_true,
        Option.map_some, Option.some.injEq, eq_comm]
    · have hne : k ≠ p.1 := Ne.symm hp
      rw [decide_eq_false hp, and_iff_left hne, or_iff_right fun h => hne (congrArg Prod.fst h)]

theorem minKey_spec (l : List Int) :
    match MycatSpec.minKey l with
    | none => l = []
    | some k => k ∈ l ∧ ∀ k' ∈ l, k ≤ k' := by
  induction l with
  | nil => rfl
  | cons a as ih =>
    unfold MycatSpec.minKey
    cases hm : MycatSpec.minKey as with
    | none => rw [hm] at ih; simp only [ih, List.mem_singleton, forall_eq, Int.le_refl, and_self]
    | some m =>
      rw [hm] at ih
      obtain ⟨h1, h2⟩ := ih
      by_cases hle : a ≤ m
      · simp only [if_pos hle, List.mem_cons, true_or, forall_eq_or_imp, Int.le_refl, true_and]
        exact fun k' hk' => Int.le_trans hle (h2 k' hk')
      · simp only [if_neg hle, List.mem_cons, h1, or_true, forall_eq_or_imp, true_and]
        exact ⟨Int.le_of_lt (Int.not_le.mp hle), h2⟩

/-- The reference's puts, with the shard numbers as Go ints. -/
def putsInt (puts : List (Int × Nat)) : List (Int × Int) := puts.map fun p => (p.1, (p.2 : Int))

theorem putsInt_append (a b : List (Int × Nat)) : putsInt (a ++ b) = putsInt a ++ putsInt b := by
  unfold putsInt; rw [List.map_append]

theorem lastPutInt_putsInt (puts : List (Int × Nat)) (k : Int) :
    lastPutInt (putsInt puts) k = Option.map (fun (n : Nat) => (n : Int)) (MycatSpec.lastPut puts k) := by
  unfold lastPutInt MycatSpec.lastPut putsInt
  rw [← List.map_reverse, List.find?_map, Option.map_map, Option.map_map]
  rfl

theorem lastPut_isSome (puts : List (Int × Nat)) (k : Int) :
    (MycatSpec.lastPut puts k).isSome ↔ k ∈ puts.map (·.1) := by
  unfold MycatSpec.lastPut
  simp only [Option.isSome_map, List.find?_isSome, List.mem_reverse, decide_eq_true_eq, List.mem_map]

/-- The first entry of a sorted map whose key passes a test `q` has the least such key.  `l` is how the
    reference lists those keys (its key list, filtered by `q`; `hl`): `Ceiling` is `q = (h ≤ ·)`, `Min` is `q = true`. -/
theorem firstKey_eq (m : List (Int × Int)) (hs : KeysSorted m) (q : Int → Bool) (l : List Int)
    (hl : ∀ k, k ∈ l ↔ q k = true ∧ ∃ v, (k, v) ∈ m) :
    (m.find? fun e => q e.1).map (·.1) = MycatSpec.minKey l := by
  have hmin := minKey_spec l
  cases hf : m.find? fun e => q e.1 with
  | none =>
    have hnil : l = [] := List.eq_nil_iff_forall_not_mem.mpr fun k hk => by
      obtain ⟨hq, v, hv⟩ := (hl k).mp hk
      exact List.find?_eq_none.mp hf (k, v) hv hq
    rw [hnil]; rfl
  | some e =>
    have he : e.1 ∈ l := (hl e.1).mpr
      ⟨List.find?_some (p := fun e : Int × Int => q e.1) hf, e.2, List.mem_of_find?_eq_some hf⟩
    cases hm : MycatSpec.minKey l with
    | none => rw [hm] at hmin; rw [hmin] at he; cases he
    | some k =>
      rw [hm] at hmin
      obtain ⟨hq, v, hv⟩ := (hl k).mp hmin.1
      exact congrArg some (Int.le_antisymm (find?_least m hs q e hf (k, v) hv hq) (hmin.2 e.1 he))

/-- The lookup of `MycatPartitionMurmurHashShard.FindForKey` on a map. -/
def ringFind (m : List (Int × Int)) (h : Int) : Option Int :=
  match tmCeiling m h with
  | some (_, v) => some v
  | none =>
    match tmMin m with
    | some (_, v) => some v
    | none => none

theorem findForKey_ringFind (seed : Int) (m : List (Int × Int)) (key : Key) (s : GoStr)
    (hs : GetString key = .ok s) :
    MycatPartitionMurmurHashShard.FindForKey seed m key =
      match ringFind m (HashUnencodedChars seed s) with
      | some v => .ok v
      | none => .err .emptyRing := by
  unfold MycatPartitionMurmurHashShard.FindForKey ringFind
  rw [hs]
  dsimp only
  cases tmCeiling m (HashUnencodedChars seed s) with
  | some e => rfl
  | none => cases tmMin m <;> rfl

/-- `Ceiling`/`Min` on the sorted list built by the puts is Java's `tailMap(h)` first entry /
    `firstKey()` lookup on the `TreeMap` after the same puts. -/
theorem ring_ceiling (puts : List (Int × Nat)) (h : Int) :
    ringFind (tmBuild [] (putsInt puts)) h =
      Option.map (fun (n : Nat) => (n : Int)) (MycatSpec.ringLookup puts h) := by
  obtain ⟨hs, hmem⟩ := tmBuild_spec (putsInt puts)
  simp only [lastPutInt_putsInt] at hmem
  have hkeys : ∀ k, k ∈ puts.map (·.1) ↔ ∃ v, (k, v) ∈ tmBuild [] (putsInt puts) := fun k => by
    simp only [hmem, ← Option.isSome_iff_exists, Option.isSome_map, lastPut_isSome]
  -- `Ceiling` and `Min` are both the first entry whose key passes a test (`h ≤ ·`, resp. none)
  have hceil := firstKey_eq _ hs (fun k => decide (h ≤ k))
    ((puts.map (·.1)).filter fun k => decide (h ≤ k)) fun k => by rw [List.mem_filter, hkeys, and_comm]
  have hfirst := firstKey_eq _ hs (fun _ => true) (puts.map (·.1)) fun k => by
    rw [hkeys]; exact (and_iff_right rfl).symm
  unfold ringFind MycatSpec.ringLookup
  rw [tmCeiling_eq_find?, tmMin_eq_find?]
  dsimp only
  rw [← hceil, ← hfirst]
  cases hc : (tmBuild [] (putsInt puts)).find? fun e => decide (h ≤ e.1) with
  | some e => exact ((hmem e.1 e.2).mp (List.mem_of_find?_eq_some hc)).symm
  | none =>
    cases hm : (tmBuild [] (putsInt puts)).find? fun _ => true with
    | some e => exact ((hmem e.1 e.2).mp (List.mem_of_find?_eq_some hm)).symm
    | none => rfl

/-- The `StringBuilder` before node `n` is appended. -/
def nodeBuf (i n : Nat) : List Nat :=
  MycatSpec.ascii "SHARD-" ++ MycatSpec.natToString i ++
    (List.range n).flatMap fun k => MycatSpec.ascii "-NODE-" ++ MycatSpec.natToString k

theorem nodeName_eq (i n : Nat) : MycatSpec.nodeName i n = nodeBuf i (n + 1) := rfl

theorem nodeBuf_succ (i n : Nat) :
    nodeBuf i (n + 1) = nodeBuf i n ++ nodeInfix ++ fmtNat n := by
  unfold nodeBuf
  rw [List.range_succ, List.flatMap_append, fmtNat_eq]
  simp only [List.flatMap_cons, List.flatMap_nil, List.append_nil, List.append_assoc]
  rfl

theorem natToString_ascii (n : Nat) : ∀ b ∈ MycatSpec.natToString n, b < 128 := by
  intro b hb
  rw [← fmtNat_eq] at hb
  have := (isDigit_iff b).mp (fmtNat_digits n b hb)
  omega

theorem nodeBuf_ascii (i n : Nat) : ∀ b ∈ nodeBuf i n, b < 128 := by
  have hshard : ∀ b ∈ MycatSpec.ascii "SHARD-", b < 128 := by decide +kernel
  have hnode : ∀ b ∈ MycatSpec.ascii "-NODE-", b < 128 := by decide +kernel
  intro b hb
  unfold nodeBuf at hb
  simp only [List.mem_append, List.mem_flatMap] at hb
  rcases hb with (hb | hb) | ⟨k, _, hb | hb⟩
  · exact hshard b hb
  · exact natToString_ascii i b hb
  · exact hnode b hb
  · exact natToString_ascii k b hb

theorem hash_nodeBuf (seed : Int) (i n : Nat) :
    HashUnencodedChars seed (nodeBuf i n) =
      MycatSpec.hashUnencodedChars (BitVec.ofInt 32 seed) (nodeBuf i n) := by
  rw [HashUnencodedChars_eq, utf16Units_ascii _ (nodeBuf_ascii i n)]

theorem bucketLoop_eq (seed : Int) (i : Nat) (cnt n : Nat) (m : List (Int × Int)) :
    bucketLoop seed (i : Int) cnt n (nodeBuf i n) m =
      tmBuild m (putsInt ((List.range' n cnt).map fun k =>
        (MycatSpec.hashUnencodedChars (BitVec.ofInt 32 seed) (MycatSpec.nodeName i k), i))) := by
  induction cnt generalizing n m with
  | zero => rfl
  | succ cnt ih =>
    unfold bucketLoop
    simp only
    rw [← nodeBuf_succ, ih (n + 1)]
    simp only [List.range'_succ, List.map_cons, putsInt, tmBuild, List.foldl_cons]
    rw [nodeName_eq, hash_nodeBuf]

theorem generate_fold (seed : Int) (vbt : Nat) (is : List Nat) (m : List (Int × Int)) :
    is.foldl (fun m (i : Nat) => bucketLoop seed (i : Int) vbt 0 (shardPrefix ++ fmtNat i) m) m =
      tmBuild m (putsInt (is.flatMap fun i => (List.range vbt).map fun n =>
        (MycatSpec.hashUnencodedChars (BitVec.ofInt 32 seed) (MycatSpec.nodeName i n), i))) := by
  induction is generalizing m with
  | nil => rfl
  | cons i is ih =>
    simp only [List.foldl_cons, List.flatMap_cons]
    have hb : shardPrefix ++ fmtNat i = nodeBuf i 0 := by
      unfold nodeBuf; rw [fmtNat_eq]; simp; rfl
    rw [hb, bucketLoop_eq, ih, tmBuild_append, putsInt_append, List.range_eq_range']

theorem generateBucketMap_eq (seed : Int) (count vbt : Nat) :
    generateBucketMap seed count vbt =
      tmBuild [] (putsInt (MycatSpec.ringPuts (BitVec.ofInt 32 seed) count vbt)) := by
  unfold generateBucketMap MycatSpec.ringPuts
  simp only [Int.toNat_natCast]
  exact generate_fold seed vbt (List.range count) []

end GaeaVerif.ShardLemmas
