import GaeaVerif.Lemmas.StmtLex
import GaeaVerif.Model.StmtBind
import GaeaVerif.Lemmas.StmtFloat
/-
  Helper lemmas for C15: the lexer of Model/StmtLex.lean re-run on a statement
  in which the placeholders were replaced by rendered arguments (`lexes_subst`), and
  `GetRewriteSQL` expressed on token streams (`rewrite_pieces`, over the items
  `pieces` of Lemmas/StmtLex.lean); at the end, the numeric literals of Lemmas/StmtFloat.lean
  are bare words (`numLit_word`, `fmtV_word`).  The property theorems are in Props/C15.lean.
-/
namespace GaeaVerif.C15
open GaeaVerif GaeaVerif.StmtLex GaeaVerif.StmtBind

theorem sq_ne_bs : cSQuote ≠ cBackslash := by decide

theorem escapeSQL_cons (nbe : Bool) (c : UInt8) (b : Bytes) :
    escapeSQL nbe (c :: b) =
      if c = cSQuote then cSQuote :: c :: escapeSQL nbe b
      else if c = cBackslash ∧ ¬ nbe then cBackslash :: c :: escapeSQL nbe b
      else c :: escapeSQL nbe b := by
  simp only [escapeSQL]

theorem strBody_escape (nbe : Bool) (b : Bytes) : StrBody nbe cSQuote (escapeSQL nbe b) := by
  induction b with
  | nil => exact .nil
  | cons c b ih =>
    rw [escapeSQL_cons]
    by_cases h1 : c = cSQuote
    · rw [if_pos h1, h1]; exact .dbl ih
    · rw [if_neg h1]
      by_cases h2 : c = cBackslash ∧ ¬ nbe
      · rw [if_pos h2, h2.1]; exact .esc _ h2.2 ih
      · rw [if_neg h2]; exact .byte h2 h1 ih

/-- **A rendered string is one literal, whatever follows it**: no byte of `b` can close the
    literal early or swallow what follows. -/
theorem scanStr_escape (nbe : Bool) (b rest : Bytes) (hrest : rest.head? ≠ some cSQuote) :
    scanStr nbe cSQuote (escapeSQL nbe b ++ cSQuote :: rest) = some (escapeSQL nbe b, rest) :=
  scanStr_body (strBody_escape nbe b) (fun h => sq_ne_bs h.1) hrest

/-- **… and it denotes exactly the bound bytes.** -/
theorem strValue_escape (nbe : Bool) (b : Bytes) : strValue nbe cSQuote (escapeSQL nbe b) = b := by
  induction b with
  | nil => rfl
  | cons c b ih =>
    rw [escapeSQL_cons]
    by_cases h1 : c = cSQuote
    · subst h1
      simp only [if_true]
      rw [strValue]
      simp [sq_ne_bs, ih]
    · rw [if_neg h1]
      by_cases h2 : c = cBackslash ∧ ¬ nbe
      · rw [if_pos h2]
        obtain ⟨rfl, hn⟩ := h2
        have hn' : nbe = false := by simpa using hn
        subst hn'
        rw [strValue]
        have e1 : escapeChar cBackslash = cBackslash := by decide
        have e2 : ¬ (cBackslash = 0x25 ∨ cBackslash = 0x5f) := by decide
        simp [ih, e1, e2]
      · rw [if_neg h2]
        cases hb : escapeSQL nbe b with
        | nil =>
          rw [hb] at ih
          rw [strValue]; rw [← ih]; rfl
        | cons d r' =>
          rw [hb] at ih
          rw [strValue]
          have h2' : ¬ (c = cBackslash ∧ ¬ nbe = true) := h2
          simp only [h2', if_false]
          have : ¬ (c = cSQuote ∧ d = cSQuote) := fun h => h1 h.1
          simp only [this, if_false, ih]

/-- The statement of `string_param_roundtrip` (Props/C15.lean), which is this lemma. -/
theorem lex_rendered_string (nbe : Bool) (b rest : Bytes) (hrest : rest.head? ≠ some cSQuote)
    (n : Nat) (v : Bool) :
    lexF nbe (n + 1) v (renderArg nbe (.bytes b) ++ rest) =
        (lexF nbe n v rest).map (Tok.str cSQuote (escapeSQL nbe b) :: ·)
      ∧ strValue nbe cSQuote (escapeSQL nbe b) = b := by
  refine ⟨?_, strValue_escape nbe b⟩
  have := (LexStep.str (v := v) (.inl rfl) (scanStr_escape nbe b rest hrest)).lexF n
  simpa [renderArg, itoString] using this

/-! ### bare-word renderings (NULL, integers, floats) -/

def wordByte (c : UInt8) : Bool :=
  (0x30 ≤ c && c ≤ 0x39) || (0x41 ≤ c && c ≤ 0x5a) || (0x61 ≤ c && c ≤ 0x7a) || c == 0x2e || c == 0x2b

/-- Letters, digits, `.`, `+`, and `-` only directly in front of one of those. -/
def WordAux : Bytes → Prop
  | [] => True
  | c :: r => (wordByte c = true ∨ (c = cDash ∧ ∃ e r', r = e :: r' ∧ wordByte e = true)) ∧ WordAux r

def Word (R : Bytes) : Prop := R ≠ [] ∧ WordAux R

theorem plain_of_wordByte {c : UInt8} (h : wordByte c = true) (v : Bool) (rest : Bytes) : Plain v c rest := by
  have ne : ∀ x, wordByte x = false → c ≠ x := fun x hx e => by rw [e, hx] at h; cases h
  exact ⟨fun h => h.elim (ne _ (by decide)) (ne _ (by decide)), ne _ (by decide),
    fun h => h.elim (ne _ (by decide)) (fun h => ne _ (by decide) h.1), fun h => ne _ (by decide) h.1,
    fun h => ne _ (by decide) h.1, ne _ (by decide)⟩

theorem wordByte_not_space {c : UInt8} (h : wordByte c = true) : isSpaceOrControl c = false := by
  simp only [wordByte, isSpaceOrControl, Bool.or_eq_true, Bool.and_eq_true, decide_eq_true_eq, beq_iff_eq,
    UInt8.le_iff_toNat_le, ← UInt8.toNat_inj, Bool.or_eq_false_iff, decide_eq_false_iff_not,
    beq_eq_false_iff_ne, ne_eq, UInt8.toNat_ofNat] at h ⊢
  omega

theorem plain_dash {e : UInt8} (he : wordByte e = true) (v : Bool) (r : Bytes) : Plain v cDash (e :: r) := by
  have hne : e ≠ cDash := fun h => by rw [h] at he; cases he
  have hd : dashComment (e :: r) = false := by
    cases r with
    | nil => rfl
    | cons x y => simp [dashComment, hne]
  exact ⟨by decide, by decide, fun h => h.elim (by decide) (fun h => by simp [hd] at h),
    fun h => absurd h.1 (by decide), fun h => absurd h.1 (by decide), by decide⟩

theorem lexes_word {nbe : Bool} {R : Bytes} (hR : WordAux R) {v : Bool} {X : Bytes} {ts : List Tok}
    (h : Lexes nbe v X ts) : Lexes nbe v (R ++ X) (R.map Tok.other ++ ts) := by
  induction R with
  | nil => exact h
  | cons c r ih =>
    obtain ⟨hc, hr⟩ := hR
    refine .cons (.other ?_) (ih hr)
    rcases hc with hc | ⟨rfl, e, r', rfl, he⟩
    · exact plain_of_wordByte hc v _
    · exact plain_dash he v _

/-! ### the decimal digits of an integer -/

theorem natDigitsF_eq (f n : Nat) (h : n ≤ f) :
    natDigitsF f n = (Nat.toDigits 10 n).map fun c => UInt8.ofNat c.toNat := by
  induction f generalizing n with
  | zero => obtain rfl := Nat.le_zero.mp h; rfl
  | succ f ih =>
    rw [natDigitsF, Dec.toDigits_eq]
    by_cases hn : n < 10
    · rw [if_pos hn, if_pos hn, List.map_singleton, Nat.toNat_digitChar_of_lt_ten hn]
    · rw [if_neg hn, if_neg hn, ih _ (by omega), List.map_append, List.map_singleton,
        Nat.toNat_digitChar_of_lt_ten (Nat.mod_lt n (by decide))]

open StmtFloat in
/-- (`isDigit` and `digitsVal` of Props/C15.lean are `IsDig` and `digVal` of Lemmas/StmtFloat.lean by definition.) -/
theorem natDigits_spec (n : Nat) : Digs1 (natDigits n) ∧ digVal (natDigits n) = n := by
  rw [natDigits, natDigitsF_eq n n (Nat.le_refl n)]; exact digs_toDigits n

/-! ### substituting renderings for the placeholders -/

/-- The tokens a rendered argument is read as. -/
def litToks (nbe : Bool) : Arg → List Tok
  | .bytes b => [Tok.str cSQuote (escapeSQL nbe b)]
  | a => (renderArg nbe a).map Tok.other

theorem rawOf_map_other (R : Bytes) : rawOf (R.map Tok.other) = R := by
  induction R with
  | nil => rfl
  | cons c r ih => simp [rawOf_cons, Tok.raw, ih]

theorem rawOf_litToks (nbe : Bool) (a : Arg) : rawOf (litToks nbe a) = renderArg nbe a := by
  cases a <;> simp [litToks, rawOf_map_other]
  simp [rawOf, Tok.raw, renderArg, itoString]

/-- The template's tokens with each placeholder replaced by the literal of the
    next argument. -/
def substToks (nbe : Bool) : List Tok → List Arg → List Tok
  | [], _ => []
  | t :: ts, as =>
    match t, as with
    | .param, a :: as' => litToks nbe a ++ substToks nbe ts as'
    | _, _ => t :: substToks nbe ts as

/-- What an argument must be like: a byte string, or something rendered as a bare word. -/
def ArgFits (nbe : Bool) : Arg → Prop
  | .bytes _ => True
  | a => Word (renderArg nbe a)

/-- Placeholder or `'…'` literal: two of them glued together would be read as one literal. -/
def isQ : Tok → Bool
  | .param => true
  | .str q _ => q == cSQuote
  | _ => false

/-- The template and the arguments fit: one argument per placeholder, each a
    byte string or rendered as a bare word, and no placeholder glued to a `'…'`
    literal or to another placeholder. -/
def Fits (nbe : Bool) : List Tok → List Arg → Prop
  | [], _ => True
  | t :: ts, as =>
    match t, as with
    | .param, [] => False
    | .param, a :: as' => ArgFits nbe a ∧ ts.head?.map isQ ≠ some true ∧ Fits nbe ts as'
    | .str q _, _ => (q = cSQuote → ts.head? ≠ some .param) ∧ Fits nbe ts as
    | _, _ => Fits nbe ts as

/-! ### what follows a token, before and after the substitution -/

theorem fits_tail (nbe : Bool) (t : Tok) (ts : List Tok) (as : List Arg) (ht : t ≠ .param)
    (h : Fits nbe (t :: ts) as) : Fits nbe ts as := by
  cases t with
  | param => exact absurd rfl ht
  | str q b => exact h.2
  | _ => exact h

theorem subst_cons_nonparam (nbe : Bool) (t : Tok) (ts : List Tok) (as : List Arg) (ht : t ≠ .param) :
    substToks nbe (t :: ts) as = t :: substToks nbe ts as := by
  cases t with
  | param => exact absurd rfl ht
  | _ => rfl

/-- How the substituted text begins: not at all; with the first element of the template, which is
    no placeholder; or with a rendering (a quote, a word byte, or `-` in front of a word byte). -/
theorem substToks_head_cases (nbe : Bool) (ts : List Tok) (as : List Arg) (hne : ∀ t ∈ ts, t.raw ≠ [])
    (hfit : Fits nbe ts as) :
    ts = [] ∨
    (∃ t ts' c m, ts = t :: ts' ∧ t ≠ .param ∧ t.raw = c :: m ∧ Fits nbe ts' as ∧
      rawOf (substToks nbe ts as) = c :: m ++ rawOf (substToks nbe ts' as)) ∨
    (∃ ts' c r, ts = .param :: ts' ∧ rawOf (substToks nbe ts as) = c :: r ∧
      (c = cSQuote ∨ wordByte c = true ∨ (c = cDash ∧ ∃ e r', r = e :: r' ∧ wordByte e = true))) := by
  cases ts with
  | nil => exact .inl rfl
  | cons t ts' =>
    by_cases ht : t = .param
    · subst ht
      cases as with
      | nil => exact hfit.elim
      | cons a as' =>
        refine .inr (.inr ?_)
        simp only [substToks, rawOf_append, rawOf_litToks]
        cases a with
        | bytes b => exact ⟨ts', cSQuote, _, rfl, rfl, .inl rfl⟩
        | _ =>
          have hw : Word (renderArg nbe _) := hfit.1
          obtain ⟨c, r, hr⟩ := List.exists_cons_of_ne_nil hw.1
          rw [hr] at hw ⊢
          exact ⟨ts', c, _, rfl, rfl, .inr (hw.2.1.imp id fun ⟨h1, e, r', hr', he⟩ =>
            ⟨h1, e, r' ++ _, by rw [hr']; rfl, he⟩)⟩
    · obtain ⟨c, m, hr⟩ := List.exists_cons_of_ne_nil (hne t (by simp))
      exact .inr (.inl ⟨t, ts', c, m, rfl, ht, hr, fits_tail nbe t ts' as ht hfit,
        by rw [subst_cons_nonparam nbe t ts' as ht, rawOf_cons, hr]⟩)

/-- A byte `x` that no bare word begins with heads the substituted text only if it headed the
    template's, or is the quote of a rendered placeholder. -/
theorem head_subst (nbe : Bool) (ts : List Tok) (as : List Arg) (hne : ∀ t ∈ ts, t.raw ≠ [])
    (hfit : Fits nbe ts as) (x : UInt8) (hx : wordByte x = false) (hxd : x ≠ cDash) :
    (rawOf (substToks nbe ts as)).head? = some x →
      ((rawOf ts).head? = some x ∨ (x = cSQuote ∧ ts.head? = some .param)) := by
  rcases substToks_head_cases nbe ts as hne hfit with rfl | ⟨t, ts', c, m, rfl, _, hr, _, e⟩ | ⟨ts', c, r, rfl, e, hc⟩
  · simp [substToks, rawOf]
  · rw [e, rawOf_cons, hr]; exact .inl
  · rw [e]
    intro h; cases h
    rcases hc with rfl | hc | ⟨rfl, _⟩
    · exact .inr ⟨rfl, rfl⟩
    · rw [hx] at hc; cases hc
    · exact absurd rfl hxd

theorem head_subst_rev (nbe : Bool) (ts : List Tok) (as : List Arg) (hne : ∀ t ∈ ts, t.raw ≠ [])
    (x : UInt8) (hq : x ≠ cQMark) :
    (rawOf ts).head? = some x → (rawOf (substToks nbe ts as)).head? = some x := by
  cases ts with
  | nil => simp [substToks, rawOf]
  | cons t ts' =>
    by_cases ht : t = .param
    · subst ht
      simp only [rawOf_cons, Tok.raw, List.cons_append, List.head?_cons]
      intro h; simp at h; exact absurd h.symm hq
    · rw [subst_cons_nonparam nbe t ts' as ht, rawOf_cons, rawOf_cons]
      have := hne t (by simp)
      cases hr : t.raw with
      | nil => exact absurd hr this
      | cons c m => simp only [List.cons_append, List.head?_cons]; exact fun h => h

theorem spaceHead_subst (nbe : Bool) (ts : List Tok) (as : List Arg) (hne : ∀ t ∈ ts, t.raw ≠ [])
    (hfit : Fits nbe ts as) : spaceHead (rawOf (substToks nbe ts as)) = spaceHead (rawOf ts) := by
  rcases substToks_head_cases nbe ts as hne hfit with rfl | ⟨t, ts', c, m, rfl, _, hr, _, e⟩ | ⟨ts', c, r, rfl, e, hc⟩
  · rfl
  · rw [e, rawOf_cons, hr]; rfl
  · rw [e]
    rcases hc with rfl | hc | ⟨rfl, _⟩
    · rfl
    · exact wordByte_not_space hc
    · rfl

theorem dashComment_subst (nbe : Bool) (ts : List Tok) (as : List Arg) (hne : ∀ t ∈ ts, t.raw ≠ [])
    (hfit : Fits nbe ts as) :
    dashComment (rawOf (substToks nbe ts as)) = dashComment (rawOf ts) := by
  rcases substToks_head_cases nbe ts as hne hfit with rfl | ⟨t, ts', c, m, rfl, _, hr, hfit', e⟩ | ⟨ts', c, r, rfl, e, hc⟩
  · rfl
  · rw [e, rawOf_cons, hr]
    cases m with
    | nil =>
      simp only [List.cons_append, List.nil_append]
      rw [dashComment_cons, dashComment_cons,
        spaceHead_subst nbe ts' as (fun t h => hne t (List.mem_cons_of_mem _ h)) hfit']
    | cons d m' => rfl
  · rw [e, rawOf_cons]
    show dashComment (c :: r) = dashComment (cQMark :: rawOf ts')
    have e1 : (cQMark == cDash) = false := by decide
    rw [dashComment_cons, dashComment_cons, e1, Bool.false_and]
    rcases hc with rfl | hc | ⟨rfl, e', r', rfl, he⟩
    · rfl
    · have : (c == cDash) = false := beq_eq_false_iff_ne.mpr fun h => by rw [h] at hc; cases hc
      rw [this, Bool.false_and]
    · simp [spaceHead, wordByte_not_space he]

/-- Each element of the template is still the same element in front of the substituted rest:
    what follows it begins as before, or with a rendering, which neither closes nor extends
    anything (`substToks_head_cases`; two `'…'` glued together are excluded by `Fits`). -/
theorem lexes_subst {nbe : Bool} {v : Bool} {text : Bytes} {toks : List Tok} (h : Lexes nbe v text toks) :
    ∀ as, Fits nbe toks as → Lexes nbe v (rawOf (substToks nbe toks as)) (substToks nbe toks as) := by
  induction h with
  | nil => intro as _; cases as <;> exact .nil
  | @cons v c rest tok v' rest' ts hs hts ih =>
    intro as hfit
    have hraw := hts.raw
    have hne := fun t ht => (hts.lexed t ht).raw_ne_nil
    by_cases hp : tok = .param
    · subst hp
      cases hs
      cases as with
      | nil => exact hfit.elim
      | cons a as' =>
        obtain ⟨ha, hglue, hfit'⟩ := hfit
        have ih := ih as' hfit'
        simp only [substToks, rawOf_append, rawOf_litToks]
        cases a with
        | bytes b =>
          have hS : (rawOf (substToks nbe ts as')).head? ≠ some cSQuote := by
            intro hh
            rcases head_subst nbe ts as' hne hfit' cSQuote (by decide) (by decide) hh with h1 | ⟨_, h2⟩
            · -- a '…' literal right behind the placeholder
              rw [hraw] at h1
              obtain ⟨r0, rfl⟩ := List.head?_eq_some_iff.mp h1
              obtain ⟨b', ts', rfl⟩ := hts.head_quote
              simp [isQ] at hglue
            · rw [h2] at hglue; simp [isQ] at hglue
          have e : renderArg nbe (.bytes b) ++ rawOf (substToks nbe ts as') =
              cSQuote :: (escapeSQL nbe b ++ cSQuote :: rawOf (substToks nbe ts as')) := by simp [renderArg, itoString]
          exact e ▸ .cons (.str (.inl rfl) (scanStr_escape nbe b _ hS)) ih
        | _ => exact lexes_word ha.2 ih
    · have hfit' := fits_tail nbe tok ts as hp hfit
      have ih := ih as hfit'
      rw [subst_cons_nonparam nbe tok ts as hp, rawOf_cons]
      suffices ∃ r, tok.raw ++ rawOf (substToks nbe ts as) = c :: r ∧
          LexStep nbe v c r tok v' (rawOf (substToks nbe ts as)) by
        obtain ⟨r, e, hs'⟩ := this
        exact e ▸ .cons hs' ih
      have hhead := head_subst nbe ts as hne hfit'
      rw [hraw] at hhead
      cases hs with
      | @str c _ body _ hq hsc =>
        refine ⟨body ++ c :: _, by simp [Tok.raw], .str hq (scanStr_resuffix hsc fun hh => ?_)⟩
        have hw : wordByte c = false ∧ c ≠ cDash := by rcases hq with rfl | rfl <;> decide
        rcases hhead c hw.1 hw.2 hh with h1 | ⟨rfl, h2⟩
        · exact (scanStr_some hsc).2.2.1 h1
        · exact hfit.1 rfl h2
      | @qident _ body _ hsc =>
        refine ⟨body ++ cBQuote :: _, by simp [Tok.raw], .qident (scanQIdent_resuffix hsc fun hh => ?_)⟩
        rcases hhead cBQuote (by decide) (by decide) hh with h1 | ⟨h1, _⟩
        · exact (scanStr_some (scanQIdent_eq _ ▸ hsc)).2.2.1 h1
        · exact absurd h1 (by decide)
      | @line _ rest h1 h2 h3 =>
        by_cases hnl : cNewline ∈ rest
        · have := LexStep.line (nbe := nbe) (v := v) (rest := (scanLine rest).1 ++ rawOf (substToks nbe ts as)) h1 h2
            (h3.imp id (And.imp id (dashComment_scanLine rest _)))
          rw [scanLine_fst_append rest _ hnl] at this
          exact ⟨_, rfl, this⟩
        · -- the comment runs to the end of the text: nothing follows, before or after
          have e := scanLine_of_no_newline rest hnl
          have := LexStep.line (nbe := nbe) (v := v) (rest := rest) h1 h2 h3
          rw [e] at this hts ⊢
          cases hts
          exact ⟨rest, by simp [substToks, rawOf, Tok.raw], this⟩
      | verOpen => exact ⟨cStar :: cBang :: _, rfl, .verOpen⟩
      | @block rest body _ h5 hsc =>
        refine ⟨cStar :: (body ++ cStar :: cSlash :: _), by simp [Tok.raw],
          .block (fun hh => h5 ?_) ((scanBlock_some hsc).2 _)⟩
        -- the text after `/*` began with `body ++ "*/"` already
        rw [(scanBlock_some hsc).1]
        cases body with
        | nil => cases hh
        | cons b0 b' => exact hh
      | verClose hv => exact ⟨cSlash :: _, rfl, .verClose hv⟩
      | param => exact absurd rfl hp
      | other hpl =>
        obtain ⟨g1, g2, g3, g4, g6, g7⟩ := hpl
        refine ⟨rawOf (substToks nbe ts as), rfl, .other ⟨g1, g2, fun h => g3 (h.imp id (And.imp id fun e2 => ?_)),
          fun ⟨e1, e2⟩ => ?_, fun ⟨e1, e2, e3⟩ => ?_, g7⟩⟩
        · rwa [dashComment_subst nbe ts as hne hfit', hraw] at e2
        · rcases hhead cStar (by decide) (by decide) e2 with h | ⟨h, _⟩
          · exact g4 ⟨e1, h⟩
          · exact absurd h (by decide)
        · rcases hhead cSlash (by decide) (by decide) e3 with h | ⟨h, _⟩
          · exact g6 ⟨e1, e2, h⟩
          · exact absurd h (by decide)

theorem relex (nbe : Bool) (fuel : Nat) (v : Bool) (text : Bytes) (toks : List Tok)
    (h : lexF nbe fuel v text = some toks) :
    ∀ as, Fits nbe toks as →
      ∃ f, lexF nbe f v (rawOf (substToks nbe toks as)) = some (substToks nbe toks as) :=
  fun as hfit => ⟨_, (lexes_subst (Lexes.of_lexF h) as hfit).lexF _ (Nat.lt_succ_self _)⟩

/-- `GetRewriteSQL` over the items of a token stream writes the stream with each
    placeholder replaced by the rendering of the next argument. -/
theorem rewrite_pieces (nbe : Bool) (args : List Arg) (toks : List Tok) :
    ∀ (cur : Bytes) (idx : Nat), Fits nbe toks (args.drop idx) →
      (∀ t ∈ toks, t.raw ≠ []) → (∀ t ∈ toks, t ≠ .param → t.raw ≠ [cQMark]) → cur ≠ [cQMark] →
      rewriteLoop nbe args (pieces cur toks) idx = .ok (cur ++ rawOf (substToks nbe toks (args.drop idx))) := by
  induction toks with
  | nil =>
    intro cur idx _ _ _ hc
    simp only [pieces, substToks, rawOf, List.flatMap_nil, List.append_nil]
    split
    · simp [rewriteLoop, hc, bind, O.bind]
    · rename_i h; simp at h; subst h; simp [rewriteLoop]
  | cons t ts ih =>
    intro cur idx hfit hne hq hc
    have hne' := fun t h => hne t (List.mem_cons_of_mem _ h)
    have hq' := fun t h => hq t (List.mem_cons_of_mem _ h)
    by_cases ht : t = .param
    · subst ht
      simp only [pieces]
      cases hd : args.drop idx with
      | nil => rw [hd] at hfit; exact hfit.elim
      | cons a as' =>
        rw [hd] at hfit
        have hget : args[idx]? = some a := by
          have := congrArg (fun l => l[0]?) hd
          simpa using this
        have hd' : args.drop (idx + 1) = as' := by
          simpa [List.drop_drop, Nat.add_comm] using congrArg (List.drop 1) hd
        rw [rewriteLoop, if_neg hc, rewriteLoop, if_pos rfl]
        simp only [argIdx, hget, bind, O.bind]
        rw [ih [] (idx + 1) (hd' ▸ hfit.2.2) hne' hq' (by decide)]
        simp [substToks, rawOf_append, rawOf_litToks, hd']
    · rw [pieces_nonparam cur t ts ht, subst_cons_nonparam nbe t ts _ ht, rawOf_cons,
        ih (cur ++ t.raw) idx (fits_tail nbe t ts _ ht hfit) hne' hq', List.append_assoc]
      -- the piece is not the item `?`: it is the element `t`, or longer than one byte
      by_cases hce : cur = []
      · subst hce; exact hq t (by simp) ht
      · intro e
        have := congrArg List.length e
        have := List.length_pos_iff.mpr hce
        have := List.length_pos_iff.mpr (hne t (by simp))
        simp only [List.length_append, List.length_cons, List.length_nil] at *
        omega

end GaeaVerif.C15

namespace GaeaVerif.StmtFloat
open GaeaVerif GaeaVerif.StmtGoFloat GaeaVerif.C15

/-! ### a numeric literal is a bare word for the statement lexer -/

theorem wordByte_of_isDig (c : UInt8) (h : IsDig c) : wordByte c = true := by
  obtain ⟨h1, h2⟩ := h
  simp [wordByte, h1, h2]

theorem wordAux_append_all (a b : Bytes) (ha : ∀ c ∈ a, wordByte c = true) (hb : WordAux b) : WordAux (a ++ b) := by
  induction a with
  | nil => exact hb
  | cons c r ih =>
    exact ⟨Or.inl (ha c (by simp)), ih (fun c hc => ha c (List.mem_cons_of_mem _ hc))⟩

theorem uNumLit_wordAux (b : Bytes) (h : UNumLit b) : WordAux b := by
  obtain ⟨ip, fp, ep, rfl, ⟨_, hip⟩, hfp, hep⟩ := h
  have hepw : WordAux ep := by
    rcases hep with rfl | ⟨s, e, rfl, hs, hne, he⟩
    · trivial
    · have hew : WordAux e := by
        simpa using wordAux_append_all e [] (fun c hc => wordByte_of_isDig c (he c hc)) trivial
      refine ⟨Or.inl (by decide), ?_, hew⟩
      rcases hs with rfl | rfl
      · exact Or.inl (by decide)
      · cases e with
        | nil => exact absurd rfl hne
        | cons x r => exact Or.inr ⟨rfl, x, r, rfl, wordByte_of_isDig x (he x (by simp))⟩
  have hfpw : ∀ c ∈ fp, wordByte c = true := by
    rcases hfp with rfl | ⟨f, rfl, _, hf⟩
    · simp
    · intro c hc
      simp at hc
      rcases hc with rfl | hc
      · decide
      · exact wordByte_of_isDig c (hf c hc)
  rw [List.append_assoc]
  exact wordAux_append_all ip _ (fun c hc => wordByte_of_isDig c (hip c hc))
    (wordAux_append_all fp ep hfpw hepw)

theorem numLit_word (b : Bytes) (h : NumLit b) : Word b := by
  rcases h with h | ⟨u, rfl, h⟩
  · obtain ⟨c, r, rfl, _⟩ := uNumLit_head b h
    exact ⟨by simp, uNumLit_wordAux _ h⟩
  · obtain ⟨c, r, rfl, hc⟩ := uNumLit_head u h
    exact ⟨by simp, Or.inr ⟨rfl, c, r, rfl, wordByte_of_isDig c hc⟩, uNumLit_wordAux _ h⟩

/-- Whatever its bits, a float is rendered as a bare word (a numeric literal
    when finite; `NaN`, `+Inf`, `-Inf` otherwise — words too, which is why the
    repaired `bindStmtArgs` refuses those values, `bound_float_finite`). -/
theorem fmtV_word (dbl : Bool) (bits : Nat) : Word (fmtV dbl bits) := by
  by_cases hf : finite dbl bits = true
  · exact numLit_word _ (fmtV_numLit dbl bits hf)
  · unfold fmtV
    rw [if_neg hf]
    split
    · exact ⟨by simp, Or.inl (by decide), Or.inl (by decide), Or.inl (by decide), trivial⟩
    · split
      · exact ⟨by simp, Or.inr ⟨rfl, 0x49, _, rfl, by decide⟩, Or.inl (by decide), Or.inl (by decide),
          Or.inl (by decide), trivial⟩
      · exact ⟨by simp, Or.inl (by decide), Or.inl (by decide), Or.inl (by decide), Or.inl (by decide), trivial⟩

end GaeaVerif.StmtFloat
