import GaeaVerif.Lemmas.C10Router
/-
  C10: the sharding function of a parsed hash / mod / range / mycat rule only
  names tables of the rule's sub-table list, and never panics.
-/
namespace GaeaVerif.C10
open GaeaVerif

/-- keys are Go values: an int64, a uint64 or a string -/
def Key.WF : Key → Prop
  | .int v => minInt64 ≤ v ∧ v ≤ maxInt64
  | .uint v => v < 2 ^ 64
  | .str _ => True

theorem atoiBody_range (neg : Bool) (ds : Str) (v : Int) (h : atoiBody neg ds = some v) :
    minInt64 ≤ v ∧ v ≤ maxInt64 := by
  unfold atoiBody at h
  repeat' split at h
  all_goals cases h
  all_goals (unfold minInt64 maxInt64; omega)

theorem atoi_range (s : Str) (v : Int) (h : atoi s = some v) : minInt64 ≤ v ∧ v ≤ maxInt64 := by
  unfold atoi at h
  split at h <;> exact atoiBody_range _ _ _ h

theorem numValue_range (k : Key) (hk : k.WF) (v : Int) (h : numValue k = .ok v) :
    minInt64 ≤ v ∧ v ≤ maxInt64 := by
  cases k with
  | int x => simp only [numValue, R.ok.injEq] at h; subst h; exact hk
  | uint x =>
    simp only [numValue, R.ok.injEq] at h; subst h
    unfold Key.WF at hk
    unfold wrap64 minInt64 maxInt64; omega
  | str s =>
    simp only [numValue] at h
    split at h
    · next x hx => cases h; exact atoi_range s _ hx
    · cases h

theorem numValue_ne_panic (k : Key) : numValue k ≠ .panic := by
  cases k with
  | int v => nofun
  | uint v => nofun
  | str s => simp only [numValue]; split <;> nofun

/-- `hn2`: Go's `a % n` then stays above MinInt64, the one value `hack.Abs` leaves negative -/
theorem hackAbs_goMod (a n : Int) (hn : 0 < n) (hn2 : n ≤ 2 ^ 63) :
    0 ≤ hackAbs (goMod a n) ∧ hackAbs (goMod a n) < n := by
  have h1 := Int.emod_nonneg a (show n ≠ 0 by omega)
  have h2 := Int.emod_lt_of_pos a hn
  have h3 := Int.emod_nonneg (-a) (show n ≠ 0 by omega)
  have h4 := Int.emod_lt_of_pos (-a) hn
  unfold hackAbs goMod minInt64
  repeat' split
  all_goals omega

theorem goMod_hackAbs (a n : Int) (hn : 0 < n) (ha : a ≠ minInt64) (ha2 : minInt64 ≤ a) :
    0 ≤ goMod (hackAbs a) n ∧ goMod (hackAbs a) n < n := by
  have hnn : 0 ≤ hackAbs a := by
    unfold hackAbs; unfold minInt64 at *; split
    · omega
    · split <;> omega
  unfold goMod
  rw [if_pos hnn]
  exact ⟨Int.emod_nonneg _ (by omega), Int.emod_lt_of_pos _ hn⟩

theorem rangeFind_spec : ∀ (shards : List (Int × Int)) (v i r : Int), rangeFind shards v i = some r →
    i ≤ r ∧ r < i + shards.length
  | [], _, _, _, h => by simp [rangeFind] at h
  | s :: rest, v, i, r, h => by
    unfold rangeFind at h
    split at h
    · cases h; simp only [List.length_cons]; omega
    · have := rangeFind_spec rest v (i + 1) r h
      simp only [List.length_cons]; omega

/-! ### the murmur shard, for an arbitrary hash function -/

theorem ceilingVal_mem (m : List (Int × Int)) (h v : Int) (hv : ceilingVal m h = some v) :
    ∃ kv ∈ m, kv.2 = v := by
  unfold ceilingVal at hv
  simp only at hv
  split at hv
  · cases hv
  · next c cs hc =>
    simp only [Option.map_eq_some_iff] at hv
    obtain ⟨kv, hkv, hv2⟩ := hv
    have hm := (List.mem_filter.mp (List.mem_of_getLast? hkv)).1
    rw [← hc] at hm
    exact ⟨kv, (List.mem_filter.mp hm).1, hv2⟩

theorem murmurBuckets_vals (bucketOf : Nat → Nat → Int) (count vbt : Int) (kv : Int × Int)
    (h : kv ∈ murmurBuckets bucketOf count vbt) : 0 ≤ kv.2 ∧ kv.2 < count := by
  unfold murmurBuckets at h
  simp only [List.mem_flatMap, List.mem_map, List.mem_range] at h
  obtain ⟨i, hi, n, _, hkv⟩ := h
  subst hkv
  simp only
  omega

theorem murmurFind_safe (bucketOf : Nat → Nat → Int) (keyHash count vbt : Int) :
    Safe (murmurFind bucketOf keyHash count vbt) fun i => 0 ≤ i ∧ i < count := by
  have key : ∀ m h v, (∀ kv ∈ m, kv ∈ murmurBuckets bucketOf count vbt) → ceilingVal m h = some v →
      0 ≤ v ∧ v < count := by
    intro m h v hsub hv
    obtain ⟨kv, hkv, rfl⟩ := ceilingVal_mem _ _ _ hv
    exact murmurBuckets_vals _ _ _ kv (hsub kv hkv)
  unfold murmurFind
  simp only
  split
  · next v hv => exact Safe.ok (key _ _ v (fun _ h => h) hv)
  · split
    · exact Safe.fail
    · next c cs hm =>
      split
      · next v hv => exact Safe.ok (key _ _ v (fun _ h => hm ▸ h) hv)
      · exact Safe.fail

/-! ### the padding-mod shard -/

theorem strSlice_safe (s : Str) (lo hi : Int) (h : 0 ≤ lo ∧ lo ≤ hi ∧ hi ≤ s.length) :
    Safe (strSlice s lo hi) fun r => (r.length : Int) = hi - lo := by
  unfold strSlice
  rw [if_pos h]
  refine Safe.ok ?_
  simp only [List.length_take, List.length_drop]
  omega

theorem paddingKey_safe (p : PaddingMod) (h : Int) (hp : 0 < p.padLength) :
    Safe (paddingKey p h) fun pk => (pk.length : Int) = p.padLength := by
  unfold paddingKey
  split
  · refine (strSlice_safe (itoa h) 0 p.padLength (by omega)).imp fun r hr => by omega
  · -- not longer than `padLength`: zeros make up the difference, on the left or on the right
    have hpad : ((List.replicate (p.padLength - (itoa h).length).toNat '0').length : Int) + (itoa h).length =
        p.padLength := by rw [List.length_replicate]; omega
    split
    · split
      · exact Safe.fail
      · exact Safe.ok (by rw [List.length_append]; omega)
    · exact Safe.ok (by rw [List.length_append]; omega)

theorem paddingMod_safe (p : PaddingMod) (pk : Str)
    (hp : 2 ≤ p.mod ∧ 0 ≤ p.modBegin ∧ p.modBegin < p.modEnd ∧ p.modEnd ≤ p.padLength) (hm : p.mod ≤ 2 ^ 63)
    (hlen : (pk.length : Int) = p.padLength) :
    Safe (paddingMod p pk) fun i => 0 ≤ i ∧ i < p.mod := by
  simp only [paddingMod, strSlice, if_pos (show 0 ≤ p.modBegin ∧ p.modBegin ≤ p.modEnd ∧ p.modEnd ≤ pk.length by omega)]
  split
  · exact Safe.fail
  · rw [if_neg (by omega)]
    exact Safe.ok (hackAbs_goMod _ p.mod (by omega) hm)

theorem paddingFind_safe (p : PaddingMod) (h : Int)
    (hp : 2 ≤ p.mod ∧ 0 ≤ p.modBegin ∧ p.modBegin < p.modEnd ∧ p.modEnd ≤ p.padLength) (hm : p.mod ≤ 2 ^ 63) :
    Safe (paddingFind p h) fun i => 0 ≤ i ∧ i < p.mod := by
  have hk := paddingKey_safe p h (by omega)
  rcases R.ok_or_fail hk.1 with ⟨pk, hpk⟩ | hpk <;> simp only [paddingFind, hpk]
  · exact paddingMod_safe p pk hp hm (hk.2 pk hpk)
  · exact Safe.fail

/-! ### every probed shard type -/

/-- the rule types whose sharding function C10 speaks about -/
def ShardFn.probed : ShardFn → Bool
  | .hash _ | .mod _ | .range _ | .mycatMod _ | .mycatLong _ | .mycatString _ _ _
  | .mycatMurmur _ _ _ | .mycatPadding _ => true
  | _ => false

/-- `segment[x & (PartitionLength-1)]` of the long and string shards -/
theorem segment_lookup (seg : List Int) (idx : List Int) (x : Int)
    (hseg : seg.length = partitionLength ∧ ∀ y ∈ seg, y ∈ idx) :
    Safe (match seg[(x % 1024).toNat]? with
      | some i => (R.ok i : R Int)
      | none => .panic) (· ∈ idx) := by
  have hlt : (x % 1024).toNat < seg.length := by
    rw [hseg.1]; unfold partitionLength; omega
  rw [List.getElem?_eq_getElem hlt]
  exact Safe.ok (hseg.2 _ (List.getElem_mem hlt))

theorem findForKey_spec (bucketOf : Nat → Nat → Int) (keyHash : Str → Int) (sh : ShardFn) (idx : List Int)
    (hwf : ShardWF sh idx) (hlen : (idx.length : Int) ≤ 2 ^ 63) (k : Key)
    (hprobed : sh.probed = true) :
    Safe (findForKey bucketOf keyHash sh k) (· ∈ idx) := by
  -- `NumValue(key)` is a number or the recovered KeyError
  have hnum := R.ok_or_fail (numValue_ne_panic k)
  cases sh with
  | hash n =>
    obtain ⟨hn, rfl⟩ := hwf
    simp only [findForKey]
    rw [if_neg (by omega)]
    exact Safe.ok (consec_mem_of_lt (Int.natCast_nonneg _)
      (Int.ofNat_lt.mpr (Nat.mod_lt (hashValue k) (show 0 < n.toNat by omega))))
  | mod n =>
    obtain ⟨hn, rfl⟩ := hwf
    rw [length_consec] at hlen
    rcases hnum with ⟨v, hv⟩ | hv <;> simp only [findForKey, hv]
    · rw [if_neg (by omega)]
      have h := hackAbs_goMod v n hn (by omega)
      exact Safe.ok (consec_mem_of_lt h.1 (by omega))
    · exact Safe.fail
  | range shards =>
    subst hwf
    rcases hnum with ⟨v, hv⟩ | hv <;> simp only [findForKey, hv]
    · split
      · next r hr =>
        have h := rangeFind_spec shards v 0 r hr
        exact Safe.ok (consec_mem_of_lt h.1 (by omega))
      · exact Safe.fail
    · exact Safe.fail
  | mycatMod n =>
    obtain ⟨hn, rfl⟩ := hwf
    simp only [findForKey]
    split
    · next v _ =>
      rw [if_neg (by omega)]
      have h1 := Int.emod_nonneg (v.natAbs : Int) (show n ≠ 0 by omega)
      have h2 := Int.emod_lt_of_pos (v.natAbs : Int) hn
      exact Safe.ok (consec_mem_of_lt h1 (by omega))
    · exact Safe.fail
  | mycatLong seg =>
    rcases hnum with ⟨v, hv⟩ | hv <;> simp only [findForKey, hv]
    · exact segment_lookup seg idx v hwf
    · exact Safe.fail
  | mycatString seg s e =>
    simp only [findForKey]
    exact segment_lookup seg idx _ hwf
  | mycatMurmur seed count vbt =>
    subst hwf
    simp only [findForKey]
    exact (murmurFind_safe _ _ _ _).imp fun i hi => consec_mem_of_lt hi.1 (by omega)
  | mycatPadding p =>
    obtain ⟨rfl, hp⟩ := hwf
    rw [length_consec] at hlen
    rcases hnum with ⟨v, hv⟩ | hv <;> simp only [findForKey, hv]
    · exact (paddingFind_safe p v hp (by omega)).imp fun i hi => consec_mem_of_lt hi.1 (by omega)
    · exact Safe.fail
  | dateYear | dateMonth | dateDay | global => cases hprobed

end GaeaVerif.C10
