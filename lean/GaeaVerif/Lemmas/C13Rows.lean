import GaeaVerif.Lemmas.C13Cols
import GaeaVerif.Props.C12
/-
  C13 helper lemmas: whole rows — `ParseText` on a text-protocol row, the loop
  of `BuildBinaryResultset` (payload and null bitmap), the spec decoder on the
  payload, no run-time panic, delivery of a row of server values, resultsets
  row by row.
-/
namespace GaeaVerif.C13
open GaeaVerif GaeaVerif.BinRow GaeaVerif.BinProto GaeaVerif.LenEnc

/-! ### `ParseText` on a text-protocol row -/

/-- What `ParseText` returns for the cells of a row. -/
def convertCells (ops : FloatOps) : List Field → List (Option Bytes) → Res (List GoVal)
  | [], _ => .ok []
  | _ :: _, [] => .err .textRow
  | f :: fs, c :: cs =>
    match (match c with | none => Res.ok GoVal.nil | some v => parseTextValue ops f v) with
    | .err e => .err e
    | .ok x =>
      match convertCells ops fs cs with
      | .err e => .err e
      | .ok xs => .ok (x :: xs)

theorem convertCells_cons_some {ops : FloatOps} {f : Field} {fs : List Field} {v : Bytes} {cs : List (Option Bytes)}
    {x : GoVal} {xs : List GoVal} (hx : parseTextValue ops f v = .ok x) (hxs : convertCells ops fs cs = .ok xs) :
    convertCells ops (f :: fs) (some v :: cs) = .ok (x :: xs) := by
  rw [convertCells, hx, hxs]

theorem null_cell_read (pre suf : Bytes) :
    readLenEncStringAsBytes (pre ++ 0xfb :: suf) pre.length = .ok ([], (pre.length : Int) + 1, true) := by
  have hi := goIdx_append pre [0xfb] suf 0 (by simp)
  simp only [Int.natCast_zero, Int.add_zero, List.append_assoc, List.singleton_append] at hi
  unfold readLenEncStringAsBytes readLenEncInt
  have hpos : ¬ ((pre.length : Int) < 0 ∨ (pre.length : Int) ≥ ((pre ++ 0xfb :: suf).length : Int)) := by
    simp only [List.length_append, List.length_cons]; omega
  rw [if_neg hpos, hi]
  simp only [R.bind_ok, List.getD_cons_zero, if_true]
  have hu : u64ToInt 0 = 0 := by decide
  rw [hu]
  have hc : ¬ ((0 : Int) < 0 ∨ (0 : Int) > ((pre ++ 0xfb :: suf).length : Int) - ((pre.length : Int) + 1)) := by
    simp only [List.length_append, List.length_cons]; omega
  rw [if_neg hc]
  have hs : goSlice (pre ++ 0xfb :: suf) ((pre.length : Int) + 1) ((pre.length : Int) + 1 + 0) = .ok [] := by
    unfold goSlice
    rw [if_pos (by simp only [List.length_append, List.length_cons]; omega)]
    simp
  rw [hs]; rfl

/-- The bytes of one cell of a text-protocol row. -/
def textCell : Option Bytes → Bytes
  | none => [0xfb]
  | some v => appendLenEncStringBytes v

theorem encodeTextRow_cons (c : Option Bytes) (cs : List (Option Bytes)) :
    encodeTextRow (c :: cs) = textCell c ++ encodeTextRow cs := by
  cases c <;> rfl

theorem textCell_read (pre suf : Bytes) (c : Option Bytes) (hc : ∀ v, c = some v → v.length < 2 ^ 63) :
    readLenEncStringAsBytes (pre ++ textCell c ++ suf) pre.length
      = .ok (c.getD [], (((pre ++ textCell c).length : Nat) : Int), c.isNone) := by
  cases c with
  | none =>
    rw [List.append_assoc]
    exact (null_cell_read pre suf).trans (by simp [textCell])
  | some v =>
    rw [textCell, GaeaVerif.C12.lenenc_str_roundtrip pre suf v (hc v rfl)]
    simp only [List.length_append, appendLenEncStringBytes_length, Option.getD_some, Option.isNone_some,
      Int.natCast_add, Int.add_assoc]

theorem parseTextLoop_encode (ops : FloatOps) (fields : List Field) (cells : List (Option Bytes)) (pre : Bytes)
    (hlen : (pre ++ encodeTextRow cells).length < 2 ^ 63) :
    parseTextLoop ops (pre ++ encodeTextRow cells) fields pre.length = convertCells ops fields cells := by
  induction fields generalizing cells pre with
  | nil => simp [parseTextLoop, convertCells]
  | cons f fs ih =>
    cases cells with
    | nil =>
      -- the row has ended: the read is refused
      simp [parseTextLoop, convertCells, encodeTextRow, readLenEncStringAsBytes, readLenEncInt]
    | cons c cs =>
      rw [encodeTextRow_cons, ← List.append_assoc] at hlen ⊢
      have hc : ∀ v, c = some v → v.length < 2 ^ 63 := fun v e => by
        subst e
        simp only [textCell, List.length_append, appendLenEncStringBytes_length] at hlen; omega
      rw [parseTextLoop, textCell_read pre _ c hc]
      simp only
      rw [ih cs (pre ++ textCell c) hlen]
      cases c <;> rfl

theorem parseText_encode (ops : FloatOps) (fields : List Field) (cells : List (Option Bytes))
    (hlen : (encodeTextRow cells).length < 2 ^ 63) :
    parseText ops (encodeTextRow cells) fields = convertCells ops fields cells := by
  have := parseTextLoop_encode ops fields cells [] (by simpa using hlen)
  simpa [parseText] using this

theorem cell_len_le (cells : List (Option Bytes)) (v : Bytes) (h : some v ∈ cells) :
    v.length ≤ (encodeTextRow cells).length := by
  induction cells with
  | nil => simp at h
  | cons c cs ih =>
    rcases List.mem_cons.1 h with e | e
    · subst e; simp [encodeTextRow, appendLenEncStringBytes_length]; omega
    · have := ih e
      rw [encodeTextRow_cons, List.length_append]
      omega

theorem parseTextValue_cases (ops : FloatOps) (f : Field) (c : Bytes) :
    (∃ x, parseTextValue ops f c = .ok x ∧ x ≠ GoVal.nil)
      ∨ ∃ e, parseTextValue ops f c = .err e ∧ e ≠ Err.panic := by
  unfold parseTextValue
  by_cases h1 : isIntFieldType f.typ = true
  · rw [if_pos h1]
    by_cases hu : f.isUnsigned = true
    · rw [if_pos hu]
      cases parseUint c 64 <;> [exact .inr ⟨_, rfl, nofun⟩; exact .inl ⟨_, rfl, nofun⟩]
    · rw [if_neg hu]
      cases parseInt c 64 <;> [exact .inr ⟨_, rfl, nofun⟩; exact .inl ⟨_, rfl, nofun⟩]
  rw [if_neg h1]
  by_cases h2 : f.typ = TypeFloat ∨ f.typ = TypeDouble
  · rw [if_pos h2]
    cases ops.parseFloat c <;> [exact .inr ⟨_, rfl, nofun⟩; exact .inl ⟨_, rfl, nofun⟩]
  rw [if_neg h2]
  by_cases h3 : f.typ = TypeNewDecimal
  · rw [if_pos h3]
    cases newFromString c <;> [exact .inr ⟨_, rfl, nofun⟩; exact .inl ⟨_, rfl, nofun⟩]
  rw [if_neg h3]
  by_cases h4 : isStringFieldType f.typ = true
  · rw [if_pos h4]; exact .inl ⟨_, rfl, nofun⟩
  · rw [if_neg h4]; exact .inl ⟨_, rfl, nofun⟩

theorem parseTextValue_ne_nil (ops : FloatOps) (f : Field) (c : Bytes) (x : GoVal)
    (h : parseTextValue ops f c = .ok x) : x ≠ GoVal.nil := by
  rcases parseTextValue_cases ops f c with ⟨x', hx', hn⟩ | ⟨e, he, _⟩
  · rw [hx'] at h; cases h; exact hn
  · rw [he] at h; cases h

/-! ### `BuildBinaryResultset`: payload and null bitmap -/

/-- The encodings of the non-NULL values of a row, in column order. -/
def encodeVals (ops : FloatOps) : List Field → List GoVal → Res Bytes
  | _, [] => .ok []
  | [], _ :: _ => .err .panic
  | f :: fs, v :: vs =>
    if v = GoVal.nil then encodeVals ops fs vs
    else if !integerFitsColumn f v then .err .intRange
    else
      match appendBinaryValue ops f.typ v with
      | .err e => .err e
      | .ok b =>
        match encodeVals ops fs vs with
        | .err e => .err e
        | .ok bs => .ok (b ++ bs)

theorem encodeVals_cons {ops : FloatOps} {f : Field} {fs : List Field} {v : GoVal} {vs : List GoVal} {b bs : Bytes}
    (hv : v ≠ GoVal.nil) (hfit : integerFitsColumn f v = true) (ha : appendBinaryValue ops f.typ v = .ok b)
    (he : encodeVals ops fs vs = .ok bs) : encodeVals ops (f :: fs) (v :: vs) = .ok (b ++ bs) := by
  rw [encodeVals, if_neg hv, hfit, ha, he]; rfl

/-- The null bitmap after the column loop from column `j` on. -/
def markNulls : List GoVal → Nat → List Nat → List Nat
  | [], _, bm => bm
  | v :: vs, j, bm => markNulls vs (j + 1) (if v = GoVal.nil then (setNullBit bm j).getD bm else bm)

theorem setNullBit_some (bm : List Nat) (j k : Nat) (hjk : j ≤ k) (h : (k + 2) / 8 < bm.length) :
    ∃ bm', setNullBit bm j = some bm' ∧ bm'.length = bm.length := by
  have hj : (j + 2) / 8 < bm.length := Nat.lt_of_le_of_lt (Nat.div_le_div_right (by omega)) h
  simp only [setNullBit, hj, if_true]
  exact ⟨_, rfl, List.length_set ..⟩

/-- `hbm`: the bit of the last column, `j + vals.length - 1 + 2`, lies in the bitmap, so that
    `setNullBit` does not panic. -/
theorem buildRowLoop_eq (ops : FloatOps) (fields : List Field) (vals : List GoVal) (j : Nat)
    (payload : Bytes) (bm : List Nat) (hbm : (j + vals.length + 1) / 8 < bm.length) :
    buildRowLoop ops fields vals j payload bm
      = match encodeVals ops fields vals with
        | .err e => .err e
        | .ok enc => .ok (payload ++ enc, markNulls vals j bm) := by
  induction vals generalizing fields j payload bm with
  | nil => simp [buildRowLoop, encodeVals, markNulls]
  | cons v vs ih =>
    cases fields with
    | nil => rfl
    | cons f fs =>
      simp only [List.length_cons] at hbm
      simp only [buildRowLoop, encodeVals, markNulls]
      by_cases hv : v = GoVal.nil
      · obtain ⟨bm1, h1, hl⟩ := setNullBit_some bm j (j + vs.length) (by omega) (by omega)
        simp only [hv, if_true, h1, Option.getD_some]
        exact ih fs (j + 1) payload bm1 (by rw [hl, show j + 1 + vs.length + 1 = j + (vs.length + 1) + 1 by omega]; exact hbm)
      · simp only [hv, if_false]
        cases integerFitsColumn f v with
        | false => rfl
        | true =>
          simp only [Bool.not_true, Bool.false_eq_true, if_false]
          cases appendBinaryValue ops f.typ v with
          | err e => rfl
          | ok b =>
            simp only
            rw [ih fs (j + 1) (payload ++ b) bm
              (by rw [show j + 1 + vs.length + 1 = j + (vs.length + 1) + 1 by omega]; exact hbm)]
            cases encodeVals ops fs vs <;> simp

def bitAt (bm : List Nat) (k : Nat) : Bool := (bm.getD (k / 8) 0).testBit (k % 8)

theorem setNullBit_spec (bm bm' : List Nat) (j : Nat) (h : setNullBit bm j = some bm') :
    bm'.length = bm.length ∧ ∀ k, bitAt bm' k = (bitAt bm k || decide (k = j + 2)) := by
  unfold setNullBit at h
  simp only at h
  split at h
  · rename_i hpos
    simp only [Option.some.injEq] at h
    subst h
    refine ⟨by simp, fun k => ?_⟩
    unfold bitAt
    by_cases hk : k / 8 = (j + 2) / 8
    · rw [hk, List.getD_eq_getElem?_getD (l := List.set _ _ _), List.getElem?_set_self (by simpa using hpos)]
      simp only [Option.getD_some, Nat.testBit_or, Nat.one_shiftLeft, Nat.testBit_two_pow]
      congr 1
      by_cases hm : (j + 2) % 8 = k % 8
      · have : k = j + 2 := by omega
        simp [hm, this]
      · have : k ≠ j + 2 := by intro e; subst e; exact hm rfl
        simp [hm, this]
    · rw [List.getD_eq_getElem?_getD (l := List.set _ _ _), List.getElem?_set_ne (by omega)]
      have : k ≠ j + 2 := by intro e; subst e; exact hk rfl
      simp [this, List.getD_eq_getElem?_getD]
  · simp at h

/-- The induction step of `markNulls_spec`. -/
theorem nil_at_cons (v : GoVal) (vs : List GoVal) (j k : Nat) :
    decide (j + 2 ≤ k ∧ (v :: vs)[k - (j + 2)]? = some GoVal.nil)
      = (decide (k = j + 2 ∧ v = GoVal.nil)
          || decide (j + 1 + 2 ≤ k ∧ vs[k - (j + 1 + 2)]? = some GoVal.nil)) := by
  rw [← Bool.decide_or, decide_eq_decide]
  rcases Nat.lt_or_ge k (j + 2) with h | h
  · exact ⟨fun ⟨h1, _⟩ => by omega, fun h' => by rcases h' with ⟨h1, -⟩ | ⟨h1, -⟩ <;> omega⟩
  · obtain ⟨i, rfl⟩ : ∃ i, k = j + 2 + i := ⟨k - (j + 2), by omega⟩
    rw [Nat.add_sub_cancel_left]
    cases i with
    | zero =>
      rw [List.getElem?_cons_zero, Option.some.injEq]
      exact ⟨fun ⟨_, h2⟩ => .inl ⟨rfl, h2⟩, fun h' => by
        rcases h' with ⟨_, h2⟩ | ⟨h1, -⟩
        · exact ⟨h, h2⟩
        · omega⟩
    | succ i =>
      rw [List.getElem?_cons_succ, show j + 2 + (i + 1) - (j + 1 + 2) = i by omega]
      exact ⟨fun ⟨_, h2⟩ => .inr ⟨by omega, h2⟩, fun h' => by
        rcases h' with ⟨h1, -⟩ | ⟨_, h2⟩
        · omega
        · exact ⟨h, h2⟩⟩

theorem markNulls_spec (vals : List GoVal) (j : Nat) (bm : List Nat)
    (hbm : (j + vals.length + 1) / 8 < bm.length) :
    (markNulls vals j bm).length = bm.length
    ∧ ∀ k, bitAt (markNulls vals j bm) k
        = (bitAt bm k || decide (j + 2 ≤ k ∧ vals[k - (j + 2)]? = some GoVal.nil)) := by
  induction vals generalizing j bm with
  | nil => exact ⟨rfl, fun k => by simp [markNulls]⟩
  | cons v vs ih =>
    simp only [List.length_cons] at hbm
    have hbm' : ∀ bm1 : List Nat, bm1.length = bm.length → (j + 1 + vs.length + 1) / 8 < bm1.length := fun bm1 hl => by
      rw [hl, show j + 1 + vs.length + 1 = j + (vs.length + 1) + 1 by omega]; exact hbm
    simp only [markNulls]
    by_cases hv : v = GoVal.nil
    · obtain ⟨bm1, h1, hl1⟩ := setNullBit_some bm j (j + vs.length) (by omega) (by omega)
      obtain ⟨-, hbit1⟩ := setNullBit_spec bm bm1 j h1
      obtain ⟨hl, hbit⟩ := ih (j + 1) bm1 (hbm' bm1 hl1)
      simp only [hv, if_true, h1, Option.getD_some]
      refine ⟨hl.trans hl1, fun k => ?_⟩
      rw [nil_at_cons, hbit k, hbit1 k, Bool.or_assoc]
      simp
    · obtain ⟨hl, hbit⟩ := ih (j + 1) bm (hbm' bm rfl)
      simp only [hv, if_false]
      refine ⟨hl, fun k => ?_⟩
      rw [nil_at_cons, hbit k]
      simp [hv]

theorem bitAt_replicate (L k : Nat) : bitAt (List.replicate L 0) k = false := by
  unfold bitAt
  have : (List.replicate L 0).getD (k / 8) 0 = 0 := by
    rw [List.getD_eq_getElem?_getD]
    by_cases h : k / 8 < L
    · simp [h]
    · simp [h]
  rw [this]; simp

/-- The bytes of the bitmap are cut to eight bits; the bits read are below the eighth. -/
theorem nullBit_map (bm : List Nat) (i : Nat) : nullBit (bm.map UInt8.ofNat) i = bitAt bm (i + 2) := by
  unfold nullBit bitAt
  rw [List.getD_eq_getElem?_getD, List.getD_eq_getElem?_getD, List.getElem?_map]
  cases bm[(i + 2) / 8]? with
  | none => simp
  | some x =>
    simp only [Option.map_some, Option.getD_some, UInt8.toNat_ofNat', Nat.testBit_mod_two_pow,
      show (i + 2) % 8 < 8 from Nat.mod_lt _ (by decide), decide_true, Bool.true_and]

/-- The null bitmap `BuildBinaryResultset` builds for a row of `n` columns. -/
def nullBitmap (n : Nat) (vals : List GoVal) : Bytes :=
  (markNulls vals 0 (List.replicate ((n + 7 + 2) / 8) 0)).map UInt8.ofNat

theorem buildBinaryRow_eq (ops : FloatOps) (fields : List Field) (vals : List GoVal)
    (hl : vals.length = fields.length) :
    buildBinaryRow ops fields vals
      = match encodeVals ops fields vals with
        | .err e => .err e
        | .ok enc => .ok (0 :: (nullBitmap fields.length vals ++ enc)) := by
  unfold buildBinaryRow
  rw [if_neg (by simp [hl])]
  simp only
  rw [buildRowLoop_eq ops fields vals 0 [] _ (by simp only [List.length_replicate]; omega)]
  cases encodeVals ops fields vals <;> rfl

theorem nullBitmap_spec (n : Nat) (vals : List GoVal) (hl : vals.length = n) :
    (nullBitmap n vals).length = (n + 7 + 2) / 8
      ∧ ∀ i, nullBit (nullBitmap n vals) i = decide (vals[i]? = some GoVal.nil) := by
  have hbm : (0 + vals.length + 1) / 8 < (List.replicate ((n + 7 + 2) / 8) 0).length := by
    simp only [List.length_replicate]; omega
  obtain ⟨hbl, hbit⟩ := markNulls_spec vals 0 _ hbm
  unfold nullBitmap
  refine ⟨by simp [hbl], fun i => ?_⟩
  rw [nullBit_map _ i, hbit (i + 2), bitAt_replicate]
  simp

theorem buildBinaryRow_shape (ops : FloatOps) (fields : List Field) (vals : List GoVal) (out : Bytes)
    (h : buildBinaryRow ops fields vals = .ok out) :
    ∃ (bm : Bytes) (enc : Bytes), out = 0 :: (bm ++ enc) ∧ bm.length = (fields.length + 7 + 2) / 8
      ∧ vals.length = fields.length ∧ encodeVals ops fields vals = .ok enc
      ∧ ∀ i, nullBit bm i = decide (vals[i]? = some GoVal.nil) := by
  by_cases hl : vals.length = fields.length
  · rw [buildBinaryRow_eq ops fields vals hl] at h
    cases henc : encodeVals ops fields vals with
    | err e => rw [henc] at h; cases h
    | ok enc =>
      rw [henc] at h
      cases h
      obtain ⟨h1, h2⟩ := nullBitmap_spec fields.length vals hl
      exact ⟨_, enc, rfl, h1, hl, rfl, h2⟩
  · simp [buildBinaryRow, hl] at h

/-! ### the spec decoder on the payload -/

def nullFlags (vals : List GoVal) : List Bool := vals.map fun v => decide (v = GoVal.nil)

theorem nullFlags_cons (v : GoVal) (vs : List GoVal) : nullFlags (v :: vs) = decide (v = GoVal.nil) :: nullFlags vs :=
  rfl

theorem range_nullFlags (vals : List GoVal) :
    (List.range vals.length).map (fun i => decide (vals[i]? = some GoVal.nil)) = nullFlags vals := by
  apply List.ext_getElem
  · simp [nullFlags]
  · intro i h1 h2
    simp [nullFlags] at h1 h2 ⊢
    simp [List.getElem?_eq_getElem h2]

theorem readRow_cons_some (ops : FloatOps) (f : Field) (fs : List Field) (c : Option Bytes) (cs : List (Option Bytes))
    (ds : List Val) (h : readRow ops (f :: fs) (c :: cs) = some ds) :
    ∃ d ds', ds = d :: ds' ∧ readText ops f c = some d ∧ readRow ops fs cs = some ds' := by
  simp only [readRow] at h
  cases hd : readText ops f c with
  | none => simp [hd] at h
  | some d =>
    cases hds : readRow ops fs cs with
    | none => simp [hd, hds] at h
    | some ds' => rw [hd, hds] at h; cases h; exact ⟨d, ds', rfl, rfl, rfl⟩

theorem convertCells_cons_ok (ops : FloatOps) (f : Field) (fs : List Field) (c : Option Bytes)
    (cs : List (Option Bytes)) (vals : List GoVal) (h : convertCells ops (f :: fs) (c :: cs) = .ok vals) :
    ∃ x xs, vals = x :: xs ∧ (match c with | none => Res.ok GoVal.nil | some v => parseTextValue ops f v) = .ok x
      ∧ convertCells ops fs cs = .ok xs := by
  simp only [convertCells] at h
  split at h
  · cases h
  · next x hx =>
    split at h
    · cases h
    · next xs hxs => cases h; exact ⟨x, xs, rfl, hx, hxs⟩

theorem encodeVals_cons_ok (ops : FloatOps) (f : Field) (fs : List Field) (v : GoVal) (vs : List GoVal) (enc : Bytes)
    (hv : v ≠ GoVal.nil) (h : encodeVals ops (f :: fs) (v :: vs) = .ok enc) :
    integerFitsColumn f v = true ∧ ∃ b bs, enc = b ++ bs ∧ appendBinaryValue ops f.typ v = .ok b
      ∧ encodeVals ops fs vs = .ok bs := by
  simp only [encodeVals, hv, if_false] at h
  cases hfit : integerFitsColumn f v with
  | false => simp [hfit] at h
  | true =>
    simp only [hfit, Bool.not_true, Bool.false_eq_true, if_false] at h
    split at h
    · cases h
    · next b hb =>
      split at h
      · cases h
      · next bs hbs => cases h; exact ⟨rfl, b, bs, rfl, hb, hbs⟩

theorem decodeCols_exact (ops : FloatOps) (hops : FloatOpsOk ops) (fields : List Field)
    (cells : List (Option Bytes)) (vals : List GoVal) (enc : Bytes) (ds : List Val) (rest : Bytes)
    (hconv : convertCells ops fields cells = .ok vals) (henc : encodeVals ops fields vals = .ok enc)
    (hden : readRow ops fields cells = some ds)
    (hlen : ∀ v, some v ∈ cells → v.length < 2 ^ 62) :
    ∃ vs, decodeCols fields (nullFlags vals) (enc ++ rest) = some (vs, rest) ∧ sameRow vs ds = true := by
  induction fields generalizing cells vals enc ds with
  | nil =>
    cases cells with
    | cons c cs => cases hden
    | nil => cases hconv; cases henc; cases hden; exact ⟨[], rfl, rfl⟩
  | cons f fs ih =>
    cases cells with
    | nil => cases hden
    | cons c cs =>
      obtain ⟨d, ds', rfl, hd, hds⟩ := readRow_cons_some ops f fs c cs ds hden
      obtain ⟨x, xs, rfl, hx, hc⟩ := convertCells_cons_ok ops f fs c cs vals hconv
      have hlen' : ∀ v, some v ∈ cs → v.length < 2 ^ 62 := fun v hv => hlen v (List.mem_cons_of_mem _ hv)
      cases c with
      | none =>
        cases hx
        cases hd
        obtain ⟨vs, hdec, hsame⟩ := ih cs xs enc ds' hc henc hds hlen'
        exact ⟨.null :: vs, by simp [nullFlags_cons, decodeCols, hdec], by simp [sameRow, hsame, Val.same]⟩
      | some cell =>
        have hxn := parseTextValue_ne_nil ops f cell x hx
        obtain ⟨hfit, b, bs, rfl, ha, he⟩ := encodeVals_cons_ok ops f fs x xs enc hxn henc
        obtain ⟨vs, hdec, hsame⟩ := ih cs xs bs ds' hc he hds hlen'
        obtain ⟨v', hv', hs'⟩ := col_exact ops hops f cell d x b (bs ++ rest) (hlen cell (List.mem_cons_self ..))
          hd hx hfit ha
        exact ⟨v' :: vs, by simp [nullFlags_cons, hxn, decodeCols, hv', hdec], by simp [sameRow, hsame, hs']⟩

/-! ### no run-time panic -/

theorem binaryValueBytes_no_panic (ops : FloatOps) (ty : Nat) (v : GoVal) :
    binaryValueBytes ops ty v ≠ .err .panic := by
  cases v <;> simp only [binaryValueBytes, datetimeBytes, durationBytes] <;> (repeat' split) <;> simp

theorem appendBinaryValue_no_panic (ops : FloatOps) (ty : Nat) (v : GoVal) :
    appendBinaryValue ops ty v ≠ .err .panic := by
  unfold appendBinaryValue
  cases h : binaryValueBytes ops ty v with
  | err e => exact fun he => binaryValueBytes_no_panic ops ty v (h.trans he)
  | ok t =>
    -- every leaf of the append phase is a result or one of two other error kinds
    simp only [ne_eq, apply_ite (· = Res.err Err.panic), reduceCtorEq, Res.err.injEq, ite_self, not_false_eq_true]

theorem parseTextValue_no_panic (ops : FloatOps) (f : Field) (c : Bytes) :
    parseTextValue ops f c ≠ .err .panic := by
  rcases parseTextValue_cases ops f c with ⟨x, hx, _⟩ | ⟨e, he, hn⟩
  · rw [hx]; nofun
  · rw [he]; exact fun h => hn (Res.err.inj h)

theorem parseTextLoop_no_panic (ops : FloatOps) (p : Bytes) (fields : List Field) (pos : Int) :
    parseTextLoop ops p fields pos ≠ .err .panic := by
  induction fields generalizing pos with
  | nil => simp [parseTextLoop]
  | cons f fs ih =>
    unfold parseTextLoop
    have hb := GaeaVerif.C12.readLenEncStringAsBytes_in_bounds p pos
    cases hr : readLenEncStringAsBytes p pos with
    | fail => simp
    | panic => rw [hr] at hb; exact hb.elim
    | ok a =>
      obtain ⟨v, pos', isNull⟩ := a
      simp only
      have h1 := parseTextValue_no_panic ops f v
      have h2 := ih pos'
      cases isNull
      · simp only [Bool.false_eq_true, if_false]
        cases hv : parseTextValue ops f v with
        | err e => rw [hv] at h1; simpa using h1
        | ok x =>
          simp only
          cases hl : parseTextLoop ops p fs pos' with
          | err e => rw [hl] at h2; simpa using h2
          | ok xs => simp
      · simp only [if_true]
        cases hl : parseTextLoop ops p fs pos' with
        | err e => rw [hl] at h2; simpa using h2
        | ok xs => simp

theorem encodeVals_no_panic (ops : FloatOps) (fields : List Field) (vals : List GoVal)
    (hlen : vals.length = fields.length) : encodeVals ops fields vals ≠ .err .panic := by
  induction vals generalizing fields with
  | nil => simp [encodeVals]
  | cons v vs ih =>
    cases fields with
    | nil => cases hlen
    | cons f fs =>
      have ih := ih fs (Nat.succ.inj hlen)
      simp only [encodeVals]
      by_cases hv : v = GoVal.nil
      · rw [if_pos hv]; exact ih
      · rw [if_neg hv]
        cases integerFitsColumn f v with
        | false => nofun
        | true =>
          simp only [Bool.not_true, Bool.false_eq_true, if_false]
          have h1 := appendBinaryValue_no_panic ops f.typ v
          cases ha : appendBinaryValue ops f.typ v with
          | err e => rw [ha] at h1; simpa using h1
          | ok b =>
            simp only
            cases he : encodeVals ops fs vs with
            | err e => rw [he] at ih; simpa using ih
            | ok bs => nofun

theorem rowToBinary_no_panic (ops : FloatOps) (fields : List Field) (p : Bytes) :
    rowToBinary ops fields p ≠ .err .panic := by
  unfold rowToBinary parseText
  have hp := parseTextLoop_no_panic ops p fields 0
  cases h : parseTextLoop ops p fields 0 with
  | err e => rw [h] at hp; simpa using hp
  | ok v =>
    by_cases hl : v.length = fields.length
    · have he := encodeVals_no_panic ops fields v hl
      simp only [buildBinaryRow_eq ops fields v hl]
      cases h' : encodeVals ops fields v with
      | err e => rw [h'] at he; simpa using he
      | ok enc => nofun
    · simp [buildBinaryRow, hl]

/-! ### delivery: a row of server values is converted -/

theorem cells_total (ops : FloatOps) (fields : List Field) (cells : List (Option Bytes))
    (hs : serverRow ops fields cells = true) (hlen : ∀ v, some v ∈ cells → v.length < 2 ^ 31) :
    ∃ vals enc, convertCells ops fields cells = .ok vals ∧ encodeVals ops fields vals = .ok enc
      ∧ vals.length = fields.length := by
  induction fields generalizing cells with
  | nil =>
    cases cells with
    | nil => exact ⟨[], [], by simp [convertCells], by simp [encodeVals], rfl⟩
    | cons c cs => simp [serverRow] at hs
  | cons f fs ih =>
    cases cells with
    | nil => simp [serverRow] at hs
    | cons c cs =>
      simp only [serverRow, Bool.and_eq_true] at hs
      obtain ⟨vals, enc, hc, he, hl⟩ := ih cs hs.2 (fun v hv => hlen v (by simp [hv]))
      cases c with
      | none =>
        exact ⟨GoVal.nil :: vals, enc, by rw [convertCells, hc], he, by simp [hl]⟩
      | some cell =>
        obtain ⟨v, b, hp, hfit, ha⟩ := col_total ops f cell (hlen cell (by simp)) hs.1
        have hv := parseTextValue_ne_nil ops f cell v hp
        exact ⟨v :: vals, b ++ enc, convertCells_cons_some hp hc, encodeVals_cons hv hfit ha he, by simp [hl]⟩

theorem serverRow_denote (ops : FloatOps) (fields : List Field) (cells : List (Option Bytes))
    (h : serverRow ops fields cells = true) : ∃ ds, denoteRow ops fields cells = some ds := by
  induction fields generalizing cells with
  | nil =>
    cases cells with
    | nil => exact ⟨[], rfl⟩
    | cons c cs => simp [serverRow] at h
  | cons f fs ih =>
    cases cells with
    | nil => simp [serverRow] at h
    | cons c cs =>
      simp only [serverRow, Bool.and_eq_true] at h
      obtain ⟨ds, hds⟩ := ih cs h.2
      cases c with
      | none => exact ⟨.null :: ds, by simp [denoteRow, denoteText, hds]⟩
      | some cell =>
        have h1 := h.1
        unfold serverCell at h1
        simp only [Bool.and_eq_true] at h1
        cases hd : denoteText ops f (some cell) with
        | none => simp [hd] at h1
        | some d => exact ⟨d :: ds, by simp [denoteRow, hd, hds]⟩

theorem row_total (ops : FloatOps) (fields : List Field) (cells : List (Option Bytes))
    (hs : serverRow ops fields cells = true) (hcell : ∀ v, some v ∈ cells → v.length < 2 ^ 31)
    (hlen : (encodeTextRow cells).length < 2 ^ 63) :
    ∃ out, rowToBinary ops fields (encodeTextRow cells) = .ok out := by
  obtain ⟨vals, enc, hc, he, hl⟩ := cells_total ops fields cells hs hcell
  refine ⟨0 :: (nullBitmap fields.length vals ++ enc), ?_⟩
  unfold rowToBinary
  rw [parseText_encode ops fields cells hlen, hc]
  simp only [buildBinaryRow_eq ops fields vals hl, he]

/-! ### resultsets -/

theorem rowsToBinary_cons (ops : FloatOps) (fields : List Field) (p : Bytes) (ps outs : List Bytes) :
    rowsToBinary ops fields (p :: ps) = .ok outs ↔
      ∃ o os, outs = o :: os ∧ rowToBinary ops fields p = .ok o ∧ rowsToBinary ops fields ps = .ok os := by
  simp only [rowsToBinary, parseRows, rowToBinary]
  cases parseText ops p fields with
  | err e => simp
  | ok v =>
    cases parseRows ops fields ps with
    | err e => simp
    | ok vs =>
      simp only [buildBinaryResultset]
      cases buildBinaryRow ops fields v with
      | err e => simp
      | ok r =>
        cases buildBinaryResultset ops fields vs with
        | err e => simp
        | ok rs => simp [eq_comm]

theorem rowsToBinary_cons_err (ops : FloatOps) (fields : List Field) (p : Bytes) (ps : List Bytes) (e : Err)
    (h : rowsToBinary ops fields (p :: ps) = .err e) :
    rowToBinary ops fields p = .err e ∨ rowsToBinary ops fields ps = .err e := by
  revert h
  simp only [rowsToBinary, parseRows, rowToBinary]
  cases parseText ops p fields with
  | err e' => intro h; cases h; exact .inl rfl
  | ok v =>
    cases parseRows ops fields ps with
    | err e' => intro h; cases h; exact .inr rfl
    | ok vs =>
      simp only [buildBinaryResultset]
      cases buildBinaryRow ops fields v with
      | err e' => intro h; cases h; exact .inl rfl
      | ok r =>
        cases buildBinaryResultset ops fields vs with
        | err e' => intro h; cases h; exact .inr rfl
        | ok rs => nofun

theorem rowsToBinary_err (ops : FloatOps) (fields : List Field) (rows : List Bytes) (e : Err)
    (h : rowsToBinary ops fields rows = .err e) : ∃ r ∈ rows, rowToBinary ops fields r = .err e := by
  induction rows with
  | nil => cases h
  | cons p ps ih =>
    rcases rowsToBinary_cons_err ops fields p ps e h with h | h
    · exact ⟨p, List.mem_cons_self .., h⟩
    · obtain ⟨r, hr, he⟩ := ih h
      exact ⟨r, List.mem_cons_of_mem _ hr, he⟩

theorem resultset_rows (ops : FloatOps) (fields : List Field) (P : List (Option Bytes) → Bytes → Prop)
    (hP : ∀ cells out, rowToBinary ops fields (encodeTextRow cells) = .ok out → P cells out)
    (rows : List (List (Option Bytes))) (outs : List Bytes)
    (hout : rowsToBinary ops fields (rows.map encodeTextRow) = .ok outs) : List.Forall₂ P rows outs := by
  induction rows generalizing outs with
  | nil => cases hout; exact .nil
  | cons cells rows ih =>
    obtain ⟨o, os, rfl, h1, h2⟩ := (rowsToBinary_cons ops fields _ _ outs).1 hout
    exact .cons (hP cells o h1) (ih os h2)

theorem rowsToBinary_of_rows (ops : FloatOps) (fields : List Field) (rows : List Bytes)
    (h : ∀ r ∈ rows, ∃ out, rowToBinary ops fields r = .ok out) :
    ∃ outs, rowsToBinary ops fields rows = .ok outs := by
  induction rows with
  | nil => exact ⟨[], rfl⟩
  | cons r rs ih =>
    obtain ⟨o, ho⟩ := h r (List.mem_cons_self ..)
    obtain ⟨os, hos⟩ := ih fun r' hr' => h r' (List.mem_cons_of_mem _ hr')
    exact ⟨o :: os, (rowsToBinary_cons ops fields r rs _).2 ⟨o, os, rfl, ho, hos⟩⟩

end GaeaVerif.C13
