import GaeaVerif.Lemmas.SessConnsInv
/-
  C18 / C23: what one operation of a history leaves of the two maps of the
  session (the "pins"), the commands that end a transaction outside
  keep-session mode, and the connections COMMIT and ROLLBACK are sent to.
-/
namespace GaeaVerif.SessionConns

variable {w0 : World} {cfg : Cfg} {s : St} {ctx : Ctx}

theorem cmdResult_step (cfg : Cfg) (op : Op) (h : Idle w0 cfg s) : CmdResult op.body s (step cfg s op).1 := by
  rcases step_cases cfg s op with ⟨hcl, -⟩ | ⟨hcl, ⟨hb, e⟩ | ⟨-, e⟩ | ⟨-, e⟩⟩
  · exact .of_closed (closed_step cfg op hcl)
  · rw [e, hb]
    exact ⟨fun _ _ he => .inl he, fun _ he => .inl he, nofun, fun _ hin => .inr hin⟩
  · exact .of_closed (by rw [e]; exact closed_sessionClose)
  · have key := (idle_runCommand (ctx := op.toCtx cfg) op.body h.fresh hcl).2
    rw [e]
    exact ⟨key.tx, key.ks, key.ns, key.intx⟩

theorem closed_runCommand_reload_in_tx (b : Body) (hks : ctx.cfg.ks = true) (hns : s.nsCur > s.nsOld)
    (hin : s.isInTransaction = true) (hcont : s.continueConn = none) :
    (runCommand ctx b s).2 = .err ∧ (runCommand ctx b s).1.closed = true := by
  -- inside a transaction `prep` drops nothing and leaves `nsOld`: `exec` sees the reload and answers with the
  -- error, the response goes out, and `finish` sees the reload again
  have hin' : ({ s with nsCtx := s.nsCur } : St).isInTransaction = true := hin
  have e2 : prep ctx s = { s with nsCtx := s.nsCur } := by
    simp [prep, clearKsConns_neg (.inr (.inr hin')), hin']
  have hsc : shouldClear ctx (prep ctx s) = true := by simp [e2, shouldClear, hks, hns, hin']
  have hc2 : (prep ctx s).continueConn = none := e2 ▸ hcont
  rw [runCommand_eq, exec, if_pos hsc]
  generalize prep ctx s = s2 at hsc hc2
  rw [show writeResponse ctx .err s2 = ({ s2 with continueConn := none }, true) from
    Prod.ext (writeResponse_none _ hc2) rfl]
  simp [finish, show shouldClear ctx { s2 with continueConn := none } = true from hsc, closed_sessionClose]

theorem dropped_runCommand (b : Body) (h : Idle w0 ctx.cfg s) (hncl : s.closed = false)
    (hks : ctx.cfg.ks = true) (hns : s.nsCur > s.nsOld) (hin : s.isInTransaction = false) :
    ∀ e ∈ s.ksConns, Dropped (runCommand ctx b s).1.w e.2 := by
  intro e he
  -- the state `executeCommand` is run on: the connections of the old configuration are dropped
  have hw1 : (prep ctx s).w = closeRecycleAll (iterOrder ctx.ord s.ksConns).vals s.w := by
    rw [prep, clearKsConns_pos (s := { s with nsCtx := s.nsCur }) hks hns hin]
    split <;> rfl
  have hdrop : Dropped (prep ctx s).w e.2 := hw1 ▸ h.inv.ks_dropped ctx.ord e he
  -- from there on the ledger only grows
  have h2 := idle_prep (ctx := ctx) h
  exact hdrop.ext (idle_afterPrep b h2.1.rebase (h2.2.trans hncl)).1.inv.wi.ext

theorem runCommand_endTx (hks : ctx.cfg.ks = false) (b : Body) (hb : b = .commit ∨ b = .rollback ∨ b = .ac true)
    (hcont : s.continueConn = none) (hksn : s.ksConns = []) :
    (runCommand ctx b s).1.txConns = [] ∧
    ∃ s2 : St, s2.w = s.w ∧ s2.txConns = s.txConns ∧ s2.ksConns = [] ∧
      (runCommand ctx b s).1.w = (executeCommand ctx b s2).1.w := by
  obtain ⟨o, e2⟩ := prep_noKs (s := s) hks
  rw [runCommand_eq, e2]
  generalize hs2 : ({ s with nsCtx := s.nsCur, nsOld := o } : St) = s2
  have f2 : s2.w = s.w ∧ s2.txConns = s.txConns ∧ s2.ksConns = [] ∧ s2.continueConn = none := by
    subst hs2; exact ⟨rfl, rfl, hksn, hcont⟩
  rw [exec, shouldClear_false (.inl hks), if_neg Bool.false_ne_true]
  have hex : (executeCommand ctx b s2).1.continueConn = none ∧ (executeCommand ctx b s2).2 ≠ .badconn ∧
      (executeCommand ctx b s2).1.txConns = [] ∧ (executeCommand ctx b s2).1.ksConns = [] := by
    rcases hb with rfl | rfl | rfl <;>
      exact ⟨f2.2.2.2, by simp only [executeCommand]; split <;> simp, rfl, f2.2.2.1⟩
  have hbq : (b == Body.quit) = false := by rcases hb with rfl | rfl | rfl <;> rfl
  obtain ⟨hc, hr, htx, hk⟩ := hex
  -- nothing is streamed, the response is delivered, the session stays open
  have e4 : writeResponse ctx (executeCommand ctx b s2).2 (executeCommand ctx b s2).1 =
      ({ (executeCommand ctx b s2).1 with continueConn := none }, true) :=
    Prod.ext (writeResponse_none _ hc) (by simpa [writeResponse] using hr)
  rw [e4, finish_delivered rfl hbq (shouldClear_false (.inl hks)) (by simp [txConnLost, htx, hk, CMap.vals])]
  exact ⟨htx, s2, f2.1, f2.2.1, f2.2.2.1, rfl⟩

/-- connections that received the backend call `k`, newest first -/
def callsOn (k : CK) (tr : List Event) : List Nat :=
  tr.filterMap fun e =>
    match e with
    | .call k' c _ => if k' = k then some c else none
    | _ => none

theorem callsOn_recycle (k : CK) (c : Nat) (w : World) : callsOn k (recycle c w).trace = callsOn k w.trace := by
  unfold recycle
  split
  · rfl
  · simp [callsOn, World.emit]

theorem callsOn_call_same (ctx : Ctx) (k : CK) {c : Nat} {w : World} {cn : Conn} (hcn : w.conns[c]? = some cn) :
    callsOn k (call ctx k c w).1.trace = c :: callsOn k w.trace := by
  simp [call, hcn, callsOn, World.emit]

theorem conns_call_other (ctx : Ctx) (k : CK) {c d : Nat} (hne : c ≠ d) (w : World) :
    (call ctx k c w).1.conns[d]? = w.conns[d]? := by
  unfold call
  split
  · rfl
  · simp [hne]

theorem conns_recycle_other {c d : Nat} (hne : c ≠ d) (w : World) : (recycle c w).conns[d]? = w.conns[d]? := by
  unfold recycle
  split
  · rfl
  · simp [hne]

theorem callsOn_eachConn {k : CK} {body : Nat → World → World × Option Bool} {P : Conn → Prop}
    (h1 : ∀ c w cn, w.conns[c]? = some cn → P cn → callsOn k (body c w).1.trace = c :: callsOn k w.trace)
    (h2 : ∀ c d w, c ≠ d → (body c w).1.conns[d]? = w.conns[d]?) (m : Bool → Bool → Bool) :
    ∀ (cs : List Nat) (w : World) (b : Bool), cs.Nodup →
      (∀ c ∈ cs, ∃ cn : Conn, w.conns[c]? = some cn ∧ P cn) →
      callsOn k (eachConn body m cs (w, b)).1.trace = cs.reverse ++ callsOn k w.trace := by
  intro cs
  induction cs with
  | nil => exact fun w b _ _ => rfl
  | cons c cs ih =>
    intro w b hnd hv
    obtain ⟨cn, hcn, hp⟩ := hv c List.mem_cons_self
    have hnd' := List.nodup_cons.1 hnd
    have hv' : ∀ d ∈ cs, ∃ dn : Conn, (body c w).1.conns[d]? = some dn ∧ P dn := fun d hd =>
      (h2 c d w fun e => hnd'.1 (e ▸ hd)) ▸ hv d (List.mem_cons_of_mem _ hd)
    have h1 := h1 c w cn hcn hp
    simp only [eachConn]
    split <;> rename_i heq <;> rw [heq] at h1 hv' <;> rw [ih _ _ hnd'.2 hv', h1] <;> simp

theorem callsOn_commitTx (ctx : Ctx) (c : Nat) (w : World) (cn : Conn) (hcn : w.conns[c]? = some cn) :
    callsOn .C (commitTx ctx c w).1.trace = c :: callsOn .C w.trace :=
  (callsOn_recycle ..).trans (callsOn_call_same ctx .C hcn)

theorem callsOn_rollbackTx (ctx : Ctx) (c : Nat) (w : World) (cn : Conn) (hcn : w.conns[c]? = some cn)
    (hop : cn.closed = false) : callsOn .R (rollbackTx ctx c w).1.trace = c :: callsOn .R w.trace := by
  simp only [rollbackTx, isClosed, hcn, hop, Bool.false_eq_true, if_false]
  exact (callsOn_recycle ..).trans (callsOn_call_same ctx .R hcn)

theorem conns_commitTx_other (ctx : Ctx) (c d : Nat) (w : World) (hne : c ≠ d) :
    (commitTx ctx c w).1.conns[d]? = w.conns[d]? :=
  (conns_recycle_other hne _).trans (conns_call_other ctx .C hne w)

theorem conns_rollbackTx_other (ctx : Ctx) (c d : Nat) (w : World) (hne : c ≠ d) :
    (rollbackTx ctx c w).1.conns[d]? = w.conns[d]? := by
  unfold rollbackTx
  split
  · exact conns_recycle_other hne w
  · exact (conns_recycle_other hne _).trans (conns_call_other ctx .R hne w)

/-- a command that ends the transaction outside keep-session mode by a loop over
    its connections (`hexec`) -/
theorem targets_step {k : CK} {body : Nat → World → World × Option Bool} {P : Conn → Prop} {m : Bool → Bool → Bool}
    (h1 : ∀ c w cn, w.conns[c]? = some cn → P cn → callsOn k (body c w).1.trace = c :: callsOn k w.trace)
    (h2 : ∀ c d w, c ≠ d → (body c w).1.conns[d]? = w.conns[d]?)
    (op : Op) (h : Idle w0 cfg s) (hks : cfg.ks = false) (hopen : s.closed = false)
    (hb : op.body = .commit ∨ op.body = .rollback ∨ op.body = .ac true)
    (hexec : ∀ s2 : St, s2.ksConns = [] →
      (executeCommand (op.toCtx cfg) op.body s2).1.w =
        (eachConn body m (iterOrder op.ord s2.txConns).vals (s2.w, true)).1)
    (hP : ∀ c ∈ s.txConns.vals, ∃ cn : Conn, s.w.conns[c]? = some cn ∧ P cn) :
    (callsOn k (step cfg s op).1.w.trace).Perm s.txConns.vals := by
  rw [step_command cfg op (by rcases hb with hb | hb | hb <;> rw [hb] <;> rfl) hopen]
  obtain ⟨-, s2, (hw2 : s2.w = { s.w with trace := [] }), (htx2 : s2.txConns = s.txConns), hks2, hw⟩ :=
    runCommand_endTx (ctx := op.toCtx cfg) (s := s.fresh) hks op.body hb h.cont (h.inv.ksOff hks)
  have hnd : (iterOrder op.ord s2.txConns).vals.Nodup :=
    ((iterOrder_perm op.ord s2.txConns).map _).nodup_iff.2
      (htx2 ▸ (List.nodup_append.1 (held_vals s ▸ h.ledger.nodupC)).1)
  rw [hw, hexec s2 hks2, callsOn_eachConn h1 h2 m _ s2.w true hnd
    (fun c hc => hw2 ▸ hP c (htx2 ▸ mem_iter_vals.1 hc)), hw2]
  simp only [callsOn, List.filterMap_nil, List.append_nil]
  exact (List.reverse_perm _).trans (htx2 ▸ (iterOrder_perm op.ord s2.txConns).map _)

/-- between two commands: the connections of an open session that is in a
    transaction are all open (`txConnLost` closed the session otherwise) -/
def HeldOpen (s : St) : Prop :=
  s.closed = false → s.isInTransaction = true → ∀ e ∈ held s, isClosed e.2 s.w = false

theorem heldOpen_runCommand (b : Body) : HeldOpen (runCommand ctx b s).1 := by
  rw [runCommand_eq]
  generalize exec ctx b (prep ctx s) = p3
  rcases finish_cases ctx b p3.2 (writeResponse ctx p3.2 p3.1) with hc | ⟨-, hl, e⟩
  · exact fun ho => by rw [hc] at ho; cases ho
  · rw [e]
    intro _ hin e he
    show isClosed e.2 (writeResponse ctx p3.2 p3.1).1.w = false
    simp only [txConnLost, show (writeResponse ctx p3.2 p3.1).1.isInTransaction = true from hin, Bool.true_and] at hl
    exact Bool.eq_false_iff.2 fun hcl => by
      rw [List.any_eq_true.2 ⟨e.2, held_vals _ ▸ mem_vals.2 ⟨e.1, he⟩, hcl⟩] at hl; cases hl

theorem heldOpen_step (cfg : Cfg) (op : Op) (h : HeldOpen s) : HeldOpen (step cfg s op).1 := by
  rcases step_cases cfg s op with ⟨hcl, e⟩ | ⟨-, ⟨-, e⟩ | ⟨-, e⟩ | ⟨-, e⟩⟩ <;> rw [e]
  · exact fun hc => nomatch hcl.symm.trans hc
  · exact h
  · exact fun hc => nomatch closed_sessionClose.symm.trans hc
  · exact heldOpen_runCommand _

theorem heldOpen_run (cfg : Cfg) (ops : List Op) : HeldOpen (run cfg ops) :=
  List.foldlRecOn (motive := HeldOpen) ops _ (fun _ _ e he => by simp [held] at he)
    fun _ h op _ => heldOpen_step cfg op h

end GaeaVerif.SessionConns
