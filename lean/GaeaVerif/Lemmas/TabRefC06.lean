import GaeaVerif.Lemmas.TokenizeC06
import GaeaVerif.Model.TabRefC06
/-
  Lemmas about the words of a text (`identWords`, the word scan of
  `MentionsShardTable`) and the grammar of table references of
  `Model/TabRefC06.lean`, used by Props/C06.
-/
namespace GaeaVerif.FastPath
open GaeaVerif GaeaVerif.Tok

theorem isIdentChar_lowerChar (c : Char) : isIdentChar (lowerChar c) = isIdentChar c := by
  unfold lowerChar
  split
  · rename_i hu
    exact forall_char_between 'A' 'Z' (fun c => isIdentChar (Char.ofNat (c.toNat + 32)) = isIdentChar c)
      (by decide +kernel) c hu.1 hu.2
  · split
    · rename_i h
      rw [show c = Char.ofNat 0x130 from Char.ext (eq_of_beq h)]; decide +kernel
    · split
      · rename_i h
        rw [show c = Char.ofNat 0x212A from Char.ext (eq_of_beq h)]; decide +kernel
      · rfl

theorem identWords_toLower (s : Str) : identWords (toLower s) = (identWords s).map toLower :=
  fieldsAux_map (fun c => !isIdentChar c) lowerChar (fun c => by rw [isIdentChar_lowerChar]) [] s

theorem identWords_append (a b : Str)
    (h : (∀ c, a.getLast? = some c → isIdentChar c = false) ∨ (∀ c, b.head? = some c → isIdentChar c = false)) :
    identWords (a ++ b) = identWords a ++ identWords b :=
  fieldsFunc_append _ a b (h.imp (fun h c hc => by simp [h c hc]) (fun h c hc => by simp [h c hc]))

theorem identWords_of_seps (s : Str) (h : ∀ c ∈ s, isIdentChar c = false) : identWords s = [] :=
  fieldsFunc_of_seps _ s (fun c hc => by simp [h c hc])

theorem identWords_sep (s : Char) (hs : isIdentChar s = false) (a b : Str) :
    identWords (a ++ s :: b) = identWords a ++ identWords b :=
  fieldsFunc_sep _ s (by simp [hs]) a b

theorem identWords_leading_seps (seps x : Str) (h : ∀ c ∈ seps, isIdentChar c = false) :
    identWords (seps ++ x) = identWords x :=
  fieldsFunc_leading_seps _ seps (by intro c hc; simp [h c hc]) x

theorem identWords_trailing_seps (x seps : Str) (h : ∀ c ∈ seps, isIdentChar c = false) :
    identWords (x ++ seps) = identWords x :=
  fieldsFunc_trailing_seps _ x seps (by intro c hc; simp [h c hc])

theorem identWords_word (w : Str) (hne : w ≠ []) (hw : ∀ c ∈ w, isIdentChar c = true) :
    identWords w = [w] :=
  fieldsFunc_word _ w hne (by intro c hc; simp [hw c hc])

theorem mem_identWords_of_delimited (pre w post : Str) (hne : w ≠ []) (hw : ∀ c ∈ w, isIdentChar c = true)
    (hpre : ∀ c, pre.getLast? = some c → isIdentChar c = false)
    (hpost : ∀ c, post.head? = some c → isIdentChar c = false) :
    w ∈ identWords (pre ++ w ++ post) := by
  apply mem_fieldsFunc_of_delimited _ pre w post hne
  · intro c hc; simp [hw c hc]
  · intro c hc; simp [hpre c hc]
  · intro c hc; simp [hpost c hc]

theorem endsWord_iff (o : Option Char) : endsWord o = true ↔ ∀ c, o = some c → isIdentChar c = false := by
  cases o <;> simp [endsWord]

theorem mem_identWords (s w : Str) (h : w ∈ identWords s) : w ≠ [] ∧ ∀ c ∈ w, isIdentChar c = true := by
  obtain ⟨hne, hw⟩ := mem_fieldsFunc _ s w h
  exact ⟨hne, fun c hc => by simpa using hw c hc⟩

theorem identWords_trimBackquote (s : Str) : identWords (trimBackquote s) = identWords s := by
  have hbq : ∀ l : Str, ∀ c ∈ l.takeWhile (· == '`'), isIdentChar c = false := by
    intro l c hc
    rw [show c = '`' from eq_of_beq (mem_takeWhile _ l c hc)]
    decide
  -- s = leading back-quotes ++ t,  t = trimmed ++ trailing back-quotes
  generalize ht : s.dropWhile (· == '`') = t
  have e1 : s = s.takeWhile (· == '`') ++ t := by rw [← ht, List.takeWhile_append_dropWhile]
  have e2 : t = (t.reverse.dropWhile (· == '`')).reverse ++ (t.reverse.takeWhile (· == '`')).reverse := by
    rw [← List.reverse_append, List.takeWhile_append_dropWhile, List.reverse_reverse]
  rw [trimBackquote, ht]
  conv => rhs; rw [e1, e2]
  rw [identWords_leading_seps _ _ (hbq s), identWords_trailing_seps _ _ (fun c hc => hbq _ c (by simpa using hc))]

theorem identWords_escapeBackquote (a n rest : Str) :
    identWords (a ++ escapeBackquote n ++ rest) = identWords (a ++ n ++ rest) := by
  have hbq : isIdentChar '`' = false := by decide
  induction n generalizing a with
  | nil => rfl
  | cons c n ih =>
    rw [escapeBackquote]
    split
    · -- the second back-quote opens and ends an empty field
      rename_i hq
      obtain rfl : c = '`' := eq_of_beq hq
      have hl : ∀ x, identWords ('`' :: x) = identWords x := identWords_sep '`' hbq []
      have := ih []
      simp only [List.nil_append] at this
      simp only [List.append_assoc, List.cons_append, identWords_sep '`' hbq a, hl, this]
    · have := ih (a ++ [c])
      simpa using this

theorem identWords_backquoted (pre n post : Str) :
    identWords (pre ++ ('`' :: (escapeBackquote n ++ ['`'])) ++ post) =
      identWords pre ++ identWords n ++ identWords post := by
  have hbq : isIdentChar '`' = false := by decide
  have := identWords_escapeBackquote (pre ++ ['`']) n ('`' :: post)
  simp only [List.append_assoc, List.cons_append, List.nil_append] at this ⊢
  rw [this, identWords_sep '`' hbq, identWords_sep '`' hbq]

theorem isDigit_isIdentChar (c : Char) (h : isDigit c = true) : isIdentChar c = true ∧ c ≠ 'M' := by
  rw [isDigit, Bool.and_eq_true, decide_eq_true_eq, decide_eq_true_eq] at h
  exact forall_char_between '0' '9' (fun c => isIdentChar c = true ∧ c ≠ 'M') (by decide +kernel) c h.1 h.2

theorem getLast_lastOf (pre s : Str) : (pre ++ s).getLast? = lastOf pre.getLast? s := by
  rw [lastOf, List.getLast?_append]
  cases s.getLast? <;> rfl

theorem hasRule_cases (rules : List (Str × Str)) (db t : Str) (h : hasRule rules db t = true) :
    (∃ a b, splitAll '.' t = [a, b] ∧ (trimBackquote a, trimBackquote b) ∈ rules) ∨ (db, t) ∈ rules := by
  unfold hasRule at h
  simp only at h
  split at h
  · exact Or.inl ⟨_, _, ‹_›, by simpa using h⟩
  · exact Or.inr (by simpa using h)

theorem lower_word_mem_statementWords (sql w : Str) (h : w ∈ identWords sql) : toLower w ∈ statementWords sql := by
  unfold statementWords
  split
  · exact List.mem_flatMap.2 ⟨w, h, by simp⟩
  · exact List.mem_map_of_mem h

theorem versionless_mem_statementWords (sql w n : Str) (hv : containsSub versionMark sql = true)
    (h : w ∈ identWords sql) (hn : n ∈ withoutVersionNumber w) : toLower n ∈ statementWords sql := by
  rw [statementWords, if_pos hv]
  exact List.mem_flatMap.2 ⟨w, h, List.mem_cons_of_mem _ (List.mem_map_of_mem hn)⟩

end GaeaVerif.FastPath
