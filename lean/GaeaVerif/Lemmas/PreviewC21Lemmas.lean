import GaeaVerif.Model.PreviewC21Spec
import GaeaVerif.Lemmas.LexC17Basic
/-
  Helper lemmas for C21: the Go string functions of the Preview model on ASCII
  prefixes and suffixes.
-/
namespace GaeaVerif.PreviewC21
open GaeaVerif GaeaVerif.LexC17

theorem trimLeft_fuel (f : Nat → Bool) : ∀ (n m : Nat) (s : Bytes), s.length ≤ n → s.length ≤ m →
    trimLeftFunc f n s = trimLeftFunc f m s := by
  intro n
  induction n with
  | zero =>
    intro m s h1 _
    have : s = [] := List.length_eq_zero_iff.mp (by omega)
    subst this
    cases m <;> simp [trimLeftFunc]
  | succ n ih =>
    intro m s h1 h2
    cases s with
    | nil => cases m <;> simp [trimLeftFunc]
    | cons b t =>
      cases m with
      | zero => simp at h2
      | succ m =>
        simp only [trimLeftFunc]
        split
        · have := decodeRune_width_pos b t
          apply ih <;> simp only [List.length_drop, List.length_cons] at * <;> omega
        · rfl

theorem trimLeft_stop (f : Nat → Bool) (n : Nat) (b : UInt8) (t : Bytes) (h : b.toNat < 0x80) (hf : f b.toNat = false) :
    trimLeftFunc f n (b :: t) = b :: t := by
  cases n with
  | zero => rfl
  | succ n => simp [trimLeftFunc, decodeRune_ascii b t h, hf]

theorem trimLeft_nil (f : Nat → Bool) (n : Nat) : trimLeftFunc f n [] = [] := by
  cases n <;> simp [trimLeftFunc]

theorem trimLeft_ascii_run (f : Nat → Bool) (ws s : Bytes) (hws : ∀ b ∈ ws, b.toNat < 0x80 ∧ f b.toNat = true) :
    trimLeftFunc f (ws ++ s).length (ws ++ s) = trimLeftFunc f s.length s := by
  induction ws with
  | nil => rfl
  | cons b t ih =>
    have hb := hws b (by simp)
    simp only [List.cons_append, List.length_cons, trimLeftFunc, decodeRune_ascii b _ hb.1, hb.2, if_true,
      List.drop_succ_cons, List.drop_zero]
    exact ih (fun b' hb' => hws b' (by simp [hb']))

theorem decodeLastRune_ascii_last (s : Bytes) (b : UInt8) (h : b.toNat < 0x80) :
    decodeLastRune (s ++ [b]) = (b.toNat, 1) := by
  simp only [decodeLastRune, List.length_append, List.length_cons, List.length_nil]
  rw [if_neg (by omega)]
  have : (s ++ [b]).getD (s.length + (0 + 1) - 1) 0 = b := by
    simp [List.getD_eq_getElem?_getD]
  simp only [this, h, if_true]

theorem trimRight_succ (f : Nat → Bool) (n : Nat) (s : Bytes) (hs : s ≠ []) :
    trimRightFunc f (n + 1) s =
      if f (decodeLastRune s).1 = true then trimRightFunc f n (s.take (s.length - (decodeLastRune s).2)) else s := by
  cases s with
  | nil => exact absurd rfl hs
  | cons b t => rfl

theorem trimRight_stop (f : Nat → Bool) (n : Nat) (s : Bytes) (b : UInt8) (h : b.toNat < 0x80) (hf : f b.toNat = false) :
    trimRightFunc f n (s ++ [b]) = s ++ [b] := by
  cases n with
  | zero => rfl
  | succ n =>
    rw [trimRight_succ f n _ (by simp), decodeLastRune_ascii_last s b h]
    simp [hf]

theorem trimRight_nil (f : Nat → Bool) (n : Nat) : trimRightFunc f n [] = [] := by
  cases n <;> simp [trimRightFunc]

theorem decodeRune_end_le (p : Bytes) (b : UInt8) (y : Bytes) (hb : b.toNat < 0x80) (hy : y ≠ []) (start : Nat)
    (h : start + (decodeRune ((p ++ b :: y).drop start)).2 = (p ++ b :: y).length) :
    (decodeRune ((p ++ b :: y).drop start)).2 ≤ y.length := by
  have hy1 : 1 ≤ y.length := List.length_pos_iff.mpr hy
  cases hd : (p ++ b :: y).drop start with
  | nil => simp [decodeRune]
  | cons c t =>
    rw [hd] at h
    by_cases hc : c.toNat < 0x80
    · rw [decodeRune_ascii c t hc]; exact hy1
    · -- the bytes of the rune are all ≥ 0x80, so `b` is not among them
      obtain ⟨_, _, _, hp⟩ := decodeRune_high c t hc
      apply Nat.le_of_not_lt; intro hlt
      simp only [List.length_append, List.length_cons] at h
      have := hp (p.length - start) (by omega)
      rw [← hd, List.getD_eq_getElem?_getD, List.getElem?_drop, show start + (p.length - start) = p.length by omega] at this
      simp at this; omega

theorem decodeLastRune_width_le (p : Bytes) (b : UInt8) (y : Bytes) (hb : b.toNat < 0x80) (hy : y ≠ []) :
    (decodeLastRune (p ++ b :: y)).2 ≤ y.length := by
  have hy1 : 1 ≤ y.length := List.length_pos_iff.mpr hy
  unfold decodeLastRune
  extract_lets n last start d
  rw [if_neg (by simp [n])]
  refine ite_ind (fun r : Nat × Nat => r.2 ≤ y.length) _ _ _ (fun _ => hy1) fun _ => ?_
  refine ite_ind (fun r : Nat × Nat => r.2 ≤ y.length) _ _ _ (fun _ => hy1) fun h => ?_
  exact decodeRune_end_le p b y hb hy start (Decidable.of_not_not h)

theorem trimRight_barrier (f : Nat → Bool) (p : Bytes) (b : UInt8) (hb : b.toNat < 0x80) (hf : f b.toNat = false) :
    ∀ (n : Nat) (y : Bytes), ∃ m, trimRightFunc f n (p ++ b :: y) = p ++ b :: y.take m := by
  intro n
  induction n with
  | zero => exact fun y => ⟨y.length, by simp [trimRightFunc]⟩
  | succ n ih =>
    intro y
    by_cases hy : y = []
    · subst hy; exact ⟨0, by simpa using trimRight_stop f (n + 1) p b hb hf⟩
    rw [trimRight_succ f n _ (by simp)]
    split
    · have hw := decodeLastRune_width_le p b y hb hy
      obtain ⟨m, hm⟩ := ih (y.take (y.length - (decodeLastRune (p ++ b :: y)).2))
      have e : (p ++ b :: y).take ((p ++ b :: y).length - (decodeLastRune (p ++ b :: y)).2) =
          p ++ b :: y.take (y.length - (decodeLastRune (p ++ b :: y)).2) := by
        rw [show p ++ b :: y = (p ++ [b]) ++ y by simp, List.take_append, List.take_of_length_le (by simp; omega)]
        simp only [List.length_append, List.length_cons, List.length_nil, List.append_assoc, List.singleton_append]
        congr 3; omega
      exact ⟨min m (y.length - (decodeLastRune (p ++ b :: y)).2), by rw [e, hm, List.take_take]⟩
    · exact ⟨y.length, by simp⟩

theorem trimRight_is_take (f : Nat → Bool) : ∀ (n : Nat) (s : Bytes), ∃ m, trimRightFunc f n s = s.take m := by
  intro n
  induction n with
  | zero => intro s; exact ⟨s.length, by simp [trimRightFunc]⟩
  | succ n ih =>
    intro s
    cases s with
    | nil => exact ⟨0, by simp [trimRightFunc]⟩
    | cons b t =>
      simp only [trimRightFunc]
      split
      · obtain ⟨m, hm⟩ := ih ((b :: t).take ((b :: t).length - (decodeLastRune (b :: t)).2))
        rw [hm, List.take_take]
        exact ⟨_, rfl⟩
      · exact ⟨(b :: t).length, by simp⟩

theorem trimLead_stop (n : Nat) (b : UInt8) (t : Bytes) (h : b.toNat < 0x80) (hf : isLeadBlank b.toNat = false) :
    trimLeadLoop n (b :: t) = b :: t := by
  cases n with
  | zero => rfl
  | succ n => simp [trimLeadLoop, peek_ascii b t h, hf]

theorem trimLead_ascii_run (ws s : Bytes) (hws : ∀ b ∈ ws, b.toNat < 0x80 ∧ isLeadBlank b.toNat = true) :
    trimLeadLoop (ws ++ s).length (ws ++ s) = trimLeadLoop s.length s := by
  induction ws with
  | nil => rfl
  | cons b t ih =>
    have hb := hws b (by simp)
    simp only [List.cons_append, List.length_cons, trimLeadLoop, peek_ascii b _ hb.1, hb.2, if_true,
      List.drop_succ_cons, List.drop_zero]
    exact ih (fun b' hb' => hws b' (by simp [hb']))

def AsciiWs (l : Bytes) : Prop := ∀ b ∈ l, b.toNat < 0x80 ∧ isSpace b.toNat = true

theorem isAsciiWs_space (b : UInt8) (h : isAsciiWs b = true) : b.toNat < 0x80 ∧ isSpace b.toNat = true :=
  isWsB_space b h

/-- `z` starts and ends with an ASCII byte that is not white space. -/
structure Solid (z : Bytes) : Prop where
  first : ∃ b t, z = b :: t ∧ b.toNat < 0x80 ∧ isLeadBlank b.toNat = false
  last : ∃ s b, z = s ++ [b] ∧ b.toNat < 0x80 ∧ isSpace b.toNat = false

/-- How a solid text ends. -/
abbrev EndsSolid (y : Bytes) : Prop := ∃ s b, y = s ++ [b] ∧ b.toNat < 0x80 ∧ isSpace b.toNat = false

theorem EndsSolid.append_left (p : Bytes) {y : Bytes} (h : EndsSolid y) : EndsSolid (p ++ y) := by
  obtain ⟨s, b, rfl, hb⟩ := h
  exact ⟨p ++ s, b, by simp, hb⟩

theorem trimLeadingBlanks_prefix (P r : Bytes) (hP : Solid P) : ∃ m, trimLeadingBlanks (P ++ r) = P ++ r.take m := by
  obtain ⟨b, t, e1, hb, hsb⟩ := hP.first
  obtain ⟨s, c, e2, hc, hsc⟩ := hP.last
  simp only [trimLeadingBlanks]
  have hl : trimLeadLoop (P ++ r).length (P ++ r) = P ++ r := by
    rw [e1, List.cons_append]; exact trimLead_stop _ b _ hb hsb
  rw [hl, e2]
  simpa using trimRight_barrier isSpace s c hc hsc (s ++ [c] ++ r).length r

theorem lead_byte (b : UInt8) (h : (isAsciiWs b || decide (b.toNat = 0x3B)) = true) : b.toNat < 0x80 ∧ isLeadBlank b.toNat = true := by
  simp only [Bool.or_eq_true, decide_eq_true_eq] at h
  rcases h with h | h
  · exact ⟨(isAsciiWs_space b h).1, by simp [isLeadBlank, (isAsciiWs_space b h).2]⟩
  · rw [h]; decide

theorem trimLeadingBlanks_lead (ws x : Bytes) (hws : ∀ b ∈ ws, b.toNat < 0x80 ∧ isLeadBlank b.toNat = true) :
    trimLeadingBlanks (ws ++ x) = trimLeadingBlanks x := by
  simp only [trimLeadingBlanks]
  rw [trimLead_ascii_run ws x hws]

theorem solid_front {c y : Bytes} {b : UInt8} {t : Bytes} (hc : c = b :: t) (hb : b.toNat < 0x80)
    (hsb : isLeadBlank b.toNat = false) (hy : EndsSolid y) : Solid (c ++ y) :=
  ⟨⟨b, t ++ y, by rw [hc]; rfl, hb, hsb⟩, hy.append_left c⟩

theorem solid_append_left (c z : Bytes) (b : UInt8) (t : Bytes) (hc : c = b :: t) (hb : b.toNat < 0x80)
    (hsb : isLeadBlank b.toNat = false) (hz : Solid z) : Solid (c ++ z) :=
  solid_front hc hb hsb hz.last

theorem indexSub_byte (q : UInt8) : ∀ (pre y : Bytes), (∀ b ∈ pre, b ≠ q) →
    indexSub [q] (pre ++ q :: y) = some pre.length := by
  intro pre
  induction pre with
  | nil => intro y _; simp [indexSub, isPrefixB]
  | cons b t ih =>
    intro y h
    have hb : b ≠ q := h b (by simp)
    have hp : isPrefixB [q] (b :: (t ++ q :: y)) = false := by
      simp only [isPrefixB, List.length_cons, List.length_nil, List.take_succ_cons, List.take_zero,
        beq_eq_false_iff_ne, ne_eq, List.cons.injEq, and_true]
      exact hb
    simp only [List.cons_append, indexSub, hp, Bool.false_eq_true, if_false, List.length_cons]
    rw [ih y (fun b' hb' => h b' (by simp [hb']))]
    simp

theorem indexSub_nl (pre y : Bytes) (h : ∀ b ∈ pre, b.toNat ≠ 0x0A) : indexSub [0x0A] (pre ++ 0x0A :: y) = some pre.length :=
  indexSub_byte 0x0A pre y (fun b hb e => h b hb (by rw [e]; rfl))

theorem hasSS_tail (a : UInt8) (l : Bytes) (h : Trivia.ok.hasSS (a :: l) = false) : Trivia.ok.hasSS l = false := by
  cases l with
  | nil => rfl
  | cons b t => simp only [Trivia.ok.hasSS, Bool.or_eq_false_iff] at h; exact h.2

theorem indexSub_starslash : ∀ (body y : Bytes), Trivia.ok.hasSS (body ++ [0x2A]) = false →
    indexSub cStarSlash (body ++ 0x2A :: 0x2F :: y) = some body.length := by
  intro body
  induction body with
  | nil => intro y _; simp [indexSub, isPrefixB, cStarSlash]
  | cons b t ih =>
    intro y h
    have hnot : isPrefixB cStarSlash (b :: (t ++ 0x2A :: 0x2F :: y)) = false := by
      cases t with
      | nil =>
        simp only [List.nil_append, List.cons_append, Trivia.ok.hasSS, Bool.or_false, Bool.and_eq_false_iff,
          decide_eq_false_iff_not] at h
        simp only [isPrefixB, cStarSlash, List.nil_append, List.length_cons, List.length_nil, List.take_succ_cons,
          List.take_zero, beq_eq_false_iff_ne, ne_eq, List.cons.injEq, and_true, not_and]
        intro e; rcases h with h | h
        · exact absurd (by rw [e]; decide) h
        · intro e2; exact h (by rw [e2]; decide)
      | cons c t' =>
        simp only [List.cons_append, Trivia.ok.hasSS, Bool.or_eq_false_iff, Bool.and_eq_false_iff,
          decide_eq_false_iff_not] at h
        simp only [isPrefixB, cStarSlash, List.cons_append, List.length_cons, List.length_nil, List.take_succ_cons,
          List.take_zero, beq_eq_false_iff_ne, ne_eq, List.cons.injEq, and_true, not_and]
        intro e1 e2; rcases h.1 with h | h
        · exact h (by rw [e1]; decide)
        · exact h (by rw [e2]; decide)
    simp only [List.cons_append, indexSub, hnot, Bool.false_eq_true, if_false, List.length_cons]
    rw [ih y (hasSS_tail b _ (by simpa using h))]
    simp

theorem trimRightSemi_append (P y : Bytes) (hP : ∃ s b, P = s ++ [b] ∧ b.toNat ≠ 0x3B) :
    trimRightSemi (P ++ y) = P ++ trimRightSemi y := by
  obtain ⟨s, b, rfl, hb⟩ := hP
  simp only [trimRightSemi, List.reverse_append, List.reverse_cons, List.reverse_nil, List.nil_append, List.singleton_append]
  rw [List.dropWhile_append]
  split
  · -- `y` is all semicolons, and the scan stops at `b`
    rename_i h
    rw [List.isEmpty_iff.mp h, List.dropWhile_cons_of_neg (by simpa using hb)]
    simp
  · simp

theorem trimRightSemi_prefix (y : Bytes) : trimRightSemi y <+: y := by
  have := List.dropWhile_suffix (l := y.reverse) (fun x : UInt8 => decide (x.toNat = 0x3B))
  rwa [← List.reverse_prefix, List.reverse_reverse] at this

end GaeaVerif.PreviewC21
