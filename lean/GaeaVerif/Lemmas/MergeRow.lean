import GaeaVerif.Lemmas.MergeAgg
import GaeaVerif.Lemmas.MergeDedup
import GaeaVerif.Model.MergeClass
/-
  C02 helper lemmas: typed tables, and the row-level homomorphism: merging the
  partial row of the next shard's group into the accumulated partial row gives
  the row of the concatenated group.
-/
namespace GaeaVerif.Merge

def Ty.vty : Ty → VTy
  | .int => .int
  | .dec s => .dec s
  | .str => .str

/-- a stored value conforms to its column type: NULL or a value of that type
    (decimals with the column's scale) -/
def conforms (t : Ty) (v : Val) : Bool := v == .null || hasTy t.vty v

structure TypedRow (schema : List Ty) (r : Row) : Prop where
  len : r.length = schema.length
  ok : ∀ (i : Nat) (t : Ty), schema[i]? = some t → conforms t (r.getD i .null) = true

def TypedRows (schema : List Ty) (rows : List Row) : Prop := ∀ r ∈ rows, TypedRow schema r

theorem typedRow_iff (schema : List Ty) (r : Row) :
    TypedRow schema r ↔
      r.length = schema.length ∧ ∀ i (h : i < schema.length), conforms schema[i] (r.getD i .null) = true :=
  ⟨fun h => ⟨h.len, fun i hi => h.ok i _ (List.getElem?_eq_getElem hi)⟩,
   fun h => ⟨h.1, fun i t hi => by
    obtain ⟨hlt, rfl⟩ := List.getElem?_eq_some_iff.mp hi
    exact h.2 i hlt⟩⟩

instance (schema : List Ty) (r : Row) : Decidable (TypedRow schema r) :=
  decidable_of_iff _ (typedRow_iff schema r).symm

theorem TypedRows.append {schema : List Ty} {a b : List Row} (ha : TypedRows schema a) (hb : TypedRows schema b) :
    TypedRows schema (a ++ b) := by
  intro r hr
  rcases List.mem_append.mp hr with h | h
  · exact ha r h
  · exact hb r h

/-- the type of the values of `aggArgs`; without a column (`COUNT(*)`) these are `.int 1`s -/
def argTy (schema : List Ty) : Option Nat → VTy
  | none => .int
  | some c => match schema[c]? with
    | some t => t.vty
    | none => .int

theorem aggArgs_typed {schema : List Ty} {grp : List Row} (hg : TypedRows schema grp) (arg : Option Nat) (d : Bool)
    (harg : ∀ c, arg = some c → c < schema.length) :
    ∀ v ∈ aggArgs arg d grp, hasTy (argTy schema arg) v = true := by
  intro v hv
  cases arg with
  | none =>
    simp only [aggArgs, List.mem_map] at hv
    obtain ⟨_, _, rfl⟩ := hv
    rfl
  | some c =>
    have hc := harg c rfl
    have hv' : v ∈ (grp.map fun r => r.getD c .null).filter (fun v => v ≠ .null) := by
      cases d with
      | false => exact hv
      | true => exact (mem_dedup _ _).mp hv
    simp only [List.mem_filter, List.mem_map, decide_eq_true_eq] at hv'
    obtain ⟨⟨r, hr, rfl⟩, hne⟩ := hv'
    have ht : schema[c]? = some schema[c] := List.getElem?_eq_getElem hc
    have := (hg r hr).ok c _ ht
    simp only [argTy, ht]
    simp only [conforms, Bool.or_eq_true, beq_iff_eq] at this
    rcases this with h | h
    · exact absurd h hne
    · exact h

theorem aggArgs_append (arg : Option Nat) (g1 g2 : List Row) :
    aggArgs arg false (g1 ++ g2) = aggArgs arg false g1 ++ aggArgs arg false g2 := by
  cases arg <;> simp [aggArgs]

theorem mergeVal_item_plain {schema : List Ty} (k : AggKind) (arg : Option Nat) (g1 g2 : List Row)
    (h1 : TypedRows schema g1) (h2 : TypedRows schema g2) (hok : (Item.agg k arg false).aggOK schema = true) :
    mergeVal k (evalItem g2 (.agg k arg false)) (evalItem g1 (.agg k arg false)) =
      .ok (evalItem (g1 ++ g2) (.agg k arg false)) := by
  simp only [evalItem, aggArgs_append]
  have harg : ∀ c, arg = some c → c < schema.length := by
    intro c hc; subst hc
    simp only [Item.aggOK, Bool.not_false, Bool.true_or, Bool.true_and] at hok
    cases h : schema[c]? with
    | none => simp [h] at hok
    | some t => exact (List.getElem?_eq_some_iff.mp h).1
  apply agg_homomorphism (argTy schema arg) k _ _ (aggArgs_typed h1 arg false harg) (aggArgs_typed h2 arg false harg)
  intro hk; subst hk
  cases arg with
  | none => simp [argTy]
  | some c =>
    simp only [Item.aggOK, Bool.not_false, Bool.true_or, Bool.true_and] at hok
    cases h : schema[c]? with
    | none => simp [h] at hok
    | some t =>
      simp only [h, beq_self_eq_true, Bool.true_and, Bool.not_eq_true', beq_eq_false_iff_ne] at hok
      simp only [argTy, h]
      cases t <;> simp_all [Ty.vty]

theorem mergeVal_item {schema : List Ty} (k : AggKind) (arg : Option Nat) (d : Bool) (g1 g2 : List Row)
    (h1 : TypedRows schema g1) (h2 : TypedRows schema g2) (hok : (Item.agg k arg d).aggOK schema = true) :
    mergeVal k (evalItem g2 (.agg k arg d)) (evalItem g1 (.agg k arg d)) =
      .ok (evalItem (g1 ++ g2) (.agg k arg d)) := by
  cases d with
  | false => exact mergeVal_item_plain k arg g1 g2 h1 h2 hok
  | true =>
    cases arg with
    | none => simp [Item.aggOK] at hok
    | some c =>
      have hok' : (Item.agg k (some c) false).aggOK schema = true := by
        simp only [Item.aggOK, Bool.and_eq_true] at hok ⊢
        exact ⟨by simp, hok.2⟩
      have hk : k = .max ∨ k = .min := by
        simp only [Item.aggOK, Bool.and_eq_true, Bool.or_eq_true, Bool.not_true, Bool.false_eq_true,
          false_or, beq_iff_eq] at hok
        exact hok.1
      simp only [evalItem_distinct hk]
      exact mergeVal_item_plain k (some c) g1 g2 h1 h2 hok'

/-! ### the merger positions -/

theorem aggPosFrom_cons (i : Nat) (it : Item) (r : List Item) :
    aggPosFrom i (it :: r) =
      (match it with | .agg k _ _ => [(i, k)] | _ => []) ++ aggPosFrom (i + 1) r := by
  cases it <;> rfl

theorem mem_aggPosFrom : ∀ (items : List Item) (i j : Nat) (k : AggKind),
    (j, k) ∈ aggPosFrom i items ↔ ∃ n a d, j = i + n ∧ items[n]? = some (.agg k a d)
  | [], i, j, k => by simp [aggPosFrom]
  | it :: r, i, j, k => by
    rw [aggPosFrom_cons, List.mem_append, mem_aggPosFrom r (i + 1) j k]
    constructor
    · rintro (h | ⟨n, a, d, rfl, h⟩)
      · cases it <;> simp at h
        obtain ⟨rfl, rfl⟩ := h
        exact ⟨0, _, _, rfl, rfl⟩
      · exact ⟨n + 1, a, d, by omega, by simpa using h⟩
    · rintro ⟨n, a, d, rfl, h⟩
      cases n with
      | zero =>
        simp only [List.getElem?_cons_zero, Option.some.injEq] at h
        subst h
        exact Or.inl (by simp)
      | succ n => exact Or.inr ⟨n, a, d, by omega, by simpa using h⟩

theorem mem_aggPositions (items : List Item) (j : Nat) (k : AggKind) :
    (j, k) ∈ aggPositions items ↔ ∃ a d, items[j]? = some (.agg k a d) := by
  rw [aggPositions, mem_aggPosFrom]
  exact ⟨fun ⟨n, a, d, hn, h⟩ => ⟨a, d, by rwa [hn, Nat.zero_add]⟩, fun ⟨a, d, h⟩ => ⟨j, a, d, (Nat.zero_add j).symm, h⟩⟩

theorem aggPosFrom_nodup : ∀ (items : List Item) (i : Nat), ((aggPosFrom i items).map (·.1)).Nodup
  | [], _ => by simp [aggPosFrom]
  | it :: r, i => by
    rw [aggPosFrom_cons, List.map_append, List.nodup_append]
    refine ⟨by cases it <;> simp, aggPosFrom_nodup r (i + 1), ?_⟩
    intro a ha b hb
    obtain ⟨p, hp, rfl⟩ := List.mem_map.mp hb
    obtain ⟨n, _, _, hn, _⟩ := (mem_aggPosFrom r (i + 1) p.1 p.2).mp hp
    have : a = i := by cases it <;> simp_all
    omega

theorem aggPositions_isEmpty_eq_false {items : List Item} (h : items.any Item.isAgg = true) :
    (aggPositions items).isEmpty = false := by
  obtain ⟨it, hit, hagg⟩ := List.any_eq_true.mp h
  obtain ⟨n, hn⟩ := List.getElem?_of_mem hit
  cases it with
  | agg k a d =>
    exact List.isEmpty_eq_false_iff_exists_mem.mpr ⟨_, (mem_aggPositions _ n k).mpr ⟨a, d, hn⟩⟩
  | col c => cases hagg
  | const c => cases hagg

theorem aggPosFrom_nil_of_no_agg : ∀ (items : List Item) (i : Nat), (∀ it ∈ items, it.isAgg = false) →
    aggPosFrom i items = []
  | [], _, _ => rfl
  | it :: r, i, h => by
    have h0 := h it (by simp)
    cases it with
    | agg k a d => simp [Item.isAgg] at h0
    | col c => exact aggPosFrom_nil_of_no_agg r (i + 1) (fun x hx => h x (by simp [hx]))
    | const c => exact aggPosFrom_nil_of_no_agg r (i + 1) (fun x hx => h x (by simp [hx]))

/-! ### mergeAll -/

theorem mergeAll_spec (f : Nat → Val) (fromRow : Row) : ∀ (aggs : List (Nat × AggKind)) (toRow : Row),
    (aggs.map (·.1)).Nodup →
    (∀ p ∈ aggs, ∃ a b, fromRow[p.1]? = some a ∧ toRow[p.1]? = some b ∧ mergeVal p.2 a b = .ok (f p.1)) →
    ∃ out, mergeAll aggs fromRow toRow = .ok out ∧ out.length = toRow.length ∧
      ∀ j, out[j]? = if j ∈ aggs.map (·.1) then (if j < toRow.length then some (f j) else none) else toRow[j]?
  | [], toRow, _, _ => ⟨toRow, rfl, rfl, by simp⟩
  | (idx, k) :: as, toRow, hnd, h => by
    obtain ⟨a, b, ha, hb, hm⟩ := h (idx, k) (by simp)
    simp only [List.map_cons, List.nodup_cons] at hnd
    have hstep : mergeTo k idx fromRow toRow = .ok (toRow.set idx (f idx)) := by
      simp only [mergeTo, ha, hb]
      simp only at hm
      rw [hm]; rfl
    have hidx : idx < toRow.length := (List.getElem?_eq_some_iff.mp hb).1
    obtain ⟨out, ho, hl, hj⟩ := mergeAll_spec f fromRow as (toRow.set idx (f idx)) hnd.2 (by
      intro p hp
      obtain ⟨a', b', ha', hb', hm'⟩ := h p (by simp [hp])
      have hne : idx ≠ p.1 := by
        intro e; apply hnd.1; rw [e]; exact List.mem_map.mpr ⟨p, hp, rfl⟩
      exact ⟨a', b', ha', by rw [List.getElem?_set_ne hne]; exact hb', hm'⟩)
    refine ⟨out, by simp only [mergeAll, hstep]; exact ho, by simpa using hl, ?_⟩
    intro j
    rw [hj j]
    simp only [List.length_set, List.map_cons, List.mem_cons]
    by_cases hjas : j ∈ as.map (·.1)
    · simp [hjas]
    · by_cases hji : j = idx
      · subst hji
        simp [hjas, hidx]
      · have : ¬ idx = j := fun e => hji e.symm
        simp [hjas, hji, List.getElem?_set_ne this]

/-- the shard row of a group -/
def fullRow (items : List Item) (grp : List Row) : Row := items.map (evalItem grp)

theorem fullRow_length (items : List Item) (grp : List Row) : (fullRow items grp).length = items.length := by
  simp [fullRow]

theorem evalItem_append_of_not_agg (g1 g2 : List Row) (it : Item) (hne : g1 ≠ [] ∨ ∀ c, it ≠ .col c)
    (h : it.isAgg = false) : evalItem (g1 ++ g2) it = evalItem g1 it := by
  cases it with
  | agg k a d => simp [Item.isAgg] at h
  | const c => rfl
  | col c =>
    rcases hne with hne | hne
    · cases g1 with
      | nil => exact absurd rfl hne
      | cons r rs => rfl
    · exact absurd rfl (hne c)

theorem evalItem_nil_agg (k : AggKind) (arg : Option Nat) (d : Bool) :
    evalItem [] (.agg k arg d) = if k = .count then .int 0 else .null := by
  have : aggArgs arg d [] = [] := by
    cases arg <;> cases d <;> simp [aggArgs, dedup, dedupAux]
  simp only [evalItem, this]
  cases k <;> simp [aggOf]

/-- **Row homomorphism.**  `g1` is the (non-empty) part of a group seen so far,
    `g2` the part held by the next shard: merging the next shard's row into the
    accumulated row gives the row of `g1 ++ g2`. -/
theorem row_homomorphism {schema : List Ty} (items : List Item) (g1 g2 : List Row)
    (h1 : TypedRows schema g1) (h2 : TypedRows schema g2) (hne : g1 ≠ [] ∨ ∀ it ∈ items, ∀ c, it ≠ .col c)
    (hok : ∀ it ∈ items, it.aggOK schema = true) :
    mergeAll (aggPositions items) (fullRow items g2) (fullRow items g1) = .ok (fullRow items (g1 ++ g2)) := by
  obtain ⟨out, ho, hl, hj⟩ := mergeAll_spec
    (fun j => evalItem (g1 ++ g2) (items.getD j (.const 0))) (fullRow items g2)
    (aggPositions items) (fullRow items g1) (aggPosFrom_nodup items 0) (by
      intro p hp
      obtain ⟨a, d, hit⟩ := (mem_aggPositions items p.1 p.2).mp hp
      refine ⟨evalItem g2 (.agg p.2 a d), evalItem g1 (.agg p.2 a d), ?_, ?_, ?_⟩
      · simp [fullRow, hit]
      · simp [fullRow, hit]
      · rw [mergeVal_item (schema := schema) p.2 a d g1 g2 h1 h2 (hok _ (List.mem_of_getElem? hit))]
        simp [List.getD, hit])
  rw [ho]
  congr 1
  apply List.ext_getElem?
  intro j
  rw [hj j]
  simp only [fullRow, List.length_map, List.getElem?_map]
  cases hit : items[j]? with
  | none =>
    have : ¬ j < items.length := Nat.not_lt.mpr (List.getElem?_eq_none_iff.mp hit)
    simp [this]
  | some it =>
    obtain ⟨hlt, e⟩ := List.getElem?_eq_some_iff.mp hit
    by_cases hm : j ∈ (aggPositions items).map (·.1)
    · simp [hm, hlt, List.getD, e]
    · simp only [hm, if_false, Option.map_some]
      congr 1
      symm
      apply evalItem_append_of_not_agg g1 g2 it
        (hne.imp id (fun h => h it (List.mem_of_getElem? hit)))
      cases it with
      | agg k a d =>
        exfalso; apply hm
        exact List.mem_map.mpr ⟨(j, k), (mem_aggPositions items j k).mpr ⟨a, d, hit⟩, rfl⟩
      | col c => rfl
      | const c => rfl

end GaeaVerif.Merge
