import GaeaVerif.Model.ShardLayout
/-
  Helper lemmas about `Model/ShardLayout.lean` shared by the theorems of C03
  and C04.
-/
namespace GaeaVerif.Layout
open GaeaVerif

/-- element-wise relation between two lists of the same length; nothing in it is about layouts (C03 uses it for the
    rows of a statement as well).  Core Lean has no such relation, and Mathlib's `List.Forall₂`, which C13 uses, is not
    available to the core-only modules. -/
inductive Forall₂ {α β : Type} (P : α → β → Prop) : List α → List β → Prop
  | nil : Forall₂ P [] []
  | cons {a : α} {b : β} {as : List α} {bs : List β} : P a b → Forall₂ P as bs → Forall₂ P (a :: as) (b :: bs)

theorem Forall₂.length_eq {α β : Type} {P : α → β → Prop} {as : List α} {bs : List β}
    (h : Forall₂ P as bs) : as.length = bs.length := by
  induction h with
  | nil => rfl
  | cons _ _ ih => simp [ih]

theorem Forall₂.imp {α β : Type} {P Q : α → β → Prop} {as : List α} {bs : List β}
    (h : Forall₂ P as bs) (hpq : ∀ a b, P a b → Q a b) : Forall₂ Q as bs := by
  induction h with
  | nil => exact .nil
  | cons hab _ ih => exact .cons (hpq _ _ hab) ih

theorem Forall₂.exists_left {α β : Type} {P : α → β → Prop} {as : List α} {bs : List β}
    (h : Forall₂ P as bs) : ∀ b ∈ bs, ∃ a ∈ as, P a b := by
  induction h with
  | nil => simp
  | cons hab _ ih =>
    intro b hb
    simp only [List.mem_cons] at hb
    rcases hb with hb | hb
    · subst hb; exact ⟨_, by simp, hab⟩
    · obtain ⟨a, ha, hp⟩ := ih b hb
      exact ⟨a, by simp [ha], hp⟩

theorem Forall₂.exists_right {α β : Type} {P : α → β → Prop} {as : List α} {bs : List β}
    (h : Forall₂ P as bs) : ∀ a ∈ as, ∃ b ∈ bs, P a b := by
  induction h with
  | nil => simp
  | cons hab _ ih =>
    intro a ha
    simp only [List.mem_cons] at ha
    rcases ha with ha | ha
    · subst ha; exact ⟨_, by simp, hab⟩
    · obtain ⟨b, hb, hp⟩ := ih a ha
      exact ⟨b, by simp [hb], hp⟩

theorem Forall₂.get {α β : Type} {P : α → β → Prop} {as : List α} {bs : List β} (h : Forall₂ P as bs)
    (j : Nat) (a : α) (ha : as[j]? = some a) : ∃ b, bs[j]? = some b ∧ P a b := by
  induction h generalizing j with
  | nil => cases ha
  | cons hab _ ih =>
    cases j with
    | zero => cases ha; exact ⟨_, rfl, hab⟩
    | succ j => exact ih j ha

/-- `db` is the database `targetOf` files the statement of table `i` under: the one the decorators write, or ""
    where `GetDatabaseNameByTableIndex` fails (`generateShardingSQLs` ignores that error) -/
def DbOf (r : Rule) (i : Int) (db : String) : Prop :=
  getDatabaseNameByTableIndex r i = .ok db ∨ (getDatabaseNameByTableIndex r i = .fail ∧ db = "")

theorem targetOf_ok {α : Type} (r : Rule) (i : Int) (sql : α) (o : Target α) (h : targetOf r i sql = .ok o) :
    o.sql = sql ∧ mapGet r.t2s i ≠ none ∧ DbOf r i o.db := by
  -- an index `t2s` lacks becomes -1, and `GetSlice(-1)` panics
  have hk : mapGet r.t2s i ≠ none := fun hn => by
    rw [targetOf, getSliceIndexFromTableIndex, hn] at h
    cases h
  revert h
  fun_cases targetOf r i sql <;> intro h
  case case1 slice _ d hd => cases h; exact ⟨rfl, hk, Or.inl hd⟩
  case case2 slice _ hd => cases h; exact ⟨rfl, hk, Or.inr ⟨hd, rfl⟩⟩
  all_goals cases h

/-! ### `parseHashRuleSliceInfos`: the keys of `tableToSlice` are the listed tables -/

theorem mapGet_mapSet (m : List (Int × Int)) (k v k' : Int) :
    mapGet (mapSet m k v) k' = if k = k' then some v else mapGet m k' := by
  fun_induction mapSet m k v with
  | case1 => rfl
  | case2 b rest => rw [mapGet, mapGet]; split <;> rfl
  | case3 a b rest hak ih =>
    rw [mapGet, mapGet, ih]
    by_cases ha : a = k'
    · rw [if_pos ha, if_neg (fun h => hak (ha.trans h.symm)), if_pos ha]
    · rw [if_neg ha, if_neg ha]

def KeysAgree (acc : List Int × List (Int × Int)) : Prop := ∀ x, mapGet acc.2 x ≠ none ↔ x ∈ acc.1

theorem addTables_keys (i sum : Int) (n : Nat) (acc : List Int × List (Int × Int)) (h : KeysAgree acc) :
    KeysAgree (addTables i sum n acc) := by
  induction n with
  | zero => exact h
  | succ n ih =>
    intro x
    simp only [addTables, mapGet_mapSet, List.mem_append, List.mem_singleton]
    by_cases hx : (n : Int) + sum = x
    · simp [hx]
    · have : ¬ x = (n : Int) + sum := fun e => hx e.symm
      simp only [hx, ↓reduceIte, this, or_false]
      exact ih x

theorem hashLoop_keys (locs : List Int) (i sum : Int) (acc : List Int × List (Int × Int)) (h : KeysAgree acc) :
    KeysAgree (hashLoop locs i sum acc) := by
  induction locs generalizing i sum acc with
  | nil => exact h
  | cons loc rest ih => exact ih _ _ _ (addTables_keys i sum loc.toNat acc h)

theorem parseHashRuleSliceInfos_some (locs : List Int) (slices : List String) (p : List Int × List (Int × Int))
    (h : parseHashRuleSliceInfos locs slices = some p) : p = hashLoop locs 0 0 ([], []) := by
  revert h
  fun_cases parseHashRuleSliceInfos locs slices <;> intro h
  case case4 => exact (Option.some.inj h).symm
  all_goals cases h

/-- `parseHashRuleSliceInfos`: a table index is mapped to a slice exactly when
    it is one of the listed sub tables (for every `locations` list) -/
theorem parseHashRuleSliceInfos_keys (locs : List Int) (slices : List String) (idxs : List Int)
    (t2s : List (Int × Int)) (h : parseHashRuleSliceInfos locs slices = some (idxs, t2s)) :
    ∀ x, mapGet t2s x ≠ none ↔ x ∈ idxs := by
  have := hashLoop_keys locs 0 0 ([], []) (fun x => by simp [mapGet])
  rwa [← parseHashRuleSliceInfos_some locs slices _ h] at this

/-! ### The layout of a global rule is the list of configured copies -/

/-- number of tables a `locations` list describes -/
def totalTables (locs : List Int) : Nat := (locs.map Int.toNat).sum

theorem totalTables_cons (l : Int) (ls : List Int) : totalTables (l :: ls) = l.toNat + totalTables ls := by
  simp [totalTables]

theorem addTables_fst (i sum : Int) (n : Nat) (acc : List Int × List (Int × Int)) :
    (addTables i sum n acc).1 = acc.1 ++ (List.range n).map (fun (j : Nat) => (j : Int) + sum) := by
  induction n with
  | zero => simp [addTables]
  | succ n ih => simp [addTables, ih, List.range_succ]

theorem addTables_get_of_lt (i sum : Int) (n : Nat) (acc : List Int × List (Int × Int)) (x : Int) (hx : x < sum) :
    mapGet (addTables i sum n acc).2 x = mapGet acc.2 x := by
  induction n with
  | zero => rfl
  | succ n ih => rw [addTables, mapGet_mapSet, if_neg (by omega), ih]

theorem addTables_get_add (i sum : Int) (n : Nat) (acc : List Int × List (Int × Int)) (d : Nat) (hd : d < n) :
    mapGet (addTables i sum n acc).2 (d + sum) = some i := by
  induction n with
  | zero => omega
  | succ n ih =>
    rw [addTables, mapGet_mapSet]
    by_cases h : n = d
    · rw [h, if_pos rfl]
    · rw [if_neg (by omega), ih (by omega)]

theorem hashLoop_fst (locs : List Int) (i sum : Int) (acc : List Int × List (Int × Int)) (hpos : ∀ l ∈ locs, 0 ≤ l) :
    (hashLoop locs i sum acc).1 = acc.1 ++ (List.range (totalTables locs)).map (fun (j : Nat) => (j : Int) + sum) := by
  induction locs generalizing i sum acc with
  | nil => simp [hashLoop, totalTables]
  | cons l ls ih =>
    obtain ⟨m, rfl⟩ := Int.eq_ofNat_of_zero_le (hpos l List.mem_cons_self)
    rw [hashLoop, ih _ _ _ (fun x hx => hpos x (List.mem_cons_of_mem _ hx)), addTables_fst, totalTables_cons,
      Int.toNat_natCast, List.range_add, List.map_append, List.map_map, List.append_assoc]
    congr 3
    funext a
    simp only [Function.comp, Int.natCast_add]
    omega

theorem hashLoop_get_of_lt (locs : List Int) (i sum : Int) (acc : List Int × List (Int × Int)) (x : Int)
    (hpos : ∀ l ∈ locs, 0 ≤ l) (hx : x < sum) : mapGet (hashLoop locs i sum acc).2 x = mapGet acc.2 x := by
  induction locs generalizing i sum acc with
  | nil => rfl
  | cons l ls ih =>
    have hl := hpos l List.mem_cons_self
    rw [hashLoop, ih _ _ _ (fun y hy => hpos y (List.mem_cons_of_mem _ hy)) (by omega), addTables_get_of_lt _ _ _ _ _ hx]

theorem copySlices_length (locs : List Int) (slices : List String) (h : locs.length = slices.length) :
    (copySlices locs slices).length = totalTables locs := by
  fun_induction copySlices locs slices with
  | case1 l ls s ss ih => rw [List.length_append, List.length_replicate, ih (Nat.succ.inj h)]; rfl
  | case2 locs slices hne =>
    cases locs with
    | nil => rfl
    | cons l ls => cases slices with
      | nil => cases h
      | cons s ss => exact absurd rfl (hne l ls s ss rfl)

/-- `slices` are the slices of the groups still to come, the first of which has index `i` -/
theorem hashLoop_slice (locs : List Int) (slices : List String) (i sum : Int) (acc : List Int × List (Int × Int))
    (d : Nat) (hlen : locs.length = slices.length) (hpos : ∀ l ∈ locs, 0 ≤ l) (hd : d < totalTables locs) :
    ∃ g : Nat, mapGet (hashLoop locs i sum acc).2 (d + sum) = some (i + g) ∧
      (copySlices locs slices)[d]? = slices[g]? := by
  induction locs generalizing slices i sum acc d with
  | nil => simp [totalTables] at hd
  | cons l ls ih =>
    obtain _ | ⟨s, ss⟩ := slices
    · simp at hlen
    obtain ⟨m, rfl⟩ := Int.eq_ofNat_of_zero_le (hpos l List.mem_cons_self)
    have hpos' : ∀ y ∈ ls, 0 ≤ y := fun y hy => hpos y (List.mem_cons_of_mem _ hy)
    rw [totalTables_cons, Int.toNat_natCast] at hd
    rw [hashLoop, copySlices, Int.toNat_natCast]
    by_cases hdm : d < m
    · refine ⟨0, ?_, ?_⟩
      · rw [hashLoop_get_of_lt _ _ _ _ _ hpos' (by omega), addTables_get_add _ _ _ _ _ hdm, Int.natCast_zero,
          Int.add_zero]
      · rw [List.getElem?_append_left (by rw [List.length_replicate]; exact hdm), List.getElem?_replicate,
          if_pos hdm]
        rfl
    · obtain ⟨g, h1, h2⟩ := ih ss (i + 1) (sum + m) (addTables i sum m acc) (d - m)
        (Nat.succ.inj hlen) hpos' (by omega)
      refine ⟨g + 1, ?_, ?_⟩
      · rw [show (d : Int) + sum = ((d - m : Nat) : Int) + (sum + m) by omega, h1, Int.natCast_add, Int.add_assoc,
          Int.add_comm 1]
        rfl
      · rw [List.getElem?_append_right (by rw [List.length_replicate]; exact Nat.le_of_not_lt hdm),
          List.length_replicate, List.getElem?_cons_succ]
        exact h2

/-- a global-table configuration the theorems of C04 talk about: one slice per
    `locations` entry, no negative count, and a physical database per copy
    when databases are listed (what `models.Shard.verify` and `NewRouter` check,
    C10) -/
structure ValidCfg (cfg : GlobalCfg) : Prop where
  len : cfg.locations.length = cfg.slices.length
  pos : ∀ l ∈ cfg.locations, 0 ≤ l
  dbs : cfg.databases.length = 0 ∨ cfg.databases.length = totalTables cfg.locations

/-- the physical database of every copy, in table-index order -/
def globalDbs (cfg : GlobalCfg) : List String :=
  if cfg.databases.length ≠ 0 then cfg.databases else List.replicate (totalTables cfg.locations) cfg.db

theorem globalDbs_length (cfg : GlobalCfg) (hv : ValidCfg cfg) : (globalDbs cfg).length = totalTables cfg.locations := by
  unfold globalDbs
  split
  · rcases hv.dbs with h | h <;> omega
  · simp

theorem copies_eq (cfg : GlobalCfg) (hv : ValidCfg cfg) :
    copies cfg = (copySlices cfg.locations cfg.slices).zip (globalDbs cfg) := by
  simp only [copies, globalDbs, copySlices_length _ _ hv.len]

theorem copies_length (cfg : GlobalCfg) (hv : ValidCfg cfg) : (copies cfg).length = totalTables cfg.locations := by
  rw [copies_eq cfg hv, List.length_zip, copySlices_length _ _ hv.len, globalDbs_length cfg hv]
  simp

theorem parseGlobalRule_some (o : Bool) (ns : List String) (cfg : GlobalCfg) (r : Rule)
    (h : parseGlobalRule o ns cfg = some r) :
    r.kind = .global ∧ r.slices = (if o then ns else cfg.slices) ∧
    r.idxs = (hashLoop cfg.locations 0 0 ([], [])).1 ∧ r.t2s = (hashLoop cfg.locations 0 0 ([], [])).2 ∧
    r.dbs = if cfg.databases.length ≠ 0 then cfg.databases else List.replicate r.idxs.length cfg.db := by
  revert h
  fun_cases parseGlobalRule o ns cfg <;> intro h
  case case3 idxs t2s hp _ dbs =>
    have hpe := parseHashRuleSliceInfos_some _ _ _ hp
    obtain rfl : idxs = _ := congrArg Prod.fst hpe
    obtain rfl : t2s = _ := congrArg Prod.snd hpe
    cases h
    exact ⟨rfl, rfl, rfl, rfl, rfl⟩
  all_goals cases h

theorem parseGlobalRule_idxs (o : Bool) (ns : List String) (cfg : GlobalCfg) (r : Rule) (hv : ValidCfg cfg)
    (h : parseGlobalRule o ns cfg = some r) :
    r.idxs = (List.range (totalTables cfg.locations)).map (fun (j : Nat) => (j : Int)) := by
  rw [(parseGlobalRule_some o ns cfg r h).2.2.1, hashLoop_fst _ _ _ _ hv.pos]
  simp

theorem strIdx_natCast (xs : List String) (g : Nat) (s : String) (h : xs[g]? = some s) : strIdx xs g = .ok s := by
  rw [strIdx, if_neg (by omega), Int.toNat_natCast, h]

theorem targetOf_copy (ns : List String) (cfg : GlobalCfg) (r : Rule) (hv : ValidCfg cfg)
    (h : parseGlobalRule false ns cfg = some r) {α : Type} (sql : α) (j : Nat) (hj : j < totalTables cfg.locations) :
    ∃ c, (copies cfg)[j]? = some c ∧ targetOf r j sql = .ok { slice := c.1, db := c.2, sql := sql } := by
  obtain ⟨hk, hsl, _, ht2s, hdbs⟩ := parseGlobalRule_some false ns cfg r h
  have hidx := parseGlobalRule_idxs false ns cfg r hv h
  rw [hidx, List.length_map, List.length_range] at hdbs
  obtain ⟨g, hg, hcs⟩ := hashLoop_slice cfg.locations cfg.slices 0 0 ([], []) j hv.len hv.pos hj
  rw [Int.add_zero, Int.zero_add] at hg
  have hjs : j < (copySlices cfg.locations cfg.slices).length := by rwa [copySlices_length _ _ hv.len]
  have hjd : j < (globalDbs cfg).length := by rwa [globalDbs_length cfg hv]
  rw [List.getElem?_eq_getElem hjs] at hcs
  refine ⟨((copySlices cfg.locations cfg.slices)[j], (globalDbs cfg)[j]), ?_, ?_⟩
  · rw [copies_eq cfg hv, List.getElem?_zip_eq_some]
    exact ⟨List.getElem?_eq_getElem hjs, List.getElem?_eq_getElem hjd⟩
  · have h1 : getSlice r (getSliceIndexFromTableIndex r j) = .ok (copySlices cfg.locations cfg.slices)[j] := by
      rw [getSliceIndexFromTableIndex, ht2s, hg, getSlice, hsl, if_neg Bool.false_ne_true]
      exact strIdx_natCast _ g _ hcs.symm
    have h2 : getDatabaseNameByTableIndex r j = .ok (globalDbs cfg)[j] := by
      rw [getDatabaseNameByTableIndex, hk, hidx, hdbs, List.length_map, List.length_range, if_neg (by omega)]
      exact strIdx_natCast _ j _ (List.getElem?_eq_getElem hjd)
    rw [targetOf, h1, h2]

theorem multiLoop_spec {α β γ : Type} (r : Rule) (restore : β → Int → R α) (f : γ → β) (g : γ → Int) (l : List γ)
    (out : List (Target α)) (h : multiLoop r restore (l.map f) (l.map g) = .ok out) :
    Forall₂ (fun x t => ∃ sql, restore (f x) (g x) = .ok sql ∧ targetOf r (g x) sql = .ok t) l out := by
  induction l generalizing out with
  | nil => cases h; exact .nil
  | cons x rest ih =>
    rw [List.map_cons, List.map_cons, multiLoop] at h
    split at h
    · next sql hs =>
      split at h
      · next t ht =>
        split at h
        · next ts hts => cases h; exact .cons ⟨sql, hs, ht⟩ (ih ts hts)
        all_goals cases h
      all_goals cases h
    all_goals cases h

theorem generateMultiShardingSQLs_ok {α β : Type} (r : Rule) (restore : β → Int → R α) (stmts : List β)
    (idxs : List Int) (out : List (Target α)) (h : generateMultiShardingSQLs r restore stmts idxs = .ok out) :
    stmts.length = idxs.length ∧ multiLoop r restore stmts idxs = .ok out := by
  unfold generateMultiShardingSQLs at h
  split at h
  · cases h
  · next hlen => exact ⟨Decidable.not_not.mp hlen, h⟩

theorem generateShardingSQLs_eq_multiLoop {α : Type} (r : Rule) (restore : Int → R α) (idxs : List Int) :
    generateShardingSQLs r restore idxs =
      multiLoop r (fun _ : Unit => restore) (idxs.map fun _ => ()) (idxs.map id) := by
  induction idxs with
  | nil => rfl
  | cons i rest ih => simp only [generateShardingSQLs, List.map_cons, multiLoop, ih, id]

theorem generateShardingSQLs_spec {α : Type} (r : Rule) (restore : Int → R α) (idxs : List Int)
    (out : List (Target α)) (h : generateShardingSQLs r restore idxs = .ok out) :
    Forall₂ (fun i t => ∃ sql, restore i = .ok sql ∧ targetOf r i sql = .ok t) idxs out :=
  multiLoop_spec r (fun _ : Unit => restore) (fun _ => ()) id idxs out
    (generateShardingSQLs_eq_multiLoop r restore idxs ▸ h)

end GaeaVerif.Layout
