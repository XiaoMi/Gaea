import GaeaVerif.Lemmas.MergeOrder
/-
  C02 helper lemmas: COUNT / SUM / MAX / MIN of a concatenation are the merger
  applied to the aggregates of the parts (values of one column type; empty
  parts and NULL aggregates included).
-/
namespace GaeaVerif.Merge

/-- the type of the non-NULL values of a column -/
inductive VTy where
  | int
  | dec (scale : Nat)
  | str
  deriving DecidableEq, Repr

/-- `v` is a non-NULL value of type `t` -/
def hasTy : VTy → Val → Bool
  | .int, .int _ => true
  | .dec s, .dec _ s' => s == s'
  | .str, .str _ => true
  | _, _ => false

def VTy.scale : VTy → Nat
  | .dec s => s
  | _ => 0

theorem toDec_scale {t : VTy} {v : Val} (h : hasTy t v = true) (ht : t ≠ .str) : toDec v = ((toDec v).1, t.scale) := by
  cases t <;> cases v <;> simp_all [hasTy, toDec, VTy.scale]

theorem decAdd_same (u1 u2 : Int) (s : Nat) : decAdd (u1, s) (u2, s) = (u1 + u2, s) := by
  simp [decAdd]

def sumU : List Val → Int
  | [] => 0
  | v :: vs => (toDec v).1 + sumU vs

theorem sumU_append (a b : List Val) : sumU (a ++ b) = sumU a + sumU b := by
  induction a with
  | nil => simp [sumU]
  | cons v vs ih => simp [sumU, ih]; omega

theorem foldl_decAdd {t : VTy} (ht : t ≠ .str) : ∀ (l : List Val) (u : Int), (∀ v ∈ l, hasTy t v = true) →
    l.foldl (fun acc x => decAdd acc (toDec x)) (u, t.scale) = (u + sumU l, t.scale)
  | [], u, _ => by simp [sumU]
  | v :: vs, u, h => by
    simp only [List.foldl_cons]
    rw [toDec_scale (h v (by simp)) ht, decAdd_same, foldl_decAdd ht vs _ (fun w hw => h w (by simp [hw]))]
    simp [sumU]; omega

theorem aggOf_sum_eq {t : VTy} (ht : t ≠ .str) : ∀ (l : List Val), (∀ w ∈ l, hasTy t w = true) →
    aggOf .sum l = if l = [] then .null else .dec (sumU l) t.scale
  | [], _ => rfl
  | v :: vs, h => by
    simp only [aggOf, reduceCtorEq, if_false]
    rw [toDec_scale (h v (by simp)) ht, foldl_decAdd ht vs _ (fun w hw => h w (by simp [hw]))]
    simp [sumU]

/-! ### MAX / MIN -/

/-- MAX and MIN are folds that keep the accumulated value unless the next one is strictly better
    under `le` (`leVal` for MAX, its converse for MIN) -/
def sel (le : Val → Val → Bool) (m x : Val) : Val := if le x m then m else x

/-- the order under which MAX resp. MIN keeps the greater value -/
def AggKind.le : AggKind → Val → Val → Bool
  | .min => fun a b => leVal b a
  | _ => leVal

theorem AggKind.le_total (k : AggKind) (a b : Val) : k.le a b = true ∨ k.le b a = true := by
  cases k <;> exact leVal_total _ _

theorem AggKind.le_trans (k : AggKind) (a b c : Val) : k.le a b = true → k.le b c = true → k.le a c = true := by
  cases k
  case min => exact fun h1 h2 => leVal_trans c b a h2 h1
  all_goals exact leVal_trans a b c

theorem aggOf_sel {k : AggKind} (hk : k = .max ∨ k = .min) (v : Val) (vs : List Val) :
    aggOf k (v :: vs) = vs.foldl (sel k.le) v := by
  have hmax : maxVal = sel leVal := by
    funext m x; by_cases h : leVal x m = true <;> simp [maxVal, sel, ltVal, h]
  have hmin : minVal = sel fun a b => leVal b a := by
    funext m x; by_cases h : leVal m x = true <;> simp [minVal, sel, ltVal, h]
  rcases hk with rfl | rfl
  · exact congrArg (fun f => vs.foldl f v) hmax
  · exact congrArg (fun f => vs.foldl f v) hmin

theorem foldl_sel_typed {t : VTy} (le : Val → Val → Bool) : ∀ (l : List Val) (v : Val), hasTy t v = true →
    (∀ w ∈ l, hasTy t w = true) → hasTy t (l.foldl (sel le) v) = true
  | [], _, hv, _ => hv
  | x :: xs, v, hv, h => by
    apply foldl_sel_typed le xs _ _ (fun w hw => h w (by simp [hw]))
    unfold sel; split
    · exact hv
    · exact h x (by simp)

theorem aggOf_sel_typed {k : AggKind} (hk : k = .max ∨ k = .min) {t : VTy} {v : Val} {vs : List Val}
    (h : ∀ w ∈ v :: vs, hasTy t w = true) : hasTy t (aggOf k (v :: vs)) = true := by
  rw [aggOf_sel hk]
  exact foldl_sel_typed _ vs v (h v (by simp)) (fun w hw => h w (by simp [hw]))

section Sel
variable {le : Val → Val → Bool} (total : ∀ a b, le a b = true ∨ le b a = true)
  (trans : ∀ a b c, le a b = true → le b c = true → le a c = true)
include total trans

theorem sel_assoc (a b c : Val) : sel le (sel le a b) c = sel le a (sel le b c) := by
  unfold sel
  by_cases h1 : le b a = true <;> by_cases h2 : le c b = true <;>
    simp only [h1, h2, if_true, if_false, Bool.false_eq_true]
  · rw [if_pos (trans c b a h2 h1)]
  · have : ¬ le c a = true := fun h3 => h2 (trans c a b h3 ((total a b).resolve_right h1))
    rw [if_neg this]

theorem foldl_sel_append (v w : Val) (vs ws : List Val) :
    (vs ++ w :: ws).foldl (sel le) v = sel le (vs.foldl (sel le) v) (ws.foldl (sel le) w) := by
  rw [List.foldl_append, List.foldl_cons]
  generalize vs.foldl (sel le) v = A
  induction ws generalizing w with
  | nil => rfl
  | cons z zs ih => rw [List.foldl_cons, sel_assoc total trans, ih, List.foldl_cons]

omit trans in
theorem le_sel_left (m a : Val) : le m (sel le m a) = true := by
  unfold sel; split
  · exact (total m m).elim id id
  · rename_i h; exact (total m a).resolve_right h

omit trans in
theorem le_sel_right (m a : Val) : le a (sel le m a) = true := by
  unfold sel; split
  · rename_i h; exact h
  · exact (total a a).elim id id

theorem foldl_sel_dedupAux : ∀ (l seen : List Val) (m : Val), (∀ x ∈ seen, le x m = true) →
    (dedupAux seen l).foldl (sel le) m = l.foldl (sel le) m
  | [], _, _, _ => rfl
  | a :: l, seen, m, h => by
    simp only [dedupAux]
    split
    · rename_i ha
      have : sel le m a = m := by unfold sel; rw [if_pos (h a ha)]
      rw [List.foldl_cons, this]
      exact foldl_sel_dedupAux l seen m h
    · rw [List.foldl_cons, List.foldl_cons]
      apply foldl_sel_dedupAux l (a :: seen) (sel le m a)
      intro x hx
      rcases List.mem_cons.mp hx with rfl | hx
      · exact le_sel_right total m x
      · exact trans _ _ _ (h x hx) (le_sel_left total m a)

end Sel

theorem aggOf_sel_dedup {k : AggKind} (hk : k = .max ∨ k = .min) (l : List Val) : aggOf k (dedup l) = aggOf k l := by
  cases l with
  | nil => rfl
  | cons v vs =>
    simp only [dedup, dedupAux, List.not_mem_nil, if_false, aggOf_sel hk]
    exact foldl_sel_dedupAux k.le_total k.le_trans vs [v] v
      (fun x hx => by rw [List.mem_singleton.mp hx]; exact (k.le_total v v).elim id id)

theorem evalItem_distinct {k : AggKind} (hk : k = .max ∨ k = .min) (grp : List Row) (arg : Option Nat) :
    evalItem grp (.agg k arg true) = evalItem grp (.agg k arg false) := by
  cases arg with
  | none => simp [evalItem, aggArgs]
  | some c => simp only [evalItem, aggArgs, if_true, Bool.false_eq_true, if_false, aggOf_sel_dedup hk]

theorem decCmp_same (u1 u2 : Int) (s : Nat) :
    decCmp (u1, s) (u2, s) = if u1 < u2 then -1 else if u1 > u2 then 1 else 0 := by
  simp [decCmp]

theorem mergeVal_sel_typed {k : AggKind} (hk : k = .max ∨ k = .min) {t : VTy} {a b : Val}
    (ha : hasTy t a = true) (hb : hasTy t b = true) : mergeVal k b a = .ok (sel k.le a b) := by
  rcases hk with rfl | rfl <;> cases t <;> cases a <;> cases b <;> simp [hasTy] at ha hb <;>
    simp only [mergeVal, sel, AggKind.le, leVal]
  · rename_i x y
    by_cases h : y ≤ x <;> simp [h] <;> omega
  · subst ha; subst hb
    rename_i u u'
    simp only [decCmp_same, if_true]
    by_cases h : u' ≤ u <;> by_cases h2 : u' < u <;> simp [h, h2] <;> omega
  · rename_i x y
    by_cases h : bytesLe y x = true <;> simp [h]
  · rename_i x y
    by_cases h : x ≤ y <;> simp [h] <;> omega
  · subst ha; subst hb
    rename_i u u'
    simp only [decCmp_same, if_true]
    by_cases h : u ≤ u' <;> simp [h] <;> omega
  · rename_i x y
    by_cases h : bytesLe x y = true <;> simp [h]

theorem hasTy_ne_null {t : VTy} {v : Val} (h : hasTy t v = true) : v ≠ .null := by
  rintro rfl; cases t <;> cases h

theorem sel_homomorphism {k : AggKind} (hk : k = .max ∨ k = .min) (t : VTy) (l1 l2 : List Val)
    (h1 : ∀ v ∈ l1, hasTy t v = true) (h2 : ∀ v ∈ l2, hasTy t v = true) :
    mergeVal k (aggOf k l2) (aggOf k l1) = .ok (aggOf k (l1 ++ l2)) := by
  have hnil : aggOf k [] = .null := by rcases hk with rfl | rfl <;> rfl
  cases l2 with
  | nil =>
    rw [List.append_nil, hnil]
    rcases hk with rfl | rfl <;> rfl
  | cons w ws =>
    cases l1 with
    | nil =>
      have hm := hasTy_ne_null (aggOf_sel_typed hk h2)
      rw [List.nil_append, hnil]
      generalize aggOf k (w :: ws) = m at hm
      rcases hk with rfl | rfl <;> cases m <;> first | exact absurd rfl hm | rfl
    | cons v vs =>
      rw [List.cons_append, aggOf_sel hk, aggOf_sel hk, aggOf_sel hk, foldl_sel_append k.le_total k.le_trans]
      exact mergeVal_sel_typed hk
        (foldl_sel_typed _ vs v (h1 v (by simp)) (fun x hx => h1 x (by simp [hx])))
        (foldl_sel_typed _ ws w (h2 w (by simp)) (fun x hx => h2 x (by simp [hx])))

/-- **Aggregate homomorphism.**  `l1` are the argument values seen by the
    shards merged so far, `l2` those of the next shard, all non-NULL values of
    one column type (for SUM a numeric one): merging the next shard's aggregate
    into the accumulated one gives the aggregate of the concatenation.  Empty
    parts (COUNT 0, NULL for SUM/MAX/MIN) are included. -/
theorem agg_homomorphism (t : VTy) (k : AggKind) (l1 l2 : List Val)
    (h1 : ∀ v ∈ l1, hasTy t v = true) (h2 : ∀ v ∈ l2, hasTy t v = true)
    (hsum : k = .sum → t ≠ .str) :
    mergeVal k (aggOf k l2) (aggOf k l1) = .ok (aggOf k (l1 ++ l2)) := by
  cases k
  · -- COUNT
    simp [mergeVal, aggOf, getInt, bind, R.bind]
  · -- SUM
    have ht := hsum rfl
    have h12 : ∀ x ∈ l1 ++ l2, hasTy t x = true := fun x hx => (List.mem_append.mp hx).elim (h1 x) (h2 x)
    rw [aggOf_sum_eq ht l1 h1, aggOf_sum_eq ht l2 h2, aggOf_sum_eq ht _ h12, sumU_append]
    by_cases e1 : l1 = [] <;> by_cases e2 : l2 = [] <;>
      simp [e1, e2, mergeVal, getDecimal, decAdd_same, sumU, bind, R.bind]
  · exact sel_homomorphism (Or.inl rfl) t l1 l2 h1 h2
  · exact sel_homomorphism (Or.inr rfl) t l1 l2 h1 h2

end GaeaVerif.Merge
