import GaeaVerif.Lemmas.LexC17Tokens
/-
  Helper lemmas for C17: one dispatch of the scanner (`plainStep`) on the
  rendering of each kind of lexical item but the `/*! */` and `/*+ */` comments.
-/
namespace GaeaVerif.LexC17
open GaeaVerif

abbrev WordStop (more : Bytes) : Prop := HeadSat (fun n => n.toNat < 0x80 ∧ isWordB n = false) more

theorem isWordB_ident (b : UInt8) (h : isWordB b = true) : b.toNat < 0x80 ∧ isIdentChar b.toNat = true := by
  simp only [isWordB, isWordStartB, isLetter, isDigit, Bool.or_eq_true, Bool.and_eq_true, decide_eq_true_eq] at h
  refine ⟨by omega, ?_⟩
  simp only [isIdentChar, isLetter, isDigit, isIdentExtend, Bool.or_eq_true, Bool.and_eq_true, decide_eq_true_eq]
  omega

theorem not_isWordB_ident (n : UInt8) (h80 : n.toNat < 0x80) (h : isWordB n = false) : isIdentChar n.toNat = false := by
  simp only [isWordB, isWordStartB, isLetter, isDigit, Bool.or_eq_false_iff, Bool.and_eq_false_iff, decide_eq_false_iff_not] at h
  simp only [isIdentChar, isLetter, isDigit, isIdentExtend, Bool.or_eq_false_iff, Bool.and_eq_false_iff, decide_eq_false_iff_not]
  omega

theorem ident_run (w more : Bytes) (hw : ∀ b ∈ w, isWordB b = true) (hm : WordStop more) :
    incAsLongAs isIdentChar (w ++ more) = w.length := by
  rw [incAsLongAs_ascii_run isIdentChar w more (fun b hb => isWordB_ident b (hw b hb))]
  rcases hm with rfl | ⟨n, t, rfl, h1, h2⟩
  · simp [incAsLongAs_nil]
  · rw [incAsLongAs_stop isIdentChar _ (by rw [peek_ascii n t h1]; exact not_isWordB_ident n h1 h2)]
    omega

theorem plainStep_ascii (b : UInt8) (t : Bytes) (h : b.toNat < 0x80) :
    plainStep (b :: t) =
      (let rest := b :: t
       let c := b.toNat
       if c = 0x40 then .tok (startWithAt rest).1 (startWithAt rest).2
       else if c = 0x23 then .skip (incAsLongAs (· ≠ 0x0A) rest)
       else if c = 0x2D then startWithDash rest
       else if c = 0x2F then startWithSlash rest
       else if c = 0x58 ∨ c = 0x78 then .tok .other (startWithXxBb isHexB rest)
       else if c = 0x42 ∨ c = 0x62 then .tok .other (startWithXxBb isBitB rest)
       else if c = 0x2E then .tok .other (startWithDot rest)
       else if isLetter c ∨ c = 0x5F ∨ c = 0x24 then .tok .other (scanIdentifier rest)
       else if c = 0x60 then .tok .other (scanQuotedIdent rest)
       else if isDigit c then .tok .other (startWithNumber rest)
       else if c = 0x27 ∨ c = 0x22 then .tok .other (startString rest)
       else if isOpChar c then .tok (if c = 0x3B then .semi else .other) (opLen rest)
       else .tok .other 1) := by
  have h1 : isIdentExtend b.toNat = false := by
    simp only [isIdentExtend, Bool.and_eq_false_iff, decide_eq_false_iff_not]; omega
  have h2 : ¬ b.toNat > 255 := by omega
  simp only [plainStep, peek_ascii b t h, h1, Bool.false_eq_true, if_false, h2]

theorem startWithXxBb_ident (digits : UInt8 → Bool) (b : UInt8) (r : Bytes) (hq : ∀ q, r.head? = some q → q.toNat ≠ 0x27) :
    startWithXxBb digits (b :: r) = 1 + incAsLongAs isIdentChar r := by
  cases r with
  | nil => simp [startWithXxBb, incAsLongAs_nil]
  | cons q r2 => simp only [startWithXxBb, List.drop_succ_cons, List.drop_zero, if_neg (hq q rfl)]

theorem plainStep_word (bs more : Bytes) (hok : (Item.word bs).ok = true)
    (hs : (Item.word bs).safeBefore more.head? = true) :
    plainStep (bs ++ more) = .tok .other bs.length := by
  cases bs with
  | nil => simp [Item.ok] at hok
  | cons b w =>
    simp only [Item.ok, Bool.and_eq_true, List.all_eq_true] at hok
    obtain ⟨hb, hall⟩ := hok
    have hw : ∀ b' ∈ w, isWordB b' = true := fun b' hb' => hall b' (List.mem_cons_of_mem _ hb')
    have hb80 := (isWordB_ident b (hall b List.mem_cons_self)).1
    -- what follows stops an identifier, and is no quote right after a single `x`, `X`, `b`, `B`
    have hstop : WordStop more ∧ (w = [] → ∀ q, more.head? = some q → q.toNat = 0x27 →
        ¬ (b.toNat = 0x78 ∨ b.toNat = 0x58 ∨ b.toNat = 0x62 ∨ b.toNat = 0x42)) := by
      cases more with
      | nil => exact ⟨.nil, fun _ _ h => nomatch h⟩
      | cons n t =>
        simp only [Item.safeBefore, List.head?_cons, Bool.and_eq_true, Bool.not_eq_true', Bool.or_eq_false_iff,
          Bool.and_eq_false_iff, decide_eq_false_iff_not] at hs
        refine ⟨.cons ⟨by omega, hs.1.1⟩, ?_⟩
        rintro rfl q hq hq27
        obtain rfl : n = q := Option.some.inj hq
        have := hs.2
        simp only [hq27, List.map_cons, List.map_nil, List.cons.injEq, and_true, not_true_eq_false, or_false] at this
        omega
    have hrun : incAsLongAs isIdentChar (w ++ more) = w.length := ident_run w more hw hstop.1
    have hxb : ∀ digits, (b.toNat = 0x58 ∨ b.toNat = 0x78 ∨ b.toNat = 0x42 ∨ b.toNat = 0x62) →
        startWithXxBb digits (b :: (w ++ more)) = (b :: w).length := by
      intro digits hbx
      rw [startWithXxBb_ident digits b _ ?_, hrun, List.length_cons, Nat.add_comm]
      intro q hq hq27
      cases w with
      | nil => exact hstop.2 rfl q hq hq27 (by omega)
      | cons b' w' =>
        obtain rfl : b' = q := Option.some.inj hq
        have := hw b' List.mem_cons_self
        simp only [isWordB, isWordStartB, isLetter, isDigit, Bool.or_eq_true, Bool.and_eq_true, decide_eq_true_eq] at this
        omega
    rw [List.cons_append, plainStep_ascii b _ hb80]
    simp only [isWordStartB, isLetter, Bool.or_eq_true, Bool.and_eq_true, decide_eq_true_eq] at hb
    simp only
    rw [if_neg (by omega), if_neg (by omega), if_neg (by omega), if_neg (by omega)]
    by_cases hx : b.toNat = 0x58 ∨ b.toNat = 0x78
    · rw [if_pos hx, hxb isHexB (by omega)]
    · rw [if_neg hx]
      by_cases hbb : b.toNat = 0x42 ∨ b.toNat = 0x62
      · rw [if_pos hbb, hxb isBitB (by omega)]
      · rw [if_neg hbb, if_neg (by omega),
          if_pos (by simp only [isLetter, Bool.or_eq_true, Bool.and_eq_true, decide_eq_true_eq]; omega)]
        simp only [scanIdentifier, peek_ascii b _ hb80, List.drop_succ_cons, List.drop_zero, hrun, List.length_cons]
        rw [Nat.add_comm]

abbrev NumStop (more : Bytes) : Prop :=
  HeadSat (fun n => n.toNat < 0x80 ∧ isWordB n = false ∧ n.toNat ≠ 0x2E) more

theorem numStop_digit (more : Bytes) (h : NumStop more) (p : UInt8 → Bool) (hp : ∀ n, p n = true → isWordB n = true) :
    HeadSat (fun n => p n = false) more :=
  h.mono fun n ⟨_, h2, _⟩ => by
    cases hpn : p n with
    | false => rfl
    | true => rw [hp n hpn] at h2; exact absurd h2 (by simp)

theorem isDigitB_word (n : UInt8) (h : isDigitB n = true) : isWordB n = true := by
  simp only [isDigitB] at h; simp [isWordB, h]

theorem isOctB_word (n : UInt8) (h : isOctB n = true) : isWordB n = true := by
  simp only [isOctB, Bool.and_eq_true, decide_eq_true_eq] at h
  simp only [isWordB, isDigit, Bool.or_eq_true, Bool.and_eq_true, decide_eq_true_eq]; omega

theorem number_tail (L more : Bytes) (hL : ∀ b ∈ L, isDigitB b = true) (hm : NumStop more) (k : Nat) (rest0 : Bytes)
    (hcur : rest0.drop k = L ++ more) : numberTail rest0 k = k + L.length := by
  have hd : spanLen isDigitB (L ++ more) = L.length :=
    spanLen_run isDigitB L more hL (numStop_digit more hm isDigitB isDigitB_word)
  simp only [numberTail, hcur, hd, List.drop_left]
  rcases hm with rfl | ⟨n, t, rfl, h1, h2, h3⟩
  · simp
  · rw [peek_ascii n t h1]
    have hid := not_isWordB_ident n h1 h2
    simp only [isWordB, isWordStartB, isLetter, isDigit, Bool.or_eq_false_iff, Bool.and_eq_false_iff, decide_eq_false_iff_not] at h2
    rw [if_neg (by intro ⟨_, h⟩; omega), if_neg (by intro ⟨_, h⟩; rw [hid] at h; exact absurd h (by simp))]

theorem startWithNumber_item (ds more : Bytes) (hne : ds ≠ []) (hds : ∀ b ∈ ds, isDigitB b = true) (hm : NumStop more) :
    startWithNumber (ds ++ more) = ds.length := by
  cases ds with
  | nil => exact absurd rfl hne
  | cons d0 L =>
    have hL : ∀ b ∈ L, isDigitB b = true := fun b hb => hds b (by simp [hb])
    have hd0 := hds d0 (by simp)
    simp only [isDigitB, isDigit, Bool.and_eq_true, decide_eq_true_eq] at hd0
    simp only [List.cons_append, startWithNumber, numberPrefix, List.drop_succ_cons, List.drop_zero]
    by_cases h0 : d0.toNat = 0x30
    · simp only [h0, if_true]
      cases L with
      | nil =>
        simp only [List.nil_append]
        rcases hm with rfl | ⟨n, t, rfl, h1, h2, h3⟩
        · simp only
          have := number_tail [] [] (by simp) (Or.inl rfl) 1 [d0] (by simp)
          simpa using this
        · have hn := h2
          simp only [isWordB, isWordStartB, isLetter, isDigit, Bool.or_eq_false_iff, Bool.and_eq_false_iff, decide_eq_false_iff_not] at hn
          simp only
          rw [if_neg (by omega), if_neg (by omega), if_neg (by omega), if_neg (by omega), if_neg (by omega)]
          have := number_tail [] (n :: t) (by simp) (Or.inr ⟨n, t, rfl, h1, h2, h3⟩) 1 (d0 :: n :: t) (by simp)
          simp only at this ⊢
          simpa using this
      | cons d1 L' =>
        have hL' : ∀ b ∈ L', isDigitB b = true := fun b hb => hL b (by simp [hb])
        have hd1 := hL d1 (by simp)
        simp only [isDigitB, isDigit, Bool.and_eq_true, decide_eq_true_eq] at hd1
        simp only [List.cons_append]
        by_cases ho : 0x30 ≤ d1.toNat ∧ d1.toNat ≤ 0x37
        · simp only [ho, and_self, if_true]
          have hso : spanLen isOctB (L' ++ more) = spanLen isOctB L' :=
            spanLen_stop isOctB L' more (numStop_digit more hm isOctB isOctB_word)
          have hle : spanLen isOctB L' ≤ L'.length := (List.takeWhile_sublist _).length_le
          have hcur : (d0 :: d1 :: (L' ++ more)).drop (2 + spanLen isOctB (L' ++ more)) = L'.drop (spanLen isOctB L') ++ more := by
            rw [hso, show 2 + spanLen isOctB L' = spanLen isOctB L' + 2 by omega]
            simp only [List.drop_succ_cons]
            exact List.drop_append_of_le_length hle
          rw [number_tail (L'.drop (spanLen isOctB L')) more (fun b hb => hL' b (List.mem_of_mem_drop hb)) hm
            (2 + spanLen isOctB (L' ++ more)) (d0 :: d1 :: (L' ++ more)) hcur, hso]
          simp only [List.length_drop, List.length_cons]; omega
        · rw [if_neg ho, if_neg (by omega), if_neg (by omega), if_neg (by omega), if_neg (by omega)]
          simp only
          rw [number_tail (d1 :: L') more hL hm 1 (d0 :: d1 :: (L' ++ more)) (by simp)]
          simp only [List.length_cons]; omega
    · simp only [h0, if_false]
      rw [number_tail L more hL hm 1 (d0 :: (L ++ more)) (by simp)]
      simp only [List.length_cons]; omega

theorem plainStep_num (bs more : Bytes) (hok : (Item.num bs).ok = true)
    (hs : (Item.num bs).safeBefore more.head? = true) :
    plainStep (bs ++ more) = .tok .other bs.length := by
  simp only [Item.ok, Bool.and_eq_true, List.all_eq_true, ne_eq, decide_eq_true_eq] at hok
  obtain ⟨hne, hall⟩ := hok
  have hstop : NumStop more := headSat_iff.mpr fun n hn => by
    simp only [Item.safeBefore, hn, Bool.not_eq_true', Bool.or_eq_false_iff, decide_eq_false_iff_not] at hs
    exact ⟨by omega, hs.1.1, hs.2⟩
  cases bs with
  | nil => exact absurd rfl hne
  | cons b w =>
    have hb := hall b (by simp)
    simp only [isDigitB, isDigit, Bool.and_eq_true, decide_eq_true_eq] at hb
    rw [List.cons_append, plainStep_ascii b _ (by omega)]
    simp only
    rw [if_neg (by omega), if_neg (by omega), if_neg (by omega), if_neg (by omega), if_neg (by omega), if_neg (by omega),
      if_neg (by omega), if_neg (by simp only [isLetter, Bool.or_eq_true, Bool.and_eq_true, decide_eq_true_eq]; omega),
      if_neg (by omega), if_pos (by simp only [isDigit, Bool.and_eq_true, decide_eq_true_eq]; omega)]
    have := startWithNumber_item (b :: w) more (by simp) hall hstop
    rw [List.cons_append] at this
    rw [this]

/-- Every multi-character operator but `\N` is a pair that `symExt` names. -/
theorem opLen_one (c : UInt8) (more : Bytes) (hs : ∀ n, more.head? = some n → symExt c n = false) (hN : c.toNat ≠ 0x5C) :
    opLen (c :: more) = 1 := by
  unfold opLen
  cases more with
  | nil => split <;> first | rfl | (rename_i heq; simp at heq)
  | cons n t =>
    have h := hs n rfl
    simp only [List.map_cons]
    split
    all_goals first
      | rfl
      | (rename_i heq; injection heq with h1 heq; injection heq with h2
         first | exact absurd h1 hN | simp [symExt, h1, h2] at h)

theorem plainStep_op (c : UInt8) (t : Bytes) (h : isOpChar c.toNat = true) :
    plainStep (c :: t) = .tok (if c.toNat = 0x3B then .semi else .other) (opLen (c :: t)) := by
  have hn : c.toNat < 0x80 ∧ c.toNat ≠ 0x40 ∧ c.toNat ≠ 0x23 ∧ c.toNat ≠ 0x2D ∧ c.toNat ≠ 0x2F ∧
      ¬ (c.toNat = 0x58 ∨ c.toNat = 0x78) ∧ ¬ (c.toNat = 0x42 ∨ c.toNat = 0x62) ∧ c.toNat ≠ 0x2E ∧
      ¬ (isLetter c.toNat = true ∨ c.toNat = 0x5F ∨ c.toNat = 0x24) ∧ c.toNat ≠ 0x60 ∧ isDigit c.toNat = false ∧
      ¬ (c.toNat = 0x27 ∨ c.toNat = 0x22) := by
    have hc := h
    simp only [isOpChar, Bool.or_eq_true, decide_eq_true_eq] at hc
    repeat' rcases hc with hc | hc
    all_goals (rw [hc]; decide)
  rw [plainStep_ascii c t hn.1]
  simp only [hn, h, if_false, if_true, Bool.false_eq_true]

theorem plainStep_semi (more : Bytes) : plainStep (0x3B :: more) = .tok .semi 1 := by
  rw [plainStep_op 0x3B more (by decide), opLen_one 0x3B more (fun _ _ => rfl) (by decide)]
  rfl

/-- The punctuation of the items: `-`, `/`, `.` have scanning functions of their own, the rest are operator characters. -/
theorem isSymB_cases (c : UInt8) (h : isSymB c = true) :
    c.toNat = 0x2D ∨ c.toNat = 0x2F ∨ c.toNat = 0x2E ∨ (isOpChar c.toNat = true ∧ c.toNat ≠ 0x5C ∧ c.toNat ≠ 0x3B) := by
  simp only [isSymB, Bool.or_eq_true, decide_eq_true_eq] at h
  repeat' rcases h with h | h
  all_goals (rw [h]; decide)

theorem plainStep_sym (c : UInt8) (more : Bytes) (hok : (Item.sym c).ok = true)
    (hs : ((Item.sym c).safeBefore more.head? || (Item.sym c).dashOK more) = true) :
    plainStep (c :: more) = .tok .other 1 := by
  -- for every character but `-` the condition on what follows is the one-byte condition
  have hext : c.toNat ≠ 0x2D → ∀ n, more.head? = some n → symExt c n = false := by
    intro hd n hn
    have hdash : (Item.sym c).dashOK more = false := by
      cases more with
      | nil => rfl
      | cons x y => simp [Item.dashOK, hd]
    rw [hdash, Bool.or_false] at hs
    simpa only [Item.safeBefore, hn, Bool.not_eq_true'] using hs
  rcases isSymB_cases c hok with hd | hsl | hdot | ⟨hop, hN, hsemi⟩
  · -- `-`: not followed by `>`, and by `-` only when no white space comes after that
    rw [plainStep_ascii c more (by omega)]
    simp only [hd, startWithDash]
    cases more with
    | nil => rfl
    | cons d t =>
      simp only [Bool.or_eq_true] at hs
      rcases hs with hs | hs
      · simp only [Item.safeBefore, List.head?_cons, Bool.not_eq_true', symExt, hd, Bool.or_eq_false_iff,
          decide_eq_false_iff_not] at hs
        simp [hs.1, hs.2]
      · simp only [Item.dashOK, Bool.and_eq_true, decide_eq_true_eq] at hs
        obtain ⟨⟨_, hd2⟩, ht⟩ := hs
        cases t with
        | nil => simp at ht
        | cons s t' =>
          simp only [Bool.not_eq_true'] at ht
          simp [hd2, ht]
  · rw [plainStep_ascii c more (by omega)]
    simp only [hsl, startWithSlash]
    cases more with
    | nil => rfl
    | cons a t =>
      have := hext (by omega) a rfl
      simp only [symExt, hsl, decide_eq_false_iff_not] at this
      simp [this]
  · rw [plainStep_ascii c more (by omega)]
    simp only [hdot, startWithDot, List.drop_succ_cons, List.drop_zero]
    cases more with
    | nil => simp
    | cons n t =>
      have := hext (by omega) n rfl
      simp only [symExt, hdot] at this
      have hnd : isDigit (peek (n :: t)).1 = false := by
        rcases peek_cases n t with ⟨h1, h2⟩ | ⟨h1, h2, _⟩
        · rw [h2]; exact this
        · simp only [isDigit, Bool.and_eq_false_iff, decide_eq_false_iff_not]; omega
      simp [hnd]
  · have hd : c.toNat ≠ 0x2D := by intro e; rw [e] at hop; exact absurd hop (by decide)
    rw [plainStep_op c more hop, opLen_one c more (hext hd) hN, if_neg hsemi]

theorem plainStep_str (q : UInt8) (body more : Bytes) (hok : (Item.str q body).ok = true)
    (hs : (Item.str q body).safeBefore more.head? = true) :
    plainStep (q :: body ++ q :: more) = .tok .other (body.length + 2) := by
  simp only [Item.ok, Bool.and_eq_true, Bool.or_eq_true, decide_eq_true_eq] at hok
  obtain ⟨hq, hbody⟩ := hok
  have hr : more.head? ≠ some q := by
    cases more with
    | nil => simp
    | cons n t =>
      simp only [Item.safeBefore, List.head?_cons, decide_eq_true_eq] at hs
      simpa using hs
  rw [List.cons_append, plainStep_ascii q _ (by omega)]
  simp only
  rw [if_neg (by omega), if_neg (by omega), if_neg (by omega), if_neg (by omega), if_neg (by omega), if_neg (by omega),
    if_neg (by omega), if_neg (by simp only [isLetter, Bool.or_eq_true, Bool.and_eq_true, decide_eq_true_eq]; omega),
    if_neg (by omega), if_neg (by simp only [isDigit, Bool.and_eq_true, decide_eq_true_eq]; omega), if_pos hq]
  have := startString_item q hq body more hbody hr
  rw [List.cons_append] at this
  rw [this]

theorem plainStep_bq (body more : Bytes) (hok : (Item.bq body).ok = true)
    (hs : (Item.bq body).safeBefore more.head? = true) :
    plainStep (cBq :: body ++ cBq :: more) = .tok .other (body.length + 2) := by
  simp only [Item.ok] at hok
  have hr : more.head? ≠ some cBq := by
    cases more with
    | nil => simp
    | cons n t =>
      simp only [Item.safeBefore, List.head?_cons, decide_eq_true_eq] at hs
      simp only [List.head?_cons, ne_eq, Option.some.injEq]
      intro e; apply hs; rw [e]; decide
  have hv : cBq.toNat = 0x60 := by decide
  rw [List.cons_append, plainStep_ascii cBq _ (by decide)]
  simp only [hv]
  have := scanQuotedIdent_item body more hok hr
  rw [List.cons_append] at this
  simp [this, isLetter]

theorem plainStep_token (it : Item) (more : Bytes) (hok : it.ok = true) (ht : it.isToken = true)
    (hs : (it.safeBefore more.head? || it.dashOK more) = true) :
    plainStep (it.render ++ more) = .tok .other it.render.length := by
  cases it with
  | word bs => exact plainStep_word bs more hok (by simpa [Item.dashOK] using hs)
  | num bs => exact plainStep_num bs more hok (by simpa [Item.dashOK] using hs)
  | sym c => exact plainStep_sym c more hok hs
  | str q body => simpa [Item.render] using plainStep_str q body more hok (by simpa [Item.dashOK] using hs)
  | bq body => simpa [Item.render, cBq] using plainStep_bq body more hok (by simpa [Item.dashOK] using hs)
  | _ => simp [Item.isToken] at ht

theorem plainStep_cblock (body more : Bytes) (hok : (Item.cblock body).ok = true) :
    plainStep ((Item.cblock body).render ++ more) = .skip (Item.cblock body).render.length := by
  simp only [Item.ok, Bool.and_eq_true, blockBodyOK, Bool.not_eq_true'] at hok
  obtain ⟨hb, hfirst⟩ := hok
  have hv : cSlash.toNat = 0x2F := by decide
  have hsv : cStar.toNat = 0x2A := by decide
  have e : (Item.cblock body).render ++ more = cSlash :: (cStar :: body ++ cStar :: cSlash :: more) := by
    simp [Item.render, cSlash, cStar]
  rw [e, plainStep_ascii cSlash _ (by decide)]
  simp only [hv]
  rw [if_neg (by omega), if_neg (by omega), if_neg (by omega), if_pos trivial]
  simp only [startWithSlash, List.cons_append, hsv, if_true]
  rw [commentLoop_body more body false (by simpa [cStar] using hb) (body ++ cStar :: cSlash :: more).length (by simp)]
  simp only
  cases body with
  | nil =>
    simp only [List.nil_append, hsv]
    rw [if_neg (by omega), if_neg (by omega)]
    rfl
  | cons x t =>
    simp only [Bool.and_eq_true, ne_eq, decide_eq_true_eq] at hfirst
    simp only [List.cons_append]
    rw [if_neg hfirst.2, if_neg hfirst.1]
    simp [Item.render]
    omega

def nlOf (nl : Bool) : Bytes := if nl then [0x0A] else []

/-- `startWithSharp` and the comment branch of `startWithDash` stop in front of the newline, or at the end of the text. -/
theorem lineComment_run (pre more : Bytes) (nl : Bool) (hpre : ∀ b ∈ pre, b.toNat ≠ 0x0A)
    (hm : ∀ n, more.head? = some n → nl = true) :
    incAsLongAs (· ≠ 0x0A) (pre ++ (nlOf nl ++ more)) = pre.length := by
  refine incAsLongAs_body _ (by intro r hr; simp; omega) _ ?_ pre (fun b hb _ => by simpa using hpre b hb)
  cases nl with
  | true => exact .cons ⟨by decide, by decide⟩
  | false => exact headSat_iff.mpr fun n hn => absurd (hm n hn) (by simp)

theorem plainStep_chash (body more : Bytes) (nl : Bool) (hok : (Item.chash body nl).ok = true)
    (hs : (Item.chash body nl).safeBefore more.head? = true) :
    plainStep ((Item.chash body nl).render ++ more) = .skip (0x23 :: body).length := by
  simp only [Item.ok, List.all_eq_true, decide_eq_true_eq] at hok
  rw [show (Item.chash body nl).render ++ more = (0x23 :: body) ++ (nlOf nl ++ more) from List.append_assoc _ (nlOf nl) _]
  rw [← lineComment_run (0x23 :: body) more nl (List.forall_mem_cons.mpr ⟨by decide, hok⟩)
    (fun n hn => by rw [hn] at hs; exact hs)]
  rw [List.cons_append, plainStep_ascii 0x23 _ (by decide)]
  simp only
  rw [if_neg (by decide), if_pos (by decide)]

theorem plainStep_cdash (body more : Bytes) (nl : Bool) (hok : (Item.cdash body nl).ok = true)
    (hs : (Item.cdash body nl).safeBefore more.head? = true) :
    plainStep ((Item.cdash body nl).render ++ more) = .skip (0x2D :: 0x2D :: body).length := by
  simp only [Item.ok, Bool.and_eq_true, List.all_eq_true, decide_eq_true_eq] at hok
  rw [show (Item.cdash body nl).render ++ more = (0x2D :: 0x2D :: body) ++ (nlOf nl ++ more) from List.append_assoc _ (nlOf nl) _]
  obtain ⟨hfirst, hall⟩ := hok
  have hm : ∀ n, more.head? = some n → nl = true := fun n hn => by rw [hn] at hs; exact hs
  rw [← lineComment_run (0x2D :: 0x2D :: body) more nl
    (List.forall_mem_cons.mpr ⟨by decide, List.forall_mem_cons.mpr ⟨by decide, hall⟩⟩) hm]
  -- the comment condition of startWithDash: "--" at the end, or followed by white space
  have hcond : (match body ++ (nlOf nl ++ more) with | s :: _ => isSpaceB s | [] => true) = true := by
    cases body with
    | nil =>
      cases nl with
      | true => rfl
      | false =>
        cases more with
        | nil => rfl
        | cons n t => exact absurd (hm n rfl) (by simp)
    | cons b t =>
      simp only [Bool.and_eq_true] at hfirst
      exact hfirst.1
  rw [List.cons_append, List.cons_append, plainStep_ascii 0x2D _ (by decide)]
  simp only
  rw [if_neg (by decide), if_neg (by decide), if_pos (by decide)]
  simp only [startWithDash]
  rw [if_pos ⟨by decide, hcond⟩]

end GaeaVerif.LexC17
