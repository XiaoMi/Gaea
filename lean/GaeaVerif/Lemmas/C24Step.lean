import GaeaVerif.Model.ResourcePool
/-
  The transitions of `stepThread` as a relation `Step`, one constructor per branch that returns a
  result, and its inversion; the step of the whole system (`step_eq`, `step_some`) and what it does
  to the thread list.
-/
namespace GaeaVerif.C24
open GaeaVerif.ResourcePool

/-- `Step p a t r`: thread `t` can take a step on pool `p` with result `r`.  One
    constructor per branch of `stepThread` (with `startOp`, `scaleEntry`, `scaleTail`,
    `gotWrapper`, `afterScale` and `sweepEnd` written out), named after the program
    counter it leaves; the ones that leave `.idle` after the operation they start. -/
inductive Step (p : Pool) (a : Alt) : Thread → Res → Prop
  | get : Step p a ⟨.get f :: rest, .idle, held, child⟩ { pool := p, thr := ⟨rest, .gRecv f, held, child⟩ }
  | put : Step p a ⟨.put :: rest, .idle, r :: hs, child⟩ { pool := p, thr := ⟨rest, .pSend (some r), hs, child⟩ }
  | putNothing : Step p a ⟨.put :: rest, .idle, [], child⟩ { pool := p, thr := ⟨rest, .idle, [], child⟩, ev := .skip }
  | drop : Step p a ⟨.drop :: rest, .idle, r :: hs, child⟩ { pool := p, thr := ⟨rest, .pAct, hs, child⟩ }
  | dropNothing : Step p a ⟨.drop :: rest, .idle, [], child⟩ { pool := p, thr := ⟨rest, .idle, [], child⟩, ev := .skip }
  | sweep : p.idleOn = true → Step p a ⟨.sweep :: rest, .idle, held, child⟩
      { pool := { p with idleBusy := p.idleBusy + 1 }, thr := ⟨rest, .cLoad, held, child⟩ }
  | sweepStopped : p.idleOn = false → Step p a ⟨.sweep :: rest, .idle, held, child⟩
      { pool := p, thr := ⟨rest, .idle, held, child⟩, ev := .skip }
  | tick : p.capOn = true → Step p a ⟨.tick :: rest, .idle, held, child⟩
      { pool := { p with capBusy := p.capBusy + 1 }, thr := ⟨rest, .tLock, held, child⟩ }
  | tickStopped : p.capOn = false → Step p a ⟨.tick :: rest, .idle, held, child⟩
      { pool := p, thr := ⟨rest, .idle, held, child⟩, ev := .skip }
  | setCap : Step p a ⟨.setCap c :: rest, .idle, held, child⟩ { pool := p, thr := ⟨rest, .scLoad c, held, child⟩ }
  | scale {c : Int} : 0 ≤ c → c ≤ p.maxCap → Step p a ⟨.scale c :: rest, .idle, held, child⟩
      { pool := p, thr := ⟨rest, .sLock c, held, child⟩ }
  | scaleRange {c : Int} : c < 0 ∨ c > p.maxCap → Step p a ⟨.scale c :: rest, .idle, held, false⟩
      { pool := p, thr := ⟨rest, .idle, held, false⟩, ev := .sErrRange }
  | scaleRangeChild {c : Int} : c < 0 ∨ c > p.maxCap → Step p a ⟨.scale c :: rest, .idle, held, true⟩
      { pool := p, thr := ⟨rest, .kDone, held, true⟩, ev := .sErrRange }
  | close : Step p a ⟨.close :: rest, .idle, held, child⟩ { pool := p, thr := ⟨rest, .clIdle, held, child⟩ }
  | age : Step p a ⟨.age :: rest, .idle, held, child⟩
      { pool := { p with recent := false }, thr := ⟨rest, .idle, held, child⟩, ev := .ok }
  -- get
  | gRecv : p.chan = some r :: ch → Step p a ⟨prog, .gRecv f, held, child⟩
      { pool := { p with chan := ch }, thr := ⟨prog, .gAvail r, held, child⟩ }
  | gRecvEmpty : p.chan = none :: ch → Step p a ⟨prog, .gRecv f, held, child⟩
      { pool := { p with chan := ch }, thr := ⟨prog, .gMake f, held, child⟩ }
  | gRecvClosed : p.chan = [] → p.closed = true → Step p a ⟨prog, .gRecv f, held, child⟩
      { pool := p, thr := ⟨prog, .idle, held, child⟩, ev := .errClosed }
  | gRecvScaleOut : p.chan = [] → p.closed = false → p.dynamic = true → Step p a ⟨prog, .gRecv f, held, child⟩
      { pool := p, thr := ⟨prog, .soLock f, held, child⟩ }
  | gRecvWait : p.chan = [] → p.closed = false → p.dynamic = false → Step p a ⟨prog, .gRecv f, held, child⟩
      { pool := p, thr := ⟨prog, .gWait f, held, child⟩ }
  | soLock : p.lock = false → Step p a ⟨prog, .soLock f, held, child⟩
      { pool := { p with lock := true }, thr := ⟨prog, .soCap f, held, child⟩ }
  | soCap : p.capacity < p.maxCap → Step p a ⟨prog, .soCap f, held, child⟩
      { pool := p, thr := ⟨prog, .soTry f, held, child⟩ }
  | soCapFull : ¬ p.capacity < p.maxCap → Step p a ⟨prog, .soCap f, held, child⟩
      { pool := p, thr := ⟨prog, .soUnlock f false false, held, child⟩ }
  | soTryBusy : p.scaling = true → Step p a ⟨prog, .soTry f, held, child⟩
      { pool := p, thr := ⟨prog, .soUnlock f false false, held, child⟩ }
  | soTry : p.scaling = false → Step p a ⟨prog, .soTry f, held, child⟩
      { pool := { p with scaling := true }, thr := ⟨prog, .soCap2 f, held, child⟩ }
  | soCap2Range : p.capacity ≤ 0 ∨ p.capacity ≥ p.maxCap → Step p a ⟨prog, .soCap2 f, held, child⟩
      { pool := p, thr := ⟨prog, .soRelease f false, held, child⟩ }
  | soCap2 : ¬ (p.capacity ≤ 0 ∨ p.capacity ≥ p.maxCap) → Step p a ⟨prog, .soCap2 f, held, child⟩
      { pool := p, thr := ⟨prog, .soAdd f p.capacity, held, child⟩ }
  | soAdd : p.capacity = c → Step p a ⟨prog, .soAdd f c, held, child⟩
      { pool := { p with capacity := c + 1 }, thr := ⟨prog, .soAvail f, held, child⟩ }
  | soAddRetry : p.capacity ≠ c → Step p a ⟨prog, .soAdd f c, held, child⟩
      { pool := p, thr := ⟨prog, .soCap2 f, held, child⟩ }
  | soAvail : Step p a ⟨prog, .soAvail f, held, child⟩
      { pool := { p with available := p.available + 1 }, thr := ⟨prog, .soRelease f true, held, child⟩ }
  | soRelease : Step p a ⟨prog, .soRelease f ok, held, child⟩
      { pool := { p with scaling := false }, thr := ⟨prog, .soUnlock f ok true, held, child⟩ }
  | soUnlock : Step p a ⟨prog, .soUnlock f true stamp, held, child⟩
      { pool := { p with lock := false, recent := stamp || p.recent }, thr := ⟨prog, .gMake f, held, child⟩ }
  | soUnlockWait : Step p a ⟨prog, .soUnlock f false stamp, held, child⟩
      { pool := { p with lock := false, recent := stamp || p.recent }, thr := ⟨prog, .gWait f, held, child⟩ }
  | gWaitTimeout : a.timeout = true → Step p a ⟨prog, .gWait f, held, child⟩
      { pool := p, thr := ⟨prog, .idle, held, child⟩, ev := .errTimeout }
  | gWait : a.timeout = false → p.chan = some r :: ch → Step p a ⟨prog, .gWait f, held, child⟩
      { pool := { p with chan := ch }, thr := ⟨prog, .gAvail r, held, child⟩ }
  | gWaitEmpty : a.timeout = false → p.chan = none :: ch → Step p a ⟨prog, .gWait f, held, child⟩
      { pool := { p with chan := ch }, thr := ⟨prog, .gMake f, held, child⟩ }
  | gWaitClosed : a.timeout = false → p.chan = [] → p.closed = true → Step p a ⟨prog, .gWait f, held, child⟩
      { pool := p, thr := ⟨prog, .idle, held, child⟩, ev := .errClosed }
  | gMakeFail : f ≥ 3 → Step p a ⟨prog, .gMake f, held, child⟩ { pool := p, thr := ⟨prog, .gFailSend, held, child⟩ }
  | gMake : f < 3 → Step p a ⟨prog, .gMake f, held, child⟩
      { pool := { p with nextRes := p.nextRes + 1 }, thr := ⟨prog, .gAct p.nextRes, held, child⟩ }
  | gFailSendClosed : p.closed = true → Step p a ⟨prog, .gFailSend, held, child⟩
      { pool := p, thr := ⟨prog, .dead, held, child⟩, ev := .panicSendClosed }
  | gFailSend : p.closed = false → p.chan.length < p.maxCap → Step p a ⟨prog, .gFailSend, held, child⟩
      { pool := { p with chan := p.chan ++ [none] }, thr := ⟨prog, .idle, held, child⟩, ev := .errFactory }
  | gAct : Step p a ⟨prog, .gAct r, held, child⟩
      { pool := { p with active := p.active + 1 }, thr := ⟨prog, .gAvail r, held, child⟩ }
  | gAvail : Step p a ⟨prog, .gAvail r, held, child⟩
      { pool := { p with available := p.available - 1 }, thr := ⟨prog, .gInUse r, held, child⟩ }
  | gInUse : Step p a ⟨prog, .gInUse r, held, child⟩
      { pool := { p with inUse := p.inUse + 1 }, thr := ⟨prog, .idle, r :: held, child⟩, ev := .got r }
  -- Put
  | pAct : Step p a ⟨prog, .pAct, held, child⟩
      { pool := { p with active := p.active - 1 }, thr := ⟨prog, .pSend none, held, child⟩ }
  | pSendClosed : p.closed = true → Step p a ⟨prog, .pSend w, held, child⟩
      { pool := p, thr := ⟨prog, .dead, held, child⟩, ev := .panicPutClosed }
  | pSend : p.closed = false → p.chan.length < p.maxCap → Step p a ⟨prog, .pSend w, held, child⟩
      { pool := { p with chan := p.chan ++ [w] }, thr := ⟨prog, .pInUse, held, child⟩ }
  | pSendFull : p.closed = false → ¬ p.chan.length < p.maxCap → Step p a ⟨prog, .pSend w, held, child⟩
      { pool := p, thr := ⟨prog, .dead, held, child⟩, ev := .panicPutFull }
  | pInUse : Step p a ⟨prog, .pInUse, held, child⟩
      { pool := { p with inUse := p.inUse - 1 }, thr := ⟨prog, .pAvail, held, child⟩ }
  | pAvail : Step p a ⟨prog, .pAvail, held, child⟩
      { pool := { p with available := p.available + 1 }, thr := ⟨prog, .idle, held, child⟩, ev := .okPut }
  -- closeIdleResources
  | cLoad : 0 < p.available → Step p a ⟨prog, .cLoad, held, child⟩
      { pool := p, thr := ⟨prog, .cRecv p.available 0, held, child⟩ }
  | cLoadNone : ¬ 0 < p.available → Step p a ⟨prog, .cLoad, held, child⟩
      { pool := { p with idleBusy := p.idleBusy - 1 }, thr := ⟨prog, .idle, held, child⟩, ev := .ok }
  | cRecvExpired : p.chan = some r :: ch → a.expired = true → Step p a ⟨prog, .cRecv n i, held, child⟩
      { pool := { p with chan := ch }, thr := ⟨prog, .cAct n i, held, child⟩ }
  | cRecv : p.chan = some r :: ch → a.expired = false → Step p a ⟨prog, .cRecv n i, held, child⟩
      { pool := { p with chan := ch }, thr := ⟨prog, .cSend n i (some r), held, child⟩ }
  | cRecvEmpty : p.chan = none :: ch → Step p a ⟨prog, .cRecv n i, held, child⟩
      { pool := { p with chan := ch }, thr := ⟨prog, .cSend n i none, held, child⟩ }
  | cRecvNone : p.chan = [] → Step p a ⟨prog, .cRecv n i, held, child⟩
      { pool := { p with idleBusy := p.idleBusy - 1 }, thr := ⟨prog, .idle, held, child⟩, ev := .ok }
  | cAct : Step p a ⟨prog, .cAct n i, held, child⟩
      { pool := { p with active := p.active - 1 }, thr := ⟨prog, .cSend n i none, held, child⟩ }
  | cSendClosed : p.closed = true → Step p a ⟨prog, .cSend n i w, held, child⟩
      { pool := p, thr := ⟨prog, .dead, held, child⟩, ev := .panicSendClosed }
  | cSend : p.closed = false → p.chan.length < p.maxCap → i + 1 < n → Step p a ⟨prog, .cSend n i w, held, child⟩
      { pool := { p with chan := p.chan ++ [w] }, thr := ⟨prog, .cRecv n (i + 1), held, child⟩ }
  | cSendLast : p.closed = false → p.chan.length < p.maxCap → ¬ i + 1 < n → Step p a ⟨prog, .cSend n i w, held, child⟩
      { pool := { p with chan := p.chan ++ [w], idleBusy := p.idleBusy - 1 }, thr := ⟨prog, .idle, held, child⟩, ev := .ok }
  -- SetCapacity
  | scLoad : Step p a ⟨prog, .scLoad c, held, child⟩ { pool := p, thr := ⟨prog, .scCas c p.baseCap, held, child⟩ }
  | scCas {c old b : Int} : b = (if p.baseCap = old then c else p.baseCap) → old < c → 0 ≤ c → c ≤ p.maxCap → Step p a ⟨prog, .scCas c old, held, child⟩
      { pool := { p with baseCap := b }, thr := ⟨prog, .sLock c, held, child⟩ }
  | scCasRange {c old b : Int} : b = (if p.baseCap = old then c else p.baseCap) → old < c → c < 0 ∨ c > p.maxCap → Step p a ⟨prog, .scCas c old, held, false⟩
      { pool := { p with baseCap := b }, thr := ⟨prog, .idle, held, false⟩,
        ev := .sErrRange }
  | scCasRangeChild {c old b : Int} : b = (if p.baseCap = old then c else p.baseCap) → old < c → c < 0 ∨ c > p.maxCap → Step p a ⟨prog, .scCas c old, held, true⟩
      { pool := { p with baseCap := b }, thr := ⟨prog, .kDone, held, true⟩,
        ev := .sErrRange }
  | scCasDone {c old b : Int} : b = (if p.baseCap = old then c else p.baseCap) → ¬ old < c → Step p a ⟨prog, .scCas c old, held, child⟩
      { pool := { p with baseCap := b }, thr := ⟨prog, .idle, held, child⟩,
        ev := .ok }
  -- ScaleCapacity
  | sLock : p.scaling = false → Step p a ⟨prog, .sLock c, held, child⟩
      { pool := { p with scaling := true }, thr := ⟨prog, .sLoad c, held, child⟩ }
  | sLoadDone : p.capacity = 0 ∨ p.capacity = c → Step p a ⟨prog, .sLoad c, held, child⟩
      { pool := p, thr := ⟨prog, .sUnlock, held, child⟩ }
  | sLoad : p.capacity ≠ 0 → p.capacity ≠ c → Step p a ⟨prog, .sLoad c, held, child⟩
      { pool := p, thr := ⟨prog, .sCas c p.capacity, held, child⟩ }
  | sCasShrink : p.capacity = old → c < old → Step p a ⟨prog, .sCas c old, held, child⟩
      { pool := { p with capacity := c }, thr := ⟨prog, .sShrRecv c old 0, held, child⟩ }
  | sCasGrow : p.capacity = old → ¬ c < old → Step p a ⟨prog, .sCas c old, held, child⟩
      { pool := { p with capacity := c }, thr := ⟨prog, .sGrowSend c old 0, held, child⟩ }
  | sCasRetry : p.capacity ≠ old → Step p a ⟨prog, .sCas c old, held, child⟩
      { pool := p, thr := ⟨prog, .sLoad c, held, child⟩ }
  | sShrRecv : p.chan = some r :: ch → Step p a ⟨prog, .sShrRecv c old i, held, child⟩
      { pool := { p with chan := ch }, thr := ⟨prog, .sShrAct c old i, held, child⟩ }
  | sShrRecvClosed : p.chan = [] → p.closed = true → Step p a ⟨prog, .sShrRecv c old i, held, child⟩
      { pool := p, thr := ⟨prog, .sShrAvail c old i, held, child⟩ }
  | sShrRecvEmpty : p.chan = none :: ch → Step p a ⟨prog, .sShrRecv c old i, held, child⟩
      { pool := { p with chan := ch }, thr := ⟨prog, .sShrAvail c old i, held, child⟩ }
  | sShrAct : Step p a ⟨prog, .sShrAct c old i, held, child⟩
      { pool := { p with active := p.active - 1 }, thr := ⟨prog, .sShrAvail c old i, held, child⟩ }
  | sShrAvail : i + 1 < old - c → Step p a ⟨prog, .sShrAvail c old i, held, child⟩
      { pool := { p with available := p.available - 1 }, thr := ⟨prog, .sShrRecv c old (i + 1), held, child⟩ }
  | sShrAvailClose : ¬ i + 1 < old - 0 → Step p a ⟨prog, .sShrAvail 0 old i, held, child⟩
      { pool := { p with available := p.available - 1 }, thr := ⟨prog, .sClose, held, child⟩ }
  | sShrAvailLast : ¬ i + 1 < old - c → c ≠ 0 → Step p a ⟨prog, .sShrAvail c old i, held, child⟩
      { pool := { p with available := p.available - 1 }, thr := ⟨prog, .sUnlock, held, child⟩ }
  | sGrowSendClosed : p.closed = true → Step p a ⟨prog, .sGrowSend c old i, held, child⟩
      { pool := { p with scaling := false }, thr := ⟨prog, .dead, held, child⟩, ev := .panicSendClosed }
  | sGrowSend : p.closed = false → p.chan.length < p.maxCap → Step p a ⟨prog, .sGrowSend c old i, held, child⟩
      { pool := { p with chan := p.chan ++ [none] }, thr := ⟨prog, .sGrowAvail c old i, held, child⟩ }
  | sGrowAvail : i + 1 < c - old → Step p a ⟨prog, .sGrowAvail c old i, held, child⟩
      { pool := { p with available := p.available + 1 }, thr := ⟨prog, .sGrowSend c old (i + 1), held, child⟩ }
  | sGrowAvailClose : ¬ i + 1 < 0 - old → Step p a ⟨prog, .sGrowAvail 0 old i, held, child⟩
      { pool := { p with available := p.available + 1 }, thr := ⟨prog, .sClose, held, child⟩ }
  | sGrowAvailLast : ¬ i + 1 < c - old → c ≠ 0 → Step p a ⟨prog, .sGrowAvail c old i, held, child⟩
      { pool := { p with available := p.available + 1 }, thr := ⟨prog, .sUnlock, held, child⟩ }
  | sCloseClosed : p.closed = true → Step p a ⟨prog, .sClose, held, child⟩
      { pool := { p with scaling := false }, thr := ⟨prog, .dead, held, child⟩, ev := .panicCloseClosed }
  | sClose : p.closed = false → Step p a ⟨prog, .sClose, held, child⟩
      { pool := { p with closed := true }, thr := ⟨prog, .sUnlock, held, child⟩ }
  | sUnlock : Step p a ⟨prog, .sUnlock, held, false⟩
      { pool := { p with scaling := false }, thr := ⟨prog, .idle, held, false⟩, ev := .ok }
  | sUnlockChild : Step p a ⟨prog, .sUnlock, held, true⟩
      { pool := { p with scaling := false }, thr := ⟨prog, .kDone, held, true⟩, ev := .ok }
  -- scaleInResources and its goroutine
  | tLock : p.lock = false → Step p a ⟨prog, .tLock, held, child⟩
      { pool := { p with lock := true }, thr := ⟨prog, .tCap, held, child⟩ }
  | tCap : p.capacity > p.baseCap ∧ ¬ p.recent → Step p a ⟨prog, .tCap, held, child⟩
      { pool := p, thr := ⟨prog, .tTodo, held, child⟩ }
  | tCapNo : ¬ (p.capacity > p.baseCap ∧ ¬ p.recent) → Step p a ⟨prog, .tCap, held, child⟩
      { pool := p, thr := ⟨prog, .tUnlock, held, child⟩ }
  | tTodoBusy : p.todo = true → Step p a ⟨prog, .tTodo, held, child⟩
      { pool := p, thr := ⟨prog, .tUnlock, held, child⟩ }
  | tTodo : p.todo = false → Step p a ⟨prog, .tTodo, held, child⟩
      { pool := { p with todo := true }, thr := ⟨prog, .tUnlock, held, child⟩,
        spawn := some { prog := [], pc := .kLoad, held := [], child := true }, ev := .spawn }
  | tUnlock : Step p a ⟨prog, .tUnlock, held, child⟩
      { pool := { p with lock := false, capBusy := p.capBusy - 1 }, thr := ⟨prog, .idle, held, child⟩, ev := .ok }
  | kLoad : 0 ≤ p.capacity - 1 → p.capacity - 1 ≤ p.maxCap → Step p a ⟨prog, .kLoad, held, child⟩
      { pool := p, thr := ⟨prog, .sLock (p.capacity - 1), held, child⟩ }
  | kLoadRange : p.capacity - 1 < 0 ∨ p.capacity - 1 > p.maxCap → Step p a ⟨prog, .kLoad, held, false⟩
      { pool := p, thr := ⟨prog, .idle, held, false⟩, ev := .sErrRange }
  | kLoadRangeChild : p.capacity - 1 < 0 ∨ p.capacity - 1 > p.maxCap → Step p a ⟨prog, .kLoad, held, true⟩
      { pool := p, thr := ⟨prog, .kDone, held, true⟩, ev := .sErrRange }
  | kDone : Step p a ⟨prog, .kDone, held, child⟩
      { pool := { p with todo := false }, thr := ⟨prog, .idle, held, child⟩, ev := .ok }
  -- Close
  | clIdle : p.idleBusy = 0 → Step p a ⟨prog, .clIdle, held, child⟩
      { pool := { p with idleOn := false }, thr := ⟨prog, .clCap, held, child⟩ }
  | clCap : p.capBusy = 0 → Step p a ⟨prog, .clCap, held, child⟩
      { pool := { p with capOn := false }, thr := ⟨prog, .sLock 0, held, child⟩ }

/-- `constructor` takes the first constructor of `Step` whose conclusion unifies with the goal;
    that is why `sShrRecvClosed`, whose pool `p` also unifies with `{ p with chan := ch }`,
    stands before `sShrRecvEmpty`. -/
theorem Step.of_stepThread {p : Pool} {t : Thread} {a : Alt} {r : Res} (h : stepThread p t a = some r) :
    Step p a t r := by
  obtain ⟨prog, pc, held, child⟩ := t
  cases pc <;> simp only [stepThread, startOp, sweepEnd, scaleEntry, scaleTail, gotWrapper, afterScale] at h
  all_goals repeat' split at h
  all_goals first | cases h | skip
  all_goals (try simp only [Bool.not_eq_true] at *)
  all_goals (subst_vars; constructor)
  all_goals first | assumption | simp_all

/-- The only thread ever spawned is the scale-in goroutine. -/
theorem Step.spawn_eq {p : Pool} {a : Alt} {t : Thread} {r : Res} (h : Step p a t r) {c : Thread}
    (hc : r.spawn = some c) : c = ⟨[], .kLoad, [], true⟩ := by
  cases h <;> cases hc <;> rfl

/-! ## A step of the whole system: thread `i` is replaced by its successor, a spawned thread is appended -/

theorem step_eq (s : State) (i : Nat) (a : Alt) :
    step s i a = s.threads[i]?.bind fun t => (stepThread s.pool t a).map fun r =>
      (⟨r.pool, s.threads.set i r.thr ++ r.spawn.toList⟩, r.ev) := by
  unfold step
  cases s.threads[i]? with
  | none => rfl
  | some t =>
    dsimp only [Option.bind_some]
    cases stepThread s.pool t a with
    | none => rfl
    | some r => obtain ⟨pool, thr, spawn, ev⟩ := r; cases spawn <;> simp

theorem step_some {s s' : State} {i : Nat} {a : Alt} {ev : Ev} (hs : step s i a = some (s', ev)) :
    ∃ t r, s.threads[i]? = some t ∧ Step s.pool a t r ∧ s'.pool = r.pool
      ∧ s'.threads = s.threads.set i r.thr ++ r.spawn.toList ∧ ev = r.ev := by
  rw [step_eq] at hs
  obtain ⟨t, hti, hs⟩ := Option.bind_eq_some_iff.mp hs
  obtain ⟨r, hr, hs⟩ := Option.map_eq_some_iff.mp hs
  cases hs
  exact ⟨t, r, hti, .of_stepThread hr, rfl, rfl, rfl⟩

theorem step_isSome {s : State} {j : Nat} {u : Thread} {a : Alt}
    (hj : s.threads[j]? = some u) (h : (stepThread s.pool u a).isSome = true) : (step s j a).isSome = true := by
  simpa [step_eq, hj] using h

theorem getElem?_step_self {l : List Thread} {i : Nat} {t : Thread} (x : Thread) (sp : Option Thread)
    (h : l[i]? = some t) : (l.set i x ++ sp.toList)[i]? = some x := by
  have hi : i < l.length := (List.getElem?_eq_some_iff.mp h).1
  rw [List.getElem?_append_left (by simpa using hi), List.getElem?_set_self hi]

theorem getElem?_step_ne {l : List Thread} {i j : Nat} {u : Thread} (x : Thread) (sp : Option Thread)
    (hji : j ≠ i) (h : l[j]? = some u) : (l.set i x ++ sp.toList)[j]? = some u := by
  have hj : j < l.length := (List.getElem?_eq_some_iff.mp h).1
  rw [List.getElem?_append_left (by simpa using hj), List.getElem?_set_ne fun e => hji e.symm, h]

theorem Step.forall_threads {p : Pool} {a : Alt} {t : Thread} {r : Res} {l : List Thread} {i : Nat}
    (h : Step p a t r) {P : Thread → Prop} (hold : ∀ j u, j ≠ i → l[j]? = some u → P u) (hthr : P r.thr)
    (hchild : P ⟨[], .kLoad, [], true⟩) : ∀ u ∈ l.set i r.thr ++ r.spawn.toList, P u := by
  intro u hu
  rcases List.mem_append.mp hu with hu | hu
  · obtain ⟨j, hj⟩ := List.mem_iff_getElem?.mp hu
    rw [List.getElem?_set] at hj
    by_cases hij : i = j
    · simp [hij] at hj
      exact hj.2 ▸ hthr
    · simp [hij] at hj
      exact hold j u (fun e => hij e.symm) hj
  · cases h.spawn_eq (Option.mem_toList.mp hu)
    exact hchild

end GaeaVerif.C24
