import GaeaVerif.Model.Merge
/-
  C02 helper lemmas: the ascending order of SQL values is a total order, the
  lexicographic comparison of ORDER BY keys a total preorder; the comparison
  splits into a prefix and the rest, and keys that are equivalent under a prefix
  agree on it.
-/
namespace GaeaVerif.Merge

theorem bytesLe_iff : ∀ a b : List UInt8,
    bytesLe a b = true ↔ a.map (fun x => (x.toNat : Int)) ≤ b.map (fun x => (x.toNat : Int))
  | [], _ => by simp [bytesLe]
  | _ :: _, [] => by simp [bytesLe]
  | a :: as, b :: bs => by
    rw [bytesLe, List.map_cons, List.map_cons, List.cons_le_cons_iff, ← bytesLe_iff as bs]
    by_cases h1 : a.toNat < b.toNat
    · simp [h1]
    · by_cases h2 : b.toNat < a.toNat
      · simp [h1, h2]; omega
      · simp [h1, h2]; omega

theorem bytesLe_total (a b : List UInt8) : bytesLe a b = true ∨ bytesLe b a = true := by
  rw [bytesLe_iff, bytesLe_iff]; exact List.le_total _ _

theorem bytesLe_refl (a : List UInt8) : bytesLe a a = true := (bytesLe_iff a a).mpr (List.le_refl _)

theorem bytesLe_antisymm (a b : List UInt8) (h1 : bytesLe a b = true) (h2 : bytesLe b a = true) : a = b := by
  rw [bytesLe_iff] at h1 h2
  exact (List.map_inj_right fun x y e => UInt8.toNat_inj.mp (by omega)).mp (List.le_antisymm h1 h2)

/-- `leVal` is the lexicographic order of these keys (`leVal_iff`), which gives its order laws -/
def Val.ordKey : Val → List Int
  | .null => [0]
  | .int i => [1, i]
  | .dec u s => [2, s, u]
  | .str b => 3 :: b.map fun x => (x.toNat : Int)

theorem leVal_iff (a b : Val) : leVal a b = true ↔ a.ordKey ≤ b.ordKey := by
  cases a <;> cases b <;>
    simp [leVal, Val.rank, Val.ordKey, List.cons_le_cons_iff, bytesLe_iff]
  · omega
  · rename_i u s u' s'
    by_cases h : s = s'
    · subst h; simp; omega
    · simp [h]; omega

theorem Val.ordKey_inj (a b : Val) (h : a.ordKey = b.ordKey) : a = b := by
  cases a <;> cases b <;> simp [Val.ordKey] at h ⊢
  · exact h
  · omega
  · exact (List.map_inj_right fun x y e => UInt8.toNat_inj.mp (by omega)).mp h

theorem leVal_total (a b : Val) : leVal a b = true ∨ leVal b a = true := by
  rw [leVal_iff, leVal_iff]; exact List.le_total _ _

theorem leVal_trans (a b c : Val) : leVal a b = true → leVal b c = true → leVal a c = true := by
  rw [leVal_iff, leVal_iff, leVal_iff]; exact List.le_trans

theorem leVal_antisymm (a b : Val) (h1 : leVal a b = true) (h2 : leVal b a = true) : a = b := by
  rw [leVal_iff] at h1 h2
  exact Val.ordKey_inj a b (List.le_antisymm h1 h2)

theorem ltVal_iff (a b : Val) : ltVal a b = true ↔ leVal b a = false := by
  simp [ltVal]

theorem ltVal_asymm (a b : Val) (h : ltVal a b = true) : ltVal b a = false := by
  rcases leVal_total a b with h1 | h1
  · simp [ltVal, h1]
  · simp [ltVal, h1] at h

/-! ### the lexicographic comparison of keys -/

/-- one ascending step of `leKey` (`leKey_cons`), `rest` the comparison of the tails -/
def lexAsc (x y : Val) (rest : Bool) : Bool := leVal x y && (!leVal y x || rest)

theorem lexAsc_eq_ite (x y : Val) (rest : Bool) :
    lexAsc x y rest = if ltVal x y then true else if ltVal y x then false else rest := by
  rcases leVal_total x y with h | h <;> cases h' : leVal y x <;> cases h'' : leVal x y <;>
    simp_all [lexAsc, ltVal]

theorem leKey_cons (d : Bool) (ds : List Bool) (a b : List Val) :
    leKey (d :: ds) a b =
      if d then lexAsc (b.headD .null) (a.headD .null) (leKey ds a.tail b.tail)
      else lexAsc (a.headD .null) (b.headD .null) (leKey ds a.tail b.tail) := by
  simp only [leKey, lexAsc_eq_ite]
  cases d <;> rfl

theorem lexAsc_total (x y : Val) {r1 r2 : Bool} (h : r1 = true ∨ r2 = true) :
    lexAsc x y r1 = true ∨ lexAsc y x r2 = true := by
  rcases leVal_total x y with h1 | h1 <;> cases h2 : leVal y x <;> cases h3 : leVal x y <;>
    simp_all [lexAsc]

theorem lexAsc_trans (x y z : Val) {r1 r2 r3 : Bool} (hr : r1 = true → r2 = true → r3 = true)
    (h1 : lexAsc x y r1 = true) (h2 : lexAsc y z r2 = true) : lexAsc x z r3 = true := by
  simp only [lexAsc, Bool.and_eq_true, Bool.or_eq_true, Bool.not_eq_true'] at *
  refine ⟨leVal_trans x y z h1.1 h2.1, ?_⟩
  cases hzx : leVal z x
  · exact Or.inl rfl
  · -- `z ≤ x`: the three values are equivalent, the rests decide
    have hzy := leVal_trans z x y hzx h1.1
    have hyx := leVal_trans y z x h2.1 hzx
    exact Or.inr (hr (h1.2.resolve_left (by simp [hyx])) (h2.2.resolve_left (by simp [hzy])))

theorem lexAsc_eqv (x y : Val) {r1 r2 : Bool} (h1 : lexAsc x y r1 = true) (h2 : lexAsc y x r2 = true) :
    x = y ∧ r1 = true ∧ r2 = true := by
  simp only [lexAsc, Bool.and_eq_true, Bool.or_eq_true, Bool.not_eq_true'] at *
  exact ⟨leVal_antisymm x y h1.1 h2.1, h1.2.resolve_left (by simp [h2.1]), h2.2.resolve_left (by simp [h1.1])⟩

/-- the step of `leKey_append`: `p`, `q` the first part compared both ways, `s` the rest -/
theorem lexAsc_split (x y : Val) (p q s : Bool) :
    lexAsc x y (if p && q then s else p) = if lexAsc x y p && lexAsc y x q then s else lexAsc x y p := by
  rcases leVal_total x y with h | h <;> cases h' : leVal y x <;> cases h'' : leVal x y <;>
    cases p <;> cases q <;> simp_all [lexAsc]

/-- in the shape `List.pairwise_mergeSort` and the top-k lemmas take totality in -/
theorem leKey_total : ∀ (ds : List Bool) (a b : List Val), (leKey ds a b || leKey ds b a) = true
  | [], _, _ => by simp [leKey]
  | d :: ds, a, b => by
    rw [leKey_cons, leKey_cons, Bool.or_eq_true]
    cases d <;> exact lexAsc_total _ _ (Bool.or_eq_true_iff.mp (leKey_total ds a.tail b.tail))

theorem leKey_refl' (ds : List Bool) (a : List Val) : leKey ds a a = true := by
  simpa using leKey_total ds a a

theorem leKey_trans : ∀ (ds : List Bool) (a b c : List Val),
    leKey ds a b = true → leKey ds b c = true → leKey ds a c = true
  | [], _, _, _ => by simp [leKey]
  | d :: ds, a, b, c => by
    rw [leKey_cons, leKey_cons, leKey_cons]
    have ih := leKey_trans ds a.tail b.tail c.tail
    cases d
    · exact lexAsc_trans _ _ _ ih
    · exact fun h1 h2 => lexAsc_trans _ _ _ (fun r2 r1 => ih r1 r2) h2 h1

theorem leKey_append : ∀ (ds1 ds2 : List Bool) (a b : List Val),
    leKey (ds1 ++ ds2) a b =
      if leKey ds1 a b && leKey ds1 b a then leKey ds2 (a.drop ds1.length) (b.drop ds1.length)
      else leKey ds1 a b
  | [], ds2, a, b => by simp [leKey]
  | d :: ds1, ds2, a, b => by
    rw [List.cons_append, leKey_cons, leKey_cons, leKey_cons, leKey_append ds1 ds2 a.tail b.tail]
    simp only [List.length_cons, ← List.drop_tail]
    cases d <;> exact lexAsc_split _ _ _ _ _

theorem leKey_eqv_getD : ∀ (ds : List Bool) (a b : List Val), leKey ds a b = true → leKey ds b a = true →
    ∀ i, i < ds.length → a.getD i .null = b.getD i .null
  | [], _, _, _, _, i, hi => by simp at hi
  | d :: ds, a, b, h1, h2, i, hi => by
    rw [leKey_cons] at h1 h2
    have hxy : a.headD .null = b.headD .null ∧ leKey ds a.tail b.tail = true ∧ leKey ds b.tail a.tail = true := by
      cases d
      · exact lexAsc_eqv _ _ h1 h2
      · obtain ⟨e, r2, r1⟩ := lexAsc_eqv _ _ h2 h1
        exact ⟨e, r1, r2⟩
    have hhead : ∀ l : List Val, l.getD 0 .null = l.headD .null := fun l => by cases l <;> rfl
    have htail : ∀ (l : List Val) (j : Nat), l.getD (j + 1) .null = l.tail.getD j .null := fun l j => by
      cases l <;> rfl
    cases i with
    | zero => rw [hhead, hhead]; exact hxy.1
    | succ i =>
      rw [htail, htail]
      exact leKey_eqv_getD ds a.tail b.tail hxy.2.1 hxy.2.2 i (by simpa using hi)

theorem leKey_append_left : ∀ (ds : List Bool) (p p' x y : List Val), p.length = ds.length → p'.length = ds.length →
    leKey ds (p ++ x) (p' ++ y) = leKey ds p p'
  | [], _, _, _, _, _, _ => by simp [leKey]
  | d :: ds, [], _, _, _, h, _ => by simp at h
  | d :: ds, _ :: _, [], _, _, _, h => by simp at h
  | d :: ds, v :: p, v' :: p', x, y, h, h' => by
    rw [leKey_cons, leKey_cons]
    simp only [List.cons_append, List.headD_cons, List.tail_cons]
    rw [leKey_append_left ds p p' x y (Nat.succ.inj h) (Nat.succ.inj h')]

end GaeaVerif.Merge
