import GaeaVerif.Model.TokenizeC06
import GaeaVerif.Lemmas.SplitOn
/-
  Lemmas about the lexical model of `Model/TokenizeC06.lean`, used by Props/C06
  and Props/C22: how `strings.FieldsFunc` cuts a text at a word boundary,
  `strings.Split` undone by `Join`, that `Tokenize` cannot panic and what it
  keeps, and the scanner of `TrimTrailingComments` step by step.
-/
namespace GaeaVerif.Tok
open GaeaVerif

/-- `h` is a bounded quantifier over code points, which `decide` can run. -/
theorem forall_char_between (lo hi : Char) (P : Char → Prop)
    (h : ∀ n < hi.toNat + 1, lo.toNat ≤ n → P (Char.ofNat n)) (c : Char) (hlo : lo ≤ c) (hhi : c ≤ hi) : P c := by
  rw [← Char.ofNat_toNat c]
  exact h c.toNat (Nat.lt_succ_of_le (UInt32.le_iff_toNat_le.1 (Char.le_def.1 hhi)))
    (UInt32.le_iff_toNat_le.1 (Char.le_def.1 hlo))

theorem not_mem_of_class (P : Char → Bool) (l : List Char) (hl : ∀ d ∈ l, P d = false) (c : Char)
    (hc : P c = true) : c ∉ l :=
  fun hm => by rw [hl c hm] at hc; cases hc

theorem mem_takeWhile (p : Char → Bool) (l : Str) (x : Char) (h : x ∈ l.takeWhile p) : p x = true :=
  List.all_eq_true.1 List.all_takeWhile x h

theorem fieldsAux_nil (f : Char → Bool) (cur : Str) :
    fieldsAux f cur [] = if cur.isEmpty then [] else [cur.reverse] := rfl

theorem fieldsFunc_nil (f : Char → Bool) : fieldsFunc f [] = [] := rfl

theorem fieldsAux_cons_sep (f : Char → Bool) (s : Char) (hs : f s = true) (b cur : Str) :
    fieldsAux f cur (s :: b) = fieldsAux f cur [] ++ fieldsFunc f b := by
  rw [fieldsAux_nil, fieldsAux, if_pos hs]
  split <;> rfl

theorem fieldsAux_cons_word (f : Char → Bool) (c : Char) (hc : f c = false) (b cur : Str) :
    fieldsAux f cur (c :: b) = fieldsAux f (c :: cur) b := by
  rw [fieldsAux, if_neg (by simp [hc])]

theorem fieldsAux_word (f : Char → Bool) (w : Str) (hw : ∀ c ∈ w, f c = false) (rest cur : Str) :
    fieldsAux f cur (w ++ rest) = fieldsAux f (w.reverse ++ cur) rest := by
  induction w generalizing cur with
  | nil => rfl
  | cons c w ih =>
    rw [List.cons_append, fieldsAux_cons_word f c (hw c (by simp)), ih (fun d hd => hw d (by simp [hd]))]
    simp

theorem fieldsAux_sep (f : Char → Bool) (s : Char) (hs : f s = true) (a b cur : Str) :
    fieldsAux f cur (a ++ s :: b) = fieldsAux f cur a ++ fieldsFunc f b := by
  induction a generalizing cur with
  | nil => exact fieldsAux_cons_sep f s hs b cur
  | cons c a ih =>
    cases hc : f c with
    | true =>
      rw [List.cons_append, fieldsAux_cons_sep f c hc, fieldsAux_cons_sep f c hc, fieldsFunc, ih, List.append_assoc]
      rfl
    | false => rw [List.cons_append, fieldsAux_cons_word f c hc, fieldsAux_cons_word f c hc, ih]

theorem fieldsFunc_sep (f : Char → Bool) (s : Char) (hs : f s = true) (a b : Str) :
    fieldsFunc f (a ++ s :: b) = fieldsFunc f a ++ fieldsFunc f b :=
  fieldsAux_sep f s hs a b []

theorem fieldsFunc_append (f : Char → Bool) (a b : Str)
    (h : (∀ c, a.getLast? = some c → f c = true) ∨ (∀ c, b.head? = some c → f c = true)) :
    fieldsFunc f (a ++ b) = fieldsFunc f a ++ fieldsFunc f b := by
  rcases h with h | h
  · rcases List.eq_nil_or_concat a with rfl | ⟨a', s, rfl⟩
    · rfl
    · have hs : f s = true := h s (by simp)
      rw [List.concat_eq_append, List.append_assoc, List.singleton_append, fieldsFunc_sep f s hs,
        fieldsFunc_sep f s hs a' [], fieldsFunc_nil, List.append_nil]
  · cases b with
    | nil => rw [List.append_nil, fieldsFunc_nil, List.append_nil]
    | cons s b =>
      have hb : fieldsFunc f (s :: b) = fieldsFunc f b := fieldsFunc_sep f s (h s rfl) [] b
      rw [fieldsFunc_sep f s (h s rfl), hb]

theorem fieldsFunc_word (f : Char → Bool) (w : Str) (hne : w ≠ []) (hw : ∀ c ∈ w, f c = false) :
    fieldsFunc f w = [w] := by
  have h := fieldsAux_word f w hw [] []
  rw [List.append_nil, List.append_nil, fieldsAux_nil] at h
  simpa [fieldsFunc, hne] using h

theorem fieldsFunc_of_seps (f : Char → Bool) (s : Str) (hs : ∀ c ∈ s, f c = true) : fieldsFunc f s = [] := by
  induction s with
  | nil => rfl
  | cons c s ih => exact (fieldsFunc_sep f c (hs c (by simp)) [] s).trans (ih fun d hd => hs d (by simp [hd]))

theorem fieldsFunc_leading_seps (f : Char → Bool) (s : Str) (hs : ∀ c ∈ s, f c = true) (rest : Str) :
    fieldsFunc f (s ++ rest) = fieldsFunc f rest := by
  rw [fieldsFunc_append f s rest (.inl fun c hc => hs c (List.mem_of_getLast? hc)), fieldsFunc_of_seps f s hs,
    List.nil_append]

theorem fieldsFunc_trailing_seps (f : Char → Bool) (rest s : Str) (hs : ∀ c ∈ s, f c = true) :
    fieldsFunc f (rest ++ s) = fieldsFunc f rest := by
  rw [fieldsFunc_append f rest s (.inr fun c hc => hs c (List.mem_of_mem_head? hc)), fieldsFunc_of_seps f s hs,
    List.append_nil]

theorem fieldsFunc_word_between (f : Char → Bool) (pre w post : Str) (hne : w ≠ [])
    (hw : ∀ c ∈ w, f c = false)
    (hpre : ∀ c, pre.getLast? = some c → f c = true)
    (hpost : ∀ c, post.head? = some c → f c = true) :
    fieldsFunc f (pre ++ w ++ post) = fieldsFunc f pre ++ w :: fieldsFunc f post := by
  rw [fieldsFunc_append f _ post (.inr hpost), fieldsFunc_append f pre w (.inl hpre), fieldsFunc_word f w hne hw,
    List.append_assoc, List.singleton_append]

theorem mem_fieldsFunc_of_delimited (f : Char → Bool) (pre w post : Str) (hne : w ≠ [])
    (hw : ∀ c ∈ w, f c = false)
    (hpre : ∀ c, pre.getLast? = some c → f c = true)
    (hpost : ∀ c, post.head? = some c → f c = true) :
    w ∈ fieldsFunc f (pre ++ w ++ post) := by
  rw [fieldsFunc_word_between f pre w post hne hw hpre hpost]
  simp

theorem fieldsAux_mem (f : Char → Bool) (s cur : Str) (hcur : ∀ c ∈ cur, f c = false) :
    ∀ w ∈ fieldsAux f cur s, w ≠ [] ∧ ∀ c ∈ w, f c = false := by
  have hnil : ∀ cur : Str, (∀ c ∈ cur, f c = false) →
      ∀ w ∈ fieldsAux f cur [], w ≠ [] ∧ ∀ c ∈ w, f c = false := by
    intro cur hcur w hw
    rw [fieldsAux_nil] at hw
    split at hw
    · cases hw
    · obtain rfl := List.mem_singleton.1 hw
      exact ⟨by simpa using ‹¬cur.isEmpty = true›, by simpa using hcur⟩
  induction s generalizing cur with
  | nil => exact hnil cur hcur
  | cons x s ih =>
    intro w hw
    by_cases hx : f x = true
    · rw [fieldsAux_cons_sep f x hx, List.mem_append] at hw
      exact hw.elim (hnil cur hcur w) (ih [] (by simp) w)
    · rw [fieldsAux, if_neg hx] at hw
      exact ih (x :: cur) (by simpa [hx] using hcur) w hw

theorem mem_fieldsFunc (f : Char → Bool) (s w : Str) (h : w ∈ fieldsFunc f s) :
    w ≠ [] ∧ ∀ c ∈ w, f c = false :=
  fieldsAux_mem f s [] (by simp) w h

theorem fieldsAux_ne_nil (f : Char → Bool) (cur s : Str) (h : cur ≠ []) : fieldsAux f cur s ≠ [] := by
  induction s generalizing cur with
  | nil => simp [fieldsAux, h]
  | cons c cs ih =>
    rw [fieldsAux]
    split
    · simp [h]
    · exact ih (c :: cur) (by simp)

theorem fieldsAux_map (f : Char → Bool) (g : Char → Char) (hg : ∀ c, f (g c) = f c) (cur s : Str) :
    fieldsAux f (cur.map g) (s.map g) = (fieldsAux f cur s).map (List.map g) := by
  have hnil : ∀ cur : Str, fieldsAux f (cur.map g) [] = (fieldsAux f cur []).map (List.map g) := by
    intro cur; cases cur <;> simp [fieldsAux_nil]
  induction s generalizing cur with
  | nil => exact hnil cur
  | cons c s ih =>
    cases hc : f c with
    | true =>
      rw [List.map_cons, fieldsAux_cons_sep f (g c) (by rw [hg, hc]), fieldsAux_cons_sep f c hc, List.map_append,
        hnil, fieldsFunc, fieldsFunc, ← ih []]
      rfl
    | false =>
      rw [List.map_cons, fieldsAux_cons_word f (g c) (by rw [hg, hc]), fieldsAux_cons_word f c hc, ← ih]
      rfl

theorem hasPrefix_iff (p s : Str) : hasPrefix p s = true ↔ ∃ t, s = p ++ t := by
  rw [hasPrefix, List.isPrefixOf_iff_prefix]
  exact ⟨fun ⟨t, ht⟩ => ⟨t, ht.symm⟩, fun ⟨t, ht⟩ => ⟨t, ht.symm⟩⟩

theorem containsSub_mid (sub pre post : Str) : containsSub sub (pre ++ sub ++ post) = true := by
  induction pre with
  | nil =>
    cases h : sub ++ post with
    | nil =>
      rw [List.nil_append, h, containsSub]
      rw [(List.append_eq_nil_iff.1 h).1]
      rfl
    | cons c cs =>
      have hp : sub.isPrefixOf (c :: cs) = true := by
        rw [← h, List.isPrefixOf_iff_prefix]; exact List.prefix_append _ _
      rw [List.nil_append, h, containsSub, hp]
      rfl
  | cons c pre ih =>
    rw [List.cons_append, List.cons_append, containsSub, ih, Bool.or_true]

theorem splitAll_eq (sep : Char) (s : Str) : splitAll sep s = Split.split sep s := by
  induction s with
  | nil => rfl
  | cons c cs ih =>
    rw [splitAll, Split.split, ih]
    by_cases hc : c = sep <;> simp only [hc, beq_self_eq_true, beq_iff_eq, if_true, if_false]
    cases Split.split sep cs <;> rfl

theorem splitAll_two (sep : Char) (s a b : Str) (h : splitAll sep s = [a, b]) : s = a ++ sep :: b := by
  rw [← Split.intercalate_split sep s, ← splitAll_eq, h]
  simp [List.intercalate]

theorem tokens_of_block_comment_ne_nil (s : Str) (h : hasPrefix blockCommentOpen s = true) :
    fieldsFunc isSqlSep s ≠ [] := by
  obtain ⟨rest, rfl⟩ := (hasPrefix_iff _ _).1 h
  have h1 : isSqlSep '/' = true := by decide
  have h2 : ¬isSqlSep '*' = true := by decide
  rw [blockCommentOpen, List.cons_append, List.cons_append, fieldsFunc, fieldsAux, if_pos h1, fieldsAux, if_neg h2]
  exact fieldsAux_ne_nil _ _ _ (by simp)

theorem block_of_version (s : Str) (h : hasPrefix versionCommentOpen s = true) :
    hasPrefix blockCommentOpen s = true := by
  obtain ⟨t, rfl⟩ := (hasPrefix_iff _ _).1 h
  rfl

theorem tokenizeCore_version (s : Str) (hv : hasPrefix versionCommentOpen s = true) :
    tokenizeCore s = .ok (if (fieldsFunc isSqlSep s).length > 1 then (fieldsFunc isSqlSep s).tail
      else fieldsFunc isSqlSep s) := by
  rw [tokenizeCore]
  exact if_pos hv

theorem tokenizeCore_plain (s : Str) (hb : ¬hasPrefix blockCommentOpen s = true) :
    tokenizeCore s = .ok (fieldsFunc isSqlSep s) := by
  rw [tokenizeCore]
  simp only [if_neg (mt (block_of_version s) hb), if_neg hb]

theorem tokenizeCore_block (s hint : Str) (tl : List Str) (hv : ¬hasPrefix versionCommentOpen s = true)
    (hb : hasPrefix blockCommentOpen s = true) (hF : fieldsFunc isSqlSep s = hint :: tl) :
    ∃ t, tokenizeCore s = .ok (if equalFold hint masterHint then t ++ [hint] else t) ∧
      (t = fieldsFunc isSqlSep s ∨
        ∃ idx, indexClose s = some idx ∧ t = fieldsFunc isSqlSep (s.drop (idx + 2))) := by
  rw [tokenizeCore]
  simp only [if_neg hv, if_pos hb, hF]
  refine ⟨_, rfl, ?_⟩
  split
  · split
    · exact Or.inr ⟨_, ‹_›, rfl⟩
    · exact Or.inl rfl
  · exact Or.inl rfl

theorem tokenizeCore_ok (s : Str) : ∃ tokens, tokenizeCore s = .ok tokens := by
  by_cases hb : hasPrefix blockCommentOpen s = true
  · by_cases hv : hasPrefix versionCommentOpen s = true
    · exact ⟨_, tokenizeCore_version s hv⟩
    · obtain ⟨hint, tl, hF⟩ := List.exists_cons_of_ne_nil (tokens_of_block_comment_ne_nil s hb)
      obtain ⟨t, ht, _⟩ := tokenizeCore_block s hint tl hv hb hF
      exact ⟨_, ht⟩
  · exact ⟨_, tokenizeCore_plain s hb⟩

theorem tokenize_ok (s : Str) : ∃ tokens, tokenize s = .ok tokens := tokenizeCore_ok _

/-- The characters that make the scanner of `TrimTrailingComments` leave the code state. -/
def lexMarks : List Char := ['\'', '"', '`', '/', '#', '-']

theorem mem_of_isBlank (c : Char) (h : isBlank c = true) : c ∈ [' ', '\t', '\n', '\x0b', '\x0c', '\r'] := by
  rw [isBlank, Bool.or_eq_true, Bool.and_eq_true, decide_eq_true_eq, decide_eq_true_eq] at h
  rcases h with h | h
  · rw [eq_of_beq h]; decide
  · exact forall_char_between '\t' '\r' _ (by decide) c h.1 h.2

theorem blank_not_mark (c : Char) (h : isBlank c = true) : c ∉ lexMarks :=
  (by decide : ∀ c ∈ [' ', '\t', '\n', '\x0b', '\x0c', '\r'], c ∉ lexMarks) c (mem_of_isBlank c h)

theorem lexStep_code (c : Char) (rest : Str) (h : c ∉ lexMarks) : lexStep .code c rest = (.code, !isBlank c) := by
  simp only [lexMarks, List.mem_cons, List.not_mem_nil, or_false, not_or] at h
  obtain ⟨h1, h2, h3, h4, h5, h6⟩ := h
  cases hb : isBlank c <;> simp [lexStep, isQuoteChar, h1, h2, h3, h4, h5, h6, hb]

theorem lexStep_code_dash (rest : Str) (hd : dashStartsComment rest = true) : lexStep .code '-' rest = (.line, false) := by
  simp [lexStep, isQuoteChar, hd]

theorem trimLoop_plain (cl rest : Str) (hne : cl ≠ []) (hp : ∀ c ∈ cl, c ∉ lexMarks)
    (hl : ∀ c, cl.getLast? = some c → isBlank c = false) (i e : Nat) :
    trimLoop .code i e (cl ++ rest) = trimLoop .code (i + cl.length) (i + cl.length) rest := by
  induction cl generalizing i e with
  | nil => exact absurd rfl hne
  | cons c cl ih =>
    rw [List.cons_append, trimLoop, lexStep_code c _ (hp c (by simp))]
    cases cl with
    | nil => simp [hl c rfl]
    | cons d cl =>
      rw [ih (by simp) (fun x hx => hp x (List.mem_cons_of_mem _ hx)) (fun x hx => hl x (by simpa using hx)),
        List.length_cons (a := c), Nat.add_right_comm, Nat.add_assoc]

theorem trimLoop_skip {st st' : Lex} {c : Char} {r : Str} (h : lexStep st c r = (st', false)) {e : Nat}
    (hr : ∀ i, trimLoop st' i e r = e) : ∀ i, trimLoop st i e (c :: r) = e := by
  intro i
  rw [trimLoop, h]
  exact hr _

theorem trimLoop_block_body (b r : Str) (hb : indexClose b = none) (e : Nat) (hr : ∀ i, trimLoop .code i e r = e) :
    ∀ i, trimLoop .block i e (b ++ '*' :: '/' :: r) = e := by
  induction b with
  | nil => exact trimLoop_skip rfl (trimLoop_skip rfl hr)
  | cons c b ih =>
    rw [indexClose] at hb
    split at hb
    · cases hb
    · rename_i hc
      have hpeek : (c == '*' && (b ++ '*' :: '/' :: r).head? == some '/') = false := by
        cases b with
        | nil => simp
        | cons d b' => simpa using hc
      have hstep : lexStep .block c (b ++ '*' :: '/' :: r) = (.block, false) := by rw [lexStep, hpeek]; rfl
      exact trimLoop_skip hstep (ih (Option.map_eq_none_iff.1 hb))

theorem trimLoop_line_body (l rest : Str) (hl : '\n' ∉ l) (e : Nat) (hr : ∀ i, trimLoop .line i e rest = e) :
    ∀ i, trimLoop .line i e (l ++ rest) = e := by
  induction l with
  | nil => exact hr
  | cons c l ih =>
    have hc : (c == '\n') = false := beq_eq_false_iff_ne.2 fun h => hl (by simp [h])
    have hstep : lexStep .line c (l ++ rest) = (.line, false) := by rw [lexStep, hc]; rfl
    exact trimLoop_skip hstep (ih fun h => hl (List.mem_cons_of_mem _ h))

theorem indexClose_inside (r rest : Str) (st : Lex) (hst : st = .block ∨ st = .blockOpen)
    (h : lexRun st r = .code) : ∃ k, indexClose (r ++ rest) = some k ∧ k + 2 ≤ r.length := by
  induction r generalizing st with
  | nil => rcases hst with rfl | rfl <;> cases h
  | cons c r ih =>
    rw [lexRun] at h
    by_cases hc : (c == '*' && r.head? == some '/') = true
    · cases r with
      | nil => simp at hc
      | cons d r' => exact ⟨0, by rw [List.cons_append, indexClose, if_pos (by simpa using hc)], by simp⟩
    · have hstep : (lexStep st c r).1 = .block := by
        rcases hst with rfl | rfl
        · rw [lexStep, if_neg hc]
        · rfl
      obtain ⟨k, hk, hlen⟩ := ih .block (Or.inl rfl) (hstep ▸ h)
      refine ⟨k + 1, ?_, by rw [List.length_cons]; omega⟩
      have hhead : (r ++ rest).head? = r.head? := by cases r <;> simp at hlen ⊢
      rw [List.cons_append, indexClose, hhead, if_neg hc, hk]
      rfl

/-- `Tokenize` drops at most the comment that opens the text. -/
theorem tokenizeCore_keeps_behind (x y : Str) (hx : x ≠ []) (hcode : lexRun .code x = .code)
    (hy : ∀ c, y.head? = some c → isSqlSep c = true) (tokens : List Str)
    (ht : tokenizeCore (x ++ y) = .ok tokens) (w : Str) (hw : w ∈ fieldsFunc isSqlSep y) : w ∈ tokens := by
  have hF : ∀ x : Str, fieldsFunc isSqlSep (x ++ y) = fieldsFunc isSqlSep x ++ fieldsFunc isSqlSep y :=
    fun x => fieldsFunc_append _ x y (.inr hy)
  by_cases hb : hasPrefix blockCommentOpen (x ++ y) = true
  case neg =>
    rw [tokenizeCore_plain _ hb, hF] at ht
    cases ht
    exact List.mem_append_right _ hw
  -- a comment opens the text; it is closed inside `x`
  obtain ⟨t, ht'⟩ := (hasPrefix_iff _ _).1 hb
  match x, hx with
  | [c], _ =>
    cases y with
    | nil => simp [blockCommentOpen] at ht'
    | cons d y' =>
      simp only [blockCommentOpen, List.cons_append, List.nil_append, List.cons.injEq] at ht'
      exact absurd (hy d rfl) (by rw [ht'.2.1]; decide)
  | c :: d :: r, _ =>
    obtain ⟨rfl, rfl⟩ : c = '/' ∧ d = '*' := by
      simp only [blockCommentOpen, List.cons_append, List.cons.injEq] at ht'
      exact ⟨ht'.1, ht'.2.1⟩
    obtain ⟨t0, ts, h0⟩ := List.exists_cons_of_ne_nil (tokens_of_block_comment_ne_nil ('/' :: '*' :: r) rfl)
    have hF' := hF ('/' :: '*' :: r)
    rw [h0] at hF'
    by_cases hv : hasPrefix versionCommentOpen ('/' :: '*' :: r ++ y) = true
    · -- `/*!`: only the first token is dropped
      rw [tokenizeCore_version _ hv, hF'] at ht
      cases ht
      split <;> simp [hw]
    · obtain ⟨t, ht'', hT⟩ := tokenizeCore_block _ t0 _ hv hb hF'
      rw [ht''] at ht
      cases ht
      have : w ∈ t := by
        rcases hT with rfl | ⟨idx, hidx, rfl⟩
        · rw [hF]; exact List.mem_append_right _ hw
        · obtain ⟨k, hk, hlen⟩ := indexClose_inside ('*' :: r) y .blockOpen (Or.inr rfl) hcode
          rw [List.cons_append, indexClose, if_neg (by simp), hk] at hidx
          cases hidx
          rw [List.drop_append_of_le_length (by simpa using hlen), hF]
          exact List.mem_append_right _ hw
      split <;> simp [this]

theorem lexRun_dropWhile_space (a : Str) : lexRun .code (a.dropWhile isSpace) = lexRun .code a := by
  induction a with
  | nil => rfl
  | cons c a ih =>
    by_cases hc : isSpace c = true
    · rw [List.dropWhile_cons_of_pos hc, lexRun, lexStep_code c a (not_mem_of_class _ _ (by decide) c hc)]
      exact ih
    · rw [List.dropWhile_cons_of_neg hc]

theorem dropWhile_append_stop {p : Char → Bool} (a : Str) (c : Char) (r : Str) (hc : p c = false) :
    (a ++ c :: r).dropWhile p = a.dropWhile p ++ c :: r := by
  induction a with
  | nil => simp [hc]
  | cons d a ih => by_cases hd : p d = true <;> simp [hd, ih]

end GaeaVerif.Tok
