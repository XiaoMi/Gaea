import GaeaVerif.Model.ShardStart
import GaeaVerif.Spec.ShardCalendar
import GaeaVerif.Lemmas.CivilDays
import GaeaVerif.Lemmas.ShardDate
import GaeaVerif.Props.C09
/-
  Calendar rules of C01: what the accepted spellings of a date-time
  (`CalendarSpec.parseSpelling`) look like field by field (`Spelled`), where
  `Date{Year,Month,Day}Shard.FindForKey` places them, when the repaired
  `isPeriodStartString` answers true for them, and that `EqualStart` never
  panics.  Helper lemmas for Props/C01.lean (calendar_route_sound).
-/
namespace GaeaVerif.RouteCal
open GaeaVerif GaeaVerif.ShardGo GaeaVerif.ShardPlace GaeaVerif.ShardLemmas GaeaVerif.CivilDays

theorem number_digits (bs : List Nat) (n : Nat) (hne : bs ≠ []) (h : CalendarSpec.number? bs = some n) :
    Digits bs n := by
  rw [CalendarSpec.number?, foldl_digitStep_eq _ (fun _ => rfl) fun a b => ?_] at h
  · split at h
    · exact ⟨hne, List.all_eq_true.mp ‹_›, Option.some.inj h⟩
    · cases h
  · rw [CalendarSpec.digit?]
    by_cases hb : 48 ≤ b ∧ b ≤ 57
    · rw [if_pos hb, if_pos ((isDigit_iff b).mpr hb)]
    · rw [if_neg hb, if_neg (mt (isDigit_iff b).mp hb)]

/-- the text `Y-M-D` of a date, followed by `t` -/
def dashed (Y M D t : GoStr) : GoStr := Y ++ [45] ++ M ++ [45] ++ D ++ t

/-- What `CalendarSpec.parseSpelling s = some c` says about the bytes of `s`, as far as the rules
    read them: the three digit fields of the date, and a rest that is empty or nine bytes long
    and is ` 00:00:00` only at midnight. -/
structure Spelled (s : GoStr) (c : CalendarSpec.DateTime) : Prop where
  valid : c.valid = true
  shape : ∃ Y M D t, ∃ y : Nat, s = dashed Y M D t ∧ c.year = y ∧
    Field 4 Y y ∧ Field 2 M c.month ∧ Field 2 D c.day ∧ (t = [] ∨ t.length = 9) ∧ (t = [] ∨ t = midnightText → c.hour = 0 ∧ c.minute = 0 ∧ c.second = 0)

/-- the date part of `parseSpelling` -/
theorem date_some (d : List Nat) (c : CalendarSpec.DateTime)
    (h : (match d with
      | [y1, y2, y3, y4, 45, m1, m2, 45, d1, d2] => do
        let y ← CalendarSpec.number? [y1, y2, y3, y4]; let m ← CalendarSpec.number? [m1, m2]
        let d ← CalendarSpec.number? [d1, d2]
        some ({ year := y, month := m, day := d } : CalendarSpec.DateTime)
      | _ => none) = some c) :
    ∃ Y M D, ∃ y m dd : Nat, d = dashed Y M D [] ∧ Field 4 Y y ∧ Field 2 M m ∧ Field 2 D dd ∧
      c = { year := y, month := m, day := dd } := by
  split at h
  · rename_i y1 y2 y3 y4 m1 m2 d1 d2
    simp only [Option.bind_eq_bind, Option.bind_eq_some_iff, Option.some.injEq] at h
    obtain ⟨y, hy, m, hm, dd, hd, rfl⟩ := h
    exact ⟨[y1, y2, y3, y4], [m1, m2], [d1, d2], y, m, dd, rfl, ⟨number_digits _ _ (by simp) hy, rfl⟩,
      ⟨number_digits _ _ (by simp) hm, rfl⟩, ⟨number_digits _ _ (by simp) hd, rfl⟩, rfl⟩
  · cases h

theorem spelled_of_parse (s : GoStr) (c : CalendarSpec.DateTime) (h : CalendarSpec.parseSpelling s = some c) :
    Spelled s c := by
  unfold CalendarSpec.parseSpelling at h
  simp only at h
  split at h
  · rw [Option.bind_eq_some_iff] at h
    obtain ⟨c0, hc0, hv⟩ := h
    obtain ⟨Y, M, D, y, m, dd, rfl, hY, hM, hD, rfl⟩ := date_some s c0 hc0
    split at hv <;> cases hv
    rename_i hvalid
    exact ⟨hvalid, Y, M, D, [], y, rfl, rfl, hY, hM, hD, Or.inl rfl, fun _ => ⟨rfl, rfl, rfl⟩⟩
  · split at h
    · split at h
      · rename_i h1 h2 i1 i2 s1 s2 hdrop
        simp only [Option.bind_eq_bind, Option.bind_eq_some_iff] at h
        obtain ⟨c0, hc0, hh, hhv, ii, hiv, ss, hsv, hv⟩ := h
        obtain ⟨Y, M, D, y, m, dd, htake, hY, hM, hD, rfl⟩ := date_some (s.take 10) c0 hc0
        split at hv <;> cases hv
        rename_i hvalid
        refine ⟨hvalid, Y, M, D, [32, h1, h2, 58, i1, i2, 58, s1, s2], y, ?_, rfl, hY, hM, hD, Or.inr rfl,
          fun hm => ?_⟩
        · rw [← List.take_append_drop 10 s, htake, hdrop]; simp [dashed]
        · -- the rest is ` 00:00:00`: the three fields read 0
          rcases hm with hm | hm <;> cases hm
          exact ⟨(number_digits _ _ (by simp) hhv).val.symm, (number_digits _ _ (by simp) hiv).val.symm,
            (number_digits _ _ (by simp) hsv).val.symm⟩
      · cases h
    · cases h

/-- what `isPeriodStartString` slices out of `YYYY-MM-DD…` -/
theorem dashed_slices (Y M D t : GoStr) (lY : Y.length = 4) (lM : M.length = 2) (lD : D.length = 2) :
    ¬ (dashed Y M D t).length < 10 ∧ strSlice (dashed Y M D t) 5 7 = .ok M ∧
      strSlice (dashed Y M D t) 8 10 = .ok D ∧ strFrom (dashed Y M D t) 10 = .ok t := by
  match Y, lY, M, lM, D, lD with
  | [_, _, _, _], _, [_, _], _, [_, _], _ => simp [dashed, strSlice, strFrom]

theorem restIsMidnight_nine (t : GoStr) (ht : t = [] ∨ t.length = 9) (h : restIsMidnight t = .ok true) :
    t = [] ∨ t = midnightText := by
  rcases ht with rfl | ht
  · exact Or.inl rfl
  · unfold restIsMidnight at h
    split at h
    · exact Or.inl ‹_›
    · split at h
      · cases h
      · rename_i hp
        simp only [hasPrefix, Bool.not_eq_true, Bool.not_eq_false', Bool.and_eq_true, beq_iff_eq] at hp
        rw [List.take_of_length_le (by simp [midnightText, ht])] at hp
        exact Or.inr hp.2

theorem periodStart_dashed (Y M D t : GoStr) (unit : Nat) (lY : Y.length = 4) (lM : M.length = 2) (lD : D.length = 2)
    (ht : t = [] ∨ t.length = 9) (hb : isPeriodStartString (dashed Y M D t) unit = .ok true) :
    (t = [] ∨ t = midnightText) ∧ (unit = 100 ∨ (D = text01 ∧ (unit = 109 ∨ M = text01))) := by
  obtain ⟨hlen, h5, h8, h10⟩ := dashed_slices Y M D t lY lM lD
  unfold isPeriodStartString at hb
  rw [if_neg hlen, h10] at hb
  simp only [h8, h5] at hb
  split at hb
  · rename_i hrest
    refine ⟨restIsMidnight_nine t ht hrest, ?_⟩
    split at hb
    · exact Or.inl ‹_›
    · split at hb
      · cases hb
      · rename_i hd
        refine Or.inr ⟨by simpa using hd, ?_⟩
        split at hb
        · exact Or.inl ‹_›
        · exact Or.inr (by simpa using hb)
  · rename_i hne
    exact absurd hb (hne · )

theorem restIsMidnight_ne_panic (rest : GoStr) : restIsMidnight rest ≠ .panic := by
  -- the slices of the two arms that panic are in range: nine bytes are there, `frac` is not empty
  fun_cases restIsMidnight rest <;> intro h <;> cases h
  · rename_i frac _ hne hx
    cases frac with
    | nil => exact hne rfl
    | cons c z => exact hx c z rfl (by simp [strFrom])
  · rename_i hp hx
    have hlen : 9 ≤ rest.length := by simp [hasPrefix, midnightText] at hp; exact hp.1
    exact hx _ (if_pos hlen)

theorem isPeriodStartString_ne_panic (val : GoStr) (unit : Nat) : isPeriodStartString val unit ≠ .panic := by
  -- with ten bytes there every slice is in range
  fun_cases isPeriodStartString val unit
  case case8 => exact restIsMidnight_ne_panic _
  all_goals intro h; cases h
  · rename_i hx; exact hx _ (C09.strSlice_ok val 5 7 ⟨by omega, by omega⟩)
  · rename_i hx; exact hx _ (C09.strSlice_ok val 8 10 ⟨by omega, by omega⟩)
  · rename_i hx; exact hx _ (if_pos (by omega))

theorem isPeriodStart_ne_panic (civilOf : Int → Civil) (clockOf : Int → Clock) (key : Key) (unit : Nat) :
    isPeriodStart civilOf clockOf key unit ≠ .panic := by
  cases key <;> simp [isPeriodStart]
  exact isPeriodStartString_ne_panic _ _

theorem dateEqualStart_ne_panic (find : Key → Out Int) (civilOf : Int → Civil) (clockOf : Int → Clock)
    (unit : Nat) (key : Key) (index : Int) (h : find key ≠ .panic) :
    dateEqualStart find civilOf clockOf unit key index ≠ .panic := by
  unfold dateEqualStart
  cases hf : find key with
  | panic => exact absurd hf h
  | err k => simp
  | ok n =>
    simp only
    split
    · exact isPeriodStart_ne_panic _ _ _ _
    · simp

/-- **`EqualStart` of the calendar rules never panics**, for every key, index and zone. -/
theorem date_equalStart_ne_panic (civilOf : Int → Civil) (clockOf : Int → Clock) (key : Key) (index : Int) :
    DateYearShard.EqualStart civilOf clockOf key index ≠ .panic ∧
    DateMonthShard.EqualStart civilOf clockOf key index ≠ .panic ∧
    DateDayShard.EqualStart civilOf clockOf key index ≠ .panic :=
  have hp := C09.date_keys_never_panic civilOf key
  ⟨dateEqualStart_ne_panic _ _ _ _ _ _ hp.1, dateEqualStart_ne_panic _ _ _ _ _ _ hp.2.1,
    dateEqualStart_ne_panic _ _ _ _ _ _ hp.2.2⟩

theorem spelled_start (s : GoStr) (c : CalendarSpec.DateTime) (hs : Spelled s c) (unit : Nat)
    (hb : isPeriodStartString s unit = .ok true) :
    c.hour = 0 ∧ c.minute = 0 ∧ c.second = 0 ∧ (unit = 100 ∨ (c.day = 1 ∧ (unit = 109 ∨ c.month = 1))) := by
  obtain ⟨_, Y, M, D, t, y, rfl, _, hY, hM, hD, hlen, htime⟩ := hs
  obtain ⟨hmid, hu⟩ := periodStart_dashed Y M D t unit hY.len hM.len hD.len hlen hb
  obtain ⟨h0, i0, s0⟩ := htime hmid
  exact ⟨h0, i0, s0, hu.imp id fun ⟨h01, hu'⟩ =>
    ⟨by rw [← hD.val, h01]; rfl, hu'.imp id fun h => by rw [← hM.val, h]; rfl⟩⟩

/-! ### the three calendar rules, uniformly -/

inductive CalKind where
  | year | month | day
  deriving DecidableEq, Repr

/-- the `unit` byte `EqualStart` passes to `isPeriodStart` -/
def CalKind.unit : CalKind → Nat
  | .year => 121
  | .month => 109
  | .day => 100

/-- `Date{Year,Month,Day}Shard.FindForKey` -/
def CalKind.find (k : CalKind) (civilOf : Int → Civil) (key : Key) : Out Int :=
  match k with
  | .year => DateYearShard.FindForKey civilOf key
  | .month => DateMonthShard.FindForKey civilOf key
  | .day => DateDayShard.FindForKey civilOf key

/-- `Date{Year,Month,Day}Shard.EqualStart` -/
def CalKind.equalStart (k : CalKind) (civilOf : Int → Civil) (clockOf : Int → Clock) (key : Key) (index : Int) :
    Out Bool :=
  match k with
  | .year => DateYearShard.EqualStart civilOf clockOf key index
  | .month => DateMonthShard.EqualStart civilOf clockOf key index
  | .day => DateDayShard.EqualStart civilOf clockOf key index

theorem CalKind.equalStart_eq (k : CalKind) (civilOf : Int → Civil) (clockOf : Int → Clock) (key : Key) (index : Int) :
    k.equalStart civilOf clockOf key index = dateEqualStart (k.find civilOf) civilOf clockOf k.unit key index := by
  cases k <;> rfl

/-- period number of a civil date: the table index of the rule (for `.day` it is `civilNum`) -/
def CalKind.num (k : CalKind) (c : Civil) : Int :=
  match k with
  | .year => c.year
  | .month => c.year * 100 + c.month
  | .day => c.year * 10000 + c.month * 100 + c.day

/-- Period numbers never go back as the date advances, and are strictly smaller before a date on
    which `isPeriodStart` holds: any day for `'d'`, a first of the month for `'m'`, a first of
    January for `'y'`. -/
theorem num_order (k : CalKind) (a b : Civil) (hma : 1 ≤ a.month ∧ a.month ≤ 12) (hda : 1 ≤ a.day ∧ a.day ≤ 31)
    (hmb : 1 ≤ b.month ∧ b.month ≤ 12) (hdb : 1 ≤ b.day ∧ b.day ≤ 31) :
    (civilNum a ≤ civilNum b → k.num a ≤ k.num b) ∧
    (civilNum a < civilNum b → (k.unit = 100 ∨ (b.day = 1 ∧ (k.unit = 109 ∨ b.month = 1))) → k.num a < k.num b) := by
  unfold civilNum
  cases k <;> simp only [CalKind.num, CalKind.unit] <;> constructor <;> intros <;> omega

/-! ### DATETIME columns: string keys -/

/-- A date-time as the number `YYYYMMDDhhmmss`: an order embedding of the valid date-times
    (the function `RouteLit.packDT` of the model). -/
def pack (c : CalendarSpec.DateTime) : Int :=
  ((((c.year * 100 + c.month) * 100 + c.day) * 100 + c.hour) * 100 + c.minute) * 100 + c.second

/-- what is cut off a packed date-time to get the period number -/
def CalKind.div : CalKind → Int
  | .year => 10000000000
  | .month => 100000000
  | .day => 1000000

/-- the table of a row whose DATETIME sharding column holds the packed value `v` -/
def pvStr (k : CalKind) (v : Int) : Int := v / k.div

/-- the packed valid date-times -/
def VStr (v : Int) : Prop := ∃ c : CalendarSpec.DateTime, c.valid = true ∧ pack c = v

theorem monthLength_le (y : Int) (m : Nat) : CalendarSpec.monthLength y m ≤ 31 := by
  unfold CalendarSpec.monthLength; split <;> try omega
  split <;> omega

theorem valid_bounds (c : CalendarSpec.DateTime) (h : c.valid = true) :
    0 ≤ c.year ∧ c.year ≤ 9999 ∧ (1 ≤ c.month ∧ c.month ≤ 12) ∧ (1 ≤ c.day ∧ c.day ≤ 31) ∧
      c.hour < 24 ∧ c.minute < 60 ∧ c.second < 60 := by
  unfold CalendarSpec.DateTime.valid at h
  simp only [Bool.and_eq_true, decide_eq_true_eq] at h
  have := monthLength_le c.year c.month
  omega

theorem pack_num (k : CalKind) (c : CalendarSpec.DateTime) (h : c.valid = true) :
    pvStr k (pack c) = k.num { year := c.year, month := c.month, day := c.day } := by
  have := valid_bounds c h
  cases k <;> simp only [pvStr, pack, CalKind.div, CalKind.num] <;> omega

theorem str_place (k : CalKind) (civilOf : Int → Civil) (s : GoStr) (c : CalendarSpec.DateTime) (hs : Spelled s c) :
    k.find civilOf (.str s) = .ok (pvStr k (pack c)) := by
  rw [pack_num k c hs.valid]
  obtain ⟨_, Y, M, D, t, y, rfl, hy, hY, hM, hD, _⟩ := hs
  have f1 := C09.year_place civilOf hY ([45] ++ M ++ [45] ++ D ++ t)
  simp only [← List.append_assoc] at f1
  obtain ⟨f2, f3⟩ := C09.date_place civilOf hY hM hD 45 45 t
  cases k
  · simp only [CalKind.find, CalKind.num, dashed]; rw [f1, hy]
  · simp only [CalKind.find, CalKind.num, dashed]; rw [f2, hy]
  · simp only [CalKind.find, CalKind.num, dashed]; rw [f3, hy]

theorem str_start (k : CalKind) (civilOf : Int → Civil) (clockOf : Int → Clock) (s : GoStr)
    (c : CalendarSpec.DateTime) (hs : Spelled s c) (i : Int)
    (he : k.equalStart civilOf clockOf (.str s) i = .ok true) :
    ∀ y, VStr y → y < pack c → pvStr k y < pvStr k (pack c) := by
  rw [CalKind.equalStart_eq, dateEqualStart, str_place k civilOf s c hs] at he
  simp only at he
  split at he
  · simp only [isPeriodStart] at he
    obtain ⟨h0, i0, s0, hu⟩ := spelled_start s c hs k.unit he
    intro y ⟨c', hv', hy⟩ hlt
    subst hy
    rw [pack_num k c hs.valid, pack_num k c' hv']
    have b := valid_bounds c hs.valid
    have b' := valid_bounds c' hv'
    -- at midnight the order of the packed values is that of the dates
    refine (num_order k _ _ b'.2.2.1 b'.2.2.2.1 b.2.2.1 b.2.2.2.1).2 ?_ hu
    simp only [pack, civilNum] at hlt ⊢
    omega
  · cases he

/-! ### integer columns: unix-timestamp keys in the proxy's time zone -/

/-- What the routing of timestamp keys needs of the zone behind `civilOf` /
    `clockOf` (`time.Unix(v, 0)` read as a civil date and a clock): real months
    and days, dates that never go back as time advances, and 00:00:00 being
    the first instant of its day.  `fixedZone_ok`: every zone with a fixed
    offset has them. -/
structure ZoneOK (civilOf : Int → Civil) (clockOf : Int → Clock) : Prop where
  month : ∀ v, 1 ≤ (civilOf v).month ∧ (civilOf v).month ≤ 12
  day : ∀ v, 1 ≤ (civilOf v).day ∧ (civilOf v).day ≤ 31
  mono : ∀ a b, a ≤ b → civilNum (civilOf a) ≤ civilNum (civilOf b)
  midnight : ∀ v, (clockOf v).hour = 0 → (clockOf v).minute = 0 → (clockOf v).second = 0 →
    ∀ a, a < v → civilNum (civilOf a) < civilNum (civilOf v)

/-- the timestamps whose civil year is written with four digits (beyond them the
    month and day rules reject the key: `C09.timestamp_reject`) -/
def VUnix (civilOf : Int → Civil) (v : Int) : Prop := 0 ≤ (civilOf v).year ∧ (civilOf v).year ≤ 9999

/-- the table of a row whose integer sharding column holds the timestamp `v` -/
def pvUnix (k : CalKind) (civilOf : Int → Civil) (v : Int) : Int := k.num (civilOf v)

theorem unix_place (k : CalKind) (civilOf : Int → Civil) (clockOf : Int → Clock) (hz : ZoneOK civilOf clockOf)
    (v : Int) (hv : VUnix civilOf v) : k.find civilOf (.int64 v) = .ok (pvUnix k civilOf v) := by
  have hm := hz.month v
  have hd := hz.day v
  obtain ⟨t1, t2, t3⟩ := C09.timestamp_place civilOf v hv (by omega) (by omega)
  cases k
  · exact t1
  · exact t2
  · exact t3

theorem unix_mono (k : CalKind) (civilOf : Int → Civil) (clockOf : Int → Clock) (hz : ZoneOK civilOf clockOf)
    (a b : Int) (h : a ≤ b) : pvUnix k civilOf a ≤ pvUnix k civilOf b :=
  (num_order k _ _ (hz.month a) (hz.day a) (hz.month b) (hz.day b)).1 (hz.mono a b h)

theorem isPeriodStartTime_true (civilOf : Int → Civil) (clockOf : Int → Clock) (v : Int) (unit : Nat)
    (h : isPeriodStartTime civilOf clockOf v unit = true) :
    ((clockOf v).hour = 0 ∧ (clockOf v).minute = 0 ∧ (clockOf v).second = 0) ∧
      (unit = 100 ∨ ((civilOf v).day = 1 ∧ (unit = 109 ∨ (civilOf v).month = 1))) := by
  simp only [isPeriodStartTime] at h
  split at h
  · cases h
  refine ⟨by omega, ?_⟩
  split at h
  · exact Or.inl ‹_›
  split at h
  · cases h
  · exact Or.inr ⟨by omega, by simpa using h⟩

theorem unix_start (k : CalKind) (civilOf : Int → Civil) (clockOf : Int → Clock) (hz : ZoneOK civilOf clockOf)
    (v i : Int) (hv : VUnix civilOf v) (he : k.equalStart civilOf clockOf (.int64 v) i = .ok true) :
    ∀ a, a < v → pvUnix k civilOf a < pvUnix k civilOf v := by
  rw [CalKind.equalStart_eq, dateEqualStart, unix_place k civilOf clockOf hz v hv] at he
  simp only at he
  split at he
  · simp only [isPeriodStart, Out.ok.injEq] at he
    obtain ⟨⟨h0, m0, s0⟩, hu⟩ := isPeriodStartTime_true civilOf clockOf v k.unit he
    exact fun a ha => (num_order k _ _ (hz.month a) (hz.day a) (hz.month v) (hz.day v)).2
      (hz.midnight v h0 m0 s0 a ha) hu
  · cases he

/-- `civilOfUnix off`, `clockOfUnix off`: the instances the drivers run with -/
theorem fixedZone_ok (off : Int) : ZoneOK (civilOfUnix off) (clockOfUnix off) := by
  refine ⟨?_, ?_, ?_, ?_⟩
  · intro v; have := civil_bounds ((v + off) / 86400); exact ⟨this.1, this.2.1⟩
  · intro v; have := civil_bounds ((v + off) / 86400); exact ⟨this.2.2.1, this.2.2.2⟩
  · intro a b h
    unfold civilOfUnix
    by_cases he : (a + off) / 86400 = (b + off) / 86400
    · rw [he]; exact Int.le_refl _
    · exact Int.le_of_lt (civil_strict_mono _ _ (by omega))
  · intro v h0 m0 s0 a ha
    unfold civilOfUnix
    apply civil_strict_mono
    simp only [clockOfUnix] at h0 m0 s0
    omega

end GaeaVerif.RouteCal
