import GaeaVerif.Lemmas.LexC17Basic
/-
  Helper lemmas for C17: what each token function of the scanner consumes on
  the rendering of a lexical item.  The scanner walks runes, the items are
  bytes: `rune_in` says where the rune at the head of a body ends.
-/
namespace GaeaVerif.LexC17
open GaeaVerif

abbrev AsciiStop (tail : Bytes) : Prop := HeadSat (·.toNat < 0x80) tail

theorem highPrefix_append (l tail : Bytes) (ht : AsciiStop tail) (k : Nat) (hk : k ≤ (l ++ tail).length)
    (h : HighPrefix (l ++ tail) k) : k ≤ l.length ∧ HighPrefix l k := by
  have hle : k ≤ l.length := by
    rcases ht with rfl | ⟨s, t, rfl, hs⟩
    · simpa using hk
    · apply Nat.le_of_not_lt
      intro hlt
      have := h l.length hlt
      simp [List.getD_eq_getElem?_getD] at this
      omega
  refine ⟨hle, fun i hi => ?_⟩
  have := h i hi
  simp only [List.getD_eq_getElem?_getD] at this ⊢
  rwa [List.getElem?_append_left (by omega)] at this

/-- A property of texts that survives dropping one byte ≥ 0x80 survives dropping the rest of a rune: how the body
    conditions (`strBodyOK`, `bqBodyOK`, no `*/`) follow the scanner over a non-ASCII character. -/
theorem HighPrefix.drop {P : Bytes → Prop} (hP : ∀ b t, 0x80 ≤ b.toNat → P (b :: t) → P t) :
    ∀ (k : Nat) (l : Bytes), HighPrefix l k → k ≤ l.length → P l → P (l.drop k) := by
  intro k
  induction k with
  | zero => intro l _ _ h; exact h
  | succ k ih =>
    intro l hp hk h
    cases l with
    | nil => simp at hk
    | cons b t =>
      obtain ⟨hb, ht⟩ := (highPrefix_cons b t k).mp hp
      exact ih t ht (by simpa using hk) (hP b t hb h)

/-- The rune `peek` reads at `c`, in a body `c :: t` followed by a tail that starts with an ASCII byte (or is empty),
    ends inside the body: its width is at least 1, it reaches at most to the end of `t`, what is left is the rest of
    `t` and the tail, the bytes it takes of `t` are ≥ 0x80, and it is `c` itself when `c` is ASCII and ≥ 0x80 otherwise. -/
theorem rune_in (c : UInt8) (t tail : Bytes) (ht : AsciiStop tail) :
    1 ≤ (peek (c :: (t ++ tail))).2 ∧ (peek (c :: (t ++ tail))).2 - 1 ≤ t.length ∧
      (c :: (t ++ tail)).drop (peek (c :: (t ++ tail))).2 = t.drop ((peek (c :: (t ++ tail))).2 - 1) ++ tail ∧
      HighPrefix t ((peek (c :: (t ++ tail))).2 - 1) ∧
      ((peek (c :: (t ++ tail))).1 = c.toNat ∧ c.toNat < 0x80 ∨ 0x80 ≤ (peek (c :: (t ++ tail))).1 ∧ 0x80 ≤ c.toNat) := by
  rcases peek_cases c (t ++ tail) with ⟨hc, e⟩ | ⟨hc, h1, h2, h3, h4⟩
  · rw [e]
    exact ⟨Nat.le_refl 1, Nat.zero_le _, rfl, highPrefix_zero t, Or.inl ⟨rfl, hc⟩⟩
  · obtain ⟨w, hw⟩ : ∃ w, (peek (c :: (t ++ tail))).2 = w + 1 := ⟨_, (Nat.sub_add_cancel h2).symm⟩
    rw [hw] at h3 h4 ⊢
    obtain ⟨hle, hp⟩ := highPrefix_append t tail ht w (by simpa using h3) ((highPrefix_cons c _ w).mp h4).2
    exact ⟨by omega, hle, List.drop_append_of_le_length hle, hp, Or.inr ⟨h1, hc⟩⟩

theorem peek_ne_of_head (rest : Bytes) (q : UInt8) (hq : q.toNat < 0x80) (h : rest.head? ≠ some q) :
    (peek rest).1 ≠ q.toNat := by
  cases rest with
  | nil => intro e; simp [peek, runeError] at e; omega
  | cons r t =>
    rcases peek_cases r t with ⟨h1, h2⟩ | ⟨h1, h2, _⟩
    · rw [h2]
      simp only [List.head?_cons, ne_eq, Option.some.injEq] at h
      intro e
      exact h (UInt8.toNat_inj.mp e)
    · intro e; rw [e] at h2; omega

theorem ssl_end (e fuel : Nat) (l : Bytes) (hl : l ≠ []) (h1 : (peek l).1 = e)
    (h2 : (peek (l.drop (peek l).2)).1 ≠ e) : scanStringLoop e (fuel + 1) l = (peek l).2 := by
  cases l with
  | nil => exact absurd rfl hl
  | cons b t => simp only [scanStringLoop, h1, if_true, h2, ne_eq, not_false_eq_true]

theorem ssl_doubled (e fuel : Nat) (l : Bytes) (hl : l ≠ []) (h1 : (peek l).1 = e)
    (h2 : (peek (l.drop (peek l).2)).1 = e) :
    scanStringLoop e (fuel + 1) l = (peek l).2 + (peek (l.drop (peek l).2)).2 +
      scanStringLoop e fuel ((l.drop (peek l).2).drop (peek (l.drop (peek l).2)).2) := by
  cases l with
  | nil => exact absurd rfl hl
  | cons b t => simp only [scanStringLoop, h1, if_true, h2, ne_eq, not_true_eq_false, if_false]

theorem ssl_escape (e fuel : Nat) (l : Bytes) (hl : l ≠ []) (h1 : (peek l).1 ≠ e) (h2 : (peek l).1 = 0x5C)
    (h3 : l.drop (peek l).2 ≠ []) :
    scanStringLoop e (fuel + 1) l = (peek l).2 + (peek (l.drop (peek l).2)).2 +
      scanStringLoop e fuel ((l.drop (peek l).2).drop (peek (l.drop (peek l).2)).2) := by
  cases l with
  | nil => exact absurd rfl hl
  | cons b t =>
    have h1' : ¬ (0x5C : Nat) = e := by rw [← h2]; exact h1
    simp only [scanStringLoop, h2, h1', if_false, if_true]
    generalize hr : List.drop (peek (b :: t)).2 (b :: t) = r at *
    cases r with
    | nil => exact absurd rfl h3
    | cons _ _ => rfl

theorem ssl_plain (e fuel : Nat) (l : Bytes) (hl : l ≠ []) (h1 : (peek l).1 ≠ e) (h2 : (peek l).1 ≠ 0x5C) :
    scanStringLoop e (fuel + 1) l = (peek l).2 + scanStringLoop e fuel (l.drop (peek l).2) := by
  cases l with
  | nil => exact absurd rfl hl
  | cons b t => simp only [scanStringLoop, h1, if_false, h2]

theorem strBodyOK_plain (q b : UInt8) (t : Bytes) (hbq : b ≠ q) (hbs : ¬ b.toNat = 0x5C) :
    strBodyOK q (b :: t) = strBodyOK q t := by
  cases t <;> simp [strBodyOK, hbq, hbs]

theorem strBodyOK_dq (q : UInt8) (t : Bytes) (h : strBodyOK q (q :: t) = true) :
    ∃ t', t = q :: t' ∧ strBodyOK q t' = true := by
  cases t with
  | nil => simp [strBodyOK] at h
  | cons b' t' =>
    simp only [strBodyOK, if_true, Bool.and_eq_true, decide_eq_true_eq] at h
    exact ⟨t', by rw [h.1], h.2⟩

theorem strBodyOK_esc (q b : UInt8) (t : Bytes) (hbq : b ≠ q) (hbs : b.toNat = 0x5C) (h : strBodyOK q (b :: t) = true) :
    ∃ c t', t = c :: t' ∧ strBodyOK q t' = true := by
  cases t with
  | nil => simp [strBodyOK, hbq, hbs] at h
  | cons c t' =>
    simp only [strBodyOK, hbq, if_false, hbs, if_true] at h
    exact ⟨c, t', rfl, h⟩

theorem strBodyOK_high (q : UInt8) (hq : q.toNat < 0x80) (b : UInt8) (t : Bytes) (hb : 0x80 ≤ b.toNat)
    (h : strBodyOK q (b :: t) = true) : strBodyOK q t = true := by
  rwa [strBodyOK_plain q b t (by intro e; rw [e] at hb; omega) (by omega)] at h

theorem scanStringLoop_body (q : UInt8) (hq : q.toNat = 0x27 ∨ q.toNat = 0x22) (rest : Bytes) (hr : rest.head? ≠ some q) :
    ∀ (body : Bytes), strBodyOK q body = true → ∀ (fuel : Nat), body.length + 1 ≤ fuel →
      scanStringLoop q.toNat fuel (body ++ q :: rest) = body.length + 1 := by
  have hq80 : q.toNat < 0x80 := by omega
  have hstop : AsciiStop (q :: rest) := .cons hq80
  intro body
  induction hn : body.length using Nat.strongRecOn generalizing body with
  | _ n ih =>
    subst hn
    intro hok fuel hf
    obtain ⟨fuel, rfl⟩ : ∃ f, fuel = f + 1 := ⟨fuel - 1, by omega⟩
    cases body with
    | nil =>
      rw [List.nil_append, ssl_end _ _ _ (by simp) (by rw [peek_ascii q rest hq80])
        (by rw [peek_ascii q rest hq80]; exact peek_ne_of_head rest q hq80 hr), peek_ascii q rest hq80]
      rfl
    | cons b t =>
      simp only [List.length_cons] at hf
      rw [List.cons_append]
      by_cases hbq : b = q
      · subst hbq
        obtain ⟨t', rfl, hok'⟩ := strBodyOK_dq b t hok
        rw [List.cons_append, ssl_doubled _ _ _ (by simp) (by rw [peek_ascii b _ hq80])
          (by rw [peek_ascii b _ hq80]; simp only [List.drop_succ_cons, List.drop_zero]; rw [peek_ascii b _ hq80]),
          peek_ascii b _ hq80]
        simp only [List.drop_succ_cons, List.drop_zero]
        rw [peek_ascii b _ hq80]
        simp only [List.drop_succ_cons, List.drop_zero, List.length_cons] at hf ⊢
        rw [ih _ (by simp only [List.length_cons]; omega) t' rfl hok' fuel (by omega)]
        omega
      · by_cases hbs : b.toNat = 0x5C
        · have hb80 : b.toNat < 0x80 := by omega
          obtain ⟨c, t', rfl, hok2⟩ := strBodyOK_esc q b t hbq hbs hok
          obtain ⟨w1, w2, w3, w4, _⟩ := rune_in c t' (q :: rest) hstop
          rw [List.cons_append, ssl_escape _ _ _ (by simp) (by rw [peek_ascii b _ hb80]; omega)
            (by rw [peek_ascii b _ hb80]; exact hbs) (by rw [peek_ascii b _ hb80]; simp), peek_ascii b _ hb80]
          simp only [List.drop_succ_cons, List.drop_zero]
          simp only [List.length_cons] at hf ⊢
          -- the bytes of the rune after its first are ≥ 0x80, neither quote nor backslash: `strBodyOK` passes over them
          rw [w3, ih _ (by simp only [List.length_drop, List.length_cons]; omega) _ rfl
            (HighPrefix.drop (P := fun l => strBodyOK q l = true) (strBodyOK_high q hq80) _ _ w4 w2 hok2) fuel (by simp only [List.length_drop]; omega)]
          simp only [List.length_drop]
          omega
        · obtain ⟨w1, w2, w3, w4, w5⟩ := rune_in b t (q :: rest) hstop
          have hne : (peek (b :: (t ++ q :: rest))).1 ≠ q.toNat ∧ (peek (b :: (t ++ q :: rest))).1 ≠ 0x5C := by
            rcases w5 with ⟨e, _⟩ | ⟨h, _⟩
            · rw [e]; exact ⟨fun e' => hbq (UInt8.toNat_inj.mp e'), hbs⟩
            · omega
          rw [strBodyOK_plain q b t hbq hbs] at hok
          rw [ssl_plain _ _ _ (by simp) hne.1 hne.2, w3, ih _ (by simp only [List.length_drop, List.length_cons]; omega) _ rfl
            (HighPrefix.drop (P := fun l => strBodyOK q l = true) (strBodyOK_high q hq80) _ _ w4 w2 hok) fuel (by simp only [List.length_drop]; omega)]
          simp only [List.length_drop, List.length_cons]
          omega

theorem startString_item (q : UInt8) (hq : q.toNat = 0x27 ∨ q.toNat = 0x22) (body rest : Bytes)
    (hok : strBodyOK q body = true) (hr : rest.head? ≠ some q) :
    startString (q :: body ++ q :: rest) = body.length + 2 := by
  have hq80 : q.toNat < 0x80 := by omega
  simp only [startString, List.cons_append, peek_ascii q _ hq80, List.drop_succ_cons, List.drop_zero]
  rw [scanStringLoop_body q hq rest hr body hok _ (by simp)]
  omega

theorem incAsLongAs_body (fn : Nat → Bool) (hhigh : ∀ r, 0x80 ≤ r → fn r = true) (tail : Bytes)
    (ht : HeadSat (fun s => s.toNat < 0x80 ∧ fn s.toNat = false) tail) :
    ∀ body : Bytes, (∀ b ∈ body, b.toNat < 0x80 → fn b.toNat = true) → incAsLongAs fn (body ++ tail) = body.length := by
  have hstop : AsciiStop tail := ht.mono fun _ h => h.1
  intro body
  induction hn : body.length using Nat.strongRecOn generalizing body with
  | _ n ih =>
    subst hn
    intro hb
    cases body with
    | nil =>
      rcases ht with rfl | ⟨s, t, rfl, hs, hf⟩
      · exact incAsLongAs_nil fn
      · exact incAsLongAs_stop fn _ (by rw [List.nil_append, peek_ascii s t hs]; exact hf)
    | cons b t =>
      obtain ⟨w1, w2, w3, _, w5⟩ := rune_in b t tail hstop
      have hfn : fn (peek (b :: (t ++ tail))).1 = true := by
        rcases w5 with ⟨e, h80⟩ | ⟨h, _⟩
        · rw [e]; exact hb b (by simp) h80
        · exact hhigh _ h
      rw [List.cons_append, incAsLongAs_step fn _ (by simp) hfn, w3,
        ih _ (by simp only [List.length_drop, List.length_cons]; omega) _ rfl
          (fun b' hb' => hb b' (List.mem_cons_of_mem _ (List.mem_of_mem_drop hb')))]
      simp only [List.length_drop, List.length_cons]
      omega

theorem bqBodyOK_plain (b : UInt8) (t : Bytes) (hb : ¬ b.toNat = 0x60) : bqBodyOK (b :: t) = bqBodyOK t := by
  cases t <;> simp [bqBodyOK, hb]

theorem bqBodyOK_dq (b : UInt8) (t : Bytes) (hb : b.toNat = 0x60) (h : bqBodyOK (b :: t) = true) :
    ∃ b' t', t = b' :: t' ∧ b'.toNat = 0x60 ∧ bqBodyOK t' = true := by
  cases t with
  | nil => simp [bqBodyOK, hb] at h
  | cons b' t' =>
    simp only [bqBodyOK, hb, if_true, Bool.and_eq_true, decide_eq_true_eq] at h
    exact ⟨b', t', rfl, h.1, h.2⟩

theorem ql_end (fuel : Nat) (l : Bytes) (hl : l ≠ []) (h1 : (peek l).1 = 0x60)
    (h2 : (peek (l.drop (peek l).2)).1 ≠ 0x60) : quotedLoop (fuel + 1) l = (peek l).2 := by
  cases l with
  | nil => exact absurd rfl hl
  | cons b t => simp only [quotedLoop, h1, if_true, h2, ne_eq, not_false_eq_true]

theorem ql_doubled (fuel : Nat) (l : Bytes) (hl : l ≠ []) (h1 : (peek l).1 = 0x60)
    (h2 : (peek (l.drop (peek l).2)).1 = 0x60) :
    quotedLoop (fuel + 1) l = (peek l).2 + (peek (l.drop (peek l).2)).2 +
      quotedLoop fuel ((l.drop (peek l).2).drop (peek (l.drop (peek l).2)).2) := by
  cases l with
  | nil => exact absurd rfl hl
  | cons b t => simp only [quotedLoop, h1, if_true, h2, ne_eq, not_true_eq_false, if_false]

theorem ql_plain (fuel : Nat) (l : Bytes) (hl : l ≠ []) (h1 : (peek l).1 ≠ 0x60) :
    quotedLoop (fuel + 1) l = (peek l).2 + quotedLoop fuel (l.drop (peek l).2) := by
  cases l with
  | nil => exact absurd rfl hl
  | cons b t => simp only [quotedLoop, h1, if_false]

def cBq : UInt8 := 0x60

theorem quotedLoop_body (rest : Bytes) (hr : rest.head? ≠ some cBq) : ∀ (body : Bytes), bqBodyOK body = true →
    ∀ (fuel : Nat), body.length + 1 ≤ fuel → quotedLoop fuel (body ++ cBq :: rest) = body.length + 1 := by
  have hq80 : cBq.toNat < 0x80 := by decide
  have hqv : cBq.toNat = 0x60 := by decide
  have hstop : AsciiStop (cBq :: rest) := .cons hq80
  intro body
  induction hn : body.length using Nat.strongRecOn generalizing body with
  | _ n ih =>
    subst hn
    intro hok fuel hf
    obtain ⟨fuel, rfl⟩ : ∃ f, fuel = f + 1 := ⟨fuel - 1, by omega⟩
    cases body with
    | nil =>
      rw [List.nil_append, ql_end _ _ (by simp) (by rw [peek_ascii cBq rest hq80]; exact hqv)
        (by rw [peek_ascii cBq rest hq80]; simp only [List.drop_succ_cons, List.drop_zero]
            have := peek_ne_of_head rest cBq hq80 hr; rwa [hqv] at this), peek_ascii cBq rest hq80]
      rfl
    | cons b t =>
      simp only [List.length_cons] at hf
      rw [List.cons_append]
      by_cases hbq : b.toNat = 0x60
      · have hb80 : b.toNat < 0x80 := by omega
        obtain ⟨b', t', rfl, hb', hok'⟩ := bqBodyOK_dq b t hbq hok
        have hb'80 : b'.toNat < 0x80 := by omega
        rw [List.cons_append, ql_doubled _ _ (by simp) (by rw [peek_ascii b _ hb80]; exact hbq)
          (by rw [peek_ascii b _ hb80]; simp only [List.drop_succ_cons, List.drop_zero]; rw [peek_ascii b' _ hb'80]; exact hb'),
          peek_ascii b _ hb80]
        simp only [List.drop_succ_cons, List.drop_zero]
        rw [peek_ascii b' _ hb'80]
        simp only [List.drop_succ_cons, List.drop_zero, List.length_cons] at hf ⊢
        rw [ih _ (by simp only [List.length_cons]; omega) t' rfl hok' fuel (by omega)]
        omega
      · obtain ⟨w1, w2, w3, w4, w5⟩ := rune_in b t (cBq :: rest) hstop
        have hne : (peek (b :: (t ++ cBq :: rest))).1 ≠ 0x60 := by
          rcases w5 with ⟨e, _⟩ | ⟨h, _⟩
          · rw [e]; exact hbq
          · omega
        rw [bqBodyOK_plain b t hbq] at hok
        rw [ql_plain _ _ (by simp) hne, w3, ih _ (by simp only [List.length_drop, List.length_cons]; omega) _ rfl
          (HighPrefix.drop (P := fun l => bqBodyOK l = true) (fun b t hb h => by rwa [bqBodyOK_plain b t (by omega)] at h) _ _ w4 w2 hok) fuel
          (by simp only [List.length_drop]; omega)]
        simp only [List.length_drop, List.length_cons]
        omega

theorem scanQuotedIdent_item (body rest : Bytes) (hok : bqBodyOK body = true) (hr : rest.head? ≠ some cBq) :
    scanQuotedIdent (cBq :: body ++ cBq :: rest) = body.length + 2 := by
  simp only [scanQuotedIdent, List.cons_append, List.drop_succ_cons, List.drop_zero]
  rw [quotedLoop_body rest hr body hok _ (by simp)]
  omega

theorem hasStarSlash_cons2 (a b : UInt8) (t : Bytes) :
    hasStarSlash (a :: b :: t) = ((a.toNat = 0x2A && b.toNat = 0x2F) || hasStarSlash (b :: t)) := rfl

theorem hasStarSlash_tail (a : UInt8) (l : Bytes) (h : hasStarSlash (a :: l) = false) : hasStarSlash l = false := by
  cases l with
  | nil => rfl
  | cons b t => rw [hasStarSlash_cons2] at h; simp only [Bool.or_eq_false_iff] at h; exact h.2

theorem cl_end (fuel : Nat) (l : Bytes) (hl : l ≠ []) (h : (peek l).1 = 0x2F) :
    commentLoop (fuel + 1) true l = some (peek l).2 := by
  cases l with
  | nil => exact absurd rfl hl
  | cons b t => simp [commentLoop, h]

theorem cl_step (fuel : Nat) (star : Bool) (l : Bytes) (hl : l ≠ []) (h : ¬ (star = true ∧ (peek l).1 = 0x2F)) :
    commentLoop (fuel + 1) star l =
      (commentLoop fuel (decide ((peek l).1 = 0x2A)) (l.drop (peek l).2)).map ((peek l).2 + ·) := by
  cases l with
  | nil => exact absurd rfl hl
  | cons b t =>
    simp only [commentLoop]
    rw [if_neg]
    simpa using h

def cStar : UInt8 := 0x2A
def cSlash : UInt8 := 0x2F

/-- The body holds no `*/`, also not across its borders: after a `*` just read
    (`star`), before the closing `*`. -/
theorem commentLoop_body (rest : Bytes) : ∀ (body : Bytes) (star : Bool),
    hasStarSlash ((if star then [cStar] else []) ++ body ++ [cStar]) = false →
    ∀ (fuel : Nat), body.length + 2 ≤ fuel →
    commentLoop fuel star (body ++ cStar :: cSlash :: rest) = some (body.length + 2) := by
  have hs80 : cStar.toNat < 0x80 := by decide
  have hl80 : cSlash.toNat < 0x80 := by decide
  have hstop : AsciiStop (cStar :: cSlash :: rest) := .cons hs80
  intro body
  induction hn : body.length using Nat.strongRecOn generalizing body with
  | _ n ih =>
    subst hn
    intro star hok fuel hf
    cases body with
    | nil =>
      obtain ⟨fuel, rfl⟩ : ∃ f, fuel = f + 2 := ⟨fuel - 2, by simp at hf; omega⟩
      rw [List.nil_append, cl_step _ _ _ (by simp) (by rw [peek_ascii cStar _ hs80]; intro ⟨_, h⟩; exact absurd h (by decide)),
        peek_ascii cStar _ hs80]
      simp only [List.drop_succ_cons, List.drop_zero]
      rw [show decide (cStar.toNat = 0x2A) = true by decide, cl_end _ _ (by simp) (by rw [peek_ascii cSlash _ hl80]; decide),
        peek_ascii cSlash _ hl80]
      rfl
    | cons b t =>
      obtain ⟨fuel, rfl⟩ : ∃ f, fuel = f + 1 := ⟨fuel - 1, by omega⟩
      simp only [List.length_cons] at hf
      have hbody : hasStarSlash (b :: (t ++ [cStar])) = false := by
        cases star with
        | true => simp only [if_true, List.cons_append, List.nil_append] at hok; exact hasStarSlash_tail _ _ hok
        | false => simpa using hok
      obtain ⟨w1, w2, w3, w4, w5⟩ := rune_in b t (cStar :: cSlash :: rest) hstop
      have hno : ¬ (star = true ∧ (peek (b :: (t ++ cStar :: cSlash :: rest))).1 = 0x2F) := by
        rintro ⟨rfl, h2⟩
        rcases w5 with ⟨e, _⟩ | ⟨h, _⟩
        · rw [e] at h2
          simp only [if_true, List.cons_append, List.nil_append] at hok
          rw [hasStarSlash_cons2] at hok
          simp only [Bool.or_eq_false_iff, Bool.and_eq_false_iff, decide_eq_false_iff_not] at hok
          rcases hok.1 with h | h
          · exact h (by decide)
          · exact h h2
        · omega
      -- a `*` is a single byte; the bytes of any other rune hold no `*/`
      have hok' : hasStarSlash ((if decide ((peek (b :: (t ++ cStar :: cSlash :: rest))).1 = 0x2A) = true then [cStar] else []) ++
          t.drop ((peek (b :: (t ++ cStar :: cSlash :: rest))).2 - 1) ++ [cStar]) = false := by
        by_cases hst : (peek (b :: (t ++ cStar :: cSlash :: rest))).1 = 0x2A
        · rcases w5 with ⟨e, h80⟩ | ⟨h, _⟩
          · rw [peek_ascii b _ h80] at hst ⊢
            obtain rfl : b = cStar := UInt8.toNat_inj.mp hst
            simpa [show cStar.toNat = 0x2A from rfl] using hbody
          · omega
        · simp only [hst, decide_false, Bool.false_eq_true, if_false, List.nil_append]
          exact HighPrefix.drop (P := fun l => hasStarSlash (l ++ [cStar]) = false)
            (fun b t _ h => hasStarSlash_tail b _ h) _ _ w4 w2 (hasStarSlash_tail b _ hbody)
      rw [List.cons_append, cl_step _ _ _ (by simp) hno, w3,
        ih _ (by simp only [List.length_drop, List.length_cons]; omega) _ rfl _ hok' fuel
          (by simp only [List.length_drop]; omega)]
      simp only [Option.map_some, List.length_drop, List.length_cons]
      congr 1; omega

end GaeaVerif.LexC17
