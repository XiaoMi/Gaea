import GaeaVerif.Model.IPAllow
import GaeaVerif.Lemmas.SplitOn
/-
  The two text cutters of `Model/IPAllow.lean` are the generic ones of
  `Lemmas/SplitOn.lean`: `splitOn` is `Split.split`, `cutSlash` is `Split.cut` at `/`.
-/
namespace GaeaVerif.IPAllow
open GaeaVerif

theorem splitOn_eq (sep : UInt8) (s : Bytes) : splitOn sep s = Split.split sep s := by
  induction s with
  | nil => rfl
  | cons c cs ih =>
    rw [splitOn, Split.split, ih]
    cases h : Split.split sep cs with
    | nil => exact absurd h (Split.split_ne_nil sep cs)
    | cons p ps => rfl

theorem cutSlash_eq (s : Bytes) : cutSlash s = Split.cut 0x2f s := by
  induction s with
  | nil => rfl
  | cons c cs ih => rw [cutSlash, Split.cut, ih]; cases Split.cut 0x2f cs <;> rfl

end GaeaVerif.IPAllow
