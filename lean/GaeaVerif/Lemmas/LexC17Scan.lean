import GaeaVerif.Lemmas.LexC17Steps
/-
  Helper lemmas for C17: `scan` on the outermost scanner alone, token by token
  over an item sequence, and the loop of `SplitStatementToPieces` over it.
-/
namespace GaeaVerif.LexC17
open GaeaVerif

/-- The outermost scanner with unread input `r` at offset `o`, no error so far. -/
def fr (r : Bytes) (o : Nat) : Frame :=
  { rest := r, off := o, base := 0, hint := false, ended := false, errs := false }

/-- The end of the text has no case of its own: it is the token `plainStep []`. -/
theorem scan_single (fuel : Nat) (r : Bytes) (o : Nat) :
    scan (fuel + 1) [fr r o] =
      (let ws := incAsLongAs isSpace r
       let r' := r.drop ws
       let o' := o + ws
       match plainStep r' with
       | .tok t n => ⟨t, o', [fr (r'.drop n) (o' + n)]⟩
       | .skip n => scan fuel [fr (r'.drop n) (o' + n)]
       | .unclosed => ⟨.eof, o', [{ fr [] (o' + r'.length) with errs := true }]⟩
       | .special true n inner begin =>
         ⟨.other, o', [{ rest := inner, off := 0, base := o' + begin, hint := true, ended := false, errs := false },
                       fr (r'.drop n) (o' + n)]⟩
       | .special false n inner begin =>
         scan fuel [{ rest := inner, off := 0, base := o' + begin, hint := false, ended := false, errs := false },
                    fr (r'.drop n) (o' + n)]
       | .panic => ⟨.panic, 0, []⟩) := by
  simp only [scan_cons, endOf, fr, sumBases, List.map, List.sum_cons, List.sum_nil, Nat.add_zero]
  generalize List.drop (incAsLongAs isSpace r) r = r'
  cases r' with
  | nil => rfl
  | cons b t =>
    simp only
    cases plainStep (b :: t) with
    | tok t n => cases t <;> rfl
    | skip n => rfl
    | unclosed => rfl
    | special hint n inner begin => cases hint <;> rfl
    | panic => rfl

theorem scan_tok (fuel : Nat) (r : Bytes) (o : Nat) (hs : incAsLongAs isSpace r = 0) (tk : Tok) (n : Nat)
    (hp : plainStep r = .tok tk n) : scan (fuel + 1) [fr r o] = ⟨tk, o, [fr (r.drop n) (o + n)]⟩ := by
  rw [scan_single, hs]
  simp only [List.drop_zero, Nat.add_zero, hp]

theorem scan_skip (fuel : Nat) (r : Bytes) (o : Nat) (hs : incAsLongAs isSpace r = 0) (n : Nat)
    (hp : plainStep r = .skip n) : scan (fuel + 1) [fr r o] = scan fuel [fr (r.drop n) (o + n)] := by
  rw [scan_single, hs]
  simp only [List.drop_zero, Nat.add_zero, hp]

theorem scan_ws (fuel : Nat) (bs r : Bytes) (o : Nat) (hbs : ∀ b ∈ bs, isWsB b = true) :
    scan (fuel + 1) [fr (bs ++ r) o] = scan (fuel + 1) [fr r (o + bs.length)] := by
  rw [scan_single, scan_single, incAsLongAs_ascii_run isSpace bs r (fun b hb => isWsB_space b (hbs b hb))]
  simp only [← List.drop_drop, List.drop_left, Nat.add_assoc]

/-- A `-- ` or `#` comment `it`: the dispatch skips it up to its newline (`pre`), the next one reads the newline as white space. -/
theorem scan_line (fuel : Nat) (it : Item) (pre more : Bytes) (nl : Bool) (o : Nat) (hr : it.render = pre ++ nlOf nl)
    (hs : incAsLongAs isSpace (it.render ++ more) = 0) (hp : plainStep (it.render ++ more) = .skip pre.length) :
    scan (fuel + 2) [fr (it.render ++ more) o] = scan (fuel + 1) [fr more (o + it.render.length)] := by
  rw [scan_skip _ _ o hs _ hp, hr, List.append_assoc, List.drop_left,
    scan_ws fuel (nlOf nl) more _ (by cases nl <;> simp [nlOf, isWsB]), List.length_append, Nat.add_assoc]

def Item.isTrivia : Item → Bool
  | .ws _ | .cblock _ | .cdash _ _ | .chash _ _ => true
  | _ => false

def Item.isX : Item → Bool
  | .xcomment _ => true
  | _ => false

/-- Items without `/*! */` and `/*+ */` comments. -/
def noX (items : List Item) : Bool := items.all (fun it => !it.isX)

/-- What `scan` returns on the rendering of an item sequence. -/
structure Next where
  tok : Tok          -- class of the first token after the leading white space and comments
  off : Nat          -- its offset
  rest : List Item   -- the items after it
  after : Nat        -- the offset at which they start

def nextTok : List Item → Nat → Next
  | [], o => ⟨.eof, o, [], o⟩
  | it :: rest, o =>
    if it.isTrivia then nextTok rest (o + it.render.length)
    else if it = .semi then ⟨.semi, o, rest, o + 1⟩
    else ⟨.other, o, rest, o + it.render.length⟩

theorem render_cons (it : Item) (rest : List Item) : render (it :: rest) = it.render ++ render rest := by
  simp [render]

theorem isSpace_printable (r : Nat) (h1 : 0x21 ≤ r) (h2 : r < 0x80) : isSpace r = false := by
  simp only [isSpace, Bool.or_eq_false_iff, Bool.and_eq_false_iff, decide_eq_false_iff_not]
  omega

theorem Item.render_head (it : Item) (hok : it.ok = true) :
    ∃ b t, it.render = b :: t ∧ b.toNat < 0x80 ∧ ((∃ bs, it = .ws bs) ∨ 0x21 ≤ b.toNat) := by
  cases it with
  | ws bs =>
    cases bs with
    | nil => simp [Item.ok] at hok
    | cons b t =>
      simp only [Item.ok, Bool.and_eq_true, List.all_eq_true] at hok
      exact ⟨b, t, rfl, (isWsB_space b (hok.2 b (by simp))).1, Or.inl ⟨_, rfl⟩⟩
  | semi => exact ⟨0x3B, [], rfl, by decide, Or.inr (by decide)⟩
  | word bs =>
    cases bs with
    | nil => simp [Item.ok] at hok
    | cons b t =>
      simp only [Item.ok, isWordStartB, isLetter, Bool.and_eq_true, Bool.or_eq_true, decide_eq_true_eq] at hok
      exact ⟨b, t, rfl, by omega, Or.inr (by omega)⟩
  | num bs =>
    cases bs with
    | nil => simp [Item.ok] at hok
    | cons b t =>
      simp only [Item.ok, List.all_cons, isDigitB, isDigit, Bool.and_eq_true, decide_eq_true_eq] at hok
      exact ⟨b, t, rfl, by omega, Or.inr (by omega)⟩
  | sym c =>
    simp only [Item.ok, isSymB, Bool.or_eq_true, decide_eq_true_eq] at hok
    exact ⟨c, [], rfl, by omega, Or.inr (by omega)⟩
  | str q body =>
    simp only [Item.ok, Bool.and_eq_true, Bool.or_eq_true, decide_eq_true_eq] at hok
    exact ⟨q, _, rfl, by omega, Or.inr (by omega)⟩
  | bq body => exact ⟨0x60, _, rfl, by decide, Or.inr (by decide)⟩
  | cblock body => exact ⟨0x2F, _, rfl, by decide, Or.inr (by decide)⟩
  | cdash body nl => exact ⟨0x2D, _, rfl, by decide, Or.inr (by decide)⟩
  | chash body nl => exact ⟨0x23, _, rfl, by decide, Or.inr (by decide)⟩
  | xcomment body => exact ⟨0x2F, _, rfl, by decide, Or.inr (by decide)⟩

theorem item_noSkip (it : Item) (hok : it.ok = true) (hws : ∀ bs, it ≠ .ws bs) (more : Bytes) :
    incAsLongAs isSpace (it.render ++ more) = 0 := by
  obtain ⟨b, t, e, h80, hb⟩ := it.render_head hok
  rcases hb with ⟨bs, rfl⟩ | hb
  · exact absurd rfl (hws bs)
  · rw [e]
    exact incAsLongAs_stop isSpace _ (by rw [List.cons_append, peek_ascii b _ h80]; exact isSpace_printable _ hb h80)

theorem scan_items : ∀ (items : List Item) (o fuel : Nat), Safe items = true → noX items = true →
    items.length + 1 ≤ fuel →
    scan fuel [fr (render items) o] =
      ⟨(nextTok items o).tok, (nextTok items o).off, [fr (render (nextTok items o).rest) (nextTok items o).after]⟩ := by
  intro items
  induction items with
  | nil =>
    intro o fuel _ _ hf
    obtain ⟨fuel, rfl⟩ : ∃ f, fuel = f + 1 := ⟨fuel - 1, by simp at hf; omega⟩
    exact scan_tok fuel [] o (incAsLongAs_nil _) .eof 0 rfl
  | cons it rest ih =>
    intro o fuel hsafe hnox hf
    simp only [List.length_cons] at hf
    obtain ⟨fuel, rfl⟩ : ∃ f, fuel = f + 1 := ⟨fuel - 1, by omega⟩
    simp only [Safe, Bool.and_eq_true] at hsafe
    obtain ⟨⟨hok, hsb⟩, hrest⟩ := hsafe
    simp only [noX, List.all_cons, Bool.and_eq_true] at hnox
    have hnox' : noX rest = true := hnox.2
    have hns := item_noSkip it hok
    rw [render_cons]
    cases it with
    | ws bs =>
      simp only [Item.ok, Bool.and_eq_true, List.all_eq_true] at hok
      simp only [nextTok, Item.isTrivia, if_true, Item.render]
      rw [scan_ws fuel bs (render rest) o hok.2]
      exact ih (o + bs.length) (fuel + 1) hrest hnox' (by omega)
    | cblock body =>
      simp only [nextTok, Item.isTrivia, if_true]
      rw [scan_skip fuel _ o (hns nofun _) _ (plainStep_cblock body _ hok), List.drop_left]
      exact ih _ fuel hrest hnox' (by omega)
    | cdash body nl =>
      obtain ⟨fuel, rfl⟩ : ∃ f, fuel = f + 1 := ⟨fuel - 1, by omega⟩
      simp only [nextTok, Item.isTrivia, if_true]
      rw [scan_line fuel _ (0x2D :: 0x2D :: body) _ nl o rfl (hns nofun _)
        (plainStep_cdash body _ nl hok (by simpa [Item.dashOK] using hsb))]
      exact ih _ (fuel + 1) hrest hnox' (by omega)
    | chash body nl =>
      obtain ⟨fuel, rfl⟩ : ∃ f, fuel = f + 1 := ⟨fuel - 1, by omega⟩
      simp only [nextTok, Item.isTrivia, if_true]
      rw [scan_line fuel _ (0x23 :: body) _ nl o rfl (hns nofun _)
        (plainStep_chash body _ nl hok (by simpa [Item.dashOK] using hsb))]
      exact ih _ (fuel + 1) hrest hnox' (by omega)
    | xcomment body => simp [Item.isX] at hnox
    | semi =>
      rw [scan_tok fuel _ o (hns nofun _) _ _ (plainStep_semi _)]
      simp [nextTok, Item.isTrivia, Item.render]
    | _ =>
      rw [scan_tok fuel _ o (hns nofun _) _ _ (plainStep_token _ _ hok rfl hsb), List.drop_left]
      simp [nextTok, Item.isTrivia]

theorem splitLoop_congr (blob : Bytes) (fuel : Nat) (fs fs' : List Frame) (sb : Nat) (e : Bool) (ps : List Bytes)
    (h : scan (scanFuel fs) fs = scan (scanFuel fs') fs') :
    splitLoop blob fuel fs sb e ps = splitLoop blob fuel fs' sb e ps := by
  cases fuel with
  | zero => rfl
  | succ n => simp only [splitLoop, h]

theorem slice_mid (pre cur r : Bytes) : slice (pre ++ cur ++ r) pre.length (pre.length + cur.length) = some cur := by
  simp only [slice, List.length_append]
  rw [if_pos ⟨by omega, by omega⟩]
  simp [List.append_assoc]

theorem render_length_ge : ∀ items : List Item, Safe items = true → items.length ≤ (render items).length := by
  intro items
  induction items with
  | nil => intro _; simp
  | cons it rest ih =>
    intro h
    simp only [Safe, Bool.and_eq_true] at h
    have := ih h.2
    obtain ⟨b, t, e, _⟩ := it.render_head h.1.1
    rw [render_cons, e]
    simp only [List.length_cons, List.length_append]
    omega

theorem scan_items_scanFuel (items : List Item) (o : Nat) (hs : Safe items = true) (hx : noX items = true) :
    scan (scanFuel [fr (render items) o]) [fr (render items) o] =
      ⟨(nextTok items o).tok, (nextTok items o).off, [fr (render (nextTok items o).rest) (nextTok items o).after]⟩ :=
  scan_items items o _ hs hx (by
    have := render_length_ge items hs
    simp only [scanFuel, fr, List.map, List.sum_cons, List.sum_nil]; omega)

theorem specLoop_cons (it : Item) (rest : List Item) (cur : Bytes) (empty : Bool) (pieces : List Bytes) (h : it ≠ .semi) :
    specLoop (it :: rest) cur empty pieces = specLoop rest (cur ++ it.render) (empty && !it.isToken) pieces := by
  cases it <;> first | rfl | exact absurd rfl h

theorem specLoop_no_semi : ∀ (items : List Item) (cur : Bytes) (empty : Bool) (pieces : List Bytes),
    items.all (· ≠ .semi) = true →
    specLoop items cur empty pieces =
      (if (empty && !items.any Item.isToken) || cur ++ render items = [] then pieces
       else pieces ++ [cur ++ render items]) := by
  intro items
  induction items with
  | nil => intro cur empty pieces _; simp [specLoop, render]
  | cons it rest ih =>
    intro cur empty pieces h
    simp only [List.all_cons, Bool.and_eq_true, decide_eq_true_eq] at h
    rw [specLoop_cons it rest cur empty pieces h.1, ih _ _ _ h.2, render_cons]
    simp only [List.any_cons, List.append_assoc, Bool.not_or, Bool.and_assoc]

theorem Item.kinds (it : Item) :
    (it.isTrivia = true ∧ it.isToken = false ∧ it ≠ .semi) ∨ it = .semi ∨
      (it.isTrivia = false ∧ it.isToken = true ∧ it ≠ .semi) ∨ it.isX = true := by
  cases it <;> simp [Item.isTrivia, Item.isToken, Item.isX]

theorem splitLoop_items : ∀ (items : List Item) (pre cur : Bytes) (empty : Bool) (pieces : List Bytes) (fuel : Nat),
    Safe items = true → noX items = true → items.length + 1 ≤ fuel →
    splitLoop (pre ++ cur ++ render items) fuel [fr (render items) (pre.length + cur.length)] pre.length empty pieces
      = .ok (specLoop items cur empty pieces) false := by
  intro items
  induction items with
  | nil =>
    intro pre cur empty pieces fuel _ _ hf
    obtain ⟨fuel, rfl⟩ : ∃ f, fuel = f + 1 := ⟨fuel - 1, by simp at hf; omega⟩
    simp only [render, List.map_nil, List.flatten_nil, List.append_nil, splitLoop, List.length_append]
    cases cur with
    | nil => simp [specLoop]
    | cons c t =>
      have hs := scan_items_scanFuel [] (pre.length + (c :: t).length) rfl rfl
      simp only [render, List.map_nil, List.flatten_nil, nextTok] at hs
      rw [if_pos (by simp), hs]
      simp only [List.getLast?_singleton, fr]
      rw [if_pos (by simp only [List.length_cons]; omega)]
      have := slice_mid pre (c :: t) []
      simp only [List.append_nil] at this
      rw [this]
      simp [specLoop]
  | cons it rest ih =>
    intro pre cur empty pieces fuel hsafe hnox hf
    simp only [List.length_cons] at hf
    obtain ⟨fuel, rfl⟩ : ∃ f, fuel = f + 1 := ⟨fuel - 1, by omega⟩
    have hrest : Safe rest = true := by simp only [Safe, Bool.and_eq_true] at hsafe; exact hsafe.2
    have hnox' := hnox
    simp only [noX, List.all_cons, Bool.and_eq_true, Bool.not_eq_true'] at hnox'
    have hsc := scan_items_scanFuel (it :: rest) (pre.length + cur.length) hsafe hnox
    have e : pre ++ cur ++ render (it :: rest) = pre ++ (cur ++ it.render) ++ render rest := by
      rw [render_cons]; simp only [List.append_assoc]
    have hguard : pre.length < (pre ++ cur ++ render (it :: rest)).length := by
      have := render_length_ge (it :: rest) hsafe
      simp only [List.length_append, List.length_cons] at this ⊢; omega
    rcases it.kinds with ⟨htriv, htok, hne⟩ | rfl | ⟨htriv, htok, hne⟩ | hx
    · -- white space or a comment: the same scan result as without it
      rw [splitLoop_congr _ _ _ [fr (render rest) (pre.length + (cur ++ it.render).length)] _ _ _ (by
        rw [hsc, scan_items_scanFuel rest _ hrest hnox'.2]
        simp only [nextTok, htriv, if_true, List.length_append, Nat.add_assoc])]
      rw [e, ih pre (cur ++ it.render) empty pieces (fuel + 1) hrest hnox'.2 (by omega), specLoop_cons _ _ _ _ _ hne, htok]
      simp
    · simp only [nextTok, Item.isTrivia, Bool.false_eq_true, if_false, if_true] at hsc
      simp only [splitLoop]
      rw [if_pos hguard, hsc]
      simp only [List.length_singleton, Nat.lt_irrefl, if_false, slice_mid pre cur _]
      have e' : pre ++ cur ++ render (Item.semi :: rest) = (pre ++ cur ++ [0x3B]) ++ [] ++ render rest := by
        rw [render_cons]; simp [Item.render, List.append_assoc]
      have := ih (pre ++ cur ++ [0x3B]) [] true (if empty = true then pieces else pieces ++ [cur]) fuel hrest hnox'.2 (by omega)
      simp only [List.length_append, List.length_singleton, List.length_nil, Nat.add_zero] at this
      rw [e', this]
      rfl
    · simp only [nextTok, htriv, Bool.false_eq_true, if_false, hne] at hsc
      simp only [splitLoop]
      rw [if_pos hguard, hsc]
      simp only
      have := ih pre (cur ++ it.render) false pieces fuel hrest hnox'.2 (by omega)
      simp only [List.length_append, ← Nat.add_assoc] at this
      rw [e, this, specLoop_cons _ _ _ _ _ hne, htok]
      simp
    · rw [hnox'.1] at hx; exact absurd hx (by simp)

end GaeaVerif.LexC17
