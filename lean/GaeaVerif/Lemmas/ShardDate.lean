import GaeaVerif.Lemmas.ShardStr
import GaeaVerif.Model.ShardPlace
/-
  Digit-string lemmas for the date rules (shard.go) and the `date_range`
  parsers (numkey.go): zero-padded fields, their concatenation read back by
  Atoi, their bytewise order.  The fields of a date are `Digits` (Lemmas/ShardStr.lean),
  put together with `Digits.append` and read back with `Digits.parseInt64` /
  `Digits.atoiDigits`.
  `Field w s n` adds the width: `s` has exactly `w` bytes, which is what slicing,
  the length tests of the parsers and the bytewise order (`Field.strLt`) ask for.
-/
namespace GaeaVerif.ShardLemmas
open GaeaVerif.ShardGo GaeaVerif.ShardPlace

theorem digitsVal_lt (s : List Nat) (h : ∀ b ∈ s, isDigit b = true) : digitsVal s 0 < 10 ^ s.length :=
  digitsVal_zero s ▸ Dec.val_lt fun c hc => by have := (isDigit_iff c).mp (h c hc); omega

theorem strLt_digits (x y : List Nat) (hl : x.length = y.length) (hx : ∀ b ∈ x, isDigit b = true)
    (hy : ∀ b ∈ y, isDigit b = true) : strLt x y = decide (digitsVal x 0 < digitsVal y 0) := by
  rw [digitsVal_zero, digitsVal_zero]
  exact Dec.lex_digits (key := id) (L := strLt) rfl (fun _ _ _ _ => rfl) x y hl (fun c hc => (isDigit_iff c).mp (hx c hc))
    fun c hc => (isDigit_iff c).mp (hy c hc)

/-! ### zero-padded fields -/

theorem fmtNat_length_le (n w : Nat) (h : n < 10 ^ w) (hw : 1 ≤ w) : (fmtNat n).length ≤ w := by
  rw [fmtNat_eq, MycatSpec.natToString, List.length_map]; exact Dec.length_toDigits_le hw h

theorem fmtNat_length_gt (w n : Nat) (h : 10 ^ w ≤ n) : w < (fmtNat n).length := by
  rw [fmtNat_eq, MycatSpec.natToString, List.length_map]; exact Dec.lt_length_toDigits h

theorem zeroPad_length (w n : Nat) (h : n < 10 ^ w) (hw : 1 ≤ w) : (zeroPad w n).length = w := by
  unfold zeroPad
  have := fmtNat_length_le n w h hw
  simp; omega

theorem zeroPad_length_ge (w n : Nat) : w ≤ (zeroPad w n).length := by
  unfold zeroPad; simp; omega

theorem zeroPad_length_gt (w n : Nat) (h : 10 ^ w ≤ n) : w < (zeroPad w n).length := by
  unfold zeroPad
  have := fmtNat_length_gt w n h
  simp; omega

theorem zeroPad_val (w n : Nat) : digitsVal (zeroPad w n) 0 = n := by
  rw [zeroPad, digitsVal_zero, Dec.val_replicate_append (d := (· - 48)) (z := 48) rfl, ← digitsVal_zero,
    digitsVal_fmtNat]

theorem atoiDigits_nondigit (s : List Nat) (h : ∃ b ∈ s, isDigit b = false) : atoiDigits s = none := by
  unfold atoiDigits
  obtain ⟨b, hb, hnd⟩ := h
  have : ¬ (s.all isDigit = true) := by
    rw [List.all_eq_true]; intro hall; rw [hall b hb] at hnd; cases hnd
  rw [if_neg this]

/-! ### digit strings padded, put together, read by `atoiDigits` -/

theorem Digits.zeroPad (w n : Nat) : Digits (zeroPad w n) n where
  ne := by unfold ShardGo.zeroPad; simp [fmtNat_ne_nil]
  digit b hb := by
    unfold ShardGo.zeroPad at hb
    simp only [List.mem_append, List.mem_replicate] at hb
    rcases hb with ⟨_, h⟩ | h
    · subst h; decide
    · exact fmtNat_digits n b h
  val := zeroPad_val w n

theorem Digits.append {a b : GoStr} {x y : Nat} (ha : Digits a x) (hb : Digits b y) :
    Digits (a ++ b) (x * 10 ^ b.length + y) where
  ne := by simp [ha.ne]
  digit c hc := (List.mem_append.mp hc).elim (ha.digit c) (hb.digit c)
  val := by rw [digitsVal_zero, Dec.val_append, ← digitsVal_zero, ← digitsVal_zero, ha.val, hb.val]

theorem Digits.no_minus {s : GoStr} {n : Nat} (h : Digits s n) : ∀ b ∈ s, b ≠ 45 := by
  intro b hb e; subst e; exact absurd (h.digit 45 hb) (by decide)

theorem Digits.atoiDigits {s : GoStr} {n : Nat} (h : Digits s n) (hn : n < 2 ^ 63) :
    atoiDigits s = some (n : Int) := by
  unfold ShardPlace.atoiDigits
  rw [if_pos (List.all_eq_true.mpr h.digit)]
  exact h.parseInt64 hn

/-! ### fields of a fixed width -/

/-- `s` is the `w`-digit spelling of `n`: what `YYYY`, `MM`, `YYYYMM`, `YYYYMMDD` are. -/
structure Field (w : Nat) (s : GoStr) (n : Nat) : Prop extends Digits s n where
  len : s.length = w

theorem Field.zeroPad {w n : Nat} (h : n < 10 ^ w) (hw : 1 ≤ w) : Field w (zeroPad w n) n :=
  ⟨Digits.zeroPad w n, zeroPad_length w n h hw⟩

theorem Field.append {w₁ w₂ : Nat} {a b : GoStr} {x y : Nat} (ha : Field w₁ a x) (hb : Field w₂ b y) :
    Field (w₁ + w₂) (a ++ b) (x * 10 ^ w₂ + y) :=
  ⟨hb.len ▸ ha.toDigits.append hb.toDigits, by rw [List.length_append, ha.len, hb.len]⟩

theorem Field.strLt {w : Nat} {a b : GoStr} {x y : Nat} (ha : Field w a x) (hb : Field w b y) :
    strLt a b = decide (x < y) := by
  rw [strLt_digits a b (ha.len.trans hb.len.symm) ha.digit hb.digit, ha.val, hb.val]

theorem Field.take {w : Nat} {a : GoStr} {x : Nat} (ha : Field w a x) (r : GoStr) : (a ++ r).take w = a :=
  List.take_left' ha.len

theorem Field.drop {w : Nat} {a : GoStr} {x : Nat} (ha : Field w a x) (r : GoStr) : (a ++ r).drop w = r :=
  List.drop_left' ha.len

theorem Field.lt {w : Nat} {s : GoStr} {n : Nat} (h : Field w s n) : n < 10 ^ w :=
  h.val ▸ h.len ▸ digitsVal_lt s h.digit

/-- Eighteen digits stay below `2^63`. -/
theorem Field.parseInt64 {w : Nat} {s : GoStr} {n : Nat} (h : Field w s n) (hw : w ≤ 18) :
    parseInt64 s = some (n : Int) :=
  h.toDigits.parseInt64 (Nat.lt_of_lt_of_le h.lt
    (Nat.le_trans (Nat.pow_le_pow_right (by decide) hw) (by decide)))

end GaeaVerif.ShardLemmas
