import GaeaVerif.Model.ShardGo
import GaeaVerif.Model.ShardPlace
import GaeaVerif.Spec.Mycat
import GaeaVerif.Lemmas.Decimal
import GaeaVerif.Lemmas.SplitOn
/-
  Lemmas about the Go-string layer of the placement model (Model/ShardGo.lean)
  and its counterpart in the Java reference (Spec/Mycat.lean): decimal
  formatting and parsing (`Digits s n`: `s` is a non-empty run of ASCII digits
  spelling `n`; every parser reads such a run back), cutting at a separator, UTF-8 decoding of well-formed
  text, UTF-16 encoding; lists of naturals as Go ints and their sums (`ints`, `total`).
-/
namespace GaeaVerif.ShardLemmas
open GaeaVerif.ShardGo

/-! ### integers -/

theorem wrap64_id (x : Int) (h : -2 ^ 63 ≤ x ∧ x < 2 ^ 63) : wrap64 x = x := by
  unfold wrap64; omega

/-! ### decimal formatting -/

theorem fmtNatAux_eq (fuel n : Nat) (acc : GoStr) (h : n < fuel) :
    fmtNatAux fuel n acc = (Nat.toDigits 10 n).map Char.toNat ++ acc := by
  induction fuel generalizing n acc with
  | zero => omega
  | succ fuel ih =>
    rw [fmtNatAux, Dec.toDigits_eq]
    by_cases hn : n < 10
    · rw [if_pos hn, if_pos hn, List.map_singleton, Nat.toNat_digitChar_of_lt_ten hn]; rfl
    · rw [if_neg hn, if_neg hn, ih _ _ (by omega), List.map_append, List.map_singleton,
        Nat.toNat_digitChar_of_lt_ten (Nat.mod_lt n (by decide)), List.append_assoc]; rfl

theorem fmtNat_eq (n : Nat) : fmtNat n = MycatSpec.natToString n :=
  (fmtNatAux_eq _ _ _ (Nat.lt_succ_self n)).trans (List.append_nil _)

theorem fmtInt_eq (v : Int) : fmtInt v = MycatSpec.intToString v := by
  unfold fmtInt MycatSpec.intToString
  split
  · rw [fmtNat_eq]; congr 2; omega
  · rw [fmtNat_eq]; congr 1; omega

theorem isDigit_iff (b : Nat) : isDigit b = true ↔ 48 ≤ b ∧ b ≤ 57 := by
  simp [isDigit]

theorem fmtNat_digits (n : Nat) : ∀ b ∈ fmtNat n, isDigit b = true := by
  intro b hb
  rw [fmtNat_eq] at hb
  obtain ⟨k, hk, rfl⟩ := Dec.mem_map_toDigits hb
  rw [Nat.toNat_digitChar_of_lt_ten hk, isDigit_iff]; omega

theorem fmtNat_ne_nil (n : Nat) : fmtNat n ≠ [] := by
  rw [fmtNat_eq]; exact fun h => Nat.toDigits_ne_nil (List.map_eq_nil_iff.mp h)

theorem fmtInt_ne_nil (v : Int) : fmtInt v ≠ [] := by
  unfold fmtInt
  split
  · exact List.cons_ne_nil _ _
  · exact fmtNat_ne_nil _

theorem fmtInt_range (v : Int) : ∀ b ∈ fmtInt v, 45 ≤ b ∧ b ≤ 57 := by
  have hd : ∀ n, ∀ b ∈ fmtNat n, 45 ≤ b ∧ b ≤ 57 := fun n b hb => by
    have := (isDigit_iff b).mp (fmtNat_digits n b hb)
    omega
  intro b hb
  unfold fmtInt at hb
  split at hb
  · rcases List.mem_cons.mp hb with rfl | h
    · decide
    · exact hd _ b h
  · exact hd _ b hb

theorem digitsVal_eq (s : List Nat) (acc : Nat) :
    digitsVal s acc = acc * 10 ^ s.length + Dec.val (· - 48) s := by
  rw [← Dec.foldl_eq]
  induction s generalizing acc with
  | nil => rfl
  | cons b bs ih => exact ih _

theorem digitsVal_zero (s : List Nat) : digitsVal s 0 = Dec.val (· - 48) s := by
  rw [digitsVal_eq, Nat.zero_mul, Nat.zero_add]

theorem digitsVal_fmtNat (n : Nat) : digitsVal (fmtNat n) 0 = n := by
  rw [digitsVal_zero, fmtNat_eq]
  exact Dec.val_map_toDigits (fun k hk => by rw [Nat.toNat_digitChar_of_lt_ten hk, Nat.add_sub_cancel_left]) n

/-! ### digit strings with their value -/

/-- `s` is a non-empty run of ASCII digits spelling `n`. -/
structure Digits (s : GoStr) (n : Nat) : Prop where
  ne : s ≠ []
  digit : ∀ b ∈ s, isDigit b = true
  val : digitsVal s 0 = n

theorem Digits.fmtNat (n : Nat) : Digits (fmtNat n) n := ⟨fmtNat_ne_nil n, fmtNat_digits n, digitsVal_fmtNat n⟩

theorem Digits.parseUDec {s : GoStr} {n : Nat} (h : Digits s n) : ShardGo.parseUDec s = some n := by
  unfold ShardGo.parseUDec; rw [if_pos ⟨h.ne, List.all_eq_true.mpr h.digit⟩, h.val]

/-- a run of digits has no sign for `SetString` to strip -/
theorem Digits.parseBigDec {s : GoStr} {n : Nat} (h : Digits s n) : ShardGo.parseBigDec s = some (n : Int) := by
  unfold ShardGo.parseBigDec
  split
  · exact absurd (h.digit 43 List.mem_cons_self) (by decide)
  · exact absurd (h.digit 45 List.mem_cons_self) (by decide)
  · rw [h.parseUDec]; rfl

theorem Digits.parseInt64_eq_ite {s : GoStr} {n : Nat} (h : Digits s n) :
    ShardGo.parseInt64 s = if n < 2 ^ 63 then some (n : Int) else none := by
  unfold ShardGo.parseInt64; rw [h.parseBigDec]
  by_cases hn : n < 2 ^ 63
  · exact (if_pos ⟨by omega, by omega⟩).trans (if_pos hn).symm
  · exact (if_neg fun h => hn (by omega)).trans (if_neg hn).symm

theorem Digits.parseInt64 {s : GoStr} {n : Nat} (h : Digits s n) (hn : n < 2 ^ 63) :
    ShardGo.parseInt64 s = some (n : Int) := h.parseInt64_eq_ite.trans (if_pos hn)

theorem parseUDec_fmtNat (n : Nat) : parseUDec (fmtNat n) = some n := (Digits.fmtNat n).parseUDec

theorem parseBigDec_fmtNat (v : Nat) : parseBigDec (fmtNat v) = some (v : Int) := (Digits.fmtNat v).parseBigDec

theorem parseBigDec_fmtInt (v : Int) : parseBigDec (fmtInt v) = some v := by
  unfold fmtInt
  split
  · rw [parseBigDec, parseUDec_fmtNat]
    exact congrArg some (show -(((-v).toNat : Nat) : Int) = v by omega)
  · rw [parseBigDec_fmtNat]; exact congrArg some (by omega)

theorem fmtInt_natCast (v : Nat) : fmtInt (v : Int) = fmtNat v := by
  unfold fmtInt
  rw [if_neg (Int.not_lt.mpr (Int.natCast_nonneg v)), Int.toNat_natCast]

theorem parseInt64_fmtInt (v : Int) (h : -2 ^ 63 ≤ v ∧ v < 2 ^ 63) : parseInt64 (fmtInt v) = some v := by
  unfold parseInt64; rw [parseBigDec_fmtInt]; simp; omega

/-! ### parsers of the model and of the reference agree -/

/-- `Dec.foldl_option_eq` in the vocabulary of ShardGo; `F` has the shape of the reference parsers. -/
theorem foldl_digitStep_eq (F : Option Nat → Nat → Option Nat) (hn : ∀ b, F none b = none)
    (hs : ∀ a b, F (some a) b = if isDigit b then some (a * 10 + (b - 48)) else none) (s : List Nat) (a : Nat) :
    s.foldl F (some a) = if s.all isDigit then some (digitsVal s a) else none := by
  rw [digitsVal_eq]; exact Dec.foldl_option_eq hn hs s a

theorem magnitude_fold (s : List Nat) (a : Nat) :
    s.foldl MycatSpec.magStep (some a) = if s.all isDigit then some (digitsVal s a) else none :=
  foldl_digitStep_eq _ (fun _ => rfl) (fun a b => by
    unfold MycatSpec.magStep MycatSpec.digitOf
    by_cases h : 48 ≤ b ∧ b ≤ 57
    · rw [if_pos h, if_pos ((isDigit_iff b).mpr h)]
    · rw [if_neg h, if_neg (mt (isDigit_iff b).mp h)]) s a

theorem magnitude_eq (s : List Nat) : MycatSpec.magnitude s = parseUDec s := by
  unfold parseUDec
  cases s with
  | nil => simp [MycatSpec.magnitude]
  | cons u us => simp only [MycatSpec.magnitude]; rw [magnitude_fold]; simp

/-- `new BigInteger(s)` and `big.Int.SetString(s, 10)`. -/
theorem bigInteger_eq (s : List Nat) : MycatSpec.bigInteger s = parseBigDec s := by
  unfold MycatSpec.bigInteger parseBigDec
  split <;> split <;> simp_all [magnitude_eq]

/-- `Long.parseLong` and `strconv.ParseInt(s, 10, 64)`. -/
theorem parseLong_eq (s : List Nat) : MycatSpec.parseLong s = parseInt64 s := by
  unfold MycatSpec.parseLong parseInt64; rw [bigInteger_eq]
  cases parseBigDec s <;> simp

/-! ### trimming -/

theorem dropWhile_none {α : Type} (p : α → Bool) (l : List α) (h : ∀ b ∈ l, p b = false) : l.dropWhile p = l := by
  cases l with
  | nil => rfl
  | cons a as => exact List.dropWhile_cons_of_neg (by rw [h a List.mem_cons_self]; decide)

theorem trimBy_id {α : Type} (p : α → Bool) (l : List α) (h : ∀ b ∈ l, p b = false) :
    ((l.dropWhile p).reverse.dropWhile p).reverse = l := by
  rw [dropWhile_none p l h, dropWhile_none p l.reverse fun b hb => h b (List.mem_reverse.mp hb),
    List.reverse_reverse]

theorem trimSpace_id (s : GoStr) (h : ∀ b ∈ s, isAsciiSpace b = false) : trimSpace s = s :=
  trimBy_id _ s h

/-! ### cutting at a separator -/

theorem splitOn_eq (sep : Nat) (s : GoStr) : splitOn sep s = Split.split sep s := by
  induction s with
  | nil => rfl
  | cons c cs ih => rw [splitOn, Split.split, ih]; cases Split.split sep cs <;> rfl

theorem cutAt_eq (sep : Nat) (s : GoStr) : cutAt sep s = Split.cut sep s := by
  induction s with
  | nil => rfl
  | cons c cs ih => rw [cutAt, Split.cut, ih]

/-- `slice.indexOf(':')` of the reference is `strings.Cut` at a colon. -/
theorem cutColon_eq (s : List Nat) : MycatSpec.cutColon s = Split.cut 58 s := by
  induction s with
  | nil => rfl
  | cons c cs ih => rw [MycatSpec.cutColon, Split.cut, ih]

/-! ### UTF-8 decoding of well-formed text, UTF-16 encoding -/

/-- The second byte of a three-byte sequence: any continuation byte, except that `E0` wants
    `A0…` (no overlong forms) and `ED` wants `…9F` (no surrogates). -/
theorem ok3_of (b0 b1 : Nat) (h0 : 0xE0 ≤ b0 ∧ b0 ≤ 0xEF) (h1 : 0x80 ≤ b1 ∧ b1 ≤ 0xBF)
    (hE0 : b0 = 0xE0 → 0xA0 ≤ b1) (hED : b0 = 0xED → b1 ≤ 0x9F) : ok3 b0 b1 = true := by
  unfold ok3
  by_cases e0 : b0 = 0xE0
  · rw [if_pos e0]; simp [hE0 e0, h1.2]
  · rw [if_neg e0]
    by_cases ed : b0 = 0xED
    · rw [if_pos ed]; simp [hED ed, h1.1]
    · rw [if_neg ed]; simp [isCont, h1.1, h1.2, h0.2]; omega

theorem ok3_false (b0 b1 : Nat) (h0 : 0xF0 ≤ b0) : ok3 b0 b1 = false := by
  unfold ok3
  rw [if_neg (by omega), if_neg (by omega)]; simp; omega

/-- The second byte of a four-byte sequence: `F0` wants `90…` (no overlong forms), `F4` wants
    `…8F` (nothing above U+10FFFF). -/
theorem ok4_of (b0 b1 : Nat) (h0 : 0xF0 ≤ b0 ∧ b0 ≤ 0xF4) (h1 : 0x80 ≤ b1 ∧ b1 ≤ 0xBF)
    (hF0 : b0 = 0xF0 → 0x90 ≤ b1) (hF4 : b0 = 0xF4 → b1 ≤ 0x8F) : ok4 b0 b1 = true := by
  unfold ok4
  by_cases e0 : b0 = 0xF0
  · rw [if_pos e0]; simp [hF0 e0, h1.2]
  · rw [if_neg e0]
    by_cases e4 : b0 = 0xF4
    · rw [if_pos e4]; simp [hF4 e4, h1.1]
    · rw [if_neg e4]; simp [isCont, h1.1, h1.2]; omega

/-! `decodeRune` on the bytes that spell a number in base 64 (`x₀` the lowest digit): one, two,
    three, four bytes, each under the conditions that make the sequence well formed. -/

theorem decodeRune_one (b0 : Nat) (rest : GoStr) (h : b0 < 0x80) : decodeRune (b0 :: rest) = (b0, 1) := by
  simp only [decodeRune, if_pos h]

theorem decodeRune_two (x1 x0 : Nat) (rest : GoStr) (h1 : 2 ≤ x1 ∧ x1 < 32) (h0 : x0 < 64) :
    decodeRune ((0xC0 + x1) :: (0x80 + x0) :: rest) = (x1 * 64 + x0, 2) := by
  simp only [decodeRune]
  rw [if_neg (by omega), if_pos (by simp [isCont]; omega), Nat.add_sub_cancel_left, Nat.add_sub_cancel_left]

theorem decodeRune_three (x2 x1 x0 : Nat) (rest : GoStr) (h2 : x2 < 16) (h1 : x1 < 64) (h0 : x0 < 64)
    (hlow : x2 = 0 → 32 ≤ x1) (hsur : x2 = 13 → x1 < 32) :
    decodeRune ((0xE0 + x2) :: (0x80 + x1) :: (0x80 + x0) :: rest) = (x2 * 4096 + x1 * 64 + x0, 3) := by
  have hok := ok3_of (0xE0 + x2) (0x80 + x1) (by omega) (by omega) (by omega) (by omega)
  simp only [decodeRune]
  rw [if_neg (by omega), if_neg (by simp; omega), if_pos (by simp [hok, isCont]; omega),
    Nat.add_sub_cancel_left, Nat.add_sub_cancel_left, Nat.add_sub_cancel_left]

theorem decodeRune_four (x3 x2 x1 x0 : Nat) (rest : GoStr) (h3 : x3 ≤ 4) (h2 : x2 < 64) (h1 : x1 < 64)
    (h0 : x0 < 64) (hlow : x3 = 0 → 16 ≤ x2) (hmax : x3 = 4 → x2 < 16) :
    decodeRune ((0xF0 + x3) :: (0x80 + x2) :: (0x80 + x1) :: (0x80 + x0) :: rest) =
      (x3 * 262144 + x2 * 4096 + x1 * 64 + x0, 4) := by
  have hok := ok4_of (0xF0 + x3) (0x80 + x2) (by omega) (by omega) (by omega) (by omega)
  have hno := ok3_false (0xF0 + x3) (0x80 + x2) (by omega)
  simp only [decodeRune]
  rw [if_neg (by omega), if_neg (by simp; omega), if_neg (by simp [hno]),
    if_pos (by simp [hok, isCont]; omega), Nat.add_sub_cancel_left, Nat.add_sub_cancel_left,
    Nat.add_sub_cancel_left, Nat.add_sub_cancel_left]

theorem decodeRune_utf8 (c : Nat) (hc : isScalar c) (rest : GoStr) :
    decodeRune (utf8OfScalar c ++ rest) = (c, (utf8OfScalar c).length) := by
  unfold isScalar at hc
  unfold utf8OfScalar
  have hd0 : c % 64 < 64 := Nat.mod_lt _ (by decide)
  have hd1 : c / 64 % 64 < 64 := Nat.mod_lt _ (by decide)
  have hd2 : c / 4096 % 64 < 64 := Nat.mod_lt _ (by decide)
  -- in each case: name the base-64 digits of `c`, so that what is left to check is linear in them
  by_cases h1 : c < 0x80
  · rw [if_pos h1]; exact decodeRune_one c rest h1
  rw [if_neg h1]
  by_cases h2 : c < 0x800
  · rw [if_pos h2]
    have e : c = c / 64 * 64 + c % 64 := by omega
    generalize c / 64 = x1 at *
    generalize c % 64 = x0 at *
    subst e
    exact decodeRune_two x1 x0 rest (by omega) hd0
  rw [if_neg h2]
  by_cases h3 : c < 0x10000
  · rw [if_pos h3]
    have e : c = c / 4096 * 4096 + c / 64 % 64 * 64 + c % 64 := by omega
    generalize c / 4096 = x2 at *
    generalize c / 64 % 64 = x1 at *
    generalize c % 64 = x0 at *
    subst e
    exact decodeRune_three x2 x1 x0 rest (by omega) hd1 hd0 (by omega) (by omega)
  · rw [if_neg h3]
    have e : c = c / 262144 * 262144 + c / 4096 % 64 * 4096 + c / 64 % 64 * 64 + c % 64 := by omega
    generalize c / 262144 = x3 at *
    generalize c / 4096 % 64 = x2 at *
    generalize c / 64 % 64 = x1 at *
    generalize c % 64 = x0 at *
    subst e
    exact decodeRune_four x3 x2 x1 x0 rest (by omega) hd2 hd1 hd0 (by omega) (by omega)

theorem utf8OfScalar_length_pos (c : Nat) : 0 < (utf8OfScalar c).length := by
  unfold utf8OfScalar; split
  · simp
  · split
    · simp
    · split <;> simp

theorem goRunesAux_utf8 (cs : List Nat) (hcs : ∀ c ∈ cs, isScalar c) (fuel : Nat)
    (hf : (utf8 cs).length ≤ fuel) : goRunesAux fuel (utf8 cs) = cs := by
  induction cs generalizing fuel with
  | nil => cases fuel <;> simp [utf8, goRunesAux]
  | cons c cs ih =>
    have hc : isScalar c := hcs c (by simp)
    have hlen := utf8OfScalar_length_pos c
    have e : utf8 (c :: cs) = utf8OfScalar c ++ utf8 cs := by simp [utf8]
    rw [e] at hf ⊢
    simp only [List.length_append] at hf
    cases fuel with
    | zero => omega
    | succ f =>
      unfold goRunesAux
      match hm : utf8OfScalar c ++ utf8 cs with
      | [] =>
        have : (utf8OfScalar c ++ utf8 cs).length = 0 := by rw [hm]; rfl
        simp only [List.length_append] at this; omega
      | b :: r =>
        simp only
        rw [← hm, decodeRune_utf8 c hc]
        simp only [List.drop_left]
        rw [ih (fun c hc => hcs c (by simp [hc])) f (by omega)]

/-- **`[]rune` of well-formed UTF-8 is the text.** -/
theorem goRunes_utf8 (cs : List Nat) (hcs : ∀ c ∈ cs, isScalar c) : goRunes (utf8 cs) = cs :=
  goRunesAux_utf8 cs hcs _ (Nat.le_refl _)

theorem utf16OfRune_scalar (c : Nat) (hc : isScalar c) : utf16OfRune c = MycatSpec.charsOfScalar c := by
  unfold isScalar at hc
  unfold utf16OfRune MycatSpec.charsOfScalar
  by_cases h : c < 0x10000
  · have : c < 0xD800 ∨ (0xE000 ≤ c ∧ c < 0x10000) := by omega
    rw [if_pos this, if_pos h]
  · have h1 : ¬ (c < 0xD800 ∨ (0xE000 ≤ c ∧ c < 0x10000)) := by omega
    have h2 : 0x10000 ≤ c ∧ c ≤ 0x10FFFF := by omega
    have : (c - 0x10000) / 1024 % 1024 = (c - 0x10000) / 0x400 := by omega
    rw [if_neg h1, if_pos h2, if_neg h, this]

/-- **The code units the repaired Go code hashes are the `char`s of the Java String.** -/
theorem utf16Units_utf8 (cs : List Nat) (hcs : ∀ c ∈ cs, isScalar c) :
    utf16Units (utf8 cs) = MycatSpec.javaString cs := by
  unfold utf16Units
  rw [goRunes_utf8 cs hcs]
  unfold utf16Encode MycatSpec.javaString
  induction cs with
  | nil => rfl
  | cons c cs ih =>
    simp only [List.flatMap_cons]
    rw [utf16OfRune_scalar c (hcs c (by simp)), ih (fun c hc => hcs c (by simp [hc]))]

theorem flatMap_eq_self {α : Type} (f : α → List α) (l : List α) (h : ∀ b ∈ l, f b = [b]) : l.flatMap f = l := by
  induction l with
  | nil => rfl
  | cons b bs ih => rw [List.flatMap_cons, h b (by simp), ih fun c hc => h c (by simp [hc])]; rfl

theorem utf8_ascii (s : List Nat) (h : ∀ b ∈ s, b < 128) : utf8 s = s :=
  flatMap_eq_self _ s fun b hb => by simp [utf8OfScalar, h b hb]

theorem javaString_bmp (s : List Nat) (h : ∀ b ∈ s, b < 0x10000) : MycatSpec.javaString s = s :=
  flatMap_eq_self _ s fun b hb => by simp [MycatSpec.charsOfScalar, h b hb]

theorem utf16Units_ascii (s : List Nat) (h : ∀ b ∈ s, b < 128) : utf16Units s = s := by
  have := utf16Units_utf8 s (fun c hc => .inl (by have := h c hc; omega))
  rw [utf8_ascii s h, javaString_bmp s (fun b hb => by have := h b hb; omega)] at this
  exact this

/-! ### lists of naturals as Go ints, and their sums (`locations`, partition counts and lengths) -/

/-- A list of naturals as Go ints. -/
def ints (l : List Nat) : List Int := l.map fun (n : Nat) => (n : Int)

def total (l : List Nat) : Nat := l.foldl (· + ·) 0

theorem total_nil : total [] = 0 := rfl
theorem total_cons (a : Nat) (l : List Nat) : total (a :: l) = a + total l :=
  (congrArg (l.foldl (· + ·)) (Nat.add_comm 0 a)).trans List.foldl_assoc
theorem total_append (a b : List Nat) : total (a ++ b) = total a + total b := by
  induction a with
  | nil => simp [total_nil]
  | cons x xs ih => simp only [List.cons_append, total_cons, ih]; omega
theorem total_replicate (c l : Nat) : total (List.replicate c l) = c * l := by
  induction c with
  | zero => simp [total_nil]
  | succ c ih => rw [List.replicate_succ, total_cons, ih]; rw [Nat.succ_mul]; omega

theorem sumInts_map (l : List Nat) : ShardPlace.sumInts (ints l) = (total l : Int) := by
  suffices h : ∀ a : Nat, (ints l).foldl (· + ·) (a : Int) = ((l.foldl (· + ·) a : Nat) : Int) from h 0
  induction l with
  | nil => exact fun _ => rfl
  | cons b bs ih => exact fun a => ih (a + b)

end GaeaVerif.ShardLemmas
