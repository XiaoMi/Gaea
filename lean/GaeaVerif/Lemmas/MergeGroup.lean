import GaeaVerif.Lemmas.MergeRow
import GaeaVerif.Lemmas.MergeKey
import GaeaVerif.Lemmas.MergeTopK
/-
  C02 helper lemmas: the association list that models the Go map of
  `buildSelectGroupByResult`, the loop of that function: merging per-shard groups
  under an injective key encoding, and the groups of a table (`groupsOf` by class of
  statement, `groupRows`) as the pieces the sub-tables return.
-/
namespace GaeaVerif.Merge

/-! ### the association list -/

section Assoc
variable {κ : Type} [DecidableEq κ]

theorem mapLookup_map (mk : κ → List UInt8) (val : κ → Row) : ∀ (ks : List κ) (k : κ),
    (∀ k' ∈ ks, mk k' = mk k → k' = k) →
    mapLookup (mk k) (ks.map fun x => (mk x, val x)) = if k ∈ ks then some (val k) else none
  | [], _, _ => by simp [mapLookup]
  | x :: ks, k, hinj => by
    simp only [List.map_cons, mapLookup]
    by_cases e : mk k = mk x
    · have := hinj x (by simp) e.symm
      subst this
      simp
    · have hne : k ≠ x := fun h => e (h ▸ rfl)
      rw [if_neg e, mapLookup_map mk val ks k (fun k' hk' => hinj k' (by simp [hk']))]
      simp [hne]

theorem mapSet_map_mem (mk : κ → List UInt8) (val : κ → Row) (v : Row) : ∀ (ks : List κ) (k : κ),
    (∀ k' ∈ ks, mk k' = mk k → k' = k) → k ∈ ks → ks.Nodup →
    mapSet (mk k) v (ks.map fun x => (mk x, val x)) = ks.map fun x => (mk x, if x = k then v else val x)
  | [], _, _, h, _ => by simp at h
  | x :: ks, k, hinj, hmem, hnd => by
    simp only [List.map_cons, mapSet]
    rw [List.nodup_cons] at hnd
    by_cases e : mk k = mk x
    · have := hinj x (by simp) e.symm
      subst this
      simp only [if_true]
      congr 1
      apply List.map_congr_left
      intro y hy
      have : y ≠ x := fun h => hnd.1 (h ▸ hy)
      simp [this]
    · have hne : k ≠ x := fun h => e (h ▸ rfl)
      have hne' : ¬ x = k := fun h => hne h.symm
      rw [if_neg e]
      have hk : k ∈ ks := by
        rcases List.mem_cons.mp hmem with h | h
        · exact absurd h hne
        · exact h
      rw [mapSet_map_mem mk val v ks k (fun k' hk' => hinj k' (by simp [hk'])) hk hnd.2]
      simp [hne']

omit [DecidableEq κ] in
theorem mapSet_map_not_mem (mk : κ → List UInt8) (val : κ → Row) (v : Row) : ∀ (ks : List κ) (k : κ),
    (∀ k' ∈ ks, mk k' = mk k → k' = k) → k ∉ ks →
    mapSet (mk k) v (ks.map fun x => (mk x, val x)) = (ks.map fun x => (mk x, val x)) ++ [(mk k, v)]
  | [], _, _, _ => by simp [mapSet]
  | x :: ks, k, hinj, hmem => by
    simp only [List.map_cons, mapSet, List.cons_append]
    have hne : x ≠ k := fun h => hmem (by simp [h])
    have e : ¬ mk k = mk x := fun h => hne (hinj x (by simp) h.symm)
    rw [if_neg e, mapSet_map_not_mem mk val v ks k (fun k' hk' => hinj k' (by simp [hk']))
      (fun h => hmem (by simp [h]))]

end Assoc

/-! ### the loop of buildSelectGroupByResult -/

/-- the rows of the chunks with key `k`, in order -/
def chunkRows (kc : List Row → List Val) (done : List (List Row)) (k : List Val) : List Row :=
  (done.filter fun c => kc c = k).flatten

/-- the map after the chunks `done`: one entry per key in order of first
    occurrence, holding the row of all rows with that key -/
def chunkState (items : List Item) (kc : List Row → List Val) (done : List (List Row)) : List (List UInt8 × Row) :=
  (dedup (done.map kc)).map fun k => (generateMapKey k, fullRow items (chunkRows kc done k))

theorem chunkRows_snoc (kc : List Row → List Val) (done : List (List Row)) (c : List Row) (k : List Val) :
    chunkRows kc (done ++ [c]) k = chunkRows kc done k ++ (if kc c = k then c else []) := by
  simp only [chunkRows, List.filter_append, List.flatten_append]
  by_cases h : kc c = k <;> simp [List.filter, h]

theorem chunkRows_ne_nil (kc : List Row → List Val) (done : List (List Row)) (k : List Val)
    (hne : ∀ c ∈ done, c ≠ []) (hk : k ∈ done.map kc) : chunkRows kc done k ≠ [] := by
  obtain ⟨c, hc, rfl⟩ := List.mem_map.mp hk
  intro h
  have : c ∈ done.filter fun c' => kc c' = kc c := by simp [hc]
  have hall := List.flatten_eq_nil_iff.mp h c this
  exact hne c hc hall

theorem chunkRows_typed {schema : List Ty} (kc : List Row → List Val) (done : List (List Row)) (k : List Val)
    (ht : ∀ c ∈ done, TypedRows schema c) : TypedRows schema (chunkRows kc done k) := by
  intro r hr
  simp only [chunkRows, List.mem_flatten, List.mem_filter] at hr
  obtain ⟨c, ⟨hc, _⟩, hrc⟩ := hr
  exact ht c hc r hrc

theorem chunkState_snoc_not_mem (items : List Item) (kc : List Row → List Val) (done : List (List Row))
    (c : List Row) (h : kc c ∉ done.map kc) :
    chunkState items kc (done ++ [c]) = chunkState items kc done ++ [(generateMapKey (kc c), fullRow items c)] := by
  simp only [chunkState, List.map_append, List.map_cons, List.map_nil, dedup_append_singleton, h, if_false]
  congr 1
  · apply List.map_congr_left
    intro k hk
    have hk' : k ∈ done.map kc := (mem_dedup _ _).mp hk
    have : kc c ≠ k := fun e => h (e ▸ hk')
    simp [chunkRows_snoc, this]
  · have : chunkRows kc done (kc c) = [] := by
      simp only [chunkRows]
      apply List.flatten_eq_nil_iff.mpr
      intro l hl
      simp only [List.mem_filter, decide_eq_true_eq] at hl
      exact absurd (List.mem_map.mpr ⟨l, hl.1, hl.2⟩) h
    simp [chunkRows_snoc, this]

theorem chunkState_snoc_mem (items : List Item) (kc : List Row → List Val) (done : List (List Row))
    (c : List Row) (h : kc c ∈ done.map kc) :
    chunkState items kc (done ++ [c]) =
      (dedup (done.map kc)).map fun k => (generateMapKey k,
        if k = kc c then fullRow items (chunkRows kc done (kc c) ++ c) else fullRow items (chunkRows kc done k)) := by
  simp only [chunkState, List.map_append, List.map_cons, List.map_nil, dedup_append_singleton, h, if_true]
  apply List.map_congr_left
  intro k _
  by_cases e : k = kc c
  · subst e; simp [chunkRows_snoc]
  · have : ¬ kc c = k := fun h => e h.symm
    simp [chunkRows_snoc, e, this]

theorem keySliceOf_congr (cols : List Int) (d : Int) (v : Row) : keySliceOf cols d v = keySliceOf cols d v := rfl

/-- a chunk is a group a shard returns: a non-empty list of rows of one shard, all with the
    GROUP BY key `kc c`; the chunks come in any order -/
theorem groupLoop_chunks {schema : List Ty} (p : Plan) (d : Int) (items : List Item) (kc : List Row → List Val)
    (haggs : p.aggs = aggPositions items) (hok : ∀ it ∈ items, it.aggOK schema = true) :
    ∀ (todo done : List (List Row)),
    (∀ c ∈ done ++ todo, c ≠ [] ∧ TypedRows schema c ∧
      keySliceOf p.groupByColumn d (fullRow items c) = .ok (kc c)) →
    (∀ c ∈ done ++ todo, ∀ c' ∈ done ++ todo, generateMapKey (kc c) = generateMapKey (kc c') → kc c = kc c') →
    groupLoop p d (chunkState items kc done) (todo.map (fullRow items)) = .ok (chunkState items kc (done ++ todo))
  | [], done, _, _ => by simp [groupLoop]
  | c :: cs, done, hall, hinj => by
    have hc := hall c (by simp)
    -- every case below ends by showing that the map after `c` is `chunkState` of `done ++ [c]`
    have hstep : ∀ m, m = chunkState items kc (done ++ [c]) →
        groupLoop p d m (cs.map (fullRow items)) = .ok (chunkState items kc (done ++ c :: cs)) := by
      intro m hm
      subst hm
      have := groupLoop_chunks p d items kc haggs hok cs (done ++ [c])
        (fun x hx => hall x (by simpa using hx)) (fun x hx y hy => hinj x (by simpa using hx) y (by simpa using hy))
      simpa using this
    have hinj' : ∀ k' ∈ dedup (done.map kc), generateMapKey k' = generateMapKey (kc c) → k' = kc c := by
      intro k' hk' e
      obtain ⟨c', hc', rfl⟩ := List.mem_map.mp ((mem_dedup _ _).mp hk')
      exact hinj c' (by simp [hc']) c (by simp) e
    simp only [List.map_cons, groupLoop, hc.2.2]
    have hlook := mapLookup_map generateMapKey (fun k => fullRow items (chunkRows kc done k))
      (dedup (done.map kc)) (kc c) hinj'
    simp only [chunkState] at hlook ⊢
    rw [hlook]
    by_cases hmem : kc c ∈ done.map kc
    · have hmem' : kc c ∈ dedup (done.map kc) := (mem_dedup _ _).mpr hmem
      simp only [hmem', if_true]
      have hX : chunkRows kc done (kc c) ≠ [] :=
        chunkRows_ne_nil kc done (kc c) (fun x hx => (hall x (by simp [hx])).1) hmem
      have hXt : TypedRows schema (chunkRows kc done (kc c)) :=
        chunkRows_typed kc done (kc c) (fun x hx => (hall x (by simp [hx])).2.1)
      have hrow := row_homomorphism items (chunkRows kc done (kc c)) c hXt hc.2.1 (Or.inl hX) hok
      by_cases hempty : p.aggs.isEmpty = true
      · simp only [hempty, if_true]
        apply hstep
        rw [chunkState_snoc_mem items kc done c hmem]
        apply List.map_congr_left
        intro k _
        by_cases e : k = kc c
        · subst e
          simp only [if_true]
          have : aggPositions items = [] := by
            rw [← haggs]; exact List.isEmpty_iff.mp hempty
          rw [this] at hrow
          simp only [mergeAll] at hrow
          rw [R.ok.injEq] at hrow
          rw [hrow]
        · simp [e]
      · simp only [hempty, Bool.false_eq_true, if_false]
        rw [haggs, hrow]
        simp only
        apply hstep
        rw [chunkState_snoc_mem items kc done c hmem]
        exact mapSet_map_mem generateMapKey _ _ _ _ hinj' hmem' (nodup_dedup _)
    · have hmem' : kc c ∉ dedup (done.map kc) := fun h => hmem ((mem_dedup _ _).mp h)
      simp only [hmem', if_false]
      apply hstep
      rw [chunkState_snoc_not_mem items kc done c hmem]
      exact mapSet_map_not_mem generateMapKey _ _ _ _ hinj' hmem'

theorem groupLoop_spec {schema : List Ty} (p : Plan) (d : Int) (items : List Item) (kc : List Row → List Val)
    (haggs : p.aggs = aggPositions items) (hok : ∀ it ∈ items, it.aggOK schema = true)
    (chunks : List (List Row))
    (hall : ∀ c ∈ chunks, c ≠ [] ∧ TypedRows schema c ∧ keySliceOf p.groupByColumn d (fullRow items c) = .ok (kc c))
    (hinj : ∀ c ∈ chunks, ∀ c' ∈ chunks, generateMapKey (kc c) = generateMapKey (kc c') → kc c = kc c') :
    groupLoop p d [] (chunks.map (fullRow items)) =
      .ok ((dedup (chunks.map kc)).map fun k => (generateMapKey k, fullRow items (chunkRows kc chunks k))) :=
  groupLoop_chunks p d items kc haggs hok chunks [] hall hinj

/-! ### the groups of a table -/

theorem not_aggregated {cq : CQ} (h : cq.aggregated = false) :
    cq.group = none ∧ ∀ it ∈ cq.items, it.isAgg = false := by
  simp only [CQ.aggregated, Bool.or_eq_false_iff, List.any_eq_false] at h
  exact ⟨by simpa using h.1.1, fun it hit => by simpa using h.1.2 it hit⟩

theorem groupsOf_plain {cq : CQ} (h : cq.aggregated = false) (T : List Row) : groupsOf cq T = T.map fun r => [r] := by
  simp [groupsOf, h]

theorem groupsOf_single {cq : CQ} (h : cq.aggregated = true) (hg : cq.group = none) (T : List Row) :
    groupsOf cq T = [T] := by
  simp [groupsOf, h, hg]

theorem groupsOf_group {cq : CQ} {g : List Nat} (hg : cq.group = some g) (T : List Row) :
    groupsOf cq T = groupRows g T := by
  simp [groupsOf, CQ.aggregated, hg]

/-- the GROUP BY key of a group a sub-table returns: that of its first row (`groupRows_key`) -/
def kcOf (g : List Nat) : List Row → List Val
  | [] => []
  | r :: _ => groupKey g r

theorem filter_key_head {g : List Nat} {T : List Row} {k : List Val} (hk : k ∈ T.map (groupKey g)) :
    ∃ r rs, (T.filter fun x => groupKey g x = k) = r :: rs ∧ groupKey g r = k := by
  obtain ⟨r0, hr0, rfl⟩ := List.mem_map.mp hk
  cases hf : T.filter (fun x => decide (groupKey g x = groupKey g r0)) with
  | nil => exact absurd (hf ▸ List.mem_filter.mpr ⟨hr0, by simp⟩) List.not_mem_nil
  | cons r rs =>
    have hr : r ∈ T.filter (fun x => decide (groupKey g x = groupKey g r0)) := hf ▸ List.mem_cons_self
    exact ⟨r, rs, rfl, of_decide_eq_true (List.mem_filter.mp hr).2⟩

theorem groupRows_mem {g : List Nat} {T c : List Row} (hc : c ∈ groupRows g T) :
    ∃ r rs, c = r :: rs ∧ r ∈ T ∧ c = T.filter fun x => groupKey g x = groupKey g r := by
  simp only [groupRows, List.mem_map] at hc
  obtain ⟨k, hk, rfl⟩ := hc
  obtain ⟨r, rs, hf, rfl⟩ := filter_key_head ((mem_dedup _ _).mp hk)
  exact ⟨r, rs, hf, (List.mem_filter.mp (hf ▸ List.mem_cons_self (a := r) (l := rs))).1, rfl⟩

theorem groupRows_key {g : List Nat} {T c : List Row} (hc : c ∈ groupRows g T) :
    ∀ x ∈ c, groupKey g x = kcOf g c := by
  obtain ⟨r, rs, rfl, _, hf⟩ := groupRows_mem hc
  intro x hx
  rw [hf] at hx
  exact of_decide_eq_true (List.mem_filter.mp hx).2

theorem kcOf_filter (g : List Nat) (T : List Row) (k : List Val) (hk : k ∈ T.map (groupKey g)) :
    kcOf g (T.filter fun r => groupKey g r = k) = k := by
  have hc : (T.filter fun r => groupKey g r = k) ∈ groupRows g T :=
    List.mem_map.mpr ⟨k, (mem_dedup _ _).mpr hk, rfl⟩
  obtain ⟨r, hr, rfl⟩ := List.mem_map.mp hk
  exact (groupRows_key hc r (List.mem_filter.mpr ⟨hr, by simp⟩)).symm

theorem groupRows_keys (g : List Nat) (T : List Row) : (groupRows g T).map (kcOf g) = dedup (T.map (groupKey g)) := by
  rw [groupRows, List.map_map]
  exact (List.map_congr_left fun k hk => kcOf_filter g T k ((mem_dedup _ _).mp hk)).trans (List.map_id' _)

theorem chunks_filter_flatten (g : List Nat) (T : List Row) (C : List (List Row)) (hC : C.Perm (groupRows g T))
    (k : List Val) : (C.filter fun c => kcOf g c = k).flatten = T.filter fun r => groupKey g r = k := by
  have hp := hC.filter (fun c => kcOf g c = k)
  have hcongr : (dedup (T.map (groupKey g))).filter
      ((fun c => decide (kcOf g c = k)) ∘ fun κ => T.filter fun r => decide (groupKey g r = κ))
      = (dedup (T.map (groupKey g))).filter (fun κ => κ = k) :=
    List.filter_congr fun κ hκ => by simp [kcOf_filter g T κ ((mem_dedup _ _).mp hκ)]
  rw [groupRows, List.filter_map, hcongr, List.filter_eq, (nodup_dedup _).count] at hp
  by_cases hk : k ∈ T.map (groupKey g)
  · rw [if_pos ((mem_dedup _ _).mpr hk)] at hp
    rw [List.perm_singleton.mp hp]
    simp
  · rw [if_neg (fun h => hk ((mem_dedup _ _).mp h))] at hp
    rw [List.perm_nil.mp hp]
    exact (List.filter_eq_nil_iff.mpr fun r hr he => hk (List.mem_map.mpr ⟨r, hr, of_decide_eq_true he⟩)).symm

theorem chunkRows_all (g : List Nat) (f : List Row → List (List Row)) (tables : List (List Row))
    (hf : ∀ t ∈ tables, (f t).Perm (groupRows g t)) (k : List Val) :
    chunkRows (kcOf g) (tables.map f).flatten k = tables.flatten.filter fun r => groupKey g r = k := by
  simp only [chunkRows, List.filter_flatten, List.flatten_flatten, List.map_map]
  exact congrArg List.flatten (List.map_congr_left fun t ht => chunks_filter_flatten g t (f t) (hf t ht) k)

theorem keys_all (g : List Nat) (f : List Row → List (List Row)) (tables : List (List Row))
    (hf : ∀ t ∈ tables, (f t).Perm (groupRows g t)) :
    (dedup ((tables.map f).flatten.map (kcOf g))).Perm (dedup (tables.flatten.map (groupKey g))) := by
  apply dedup_perm_of_mem_iff
  intro k
  rw [List.map_flatten, List.map_flatten, List.map_map]
  exact mem_flatten_map_congr fun t ht => by
    rw [Function.comp, ((hf t ht).map _).mem_iff, groupRows_keys, mem_dedup]

theorem chunkRows_head {g : List Nat} {chunks : List (List Row)} (hch : ∀ c ∈ chunks, ∃ T, c ∈ groupRows g T)
    {k : List Val} (hk : k ∈ chunks.map (kcOf g)) :
    ∃ r rs, chunkRows (kcOf g) chunks k = r :: rs ∧ groupKey g r = k := by
  have hne := chunkRows_ne_nil (kcOf g) chunks k (fun c hc => by
    obtain ⟨T, hcT⟩ := hch c hc
    obtain ⟨r, rs, rfl, _⟩ := groupRows_mem hcT
    exact List.cons_ne_nil _ _) hk
  cases hX : chunkRows (kcOf g) chunks k with
  | nil => exact absurd hX hne
  | cons r rs =>
    refine ⟨r, rs, rfl, ?_⟩
    obtain ⟨x, hxf, hrx⟩ := List.mem_flatten.mp (hX ▸ List.mem_cons_self (a := r) (l := rs))
    obtain ⟨hx, hkx⟩ := List.mem_filter.mp hxf
    obtain ⟨T, hxT⟩ := hch x hx
    rw [← of_decide_eq_true hkx]
    exact groupRows_key hxT r hrx

end GaeaVerif.Merge
