import GaeaVerif.Model.SessionVars
/-
  What the definitions of `Model/SessionVars.lean` do, one definition at a time:
  the lemmas the theorems of `Props/C20.lean` are proved from.
-/

namespace GaeaVerif.C20
open GaeaVerif GaeaVerif.SessVars

/-! ### association lists -/

section amap
variable {β : Type}

theorem get_cons (k' : String) (v : β) (m : AMap β) (k : String) :
    AMap.get ((k', v) :: m) k = (AMap.get m k).or (if k' = k then some v else none) := rfl

@[simp] theorem get_nil (k : String) : AMap.get ([] : AMap β) k = none := rfl

theorem get_append (a b : AMap β) (k : String) :
    AMap.get (a ++ b) k = (AMap.get b k).or (AMap.get a k) := by
  induction a with
  | nil => simp [AMap.get]
  | cons p a ih =>
    obtain ⟨k', v⟩ := p
    simp only [List.cons_append, get_cons, ih, Option.or_assoc]

theorem get_filter_key (m : AMap β) (f : String → Bool) (k : String) :
    AMap.get (m.filter (fun p => f p.1)) k = if f k then AMap.get m k else none := by
  induction m with
  | nil => simp [AMap.get]
  | cons p m ih =>
    obtain ⟨k', v⟩ := p
    by_cases hf : f k' = true <;> by_cases hk : f k = true
    · simp [hf, hk, get_cons, ih]
    · have : k' ≠ k := by intro e; subst e; exact hk hf
      simp [hf, hk, get_cons, ih, this]
    · have : k' ≠ k := by intro e; subst e; exact hf hk
      simp [hf, hk, get_cons, ih, this]
    · simp [hf, hk, ih]

theorem get_del (m : AMap β) (k k' : String) :
    AMap.get (AMap.del m k) k' = if k' = k then none else AMap.get m k' := by
  have := get_filter_key m (fun x => !(x == k)) k'
  by_cases h : k' = k <;> simpa [AMap.del, h] using this

theorem get_put (m : AMap β) (k k' : String) (v : β) :
    AMap.get (AMap.put m k v) k' = if k' = k then some v else AMap.get m k' := by
  by_cases h : k' = k
  · subst h; simp [AMap.put, get_append, AMap.get]
  · have h' : k ≠ k' := fun e => h e.symm
    simp [AMap.put, get_append, AMap.get, h, h', get_del]

theorem get_eq_none_iff (m : AMap β) (k : String) : AMap.get m k = none ↔ k ∉ AMap.keys m := by
  induction m with
  | nil => simp [AMap.keys, AMap.get]
  | cons p m ih =>
    obtain ⟨k', v⟩ := p
    simp only [AMap.keys, List.map_cons, List.mem_cons, not_or, get_cons] at *
    by_cases hk : k' = k
    · simp [hk]
    · have : ¬ k = k' := fun e => hk e.symm
      simp [hk, this, ih]

theorem mem_keys_iff (m : AMap β) (k : String) : k ∈ AMap.keys m ↔ AMap.get m k ≠ none := by
  rw [Ne, get_eq_none_iff, Decidable.not_not]

theorem has_iff (m : AMap β) (k : String) : AMap.has m k = true ↔ k ∈ AMap.keys m := by
  rw [mem_keys_iff, AMap.has, Option.isSome_iff_ne_none]

theorem mem_of_get (m : AMap β) (k : String) (v : β) (h : AMap.get m k = some v) : (k, v) ∈ m := by
  induction m with
  | nil => cases h
  | cons p m ih =>
    obtain ⟨k', v'⟩ := p
    rw [get_cons] at h
    cases hm : AMap.get m k with
    | some x => rw [hm] at h; exact List.mem_cons_of_mem _ (ih (hm.trans h))
    | none =>
      rw [hm, Option.none_or] at h
      split at h
      · rename_i hk; cases h; subst hk; exact List.mem_cons_self
      · cases h

theorem get_foldl {σ : Type} (π : σ → AMap β) (f : σ → String × β → σ)
    (hf : ∀ a p k, AMap.get (π (f a p)) k = if k = p.1 then some p.2 else AMap.get (π a) k)
    (l : AMap β) (a : σ) (k : String) :
    AMap.get (π (l.foldl f a)) k = (AMap.get l k).or (AMap.get (π a) k) := by
  induction l generalizing a with
  | nil => simp [AMap.get]
  | cons p l ih =>
    obtain ⟨k', v⟩ := p
    simp only [List.foldl_cons, ih, hf, get_cons, Option.or_assoc]
    by_cases h : k = k'
    · subst h; simp
    · have h' : ¬ k' = k := fun e => h e.symm
      simp [h, h']

theorem get_foldl_put (l u : AMap β) (k : String) :
    AMap.get (l.foldl (fun m p => AMap.put m p.1 p.2) u) k = (AMap.get l k).or (AMap.get u k) :=
  get_foldl id _ (fun a p k => get_put a p.1 k p.2) l u k

/-- A list rebuilt with keys `g k` and values computed from the new key alone (the resets of
    `setAssigns`): only membership of the key matters. -/
theorem get_map_ofKey {α : Type} (xs : AMap α) (g : String → String) (d : String → β) (k : String) :
    AMap.get (xs.map (fun p => (g p.1, d (g p.1)))) k = if k ∈ xs.map (fun p => g p.1) then some (d k) else none := by
  induction xs with
  | nil => simp
  | cons p xs ih =>
    simp only [List.map_cons, get_cons, ih, List.mem_cons]
    by_cases h1 : k ∈ xs.map (fun p => g p.1)
    · simp [h1]
    · by_cases h2 : g p.1 = k
      · subst h2; simp [h1]
      · have : ¬ k = g p.1 := fun e => h2 e.symm
        simp [h1, h2, this]

/-- A list rebuilt with keys `r k`, the values carried along (`wireVars`): when `k₀` is the only key
    of `l` that `r` sends to `k`, looking up `k` afterwards is looking up `k₀` before. -/
theorem get_map_rekey {α : Type} (l : AMap α) (r : String → String) (F : String → α → β) (k k₀ : String)
    (h : ∀ p ∈ l, r p.1 = k ↔ p.1 = k₀) :
    AMap.get (l.map fun p => (r p.1, F (r p.1) p.2)) k = (AMap.get l k₀).map (F k) := by
  induction l with
  | nil => rfl
  | cons p l ih =>
    obtain ⟨k', v⟩ := p
    have hp : r k' = k ↔ k' = k₀ := h (k', v) List.mem_cons_self
    rw [List.map_cons, get_cons, get_cons, ih fun p hp => h p (List.mem_cons_of_mem _ hp)]
    by_cases hk : k' = k₀
    · rw [if_pos hk, if_pos (hp.mpr hk), hp.mpr hk]; cases AMap.get l k₀ <;> rfl
    · rw [if_neg hk, if_neg (mt hp.mp hk)]; cases AMap.get l k₀ <;> rfl

end amap

/-! ### `SetEqualsWith` (its first loop, then the whole function); the acknowledged copy -/

theorem setEqualsStep_get (acc : AMap Val × Bool) (p : String × Val) (k : String) :
    AMap.get (SessionVariables.setEqualsStep acc p).1 k = if k = p.1 then some p.2 else AMap.get acc.1 k := by
  unfold SessionVariables.setEqualsStep
  split
  · rename_i v0 hv
    split
    · simp [get_put]
    · rename_i hne
      have : v0 = p.2 := by simpa using hne
      by_cases h : k = p.1
      · subst h; simp [hv, this]
      · simp [h]
  · simp [get_put]

theorem setEqualsStep_false (acc : AMap Val × Bool) (p : String × Val)
    (h : (SessionVariables.setEqualsStep acc p).2 = false) : SessionVariables.setEqualsStep acc p = acc := by
  -- the branches that store something raise the flag
  unfold SessionVariables.setEqualsStep at h ⊢
  split at h
  · split at h
    · cases h
    · rename_i hne; rw [if_neg hne]
  · cases h

theorem setEqualsLoop_get (l : AMap Val) (acc : AMap Val × Bool) (k : String) :
    AMap.get (l.foldl SessionVariables.setEqualsStep acc).1 k = (AMap.get l k).or (AMap.get acc.1 k) :=
  get_foldl (·.1) _ setEqualsStep_get l acc k

theorem setEqualsLoop_false (l : AMap Val) (acc : AMap Val × Bool)
    (h : (l.foldl SessionVariables.setEqualsStep acc).2 = false) :
    l.foldl SessionVariables.setEqualsStep acc = acc := by
  induction l generalizing acc with
  | nil => rfl
  | cons p l ih =>
    rw [List.foldl_cons] at h ⊢
    have hl := ih _ h
    rw [hl] at h ⊢
    exact setEqualsStep_false acc p h

/-- What `SetEqualsWith` guarantees: afterwards the variables are those of the
    destination; "unchanged" really means nothing was touched; and exactly the
    variables that disappeared were added to `unused`. -/
structure SEWSpec (s dst s' : SessionVariables) (ch : Bool) : Prop where
  vars : ∀ k, AMap.get s'.variables k = AMap.get dst.variables k
  same : ch = false → s' = s
  unused : ∀ k, k ∈ AMap.keys s'.unused ↔
    k ∈ AMap.keys s.unused ∨ (AMap.get s.variables k ≠ none ∧ AMap.get dst.variables k = none)

theorem setEqualsWith_spec (s dst : SessionVariables) :
    SEWSpec s dst (s.setEqualsWith dst).1 (s.setEqualsWith dst).2 := by
  unfold SessionVariables.setEqualsWith
  split
  · -- the connection holds nothing: copy everything
    rename_i h
    have hs : s.variables = [] := List.isEmpty_iff.mp (Bool.and_eq_true_iff.mp h).1
    refine ⟨?_, by simp, ?_⟩
    · intro k; simp [get_foldl_put, hs]
    · intro k; simp [hs]
  · split
    · -- the client holds nothing: everything becomes unused
      rename_i h
      have hd : dst.variables = [] := List.isEmpty_iff.mp (Bool.and_eq_true_iff.mp h).2
      refine ⟨?_, by simp, ?_⟩
      · intro k; simp [hd]
      · intro k
        simp only [mem_keys_iff, get_foldl_put, hd, get_nil]
        cases h1 : AMap.get s.variables k <;> cases h2 : AMap.get s.unused k <;> simp
    · refine ⟨?_, ?_, ?_⟩
      · intro k
        have := get_filter_key (List.foldl SessionVariables.setEqualsStep (s.variables, false) dst.variables).1
          (fun x => AMap.has dst.variables x) k
        simp only [this, setEqualsLoop_get]
        unfold AMap.has
        cases hd : AMap.get dst.variables k <;> simp
      · intro hch
        simp only [Bool.or_eq_false_iff, Bool.not_eq_eq_eq_not, Bool.not_false, List.isEmpty_iff] at hch
        obtain ⟨h1, h2⟩ := hch
        have g2 := setEqualsLoop_false _ _ h1
        rw [g2] at h2 ⊢
        have hall : ∀ p ∈ s.variables, AMap.has dst.variables p.1 = true := by
          intro p hp
          have := List.filter_eq_nil_iff.mp h2 p hp
          simpa using this
        have hk : s.variables.filter (fun p => AMap.has dst.variables p.1) = s.variables :=
          List.filter_eq_self.mpr hall
        simp [h2, hk]
      · intro k
        have hg := get_filter_key (List.foldl SessionVariables.setEqualsStep (s.variables, false) dst.variables).1
          (fun x => !(AMap.has dst.variables x)) k
        simp only [mem_keys_iff, get_foldl_put, hg, setEqualsLoop_get]
        unfold AMap.has
        cases hd : AMap.get dst.variables k <;> cases h1 : AMap.get s.variables k <;>
          cases h2 : AMap.get s.unused k <;> simp

theorem set_acked (vm : VerifyMap) (s s' : SessionVariables) (key : String) (v : Val)
    (h : s.set vm key v = .ok s') : s'.ackedVariables = s.ackedVariables := by
  simp only [SessionVariables.set] at h
  split at h
  · cases h
    simp [SessionVariables.ackedVariables, SessionVariables.keepAcknowledged]
  · cases h
  · cases h

theorem delete_acked (s : SessionVariables) (key : String) : (s.delete key).ackedVariables = s.ackedVariables := by
  simp [SessionVariables.delete, SessionVariables.ackedVariables, SessionVariables.keepAcknowledged]

theorem restore_variables (s : SessionVariables) : s.restoreAcknowledged.variables = s.ackedVariables := by
  unfold SessionVariables.restoreAcknowledged SessionVariables.ackedVariables
  cases s.acked <;> rfl

theorem restore_acked (s : SessionVariables) : s.restoreAcknowledged.ackedVariables = s.ackedVariables := by
  unfold SessionVariables.restoreAcknowledged SessionVariables.ackedVariables
  cases h : s.acked <;> simp [h]

/-! ### expressions; the backend applying one assignment -/

theorem evalExpr_sessionFree (g v v' : AMap String) (e : Expr) (h : e.sessionFree = true) :
    evalExpr g v e = evalExpr g v' e := by
  induction e with
  | int i | str s | null | gvar n => rfl
  | uvar n | svar ex n => simp [Expr.sessionFree] at h
  | cat a b iha ihb | add a b iha ihb =>
    simp only [Expr.sessionFree, Bool.and_eq_true] at h
    simp only [evalExpr, iha h.1, ihb h.2]

/-- A value text that mentions no user variable and no session system variable
    evaluates to the same value in every session (of one server). -/
theorem evalText_sessionFree (g v v' : AMap String) (t : String) (h : sessionFreeB t = true) :
    evalText g v t = evalText g v' t := by
  unfold sessionFreeB at h
  unfold evalText
  cases hp : parseText t with
  | none => rfl
  | some e =>
    rw [hp] at h
    simp only at h ⊢
    rw [evalExpr_sessionFree g v v' e h]

theorem applyItem_assign_get (b : Backend) (k' txt k : String) :
    AMap.get (b.applyItem (.assign k' txt)).vars k =
      if k = k' then (if isReset k' (evalText b.globals b.vars txt) then none else some (evalText b.globals b.vars txt))
      else AMap.get b.vars k := by
  unfold Backend.applyItem
  by_cases h : isReset k' (evalText b.globals b.vars txt) = true
  · simp only [h, ↓reduceIte, get_del]
  · simp [h, get_put]

@[simp] theorem applyItem_assign_charset (b : Backend) (k' txt : String) :
    (b.applyItem (.assign k' txt)).charset = b.charset ∧ (b.applyItem (.assign k' txt)).collation = b.collation ∧
    (b.applyItem (.assign k' txt)).globals = b.globals := by
  unfold Backend.applyItem
  by_cases h : isReset k' (evalText b.globals b.vars txt) = true <;> simp [h]

/-! ### backend names: `wireKey`, `sentVars`, `wireVars`, `setAssigns` -/

@[simp] theorem wireKey_false (k : String) : wireKey false k = k := by simp [wireKey]

theorem wireKey_true_of_ne (k : String) (h : k ≠ "tx_read_only") : wireKey true k = k := by
  simp [wireKey, h]

theorem wireKey_true_tx : wireKey true "tx_read_only" = "transaction_read_only" := by decide +kernel

theorem wireKey_idem (v : Bool) (k : String) : wireKey v (wireKey v k) = wireKey v k := by
  unfold wireKey
  by_cases h : (k == "tx_read_only" && v) = true
  · simp only [h, ↓reduceIte]
    have : ("transaction_read_only" == "tx_read_only") = false := by decide +kernel
    simp [this]
  · simp [h]

theorem sentVars_false (m : AMap Val) : sentVars false m = m := by
  unfold sentVars
  apply List.filter_eq_self.mpr
  intro p _
  simp

theorem keys_wireVars (v : Bool) (m : AMap Val) :
    AMap.keys (wireVars v m) = (sentVars v m).map (fun p => wireKey v p.1) := by
  simp [AMap.keys, wireVars]

/-- The names a record is sent under are the backend names of its variables: a variable that is left
    out (`sentVars`) shares its backend name with one that is sent. -/
theorem mem_keys_wireVars (v : Bool) (m : AMap Val) (k : String) :
    k ∈ AMap.keys (wireVars v m) ↔ ∃ u ∈ AMap.keys m, wireKey v u = k := by
  rw [keys_wireVars]
  constructor
  · intro h
    obtain ⟨q, hq, hqk⟩ := List.mem_map.mp h
    exact ⟨q.1, List.mem_map_of_mem (List.mem_filter.mp hq).1, hqk⟩
  · rintro ⟨u, hu, rfl⟩
    obtain ⟨p, hp, hpu⟩ := List.mem_map.mp hu
    by_cases hf : (!(wireKey v p.1 != p.1 && AMap.has m (wireKey v p.1))) = true
    · exact List.mem_map.mpr ⟨p, List.mem_filter.mpr ⟨hp, hf⟩, by rw [hpu]⟩
    · -- left out: the record holds a variable of the backend name, and that one is sent
      have hf' : (wireKey v p.1 != p.1 && AMap.has m (wireKey v p.1)) = true := by simpa using hf
      simp only [Bool.and_eq_true] at hf'
      obtain ⟨_, hhas⟩ := hf'
      obtain ⟨q, hq, hqk⟩ := List.mem_map.mp ((has_iff m _).mp hhas)
      refine List.mem_map.mpr ⟨q, List.mem_filter.mpr ⟨hq, ?_⟩, ?_⟩
      · have : wireKey v q.1 = q.1 := by rw [hqk, wireKey_idem]
        simp [this]
      · rw [hqk, wireKey_idem, hpu]

/-- The assignments a record is sent as, when none of its variables is left out. -/
def wireMap (v : Bool) (m : AMap Val) : AMap String :=
  m.map (fun p => (wireKey v p.1, valueText (wireKey v p.1) p.2))

theorem wireVars_eq (v : Bool) (m : AMap Val) : wireVars v m = wireMap v (sentVars v m) := rfl

theorem get_wireVars_false (m : AMap Val) (k : String) :
    AMap.get (wireVars false m) k = (AMap.get m k).map (valueText k) := by
  rw [wireVars_eq, sentVars_false]
  exact get_map_rekey m _ _ k k fun p _ => by rw [wireKey_false]

/-- **The two spellings are sent deterministically.**  What a ≥ 8.0.3 backend
    is sent for a record depends on the record only as a map — not on the order
    in which the Go map is walked: `transaction_read_only` is assigned the value
    recorded under that name when there is one, otherwise the value recorded as
    `tx_read_only`; `tx_read_only` itself is never sent; every other variable is
    sent under its own name. -/
theorem get_wireVars_true (m : AMap Val) (k : String) :
    AMap.get (wireVars true m) k =
      if k = "transaction_read_only" then
        ((AMap.get m "transaction_read_only").or (AMap.get m "tx_read_only")).map (valueText "transaction_read_only")
      else if k = "tx_read_only" then none
      else (AMap.get m k).map (valueText k) := by
  have hne : ("tx_read_only" : String) ≠ "transaction_read_only" := by decide +kernel
  cases hb : AMap.get m "transaction_read_only" with
  | some x =>
    -- the record holds the backend's own name: the other spelling is left out, no name changes
    have hs : sentVars true m = AMap.del m "tx_read_only" := by
      unfold sentVars AMap.del
      apply List.filter_congr
      intro p _
      by_cases hp : p.1 = "tx_read_only"
      · simp [hp, wireKey_true_tx, AMap.has, hb]
      · simp [wireKey_true_of_ne _ hp, hp]
    rw [wireVars_eq, hs, wireMap, get_map_rekey _ _ _ k k, get_del]
    · by_cases hk : k = "transaction_read_only"
      · simp [hk, hb, hne.symm]
      · by_cases hk2 : k = "tx_read_only" <;> simp [hk, hk2]
    · intro p hp
      have hp1 : p.1 ≠ "tx_read_only" := by simpa [AMap.del] using (List.mem_filter.mp hp).2
      rw [wireKey_true_of_ne _ hp1]
  | none =>
    -- it does not: every variable is sent, `tx_read_only` under the backend's name
    have hs : sentVars true m = m := by
      unfold sentVars
      apply List.filter_eq_self.mpr
      intro p _
      by_cases hp : p.1 = "tx_read_only"
      · simp [hp, wireKey_true_tx, AMap.has, hb]
      · simp [wireKey_true_of_ne _ hp]
    have hnot : ∀ p ∈ m, p.1 ≠ "transaction_read_only" := fun p hp e =>
      (get_eq_none_iff m _).mp hb (e ▸ List.mem_map_of_mem hp)
    rw [wireVars_eq, hs, wireMap]
    by_cases hk : k = "transaction_read_only"
    · rw [if_pos hk, get_map_rekey _ _ _ k "tx_read_only", hk]; · simp
      intro p hp
      by_cases hp1 : p.1 = "tx_read_only"
      · simp [hp1, wireKey_true_tx, hk]
      · simp [wireKey_true_of_ne _ hp1, hp1, hk, hnot p hp]
    · rw [if_neg hk]
      by_cases hk2 : k = "tx_read_only"
      · rw [if_pos hk2, get_map_rekey _ _ _ k "transaction_read_only", hb]; · rfl
        intro p hp
        by_cases hp1 : p.1 = "tx_read_only"
        · simp [hp1, wireKey_true_tx, hk2, hne, hne.symm]
        · simp [wireKey_true_of_ne _ hp1, hp1, hk2, hnot p hp]
      · rw [if_neg hk2, get_map_rekey _ _ _ k k]
        intro p hp
        by_cases hp1 : p.1 = "tx_read_only"
        · simp [hp1, wireKey_true_tx, Ne.symm hk, Ne.symm hk2]
        · simp [wireKey_true_of_ne _ hp1]

/-- Two records that agree as maps are sent as the same assignments. -/
theorem wireVars_congr (v : Bool) (a b : AMap Val) (hab : ∀ k, AMap.get a k = AMap.get b k) (k : String) :
    AMap.get (wireVars v a) k = AMap.get (wireVars v b) k := by
  cases v with
  | false => rw [get_wireVars_false, get_wireVars_false, hab]
  | true => rw [get_wireVars_true, get_wireVars_true, hab, hab, hab]

theorem get_setAssigns (c : Conn) (unused : AMap Val) (k : String) :
    AMap.get (setAssigns c unused) k =
      if k ∈ AMap.keys (wireVars c.v803 c.sv.variables) then AMap.get (wireVars c.v803 c.sv.variables) k
      else if k ∈ (AMap.keys unused).map (wireKey c.v803) then some (defaultText k) else none := by
  unfold setAssigns
  rw [get_append, get_map_ofKey _ (wireKey c.v803) defaultText, ← keys_wireVars]
  by_cases hk : k ∈ AMap.keys (wireVars c.v803 c.sv.variables)
  · rw [if_pos hk, if_neg, Option.none_or]
    rintro h
    obtain ⟨p, hp, rfl⟩ := List.mem_map.mp h
    simpa [hk] using (List.mem_filter.mp hp).2
  · rw [if_neg hk, (get_eq_none_iff _ _).mpr hk, Option.or_none]
    congr 1
    simp only [List.mem_map, List.mem_filter, AMap.keys, eq_iff_iff]
    constructor
    · rintro ⟨p, ⟨hp, _⟩, rfl⟩; exact ⟨_, ⟨p, hp, rfl⟩, rfl⟩
    · rintro ⟨_, ⟨p, hp, rfl⟩, rfl⟩; exact ⟨p, ⟨hp, by simpa [AMap.keys] using hk⟩, rfl⟩

/-! ### `SetCharset`, `WriteSetStatement`, `InitRes` -/

/-- `strings.Trim(charset, "\"'`")`. -/
abbrev trimQ (s : String) : String := trimSet ['"', '\'', '`'] s

theorem setCharset_cases (t : Tables) (c : Conn) (cs : String) (coll : Nat) :
    setCharset t c cs coll = (c, none) ∨
    ∃ ch, setCharset t c cs coll =
        ({ c with charset := trimQ cs, collation := effectiveCollation t c.coll247 (trimQ cs) coll }, some ch) ∧
      if ch then (t.collationName (effectiveCollation t c.coll247 (trimQ cs) coll)).isSome = true
      else c.charset = trimQ cs ∧ c.collation = effectiveCollation t c.coll247 (trimQ cs) coll := by
  unfold setCharset trimQ
  dsimp only
  split
  · rename_i h
    simp only [Bool.and_eq_true, beq_iff_eq] at h
    refine .inr ⟨false, ?_, h⟩
    rw [← h.2, ← h.1]
  · split
    · exact .inl rfl
    · split
      · exact .inl rfl
      · rename_i h
        exact .inr ⟨true, rfl, Option.ne_none_iff_isSome.mp (by simpa using h)⟩

theorem write_accepted (t : Tables) (c : Conn) (b : Backend) (collName : String)
    (hcoll : t.collationName c.collation = some collName) :
    writeSetStatement t c b .none =
      ({ c with sv := { c.sv with unused := [] }, ackedCharset := c.charset, ackedCollation := c.collation,
                ackedVariables := { c.sv with unused := [] } },
        b.apply (setItems c collName c.sv.unused), .ok (setText c collName c.sv.unused)) := by
  simp only [writeSetStatement, hcoll, SessionVariables.getUnusedAndClear]

theorem write_rejected (t : Tables) (c : Conn) (b : Backend) (f : Fault) (collName : String)
    (hcoll : t.collationName c.collation = some collName) (hf : f ≠ .none) :
    writeSetStatement t c b f =
      (restoreAckedSession c, b, .rejected (setText c collName c.sv.unused) (f == .rejSqlMode)) := by
  unfold writeSetStatement
  rw [hcoll]
  cases f with
  | none => exact absurd rfl hf
  | rejSqlMode | rejOther => rfl

theorem InitRes.isOk_iff (r : InitRes) : r.isOk = true ↔ ∃ stmt, r = .ok stmt := by
  cases r <;> simp [InitRes.isOk]

end GaeaVerif.C20
