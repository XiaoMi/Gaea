import GaeaVerif.Model.HealthSpec
/-
  Lemmas shared by Props/C27 and Props/C28: how the spec's classification of the
  replication answer (`syncSpec`) relates to checkSlaveSyncStatus, and what one
  round of each kind does to the state, as explicit equations.
-/
namespace GaeaVerif.Health

theorem rawRunning_eq (v : RawVal) : rawRunning v = threadRunning v := by
  cases v <;> rfl

theorem threadStopped_not_running (v : RawVal) (h : threadStopped v = true) : threadRunning v = false := by
  cases v <;> simp_all [threadRunning, threadStopped]

theorem toUint64_of_range (i : Int) (h0 : 0 ≤ i) (h1 : i < 18446744073709551616) : ((toUint64 i : Nat) : Int) = i := by
  unfold toUint64
  omega

theorem checkSlaveSyncStatus_noconn (sbm : Int) (q : SlaveQ) : checkSlaveSyncStatus false sbm q = true := by
  unfold checkSlaveSyncStatus; split <;> simp

theorem rowSpec_good (sbm : Int) (lag io sql : RawVal) (h : rowSpec sbm lag io sql = .good) :
    (rawLag lag : Int) ≤ sbm ∧ threadRunning io = true ∧ threadRunning sql = true := by
  revert h
  fun_cases rowSpec sbm lag io sql <;> simp_all [rawLag] <;> omega

theorem rowSpec_bad (sbm : Int) (lag io sql : RawVal) (h : rowSpec sbm lag io sql = .bad) :
    (rawLag lag : Int) > sbm ∨ threadRunning io = false ∨ threadRunning sql = false := by
  revert h
  fun_cases rowSpec sbm lag io sql <;> simp_all [rawLag]
  -- left: a stopped thread
  rename_i h
  exact .inr (h.imp (threadStopped_not_running _) (threadStopped_not_running _))

theorem syncSpec_good_alive (sbm : Int) (q : SlaveQ) (hs : sbm < 9223372036854775808)
    (h : syncSpec sbm q = .good) : checkSlaveSyncStatus true sbm q = true := by
  revert h
  unfold checkSlaveSyncStatus
  fun_cases syncSpec sbm q <;> simp_all [getSlaveStatus]
  -- left: a row; `uint64(secondsBehindMaster)` is `sbm` itself for a Go `int` that is not negative
  intro h
  obtain ⟨a, b, c⟩ := rowSpec_good _ _ _ _ h
  have hu := toUint64_of_range sbm (by omega) (by omega)
  exact ⟨by omega, by rwa [rawRunning_eq], by rwa [rawRunning_eq]⟩

theorem syncSpec_bad_dead (sbm : Int) (q : SlaveQ) (hs : sbm < 9223372036854775808)
    (h : syncSpec sbm q = .bad) : checkSlaveSyncStatus true sbm q = false := by
  revert h
  unfold checkSlaveSyncStatus
  fun_cases syncSpec sbm q <;> simp_all [getSlaveStatus]
  intro h hl hio
  have hu := toUint64_of_range sbm (by omega) (by omega)
  rcases rowSpec_bad _ _ _ _ h with a | b | c
  · omega
  · rw [rawRunning_eq, b] at hio; cases hio
  · rw [rawRunning_eq, c]

/-- The time of the node's last successful probe after a round at `now`. -/
def lastOkAfter (ok : Bool) (now : Int) (n : Node) : Int := if ok then now else n.lastChecked

theorem probeNode_eq (c : Cfg) (now : Int) (n : Node) (p : Probe) :
    probeNode c now n p = ({ n with lastChecked := lastOkAfter (probeOk c p) now n }, probeOk c p) := by
  unfold probeNode lastOkAfter probeOk
  split <;> simp [*]

theorem master_round (c : Cfg) (s : St) (now : Int) (p : Probe) :
    checkBackendMasterStatus c s now p =
      if !c.hasMaster then s else
      { s with master :=
          { lastChecked := lastOkAfter (probeOk c p) now s.master,
            up := if now - lastOkAfter (probeOk c p) now s.master ≥ c.downAfter then false
                  else (s.master.up || probeOk c p) } } := by
  unfold checkBackendMasterStatus
  cases c.hasMaster
  · rfl
  · simp only [probeNode_eq, shouldDownAfterNoAlive, Bool.not_true, Bool.false_eq_true, if_false, decide_eq_true_eq]
    by_cases hst : now - lastOkAfter (probeOk c p) now s.master ≥ c.downAfter <;>
      simp only [hst, if_true, if_false] <;> cases probeOk c p <;> cases s.master.up <;> rfl

theorem master_frame (c : Cfg) (s : St) (now : Int) (p : Probe) :
    ∃ m, checkBackendMasterStatus c s now p = { s with master := m } := by
  rw [master_round]; split <;> exact ⟨_, rfl⟩

/-- The replication check as the replica rounds apply it: skipped while the
    master is down (or the slice has no master node). -/
def syncAlive (c : Cfg) (s : St) (conn : Bool) (q : SlaveQ) : Bool :=
  masterDown c s || checkSlaveSyncStatus conn c.sbm q

theorem syncAlive_iff (c : Cfg) (s : St) (conn : Bool) (q : SlaveQ) :
    syncAlive c s conn q = true ↔ masterDown c s = true ∨ checkSlaveSyncStatus conn c.sbm q = true := by
  rw [syncAlive, Bool.or_eq_true]

theorem syncAlive_noconn (c : Cfg) (s : St) (q : SlaveQ) : syncAlive c s false q = true :=
  (syncAlive_iff c s false q).mpr (.inr (checkSlaveSyncStatus_noconn c.sbm q))

theorem syncAlive_of_good (c : Cfg) (hs : c.sbm < 9223372036854775808) (s : St) (q : SlaveQ)
    (h : masterDown c s = true ∨ syncSpec c.sbm q = .good) : syncAlive c s true q = true :=
  (syncAlive_iff c s true q).mpr (h.imp_right (syncSpec_good_alive c.sbm q hs))

theorem syncAlive_bad (c : Cfg) (hs : c.sbm < 9223372036854775808) (s : St) (q : SlaveQ)
    (h : syncSpec c.sbm q = .bad) : syncAlive c s true q = masterDown c s := by
  simp [syncAlive, syncSpec_bad_dead c.sbm q hs h]

/-- The spec's classification of the answer brackets the code's check, in the Boolean form of
    `judgeReplica27`'s `goodRound` and `maybeRound`. -/
theorem syncAlive_bracket (c : Cfg) (hs : c.sbm < 9223372036854775808) (s : St) (q : SlaveQ) :
    ((syncSpec c.sbm q == .good) = true → syncAlive c s true q = true) ∧
    (syncAlive c s true q = true → (syncSpec c.sbm q == .good) = true ∨
      (syncSpec c.sbm q == .unspecified || (masterDown c s && syncSpec c.sbm q == .bad)) = true) := by
  have hg := fun h => syncAlive_of_good c hs s q (.inr h)
  have hb := syncAlive_bad c hs s q
  cases hsy : syncSpec c.sbm q <;> simp_all

/-- The shape the three replica rounds share, `s₁` being the state after the probe and `rec` what the
    policy does with a down replica whose probe passed: a master outage only skips the replication check. -/
theorem round_shape (c : Cfg) (s : St) (now : Int) (q : SlaveQ) (conn : Bool) (s₁ rec : St)
    (hm : s₁.master = s.master) :
    (if shouldDownAfterNoAlive now s₁.rep c.downAfter then setRep s₁ false
     else if masterDown c s₁ then (if conn && !s₁.rep.up then rec else s₁)
     else if !checkSlaveSyncStatus conn c.sbm q then setRep s₁ false
     else if conn && !s₁.rep.up then rec else s₁) =
    if now - s₁.rep.lastChecked ≥ c.downAfter then setRep s₁ false
    else if !syncAlive c s conn q then setRep s₁ false
    else if conn && !s₁.rep.up then rec else s₁ := by
  unfold syncAlive shouldDownAfterNoAlive masterDown
  rw [hm]
  cases !c.hasMaster || !s.master.up <;> simp

theorem noRecovery_round (c : Cfg) (s : St) (now : Int) (p : Probe) (q : SlaveQ) :
    checkWithNoRecovery c s now p q =
      { s with rep :=
          { lastChecked := lastOkAfter (probeOk c p) now s.rep,
            up := if now - lastOkAfter (probeOk c p) now s.rep ≥ c.downAfter then false
                  else if !syncAlive c s (probeOk c p) q then false
                  else if probeOk c p && !s.rep.up then true
                  else s.rep.up } } := by
  simp only [checkWithNoRecovery, probeNode_eq]
  refine (round_shape c s now q _ { s with rep := { s.rep with lastChecked := lastOkAfter (probeOk c p) now s.rep } }
    _ rfl).trans ?_
  by_cases hst : now - lastOkAfter (probeOk c p) now s.rep ≥ c.downAfter <;>
    cases syncAlive c s (probeOk c p) q <;> cases probeOk c p && !s.rep.up <;> simp [hst, setRep]

theorem hardRecovery_round (c : Cfg) (s : St) (now : Int) (p : Probe) (q : SlaveQ) :
    checkWithHardRecovery c s now p q =
      { s with rep :=
          { lastChecked := lastOkAfter (probeOk c p) now s.rep,
            up := if now - lastOkAfter (probeOk c p) now s.rep ≥ c.downAfter then false
                  else if !syncAlive c s (probeOk c p) q then false
                  else if probeOk c p && !s.rep.up then decide (now ≥ s.lastFuse + c.cooling)
                  else s.rep.up } } := by
  simp only [checkWithHardRecovery, probeNode_eq]
  refine (round_shape c s now q _ { s with rep := { s.rep with lastChecked := lastOkAfter (probeOk c p) now s.rep } }
    _ rfl).trans ?_
  by_cases hst : now - lastOkAfter (probeOk c p) now s.rep ≥ c.downAfter <;>
    cases syncAlive c s (probeOk c p) q <;> cases hC : (probeOk c p && !s.rep.up) <;>
    simp [hst, setRep, hardAllowRecovery]
  -- left: a down replica whose probe and replication check passed is up iff the cool-down is over
  simp only [Bool.and_eq_true, Bool.not_eq_true'] at hC
  by_cases hcool : now < s.lastFuse + c.cooling <;> simp [hcool, hC.2] <;> omega

theorem gradualAllowRecovery_eq (s : St) :
    gradualAllowRecovery s =
      ({ s with cscc := if s.cscc ≤ 0 then s.cscc else s.cscc - 1 }, decide (s.cscc ≤ 0)) := by
  unfold gradualAllowRecovery
  split <;> rename_i h
  · simp [Int.not_le.mpr h]
  · simp [Int.not_lt.mp h]

/-- Does a gradual round reach `AllowRecovery`? -/
def gradualAsks (c : Cfg) (s : St) (now : Int) (p : Probe) (q : SlaveQ) : Bool :=
  !decide (now - lastOkAfter (probeOk c p) now s.rep ≥ c.downAfter) && syncAlive c s (probeOk c p) q &&
    (probeOk c p && !s.rep.up)

theorem gradualRecovery_round (c : Cfg) (s : St) (now : Int) (p : Probe) (q : SlaveQ) :
    checkWithGradualRecovery c s now p q =
      { s with
        rep :=
          { lastChecked := lastOkAfter (probeOk c p) now s.rep,
            up := if now - lastOkAfter (probeOk c p) now s.rep ≥ c.downAfter then false
                  else if !syncAlive c s (probeOk c p) q then false
                  else if probeOk c p && !s.rep.up then decide (s.cscc ≤ 0)
                  else s.rep.up },
        cscc := if !probeOk c p && !s.rep.up then penalty s.erc
                else if gradualAsks c s now p q && !decide (s.cscc ≤ 0) then s.cscc - 1 else s.cscc,
        lastRec := if gradualAsks c s now p q && decide (s.cscc ≤ 0) then now else s.lastRec } := by
  simp only [checkWithGradualRecovery, probeNode_eq, gradualAllowRecovery_eq, gradualAsks]
  -- a failed probe on a down replica re-arms the count first (RefreshCoolDownCount)
  cases hrf : (!probeOk c p && !s.rep.up) <;> simp only [Bool.false_eq_true, if_false, if_true]
  · refine (round_shape c s now q _
      { s with rep := { s.rep with lastChecked := lastOkAfter (probeOk c p) now s.rep } } _ rfl).trans ?_
    by_cases hst : now - lastOkAfter (probeOk c p) now s.rep ≥ c.downAfter <;>
      by_cases hal : syncAlive c s (probeOk c p) q = true <;> by_cases hK : s.cscc ≤ 0 <;>
      simp only [hst, hal, hK, if_true, if_false, decide_true, decide_false, Bool.not_true, Bool.not_false,
        Bool.false_eq_true, Bool.true_and, Bool.false_and, Bool.and_true, Bool.and_false] <;>
      cases probeOk c p <;> cases s.rep.up <;> rfl
  · refine (round_shape c s now q _ (refreshCoolDownCount
      { s with rep := { s.rep with lastChecked := lastOkAfter (probeOk c p) now s.rep } }) _ rfl).trans ?_
    simp only [Bool.and_eq_true, Bool.not_eq_true'] at hrf
    simp [hrf.1, hrf.2, setRep, refreshCoolDownCount]

/-- What the replica's recovery strategy answers when a round asks it (`AllowRecovery`);
    without a strategy a replica whose probe passed comes up at once. -/
def allowsRecovery (c : Cfg) (s : St) (now : Int) : Bool :=
  match c.policy with
  | .none => true
  | .hard => decide (now ≥ s.lastFuse + c.cooling)
  | .gradual => decide (s.cscc ≤ 0)

/-- The policies differ only in the answer of `AllowRecovery`. -/
theorem tryRecover_rep (c : Cfg) (s : St) (now : Int) (p : Probe) (q : SlaveQ) :
    (tryRecover c s now p q).rep =
      { lastChecked := lastOkAfter (probeOk c p) now s.rep,
        up := if now - lastOkAfter (probeOk c p) now s.rep ≥ c.downAfter then false
              else if !syncAlive c s (probeOk c p) q then false
              else if probeOk c p && !s.rep.up then allowsRecovery c s now
              else s.rep.up } := by
  unfold tryRecover allowsRecovery
  cases c.policy <;> simp only [noRecovery_round, hardRecovery_round, gradualRecovery_round]

theorem tryRecover_stale (c : Cfg) (s : St) (now : Int) (p : Probe) (q : SlaveQ)
    (h : now - lastOkAfter (probeOk c p) now s.rep ≥ c.downAfter) : (tryRecover c s now p q).rep.up = false := by
  rw [tryRecover_rep]; exact if_pos h

theorem tryRecover_dead (c : Cfg) (s : St) (now : Int) (p : Probe) (q : SlaveQ)
    (h : syncAlive c s (probeOk c p) q = false) : (tryRecover c s now p q).rep.up = false := by
  simp [tryRecover_rep, h]

theorem tryRecover_alive (c : Cfg) (s : St) (now : Int) (p : Probe) (q : SlaveQ)
    (hf : now - lastOkAfter (probeOk c p) now s.rep < c.downAfter) (h : syncAlive c s (probeOk c p) q = true) :
    (tryRecover c s now p q).rep.up = if probeOk c p && !s.rep.up then allowsRecovery c s now else s.rep.up := by
  simp [tryRecover_rep, h, Int.not_le.mpr hf]

/-- After a passed probe the last success is `now`, so the round is fresh as soon as `downAfter` is positive:
    the replication check and the strategy decide. -/
theorem tryRecover_passed (c : Cfg) (s : St) (now : Int) (p : Probe) (q : SlaveQ) (hok : probeOk c p = true)
    (hd : 0 < c.downAfter) (h : syncAlive c s true q = true) :
    (tryRecover c s now p q).rep.up = (s.rep.up || allowsRecovery c s now) := by
  rw [tryRecover_alive c s now p q (by simpa [hok, lastOkAfter] using hd) (hok ▸ h), hok]
  cases s.rep.up <;> rfl

/-- Conversely: a round that turns a down replica up had all of that. -/
theorem tryRecover_restores (c : Cfg) (s : St) (now : Int) (p : Probe) (q : SlaveQ) (hdown : s.rep.up = false)
    (hup : (tryRecover c s now p q).rep.up = true) :
    probeOk c p = true ∧ 0 < c.downAfter ∧ syncAlive c s true q = true ∧ allowsRecovery c s now = true := by
  by_cases hst : now - lastOkAfter (probeOk c p) now s.rep ≥ c.downAfter
  · rw [tryRecover_stale c s now p q hst] at hup; cases hup
  cases ha : syncAlive c s (probeOk c p) q
  · rw [tryRecover_dead c s now p q ha] at hup; cases hup
  rw [tryRecover_alive c s now p q (Int.not_le.mp hst) ha, hdown] at hup
  cases hok : probeOk c p <;> rw [hok] at hup hst ha
  · cases hup
  · exact ⟨rfl, by simpa [lastOkAfter] using hst, ha, hup⟩

theorem tryRecover_frame (c : Cfg) (s : St) (now : Int) (p : Probe) (q : SlaveQ) :
    (tryRecover c s now p q).master = s.master ∧ (tryRecover c s now p q).lastFuse = s.lastFuse ∧
    (tryRecover c s now p q).erc = s.erc := by
  unfold tryRecover
  cases c.policy <;> simp only [noRecovery_round, hardRecovery_round, gradualRecovery_round, and_self]

theorem gradual_round_down (c : Cfg) (hp : c.policy = .gradual) (s : St) (now : Int) (p : Probe) (q : SlaveQ)
    (hdown : s.rep.up = false) (hok : probeOk c p = true) :
    let asks := decide (0 < c.downAfter) && syncAlive c s true q
    (tryRecover c s now p q).rep.up = (asks && decide (s.cscc ≤ 0)) ∧
    (tryRecover c s now p q).cscc = (if asks && !decide (s.cscc ≤ 0) then s.cscc - 1 else s.cscc) ∧
    (tryRecover c s now p q).lastRec = if asks && decide (s.cscc ≤ 0) then now else s.lastRec := by
  -- the probe passed, so the last success is `now` and the staleness test reads `0 ≥ c.downAfter`
  have hd : decide (c.downAfter ≤ 0) = !decide (0 < c.downAfter) := by
    rw [← decide_not]; exact decide_eq_decide.mpr Int.not_lt.symm
  simp only [tryRecover, hp, gradualRecovery_round, gradualAsks, hdown, hok, lastOkAfter]
  cases ha : syncAlive c s true q <;> simp [hd]

theorem gradual_round_failed (c : Cfg) (hp : c.policy = .gradual) (s : St) (now : Int) (p : Probe) (q : SlaveQ)
    (hdown : s.rep.up = false) (hok : probeOk c p = false) :
    (tryRecover c s now p q).rep.up = false ∧ (tryRecover c s now p q).cscc = penalty s.erc ∧
    (tryRecover c s now p q).lastRec = s.lastRec := by
  simp [tryRecover, hp, gradualRecovery_round, gradualAsks, hdown, hok, syncAlive_noconn]

theorem gradual_round_up (c : Cfg) (hp : c.policy = .gradual) (s : St) (now : Int) (p : Probe) (q : SlaveQ)
    (hup : s.rep.up = true) :
    (tryRecover c s now p q).cscc = s.cscc ∧ (tryRecover c s now p q).lastRec = s.lastRec := by
  simp [tryRecover, hp, gradualRecovery_round, hup, gradualAsks]

/-- TryFuse gets past its guards: strategies installed, connection error, breaker fired. -/
def fuseFires (c : Cfg) (ce tr : Bool) : Bool := c.policy != .none && ce && tr

theorem tryFuse_eq (c : Cfg) (s : St) (now : Int) (ce tr : Bool) :
    tryFuse c s now ce tr =
      if !fuseFires c ce tr then s else
      { s with
        rep := { s.rep with up := false },
        lastFuse := if c.policy == .hard || s.rep.up then now else s.lastFuse,
        erc := if c.policy == .gradual && s.rep.up then
                 (if now - s.lastRec ≤ pingPeriod * 2 then s.erc + 1 else initErrorRecoveryCount)
               else s.erc,
        cscc := if c.policy == .gradual && s.rep.up && decide (now - s.lastRec ≤ pingPeriod * 2)
                then penalty (s.erc + 1) else s.cscc } := by
  unfold tryFuse fuseFires
  cases hp : c.policy <;> cases ce <;> cases tr <;> try rfl
  -- left: the gradual policy when the breaker fires
  cases s.rep.up
  · simp [setRep]
  · by_cases hb : now - s.lastRec ≤ pingPeriod * 2 <;>
      simp [setRep, hb, isBadRecovery, updateCoolDownCount, resetBadRecovery]

theorem tryFuse_frame (c : Cfg) (s : St) (now : Int) (ce tr : Bool) :
    (tryFuse c s now ce tr).master = s.master ∧
    (tryFuse c s now ce tr).rep.lastChecked = s.rep.lastChecked := by
  rw [tryFuse_eq]; split <;> simp

theorem run_append (c : Cfg) (s : St) (es : List Ev) (e : Ev) :
    run c s (es ++ [e]) = step c (run c s es) e := by
  induction es generalizing s with
  | nil => rfl
  | cons x xs ih => simp [run, ih]

/-- `F` is a recursion over the history with an accumulator, as `C27.latestFuse`, `C28.lastOkRep` and
    `C28.lastOkMaster` are, `f` the field of the state that tracks it. -/
theorem run_fold {α : Type} (c : Cfg) (f : St → α) (F : α → List Ev → α) (h0 : ∀ a, F a [] = a)
    (h1 : ∀ s e es, F (f s) (e :: es) = F (f (step c s e)) es) :
    ∀ (evs : List Ev) (s : St), f (run c s evs) = F (f s) evs
  | [], _ => (h0 _).symm
  | e :: es, s => (run_fold c f F h0 h1 es (step c s e)).trans (h1 s e es).symm

end GaeaVerif.Health
