import GaeaVerif.Lemmas.MergeRow
import GaeaVerif.Model.MergeJoin
/-
  C02 helper lemmas for joins: `joinRows` over a concatenated left side and over right
  sides that agree on the matching rows; the joined rows of typed tables are typed rows
  of the wider table.
-/
namespace GaeaVerif.C02
open GaeaVerif GaeaVerif.Merge

theorem joinRows_append_left (kind : JoinKind) (on : Row → Row → Bool) (n : Nat) (L1 L2 R : List Row) :
    joinRows kind on n (L1 ++ L2) R = joinRows kind on n L1 R ++ joinRows kind on n L2 R := by
  simp [joinRows, List.flatMap_append]

theorem joinRows_congr (kind : JoinKind) (on : Row → Row → Bool) (n : Nat) : ∀ (L R R' : List Row),
    (∀ l ∈ L, R.filter (on l) = R'.filter (on l)) → joinRows kind on n L R = joinRows kind on n L R'
  | [], _, _, _ => rfl
  | l :: L, R, R', h => by
    have ih := joinRows_congr kind on n L R R' (fun x hx => h x (by simp [hx]))
    simp only [joinRows, List.flatMap_cons] at ih ⊢
    rw [h l (by simp), ih]

theorem typedRow_append {sL sR : List Ty} {l r : Row} (hl : TypedRow sL l) (hr : TypedRow sR r) :
    TypedRow (sL ++ sR) (l ++ r) := by
  refine ⟨by simp [hl.len, hr.len], ?_⟩
  intro i t hi
  by_cases h : i < sL.length
  · rw [List.getElem?_append_left h] at hi
    have := hl.ok i t hi
    simpa [List.getD, List.getElem?_append_left (show i < l.length by rw [hl.len]; exact h)] using this
  · have h' : sL.length ≤ i := by omega
    rw [List.getElem?_append_right h'] at hi
    have := hr.ok (i - sL.length) t hi
    simpa [List.getD, List.getElem?_append_right (show l.length ≤ i by rw [hl.len]; exact h'), hl.len] using this

theorem typedRow_nulls (sR : List Ty) : TypedRow sR (List.replicate sR.length Val.null) := by
  refine ⟨by simp, ?_⟩
  intro i t hi
  have hlt : i < sR.length := (List.getElem?_eq_some_iff.mp hi).1
  simp [List.getD, hlt, conforms]

theorem joinRows_typed {sL sR : List Ty} (kind : JoinKind) (on : Row → Row → Bool) (L R : List Row)
    (hL : TypedRows sL L) (hR : TypedRows sR R) : TypedRows (sL ++ sR) (joinRows kind on sR.length L R) := by
  intro x hx
  simp only [joinRows, List.mem_flatMap] at hx
  obtain ⟨l, hl, hx⟩ := hx
  have hm : ∀ y ∈ (R.filter (on l)).map (l ++ ·), TypedRow (sL ++ sR) y :=
    List.forall_mem_map.mpr fun r hr => typedRow_append (hL l hl) (hR r (List.mem_filter.mp hr).1)
  cases kind with
  | inner => exact hm x hx
  | left =>
    simp only at hx
    split at hx
    · exact List.mem_singleton.mp hx ▸ typedRow_append (hL l hl) (typedRow_nulls sR)
    · exact hm x hx

end GaeaVerif.C02
