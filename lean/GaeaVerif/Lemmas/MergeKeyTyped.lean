import GaeaVerif.Lemmas.MergeGroup
/-
  C02 helper lemmas: the values the proxy can hold as parts of a map key (`keyValOK`) have
  short texts; among the values of one column type the key text determines the value; the
  column type of a select item (`itemTyOf`); the groups of a typed table are typed.
-/
namespace GaeaVerif.C02
open GaeaVerif GaeaVerif.Merge

/-- a GROUP BY key value the proxy can hold: NULL, a BIGINT, a string shorter than 2^64 bytes,
    a DECIMAL within MySQL's limits (65 digits, scale ≤ 30) -/
def keyValOK : Val → Prop
  | .null => True
  | .int i => i.natAbs < 10 ^ 19
  | .str b => b.length < 256 ^ 8
  | .dec u s => u.natAbs < 10 ^ 65 ∧ s ≤ 30

theorem shortText_of_keyValOK (v : Val) (h : keyValOK v) : ShortText v := by
  cases v with
  | null => simp [ShortText, formatValue]
  | int i =>
    simp only [keyValOK] at h
    have := digitsOf_length_le i.natAbs 19 h (by decide)
    simp only [ShortText, formatValue, intText]
    split
    · simp only [List.length_cons]; omega
    · omega
  | str b => exact h
  | dec u s =>
    simp only [keyValOK] at h
    have := decText_length u s h.1 h.2
    simp only [ShortText, formatValue]
    omega

theorem keyText_inj_of_conforms (t : Ty) (x y : Val) (c1 : conforms t x = true) (c2 : conforms t y = true)
    (h : keyText x = keyText y) : x = y := by
  cases t with
  | int =>
    cases x <;> cases y <;> simp_all [conforms, hasTy, Ty.vty, keyText, formatValue]
    exact intText_inj _ _ h
  | str =>
    cases x <;> cases y <;> simp_all [conforms, hasTy, Ty.vty, keyText, formatValue]
  | dec s =>
    cases x <;> cases y <;> simp_all [conforms, hasTy, Ty.vty, keyText, formatValue]
    exact decText_inj _ _ _ h

/-- the column type of the values of a select item -/
def itemTyOf (schema : List Ty) : Item → Option Ty
  | .col c => schema[c]?
  | .const _ => some .int
  | .agg .count _ _ => some .int
  | .agg .sum (some c) _ =>
    match schema[c]? with
    | some .int => some (.dec 0)
    | some (.dec s) => some (.dec s)
    | _ => none
  | .agg .sum none _ => none
  | .agg _ (some c) _ => schema[c]?
  | .agg _ none _ => none

theorem typedRows_of_group (schema : List Ty) (cq : CQ) (rows : List Row) (ht : TypedRows schema rows) :
    ∀ G ∈ groupsOf cq rows, TypedRows schema G := by
  intro G hG
  cases hagg : cq.aggregated
  · rw [groupsOf_plain hagg] at hG
    obtain ⟨r, hr, rfl⟩ := List.mem_map.mp hG
    exact fun x hx => List.mem_singleton.mp hx ▸ ht r hr
  · cases hg : cq.group with
    | none =>
      rw [groupsOf_single hagg hg, List.mem_singleton] at hG
      exact hG ▸ ht
    | some g =>
      rw [groupsOf_group hg] at hG
      obtain ⟨r, rs, _, _, hf⟩ := groupRows_mem hG
      exact fun x hx => ht x (List.mem_filter.mp (hf ▸ hx)).1

end GaeaVerif.C02
