import GaeaVerif.Lemmas.C10Basics
/-
  C10: what the parsers of the single rule families guarantee of the sub-table
  list and the slice map they return: `parseHashRuleSliceInfos` (hash, mod,
  range, the Mycat rules, global tables), the loop of the calendar rules,
  `MycatPartitionLongShard.Init` and `GetMycatPartitionPaddingModShard`; and
  that the steps both `Shard.verify` and `parseRuleSliceInfos` take do not panic.
-/
namespace GaeaVerif.C10
open GaeaVerif

/-- the sub-table list, the slice map and the slice list of one parsed rule:
    ascending (hence duplicate-free) indexes, the map written exactly on them,
    slice indexes inside the configured slice list -/
structure SliceInfosOK (idx : List Int) (t : IntMap) (nslices : Nat) : Prop where
  ascending : idx.Pairwise (· < ·)
  keys : t.map (·.1) = idx
  range : ∀ kv ∈ t, 0 ≤ kv.2 ∧ kv.2 < (nslices : Int)

/-! ### hash, mod, range, Mycat and global rules -/

theorem parseHash_spec (locs : List Int) (slices : List Str) (idx : List Int) (t : IntMap)
    (h : parseHashRuleSliceInfos locs slices = .ok (idx, t)) :
    SliceInfosOK idx t slices.length ∧ idx = consec 0 (mapLen t).toNat ∧ 0 < mapLen t ∧ mapLen t = locs.sum := by
  unfold parseHashRuleSliceInfos at h
  split at h
  · cases h
  · next hlen =>
    split at h
    · next t' ht =>
      split at h <;> cases h
      obtain ⟨hk, hs, hv⟩ := (hashTables_safe locs 0 0).2 _ ht
      have hpw := hk ▸ consec_pairwise 0 locs.sum.toNat
      have hml : mapLen t = locs.sum := by
        unfold mapLen
        rw [distinctCount_of_nodup _ (pairwise_lt_nodup hpw), hk, length_consec]
        omega
      refine ⟨⟨hpw, rfl, fun kv hkv => ?_⟩, by rw [hml]; exact hk, by omega, hml⟩
      have := hv kv hkv
      omega
    · cases h
    · cases h

theorem getRealDatabases_ne_panic : ∀ (dbs : List Str), getRealDatabases dbs ≠ .panic
  | [] => nofun
  | db :: rest => by
    unfold getRealDatabases
    have ih := getRealDatabases_ne_panic rest
    repeat' split
    all_goals simp_all

theorem parseNumSharding_ne_panic (l : List Int) (limit : Int) (h : 0 ≤ l.sum) : parseNumSharding l limit ≠ .panic := by
  unfold parseNumSharding
  refine ite_fail_ne_panic ?_
  rw [if_neg (by omega)]
  nofun

/-! ### calendar rules -/

theorem pairwise_lt_append_of_last {acc : List Int} {last n0 : Int} {rest : List Int}
    (hacc : acc.Pairwise (· < ·)) (hnums : (n0 :: rest).Pairwise (· < ·)) (hl : acc.getLast? = some last)
    (hlt : last < n0) : (acc ++ n0 :: rest).Pairwise (· < ·) := by
  rw [List.pairwise_append]
  refine ⟨hacc, hnums, ?_⟩
  intro a ha b hb
  obtain ⟨ys, hys⟩ := List.getLast?_eq_some_iff.mp hl
  subst hys
  have ha_le : a ≤ last := by
    rcases List.mem_append.mp ha with h | h
    · have := (List.pairwise_append.mp hacc).2.2 a h last (by simp)
      omega
    · simp at h; omega
  have hb_ge : n0 ≤ b := by
    rcases List.mem_cons.mp hb with h | h
    · omega
    · have := (List.pairwise_cons.mp hnums).1 b h
      omega
  omega

/-- one round of `dateLoop` -/
theorem SliceInfosOK.append {acc nums : List Int} {m : IntMap} {i : Nat} (h : SliceInfosOK acc m i)
    (hasc : (acc ++ nums).Pairwise (· < ·)) :
    SliceInfosOK (acc ++ nums) (m ++ nums.map fun v => (v, (i : Int))) (i + 1) := by
  refine ⟨hasc, by simp [h.keys, List.map_map, Function.comp_def], fun kv hkv => ?_⟩
  rcases List.mem_append.mp hkv with h1 | h1
  · have := h.range kv h1; omega
  · obtain ⟨v, _, rfl⟩ := List.mem_map.mp h1
    simp only; omega

theorem dateLoop_spec (parse : Str → R (List Int))
    (hparse : ∀ dr nums, parse dr = .ok nums → nums.Pairwise (· < ·)) :
    ∀ (drs : List Str) (i : Nat) (acc : List Int) (m : IntMap) (idx : List Int) (t : IntMap),
      SliceInfosOK acc m i → dateLoop parse drs i acc m = .ok (idx, t) → SliceInfosOK idx t (i + drs.length)
  | [], i, acc, m, idx, t, inv, h => by
    cases h; exact inv
  | dr :: rest, i, acc, m, idx, t, inv, h => by
    unfold dateLoop at h
    split at h
    · cases h
    · cases h
    · next nums hnums =>
      have hpw := hparse dr nums hnums
      have step : (acc ++ nums).Pairwise (· < ·) →
          dateLoop parse rest ((i : Int) + 1) (acc ++ nums) (m ++ nums.map (fun v => (v, (i : Int)))) = .ok (idx, t) →
          SliceInfosOK idx t (i + (dr :: rest).length) := by
        intro hasc h'
        have := dateLoop_spec parse hparse rest (i + 1) _ _ idx t (inv.append hasc) (by exact_mod_cast h')
        rwa [List.length_cons, show i + (rest.length + 1) = i + 1 + rest.length by omega]
      split at h
      · cases h
      · next last n0 tl hlast =>
        split at h
        · cases h
        · exact step (pairwise_lt_append_of_last inv.ascending hpw hlast (by omega)) h
      · next hnone =>
        have : acc = [] := by
          cases acc with
          | nil => rfl
          | cons a l => simp [List.getLast?_cons] at hnone
        subst this
        exact step (by simpa using hpw) h

theorem parseDate_spec (parse : Str → R (List Int))
    (hparse : ∀ dr nums, parse dr = .ok nums → nums.Pairwise (· < ·))
    (drs slices : List Str) (idx : List Int) (t : IntMap)
    (h : parseDateRuleSliceInfos parse drs slices = .ok (idx, t)) : SliceInfosOK idx t slices.length := by
  unfold parseDateRuleSliceInfos at h
  split at h
  · cases h
  · next hlen =>
    have := dateLoop_spec parse hparse drs 0 [] [] idx t ⟨.nil, rfl, by simp⟩ h
    rwa [Nat.zero_add, show drs.length = slices.length by omega] at this

/-! ### `MycatPartitionLongShard.Init`: a `segment` of PartitionLength entries, each naming a listed table -/

theorem segmentOf_length : ∀ (runs : List Int) (k : Int), (∀ l ∈ runs, 0 ≤ l) →
    ((segmentOf runs k).length : Int) = runs.sum
  | [], _, _ => by simp [segmentOf]
  | l :: rest, k, h => by
    have h0 : 0 ≤ l := h l List.mem_cons_self
    have ih := segmentOf_length rest (k + 1) (fun x hx => h x (List.mem_cons_of_mem _ hx))
    simp only [segmentOf, List.length_append, List.length_replicate, List.sum_cons]
    omega

theorem segmentOf_mem : ∀ (runs : List Int) (k x : Int), x ∈ segmentOf runs k →
    k ≤ x ∧ x < k + runs.length
  | [], _, _, h => by simp [segmentOf] at h
  | l :: rest, k, x, h => by
    simp only [segmentOf, List.mem_append, List.mem_replicate] at h
    simp only [List.length_cons]
    rcases h with h | h
    · omega
    · have := segmentOf_mem rest (k + 1) x h
      omega

theorem partitionRuns_length : ∀ (counts lengths : List Int), counts.length = lengths.length →
    (∀ cl ∈ counts.zip lengths, 0 ≤ cl.1) →
    ((partitionRuns counts lengths).length : Int) = counts.sum
  | [], _, _, _ => by simp [partitionRuns]
  | c :: cs, [], h, _ => by simp at h
  | c :: cs, l :: ls, h, hb => by
    have h0 : 0 ≤ c := hb (c, l) (by simp)
    have ih := partitionRuns_length cs ls (by simpa using h)
      (fun cl hcl => hb cl (by simp only [List.zip_cons_cons, List.mem_cons]; exact Or.inr hcl))
    unfold partitionRuns at ih ⊢
    simp only [List.zip_cons_cons, List.flatMap_cons, List.length_append, List.length_replicate, List.sum_cons]
    omega

theorem partitionRuns_mem (counts lengths : List Int) (x : Int) (h : x ∈ partitionRuns counts lengths) :
    ∃ cl ∈ counts.zip lengths, x = cl.2 := by
  unfold partitionRuns at h
  obtain ⟨cl, hcl, hx⟩ := List.mem_flatMap.mp h
  exact ⟨cl, hcl, (List.mem_replicate.mp hx).2⟩

theorem partitionLongInit_safe (n : Int) (pc pl : Str) :
    Safe (partitionLongInit n pc pl) fun seg => seg.length = partitionLength ∧ ∀ x ∈ seg, 0 ≤ x ∧ x < n := by
  unfold partitionLongInit
  cases toIntArray pc with | none => exact Safe.fail | some countList =>
  cases toIntArray pl with | none => exact Safe.fail | some lengthList =>
  refine Safe.ite_fail fun hlen => Safe.ite_fail fun hany => Safe.ite_fail fun hsum => Safe.ite_fail fun hruns =>
    Safe.ok ?_
  have hb : ∀ cl ∈ countList.zip lengthList, 0 ≤ cl.1 ∧ 0 ≤ cl.2 := by
    intro cl hcl
    have : ¬ ((cl.1 < 0 || cl.1 > n || cl.2 < 0 || cl.2 > (partitionLength : Int)) = true) :=
      fun hbad => hany (List.any_eq_true.mpr ⟨cl, hcl, hbad⟩)
    simp only [Bool.or_eq_true, decide_eq_true_eq, not_or, Int.not_lt] at this
    omega
  have hnn : ∀ l ∈ partitionRuns countList lengthList, 0 ≤ l := by
    intro l hl
    obtain ⟨cl, hcl, hx⟩ := partitionRuns_mem _ _ _ hl
    have := (hb cl hcl).2
    omega
  have hl1 := segmentOf_length (partitionRuns countList lengthList) 0 hnn
  have hl2 := partitionRuns_length countList lengthList (by omega) (fun cl hcl => (hb cl hcl).1)
  refine ⟨by omega, ?_⟩
  intro x hx
  have := segmentOf_mem _ 0 x hx
  omega

theorem parseHashSliceStartEnd_ne_panic (s : Str) : parseHashSliceStartEnd s ≠ .panic := by
  unfold parseHashSliceStartEnd
  repeat' split
  all_goals nofun

theorem parseMurmur_ne_panic (a b : Str) : parseMurmur a b ≠ .panic := by
  unfold parseMurmur
  repeat' split
  all_goals nofun

/-! ### `GetMycatPartitionPaddingModShard` + `checkParam` -/

theorem parsePaddingMod_safe (a b c d : Str) (m : Int) :
    Safe (parsePaddingMod a b c d m) fun p =>
      p.mod = m ∧ 2 ≤ p.mod ∧ 0 ≤ p.modBegin ∧ p.modBegin < p.modEnd ∧ p.modEnd ≤ p.padLength := by
  unfold parsePaddingMod
  cases atoi a with | none => exact Safe.fail | some padFrom =>
  cases atoi b with | none => exact Safe.fail | some padLength =>
  cases atoi c with | none => exact Safe.fail | some modBegin =>
  cases atoi d with | none => exact Safe.fail | some modEnd =>
  refine Safe.ite_fail fun h1 => Safe.ite_fail fun h2 => Safe.ite_fail fun h3 => Safe.ite_fail fun h4 =>
    Safe.ite_fail fun h5 => Safe.ite_fail fun h6 => Safe.ok ⟨rfl, ?_⟩
  simp only
  omega

end GaeaVerif.C10
