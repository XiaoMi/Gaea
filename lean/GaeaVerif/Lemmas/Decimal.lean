/-
  Decimal digit strings, once for every carrier.  The models spell numbers over
  `Char`, `UInt8` and `Nat` codes; each reads a digit string with a left fold
  `a * 10 + d c` and writes one as a map of `Nat.toDigits 10`.  `Dec.val d s` is
  that fold for any digit reader `d`; the facts about it and about
  `(Nat.toDigits 10 n).map enc` are proved here, and a model needs one equation
  per parser (`decVal = Dec.val digVal`, mostly `rfl`) and one per formatter
  (`ShardLemmas.fmtNatAux_eq`: `fmtNatAux fuel n acc = (Nat.toDigits 10 n).map Char.toNat ++ acc`;
  `fmtNat_eq` puts it as the reference's `natToString n`, which is that map).  Core Lean only.
-/
namespace GaeaVerif.Dec

variable {α β : Type}

def val (d : α → Nat) (s : List α) : Nat := s.foldl (fun a c => a * 10 + d c) 0

theorem foldl_eq (d : α → Nat) (s : List α) (acc : Nat) :
    s.foldl (fun a c => a * 10 + d c) acc = acc * 10 ^ s.length + val d s := by
  induction s generalizing acc with
  | nil => simp [val]
  | cons c cs ih =>
    simp only [val, List.foldl_cons, List.length_cons]
    rw [ih, ih (0 * 10 + d c), Nat.pow_succ, Nat.add_mul, Nat.mul_assoc, Nat.mul_comm 10, Nat.zero_mul,
      Nat.zero_add, Nat.add_assoc]

@[simp] theorem val_nil (d : α → Nat) : val d [] = 0 := rfl

theorem val_cons (d : α → Nat) (c : α) (s : List α) : val d (c :: s) = d c * 10 ^ s.length + val d s := by
  rw [val, List.foldl_cons, foldl_eq]; simp

theorem val_append (d : α → Nat) (a b : List α) : val d (a ++ b) = val d a * 10 ^ b.length + val d b := by
  rw [val, List.foldl_append, foldl_eq]; rfl

theorem val_concat (d : α → Nat) (s : List α) (c : α) : val d (s ++ [c]) = val d s * 10 + d c := by
  rw [val_append, val_cons]; simp

theorem val_map (d : α → Nat) (f : β → α) (s : List β) : val d (s.map f) = val (fun c => d (f c)) s := by
  rw [val, List.foldl_map]; rfl

theorem val_congr {d d' : α → Nat} {s : List α} (h : ∀ c ∈ s, d c = d' c) : val d s = val d' s := by
  induction s with
  | nil => rfl
  | cons c cs ih =>
    rw [val_cons, val_cons, h c List.mem_cons_self, ih fun x hx => h x (List.mem_cons_of_mem _ hx)]

theorem val_lt {d : α → Nat} {s : List α} (h : ∀ c ∈ s, d c < 10) : val d s < 10 ^ s.length := by
  induction s with
  | nil => simp
  | cons c cs ih =>
    have hc := h c List.mem_cons_self
    have := ih fun x hx => h x (List.mem_cons_of_mem _ hx)
    have : (d c + 1) * 10 ^ cs.length ≤ 10 * 10 ^ cs.length := Nat.mul_le_mul_right _ hc
    rw [val_cons, List.length_cons, Nat.pow_succ]
    rw [Nat.add_mul] at this
    omega

theorem val_replicate_append {d : α → Nat} {z : α} (hz : d z = 0) (k : Nat) (s : List α) :
    val d (List.replicate k z ++ s) = val d s := by
  induction k with
  | zero => rfl
  | succ k ih => rw [List.replicate_succ, List.cons_append, val_cons, hz, ih]; simp

theorem val_cons_lt_cons {d : α → Nat} {a b : α} {as bs : List α} (hl : as.length = bs.length)
    (ha : ∀ c ∈ as, d c < 10) (hb : ∀ c ∈ bs, d c < 10) :
    val d (a :: as) < val d (b :: bs) ↔ d a < d b ∨ (d a = d b ∧ val d as < val d bs) := by
  have ra := val_lt ha
  have rb := val_lt hb
  rw [val_cons, val_cons, ← hl]
  rw [← hl] at rb
  rcases Nat.lt_trichotomy (d a) (d b) with h | h | h
  · have : (d a + 1) * 10 ^ as.length ≤ d b * 10 ^ as.length := Nat.mul_le_mul_right _ h
    rw [Nat.add_mul] at this
    exact ⟨fun _ => .inl h, fun _ => by omega⟩
  · rw [h]
    exact ⟨fun h' => .inr ⟨rfl, by omega⟩, fun h' => by omega⟩
  · have : (d b + 1) * 10 ^ as.length ≤ d a * 10 ^ as.length := Nat.mul_le_mul_right _ h
    rw [Nat.add_mul] at this
    exact ⟨fun _ => by omega, fun h' => by omega⟩

/-- Go's `<` on strings of ASCII digits of one length is the order of their values.  Stated for any
    comparison `L` with the two equations of the bytewise order (`key`: the code of a symbol), since
    the `match` of one definition never unifies with that of another. -/
theorem lex_digits {key : α → Nat} {L : List α → List α → Bool} (hnil : L [] [] = false)
    (hcons : ∀ a as b bs, L (a :: as) (b :: bs) = if key a < key b then true else if key b < key a then false else L as bs) :
    ∀ x y : List α, x.length = y.length → (∀ c ∈ x, 48 ≤ key c ∧ key c ≤ 57) → (∀ c ∈ y, 48 ≤ key c ∧ key c ≤ 57) →
      L x y = decide (val (key · - 48) x < val (key · - 48) y)
  | [], [], _, _, _ => hnil
  | [], _ :: _, h, _, _ => nomatch h
  | _ :: _, [], h, _, _ => nomatch h
  | a :: as, b :: bs, hl, hx, hy => by
    have hlen : as.length = bs.length := Nat.succ.inj hl
    have hx' := fun c hc => hx c (List.mem_cons_of_mem _ hc)
    have hy' := fun c hc => hy c (List.mem_cons_of_mem _ hc)
    have lt10 : ∀ {s : List α}, (∀ c ∈ s, 48 ≤ key c ∧ key c ≤ 57) → ∀ c ∈ s, key c - 48 < 10 :=
      fun h c hc => by have := h c hc; omega
    have ha := hx a List.mem_cons_self
    have hb := hy b List.mem_cons_self
    -- the value looks at the leading digits first (`val_cons_lt_cons`), as `L` does
    rw [hcons, lex_digits hnil hcons as bs hlen hx' hy']
    simp only [val_cons_lt_cons hlen (lt10 hx') (lt10 hy')]
    by_cases h1 : key a < key b
    · simp [h1]; omega
    · by_cases h2 : key b < key a
      · simp [h1, h2]; omega
      · have : key a = key b := by omega
        simp [this]

/-- A digit fold that can fail (the reference parsers).  Stated for any step `F` with these two
    equations, since the `match` of one definition never unifies with that of another. -/
theorem foldl_option_eq {F : Option Nat → α → Option Nat} {p : α → Bool} {d : α → Nat}
    (hn : ∀ c, F none c = none) (hs : ∀ a c, F (some a) c = if p c then some (a * 10 + d c) else none)
    (s : List α) (a : Nat) :
    s.foldl F (some a) = if s.all p then some (a * 10 ^ s.length + val d s) else none := by
  rw [← foldl_eq]
  induction s generalizing a with
  | nil => rfl
  | cons c cs ih =>
    rw [List.foldl_cons, hs, List.all_cons, List.foldl_cons]
    cases p c
    · have : ∀ l : List α, l.foldl F none = none := fun l => by
        induction l with
        | nil => rfl
        | cons x l ih => rw [List.foldl_cons, hn, ih]
      simpa using this cs
    · simpa using ih _

/-! ### the decimal spelling `Nat.toDigits 10 n`, mapped into a carrier by `enc` -/

theorem toDigits_eq (n : Nat) :
    Nat.toDigits 10 n = if n < 10 then [n.digitChar] else Nat.toDigits 10 (n / 10) ++ [(n % 10).digitChar] :=
  Nat.toDigits_eq_if (by decide)

theorem digits_induction {P : Nat → Prop} (single : ∀ n, n < 10 → P n)
    (more : ∀ n, 10 ≤ n → P (n / 10) → P n) (n : Nat) : P n := by
  induction n using Nat.strongRecOn with
  | _ n ih =>
    by_cases h : n < 10
    · exact single n h
    · exact more n (by omega) (ih (n / 10) (by omega))

theorem mem_map_toDigits {enc : Char → α} {n : Nat} {x : α} (h : x ∈ (Nat.toDigits 10 n).map enc) :
    ∃ k, k < 10 ∧ x = enc k.digitChar := by
  induction n using digits_induction with
  | single n hn =>
    rw [Nat.toDigits_of_lt_base hn] at h
    exact ⟨n, hn, by simpa using h⟩
  | more n hn ih =>
    rw [Nat.toDigits_of_base_le (by decide) hn, List.map_append, List.mem_append] at h
    rcases h with h | h
    · exact ih h
    · exact ⟨n % 10, by omega, by simpa using h⟩

theorem val_map_toDigits {enc : Char → α} {d : α → Nat} (h : ∀ k, k < 10 → d (enc k.digitChar) = k) (n : Nat) :
    val d ((Nat.toDigits 10 n).map enc) = n := by
  induction n using digits_induction with
  | single n hn => rw [Nat.toDigits_of_lt_base hn]; simp [val_cons, h n hn]
  | more n hn ih =>
    rw [Nat.toDigits_of_base_le (by decide) hn, List.map_append, List.map_singleton, val_concat, ih,
      h _ (by omega)]
    omega

theorem toNat_byte_digitChar {k : Nat} (h : k < 10) : (UInt8.ofNat k.digitChar.toNat).toNat = 48 + k := by
  rw [Nat.toNat_digitChar_of_lt_ten h, UInt8.toNat_ofNat_of_lt' (Nat.lt_of_lt_of_le (Nat.add_lt_add_left h 48) (by decide))]

theorem length_toDigits_le {n k : Nat} (hk : 1 ≤ k) (hn : n < 10 ^ k) : (Nat.toDigits 10 n).length ≤ k :=
  (Nat.length_toDigits_le_iff (by decide) hk).mpr hn

theorem lt_length_toDigits {n w : Nat} (h : 10 ^ w ≤ n) : w < (Nat.toDigits 10 n).length := by
  cases w with
  | zero => exact Nat.length_toDigits_pos
  | succ w =>
    refine Nat.lt_of_not_le fun hle => ?_
    have := (Nat.length_toDigits_le_iff (b := 10) (by decide) (Nat.succ_pos w)).mp hle
    omega

end GaeaVerif.Dec
