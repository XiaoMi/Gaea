import GaeaVerif.Lemmas.C13Decimal
import GaeaVerif.Lemmas.C13Temporal
import Mathlib.Tactic.Ring
import Mathlib.Tactic.Linarith
/-
  C13 helper lemmas: one column.  Integer columns depend on the type only
  through its width and the UNSIGNED flag; the other types fall into a few
  families, for each of which the dispatch of the model and of the spec on the
  type code is evaluated once.  Then any column: what is sent is read back as
  what the text says (`col_exact`), and a server's value is sent (`col_total`).

  No tactic of the two Mathlib modules is used.  They are imported for what they
  do to elaboration: with them loaded `2 ^ n` on `Nat` goes through Mathlib's
  `Monoid.npow` instead of core's `instPowNat`, and that is the form in which
  `FloatOpsOk` and the bounds `2 ^ n` in the theorems of Props/C13 elaborate.
  Dropping the imports changes those statements.
-/
namespace GaeaVerif.C13
open GaeaVerif GaeaVerif.BinRow GaeaVerif.BinProto GaeaVerif.LenEnc

/-! ### integer columns -/

theorem intWidth_some (ty w : Nat) (h : intWidth ty = some w) :
    (ty = TypeTiny ∧ w = 1) ∨ ((ty = TypeShort ∨ ty = TypeYear) ∧ w = 2)
      ∨ ((ty = TypeLong ∨ ty = TypeInt24) ∧ w = 4) ∨ (ty = TypeLonglong ∧ w = 8) := by
  unfold intWidth at h
  repeat' split at h
  all_goals cases h
  all_goals simp [*]

theorem intWidth_le (ty w : Nat) (h : intWidth ty = some w) : 0 < w ∧ w ≤ 8 := by
  rcases intWidth_some ty w h with ⟨-, rfl⟩ | ⟨-, rfl⟩ | ⟨-, rfl⟩ | ⟨-, rfl⟩ <;> decide

theorem intWidth_not_other (ty w : Nat) (h : intWidth ty = some w) :
    ty ≠ TypeFloat ∧ ty ≠ TypeDouble ∧ ty ≠ TypeNewDecimal ∧ ty ≠ TypeDecimal ∧ ty ≠ TypeDate ∧ ty ≠ TypeNewDate
      ∧ ty ≠ TypeDatetime ∧ ty ≠ TypeTimestamp ∧ ty ≠ TypeDuration := by
  rcases intWidth_some ty w h with ⟨rfl, -⟩ | ⟨rfl | rfl, -⟩ | ⟨rfl | rfl, -⟩ | ⟨rfl, -⟩ <;> decide

theorem intText_some (cell : Bytes) (x : Int) (h : intText cell = some x) :
    ∃ (neg : Bool) (ds : Bytes), cell = (if neg then [45] else []) ++ ds ∧ ds ≠ [] ∧ ds.all isDigit = true
      ∧ x = if neg then -(decVal ds : Int) else (decVal ds : Int) := by
  unfold intText at h
  split at h <;> split at h <;> cases h
  · next ds had => exact ⟨true, ds, rfl, ((allDigits_iff _).1 had).1, ((allDigits_iff _).1 had).2, rfl⟩
  · next had => exact ⟨false, cell, rfl, ((allDigits_iff _).1 had).1, ((allDigits_iff _).1 had).2, rfl⟩

theorem intText_parseInt (cell : Bytes) (x : Int) (h : intText cell = some x) :
    parseInt cell 64 = if -2 ^ 63 ≤ x ∧ x < 2 ^ 63 then some x else none := by
  obtain ⟨neg, ds, rfl, hne, hd, hx⟩ := intText_some cell x h
  exact parseInt_signed neg ds hne hd x hx

theorem intText_parseUint (cell : Bytes) (x : Int) (h : intText cell = some x) :
    parseUint cell 64 = if cell.head? ≠ some 45 ∧ 0 ≤ x ∧ x < 2 ^ 64 then some x.toNat else none := by
  obtain ⟨neg, ds, rfl, hne, hd, rfl⟩ := intText_some cell x h
  cases neg with
  | true => simp [parseUint, isDigit]
  | false =>
    have := head_digit_ne_minus ds hne hd
    simp only [Bool.false_eq_true, if_false, List.nil_append, parseUint_digits ds 64 hne hd, ne_eq, this,
      not_false_eq_true, true_and, Int.toNat_natCast]
    congr 1
    simp only [eq_iff_iff]; omega

theorem parseTextValue_int (ops : FloatOps) (ty flag w : Nat) (cell : Bytes) (x : Int)
    (hwid : intWidth ty = some w) (hx : intText cell = some x) :
    parseTextValue ops ⟨ty, flag⟩ cell =
      if Field.isUnsigned ⟨ty, flag⟩ then
        if cell.head? ≠ some 45 ∧ 0 ≤ x ∧ x < 2 ^ 64 then .ok (.u64 x.toNat) else .err .parseUint
      else if -2 ^ 63 ≤ x ∧ x < 2 ^ 63 then .ok (.i64 x) else .err .parseInt := by
  have hint : isIntFieldType ty = true := by
    rcases intWidth_some ty w hwid with ⟨rfl, -⟩ | ⟨rfl | rfl, -⟩ | ⟨rfl | rfl, -⟩ | ⟨rfl, -⟩ <;> rfl
  simp only [parseTextValue, hint, if_true, intText_parseInt cell x hx, intText_parseUint cell x hx]
  cases Field.isUnsigned ⟨ty, flag⟩
  · rw [if_neg Bool.false_ne_true, if_neg Bool.false_ne_true]
    by_cases h : -2 ^ 63 ≤ x ∧ x < 2 ^ 63
    · rw [if_pos h, if_pos h]
    · rw [if_neg h, if_neg h]
  · rw [if_pos rfl, if_pos rfl]
    by_cases h : cell.head? ≠ some 45 ∧ 0 ≤ x ∧ x < 2 ^ 64
    · rw [if_pos h, if_pos h]
    · rw [if_neg h, if_neg h]

/-- The range test of `integerFitsColumn` for a signed value, over the width in bits. -/
theorem fits_i64 (bits : Nat) (u : Bool) (x : Int) :
    (if x < 0 then !u && decide (x ≥ -(2 ^ (bits - 1) : Int))
      else if u then decide (x < 2 ^ bits) else decide (x < 2 ^ (bits - 1)))
    = if u then decide (0 ≤ x ∧ x < 2 ^ bits) else decide (-(2 ^ (bits - 1) : Int) ≤ x ∧ x < 2 ^ (bits - 1)) := by
  have hp : (0 : Int) < 2 ^ (bits - 1) := Int.pow_pos (by decide)
  by_cases hx : x < 0 <;> cases u <;> simp [hx] <;> omega

/-- The same for an unsigned value. -/
theorem fits_u64 (bits : Nat) (u : Bool) (n : Nat) :
    (if u then decide (n < 2 ^ bits) else decide (n < 2 ^ (bits - 1)))
    = if u then decide (0 ≤ (n : Int) ∧ (n : Int) < 2 ^ bits)
      else decide (-(2 ^ (bits - 1) : Int) ≤ n ∧ (n : Int) < 2 ^ (bits - 1)) := by
  have hp : (0 : Int) < 2 ^ (bits - 1) := Int.pow_pos (by decide)
  have h0 : -(2 ^ (bits - 1) : Int) ≤ n := by omega
  have e : ∀ k, ((n : Int) < 2 ^ k) = (n < 2 ^ k) := fun k => by norm_cast
  cases u <;> simp [h0, e]

theorem integerFitsColumn_i64 (ty flag w : Nat) (x : Int) (hwid : intWidth ty = some w) :
    integerFitsColumn ⟨ty, flag⟩ (.i64 x) = inIntRange w (Field.isUnsigned ⟨ty, flag⟩) x := by
  rcases intWidth_some ty w hwid with ⟨rfl, rfl⟩ | ⟨rfl | rfl, rfl⟩ | ⟨rfl | rfl, rfl⟩ | ⟨rfl, rfl⟩ <;>
    exact fits_i64 _ _ x

theorem integerFitsColumn_u64 (ty flag w : Nat) (n : Nat) (hwid : intWidth ty = some w) :
    integerFitsColumn ⟨ty, flag⟩ (.u64 n) = inIntRange w (Field.isUnsigned ⟨ty, flag⟩) n := by
  rcases intWidth_some ty w hwid with ⟨rfl, rfl⟩ | ⟨rfl | rfl, rfl⟩ | ⟨rfl | rfl, rfl⟩ | ⟨rfl, rfl⟩ <;>
    exact fits_u64 _ _ n

theorem appendBinaryValue_i64 (ops : FloatOps) (ty w : Nat) (x : Int) (hwid : intWidth ty = some w) :
    appendBinaryValue ops ty (.i64 x) = .ok ((leBytes (x % 2 ^ 64).toNat 8).take w) := by
  rcases intWidth_some ty w hwid with ⟨rfl, rfl⟩ | ⟨rfl | rfl, rfl⟩ | ⟨rfl | rfl, rfl⟩ | ⟨rfl, rfl⟩ <;> rfl

theorem appendBinaryValue_u64 (ops : FloatOps) (ty w : Nat) (n : Nat) (hwid : intWidth ty = some w) :
    appendBinaryValue ops ty (.u64 n) = .ok ((leBytes n 8).take w) := by
  rcases intWidth_some ty w hwid with ⟨rfl, rfl⟩ | ⟨rfl | rfl, rfl⟩ | ⟨rfl | rfl, rfl⟩ | ⟨rfl, rfl⟩ <;> rfl

theorem int_value_roundtrip (w : Nat) (hw : 0 < w ∧ w ≤ 8) (u : Bool) (x : Int)
    (hr : inIntRange w u x = true) :
    (if u then ((leNat (leBytes ((x % 2 ^ 64).toNat) w) : Nat) : Int)
      else toSigned w (leNat (leBytes ((x % 2 ^ 64).toNat) w))) = x := by
  -- the bytes hold `x mod 2^(8w)`
  have hv : ((leNat (leBytes ((x % 2 ^ 64).toNat) w) : Nat) : Int) = x % 2 ^ (8 * w) := by
    have e : ((2 ^ (8 * w) : Nat) : Int) = 2 ^ (8 * w) := by norm_cast
    rw [leNat_leBytes_mod, show (256 : Nat) ^ w = 2 ^ (8 * w) by rw [Nat.pow_mul], Int.natCast_emod, e,
      Int.toNat_of_nonneg (Int.emod_nonneg _ (by decide))]
    exact Int.emod_emod_of_dvd x ⟨2 ^ (64 - 8 * w), by rw [← Int.pow_add]; congr 1; omega⟩
  have hP : (2 : Int) ^ (8 * w) = 2 * 2 ^ (8 * w - 1) := by
    rw [← Int.pow_succ']; congr 1; omega
  unfold toSigned
  generalize leNat (leBytes ((x % 2 ^ 64).toNat) w) = v at hv ⊢
  have hc : (v < 2 ^ (8 * w - 1)) = ((v : Int) < 2 ^ (8 * w - 1)) := by norm_cast
  simp only [hc, hv]
  unfold inIntRange at hr
  generalize (2 : Int) ^ (8 * w - 1) = H at *
  cases u with
  | true =>
    simp only [if_true, decide_eq_true_eq] at hr ⊢
    exact Int.emod_eq_of_lt hr.1 hr.2
  | false =>
    simp only [Bool.false_eq_true, if_false, decide_eq_true_eq] at hr ⊢
    by_cases hx : 0 ≤ x
    · rw [Int.emod_eq_of_lt hx (by omega), if_pos hr.2]
    · rw [← Int.add_emod_right, Int.emod_eq_of_lt (by omega) (by omega), if_neg (by omega)]; omega

theorem decodeValue_int (ty flag w : Nat) (x : Int) (rest : Bytes) (hwid : intWidth ty = some w)
    (hr : inIntRange w (Field.isUnsigned ⟨ty, flag⟩) x = true) :
    decodeValue ⟨ty, flag⟩ (leBytes (x % 2 ^ 64).toNat w ++ rest) = some (.int x, rest) := by
  simp only [decodeValue, hwid, takeN_append' _ rest w (leBytes_length _ w).symm, Option.map_some,
    int_value_roundtrip w (intWidth_le ty w hwid) _ x hr]

theorem int_cell (ops : FloatOps) (ty flag w : Nat) (cell : Bytes) (x : Int) (v : GoVal)
    (hwid : intWidth ty = some w) (hx : intText cell = some x)
    (hpt : parseTextValue ops ⟨ty, flag⟩ cell = .ok v) :
    integerFitsColumn ⟨ty, flag⟩ v = inIntRange w (Field.isUnsigned ⟨ty, flag⟩) x
    ∧ (inIntRange w (Field.isUnsigned ⟨ty, flag⟩) x = true →
        appendBinaryValue ops ty v = .ok (leBytes (x % 2 ^ 64).toNat w)) := by
  have hw8 := (intWidth_le ty w hwid).2
  rw [parseTextValue_int ops ty flag w cell x hwid hx] at hpt
  cases hu : Field.isUnsigned ⟨ty, flag⟩ with
  | true =>
    simp only [hu, if_true] at hpt
    split at hpt
    · next hc =>
      cases hpt
      rw [integerFitsColumn_u64 ty flag w _ hwid, hu, Int.toNat_of_nonneg hc.2.1, appendBinaryValue_u64 ops ty w _ hwid,
        leBytes_take _ 8 w hw8, Int.emod_eq_of_lt hc.2.1 hc.2.2]
      exact ⟨rfl, fun _ => rfl⟩
    · cases hpt
  | false =>
    simp only [hu, Bool.false_eq_true, if_false] at hpt
    split at hpt
    · cases hpt
      rw [integerFitsColumn_i64 ty flag w _ hwid, hu, appendBinaryValue_i64 ops ty w _ hwid, leBytes_take _ 8 w hw8]
      exact ⟨rfl, fun _ => rfl⟩
    · cases hpt

theorem int_col (ops : FloatOps) (ty flag w : Nat) (cell : Bytes) (x : Int) (v : GoVal) (b rest : Bytes)
    (hwid : intWidth ty = some w) (hx : intText cell = some x)
    (hr : inIntRange w (Field.isUnsigned ⟨ty, flag⟩) x = true)
    (hpt : parseTextValue ops ⟨ty, flag⟩ cell = .ok v)
    (habv : appendBinaryValue ops ty v = .ok b) :
    decodeValue ⟨ty, flag⟩ (b ++ rest) = some (.int x, rest) := by
  rw [(int_cell ops ty flag w cell x v hwid hx hpt).2 hr] at habv
  cases habv
  exact decodeValue_int ty flag w x rest hwid hr

theorem inIntRange_of_fits (ops : FloatOps) (ty flag w : Nat) (cell : Bytes) (x : Int) (v : GoVal)
    (hwid : intWidth ty = some w) (hx : intText cell = some x)
    (hpt : parseTextValue ops ⟨ty, flag⟩ cell = .ok v)
    (hfit : integerFitsColumn ⟨ty, flag⟩ v = true) :
    inIntRange w (Field.isUnsigned ⟨ty, flag⟩) x = true :=
  (int_cell ops ty flag w cell x v hwid hx hpt).1 ▸ hfit

theorem int_cell_total (ops : FloatOps) (ty flag w : Nat) (cell : Bytes) (x : Int)
    (hwid : intWidth ty = some w) (hx : intText cell = some x)
    (hr : inIntRange w (Field.isUnsigned ⟨ty, flag⟩) x = true)
    (hsp : Field.isUnsigned ⟨ty, flag⟩ = true → cell.head? ≠ some 45) :
    ∃ v, parseTextValue ops ⟨ty, flag⟩ cell = .ok v
      ∧ appendBinaryValue ops ty v = .ok (leBytes (x % 2 ^ 64).toNat w) := by
  have hp : ∃ v, parseTextValue ops ⟨ty, flag⟩ cell = .ok v := by
    have hw := intWidth_le ty w hwid
    have h1 : (2 : Int) ^ (8 * w) ≤ 2 ^ 64 := by exact_mod_cast Nat.pow_le_pow_right (by decide : 0 < 2) (by omega)
    have h2 : (2 : Int) ^ (8 * w - 1) ≤ 2 ^ 63 := by exact_mod_cast Nat.pow_le_pow_right (by decide : 0 < 2) (by omega)
    rw [parseTextValue_int ops ty flag w cell x hwid hx]
    unfold inIntRange at hr
    cases hu : Field.isUnsigned ⟨ty, flag⟩ with
    | true =>
      simp only [hu, if_true, decide_eq_true_eq] at hr ⊢
      exact ⟨_, if_pos ⟨hsp hu, hr.1, by omega⟩⟩
    | false =>
      simp only [hu, Bool.false_eq_true, if_false, decide_eq_true_eq] at hr ⊢
      exact ⟨_, if_pos ⟨by omega, by omega⟩⟩
  obtain ⟨v, hp⟩ := hp
  exact ⟨v, hp, (int_cell ops ty flag w cell x v hwid hx hp).2 hr⟩

/-! ### the column types that are not integer types -/

/-- What is assumed of the opaque float functions: they return bit patterns of
    the right width. -/
def FloatOpsOk (ops : FloatOps) : Prop :=
  (∀ b, ops.toF32 b < 2 ^ 32) ∧ (∀ s b, ops.parseFloat s = some b → b < 2 ^ 64)

theorem same_refl (v : Val) : Val.same v v = true := by
  cases v <;> simp [Val.same]

theorem integerFitsColumn_nonint (ty flag : Nat) (v : GoVal) (hw : intWidth ty = none) :
    integerFitsColumn ⟨ty, flag⟩ v = true := by
  unfold intWidth at hw
  unfold integerFitsColumn
  by_cases h1 : ty = TypeTiny
  · rw [if_pos h1] at hw; cases hw
  by_cases h2 : ty = TypeShort ∨ ty = TypeYear
  · rw [if_neg h1, if_pos h2] at hw; cases hw
  by_cases h3 : ty = TypeLong ∨ ty = TypeInt24
  · rw [if_neg h1, if_neg h2, if_pos h3] at hw; cases hw
  by_cases h4 : ty = TypeLonglong
  · rw [if_neg h1, if_neg h2, if_neg h3, if_pos h4] at hw; cases hw
  simp only [if_neg h1, if_neg h2, if_neg h3, if_neg h4, if_true]

theorem nonint_class (ty : Nat) (hw : intWidth ty = none) :
    ty = TypeFloat ∨ ty = TypeDouble ∨ ty = TypeNewDecimal ∨ (ty = TypeDate ∨ ty = TypeNewDate)
      ∨ (ty = TypeDatetime ∨ ty = TypeTimestamp) ∨ ty = TypeDuration ∨ (isBytesType ty = true ∨ ty = TypeDecimal)
      ∨ ∀ ops flag s, readText ops ⟨ty, flag⟩ (some s) = none := by
  by_cases h1 : ty = TypeFloat
  · exact .inl h1
  by_cases h2 : ty = TypeDouble
  · exact .inr (.inl h2)
  by_cases h3 : ty = TypeNewDecimal
  · exact .inr (.inr (.inl h3))
  by_cases h4 : ty = TypeDate ∨ ty = TypeNewDate
  · exact .inr (.inr (.inr (.inl h4)))
  by_cases h5 : ty = TypeDatetime ∨ ty = TypeTimestamp
  · exact .inr (.inr (.inr (.inr (.inl h5))))
  by_cases h6 : ty = TypeDuration
  · exact .inr (.inr (.inr (.inr (.inr (.inl h6)))))
  by_cases h7 : isBytesType ty = true
  · exact .inr (.inr (.inr (.inr (.inr (.inr (.inl (.inl h7)))))))
  by_cases h8 : ty = TypeDecimal
  · exact .inr (.inr (.inr (.inr (.inr (.inr (.inl (.inr h8)))))))
  refine .inr (.inr (.inr (.inr (.inr (.inr (.inr fun ops flag s => ?_))))))
  simp only [readText, denoteText, hw, if_neg h1, if_neg h2, h3, if_neg h4, if_neg h5, if_neg h6, h7, h8,
    or_self, if_false, Bool.false_eq_true]

theorem appendBinaryValue_of_bytes (ops : FloatOps) (ty : Nat) (v : GoVal) (t : Bytes)
    (h : binaryValueBytes ops ty v = .ok t) : appendBinaryValue ops ty v = appendBinaryValue ops ty (.bytes t) := by
  unfold appendBinaryValue
  rw [h]
  rfl

/-! #### the dispatch on the type code, by evaluation on the codes of each family -/

theorem parseTextValue_float (ops : FloatOps) (ty flag : Nat) (cell : Bytes) (h : ty = TypeFloat ∨ ty = TypeDouble) :
    parseTextValue ops ⟨ty, flag⟩ cell
      = match ops.parseFloat cell with
        | some b => .ok (.f64 b)
        | none => .err .parseFloat := by
  rcases h with rfl | rfl <;> rfl

theorem parseTextValue_newDecimal (ops : FloatOps) (flag : Nat) (cell : Bytes) :
    parseTextValue ops ⟨TypeNewDecimal, flag⟩ cell
      = match newFromString cell with
        | some (value, exp) => .ok (.dec value exp)
        | none => .err .parseDecimal := rfl

theorem decodeValue_float (flag : Nat) (b : Bytes) :
    decodeValue ⟨TypeFloat, flag⟩ b = (takeN 4 b).map fun (v, r) => (.f32 (leNat v), r) := rfl

theorem decodeValue_double (flag : Nat) (b : Bytes) :
    decodeValue ⟨TypeDouble, flag⟩ b = (takeN 8 b).map fun (v, r) => (.f64 (leNat v), r) := rfl

theorem decodeValue_decimal (ty flag : Nat) (b : Bytes) (h : ty = TypeNewDecimal ∨ ty = TypeDecimal) :
    decodeValue ⟨ty, flag⟩ b
      = match takeLenEnc b with
        | none => none
        | some (v, r) => (decimalText v).map fun (u, sc) => (.dec u sc, r) := by
  rcases h with rfl | rfl <;> rfl

theorem bytes_type (ops : FloatOps) (ty flag : Nat) (cell b : Bytes) (hty : isBytesType ty = true) :
    intWidth ty = none
    ∧ (∃ v, parseTextValue ops ⟨ty, flag⟩ cell = .ok v
      ∧ appendBinaryValue ops ty v = .ok (appendLenEncStringBytes cell))
    ∧ readText ops ⟨ty, flag⟩ (some cell) = some (.bytes cell)
    ∧ decodeValue ⟨ty, flag⟩ b = (takeLenEnc b).map fun (v, r) => (.bytes v, r) := by
  simp only [isBytesType, Bool.or_eq_true, beq_iff_eq] at hty
  rcases hty with ((((((((((rfl | rfl) | rfl) | rfl) | rfl) | rfl) | rfl) | rfl) | rfl) | rfl) | rfl) | rfl <;>
    exact ⟨rfl, ⟨_, rfl, rfl⟩, rfl, rfl⟩

theorem bytes_col (ops : FloatOps) (ty flag : Nat) (cell : Bytes) (v : GoVal) (b rest : Bytes)
    (hty : isBytesType ty = true) (hlen : cell.length < 2 ^ 64)
    (hpt : parseTextValue ops ⟨ty, flag⟩ cell = .ok v)
    (habv : appendBinaryValue ops ty v = .ok b) :
    decodeValue ⟨ty, flag⟩ (b ++ rest) = some (.bytes cell, rest) := by
  obtain ⟨-, ⟨v', hv, ha⟩, -, hdec⟩ := bytes_type ops ty flag cell (b ++ rest) hty
  rw [hv] at hpt
  cases hpt
  rw [ha] at habv
  cases habv
  rw [hdec, takeLenEnc_append cell rest hlen]
  rfl

theorem float_col (ops : FloatOps) (hops : FloatOpsOk ops) (flag : Nat) (cell : Bytes) (d : Val) (v : GoVal)
    (b rest : Bytes)
    (hden : (ops.parseFloat cell).map (fun b => Val.f32 (ops.toF32 b)) = some d)
    (hpt : parseTextValue ops ⟨TypeFloat, flag⟩ cell = .ok v)
    (habv : appendBinaryValue ops TypeFloat v = .ok b) :
    decodeValue ⟨TypeFloat, flag⟩ (b ++ rest) = some (d, rest) := by
  rw [parseTextValue_float ops _ flag cell (.inl rfl)] at hpt
  cases hp : ops.parseFloat cell with
  | none => rw [hp] at hden; cases hden
  | some bits =>
    rw [hp] at hden hpt
    cases hden
    cases hpt
    cases habv
    rw [decodeValue_float, leBytes_take _ 4 4 (Nat.le_refl 4), takeN_append' _ rest 4 rfl]
    simp only [Option.map_some, leNat_leBytes 4 _ (hops.1 bits)]

theorem double_col (ops : FloatOps) (hops : FloatOpsOk ops) (flag : Nat) (cell : Bytes) (d : Val) (v : GoVal)
    (b rest : Bytes)
    (hden : (ops.parseFloat cell).map Val.f64 = some d)
    (hpt : parseTextValue ops ⟨TypeDouble, flag⟩ cell = .ok v)
    (habv : appendBinaryValue ops TypeDouble v = .ok b) :
    decodeValue ⟨TypeDouble, flag⟩ (b ++ rest) = some (d, rest) := by
  rw [parseTextValue_float ops _ flag cell (.inr rfl)] at hpt
  cases hp : ops.parseFloat cell with
  | none => rw [hp] at hden; cases hden
  | some bits =>
    rw [hp] at hden hpt
    cases hden
    cases hpt
    cases habv
    rw [decodeValue_double, leBytes_take _ 8 8 (Nat.le_refl 8), takeN_append' _ rest 8 rfl]
    simp only [Option.map_some, leNat_leBytes 8 _ (hops.2 cell bits hp)]

theorem decimal_col (ops : FloatOps) (flag : Nat) (cell : Bytes) (u : Int) (sc : Nat) (v : GoVal)
    (b rest : Bytes) (hlen : cell.length < 2 ^ 62)
    (hden : decimalText cell = some (u, sc))
    (hpt : parseTextValue ops ⟨TypeNewDecimal, flag⟩ cell = .ok v)
    (habv : appendBinaryValue ops TypeNewDecimal v = .ok b) :
    ∃ v', decodeValue ⟨TypeNewDecimal, flag⟩ (b ++ rest) = some (v', rest) ∧ Val.same v' (.dec u sc) = true := by
  rw [parseTextValue_newDecimal] at hpt
  cases hn : newFromString cell with
  | none => rw [hn] at hpt; cases hpt
  | some p =>
    obtain ⟨val, e⟩ := p
    rw [hn] at hpt
    cases hpt
    cases habv
    obtain ⟨⟨u', sc', hdt, hmul⟩, hl⟩ := decimal_cell_roundtrip cell u sc val e hden hn
    refine ⟨.dec u' sc', ?_, by simp [Val.same, hmul]⟩
    rw [decodeValue_decimal _ flag _ (.inl rfl), takeLenEnc_append (decimalString val e) rest (by omega)]
    simp only [hdt, Option.map_some]

theorem date_col (ops : FloatOps) (ty flag : Nat) (cell : Bytes) (d : Val) (v : GoVal) (b rest : Bytes)
    (hty : ty = TypeDate ∨ ty = TypeNewDate)
    (hden : readText ops ⟨ty, flag⟩ (some cell) = some d)
    (hpt : parseTextValue ops ⟨ty, flag⟩ cell = .ok v)
    (habv : appendBinaryValue ops ty v = .ok b) :
    decodeValue ⟨ty, flag⟩ (b ++ rest) = some (d, rest) := by
  rcases hty with rfl | rfl <;>
    (cases hpt; cases habv; exact decodeDate_dateBytes cell rest d hden)

theorem datetime_col (ops : FloatOps) (ty flag : Nat) (cell : Bytes) (d : Val) (v : GoVal) (b rest : Bytes)
    (hty : ty = TypeDatetime ∨ ty = TypeTimestamp)
    (hden : readText ops ⟨ty, flag⟩ (some cell) = some d)
    (hpt : parseTextValue ops ⟨ty, flag⟩ cell = .ok v)
    (habv : appendBinaryValue ops ty v = .ok b) :
    decodeValue ⟨ty, flag⟩ (b ++ rest) = some (d, rest) := by
  rcases hty with rfl | rfl <;>
    (obtain ⟨t, ht, hdec⟩ := decodeDate_datetimeBytes cell d hden
     cases hpt
     rw [appendBinaryValue_of_bytes ops _ _ t] at habv
     · cases habv; exact hdec rest
     · exact ht)

theorem duration_col (ops : FloatOps) (flag : Nat) (cell : Bytes) (d : Val) (v : GoVal) (b rest : Bytes)
    (hden : readText ops ⟨TypeDuration, flag⟩ (some cell) = some d)
    (hpt : parseTextValue ops ⟨TypeDuration, flag⟩ cell = .ok v)
    (habv : appendBinaryValue ops TypeDuration v = .ok b) :
    decodeValue ⟨TypeDuration, flag⟩ (b ++ rest) = some (d, rest) := by
  obtain ⟨t, ht, hdec⟩ := decodeTime_durationBytes cell d hden
  cases hpt
  rw [appendBinaryValue_of_bytes ops _ _ t] at habv
  · cases habv; exact hdec rest
  · exact ht

theorem nonint_col (ops : FloatOps) (hops : FloatOpsOk ops) (ty flag : Nat) (cell : Bytes) (d : Val) (v : GoVal)
    (b rest : Bytes) (hlen : cell.length < 2 ^ 62) (hw : intWidth ty = none)
    (hden : readText ops ⟨ty, flag⟩ (some cell) = some d)
    (hpt : parseTextValue ops ⟨ty, flag⟩ cell = .ok v)
    (habv : appendBinaryValue ops ty v = .ok b) :
    ∃ v', decodeValue ⟨ty, flag⟩ (b ++ rest) = some (v', rest) ∧ Val.same v' d = true := by
  rcases nonint_class ty hw with rfl | rfl | rfl | h | h | rfl | h | h
  · exact ⟨d, float_col ops hops flag cell d v b rest hden hpt habv, same_refl d⟩
  · exact ⟨d, double_col ops hops flag cell d v b rest hden hpt habv, same_refl d⟩
  · change (decimalText cell).map (fun (u, sc) => Val.dec u sc) = some d at hden
    cases hdt : decimalText cell with
    | none => rw [hdt] at hden; cases hden
    | some p =>
      rw [hdt] at hden
      cases hden
      exact decimal_col ops flag cell p.1 p.2 v b rest hlen hdt hpt habv
  · exact ⟨d, date_col ops ty flag cell d v b rest h hden hpt habv, same_refl d⟩
  · exact ⟨d, datetime_col ops ty flag cell d v b rest h hden hpt habv, same_refl d⟩
  · exact ⟨d, duration_col ops flag cell d v b rest hden hpt habv, same_refl d⟩
  · rcases h with h | rfl
    · rw [(bytes_type ops ty flag cell [] h).2.2.1] at hden
      cases hden
      exact ⟨_, bytes_col ops ty flag cell v b rest h (by omega) hpt habv, same_refl _⟩
    · -- `TypeDecimal`, the DECIMAL of MySQL before 5.0: the text itself is sent
      change (decimalText cell).map (fun (u, sc) => Val.dec u sc) = some d at hden
      cases hdt : decimalText cell with
      | none => rw [hdt] at hden; cases hden
      | some p =>
        rw [hdt] at hden
        cases hden
        cases hpt
        cases habv
        refine ⟨.dec p.1 p.2, ?_, same_refl _⟩
        rw [decodeValue_decimal _ flag _ (.inr rfl), takeLenEnc_append cell rest (by omega)]
        simp only [hdt, Option.map_some]
  · rw [h] at hden; cases hden

/-! ### any column -/

theorem denote_sub_read (ops : FloatOps) (f : Field) (c : Option Bytes) (d : Val)
    (h : denoteText ops f c = some d) : readText ops f c = some d := by
  obtain ⟨ty, flag⟩ := f
  cases c with
  | none => exact h
  | some s =>
    cases hw : intWidth ty with
    | some w =>
      simp only [denoteText, hw] at h
      simp only [readText, hw]
      cases hx : intText s with
      | none => simp only [hx] at h; cases h
      | some x =>
        simp only [hx] at h ⊢
        split at h
        · exact h
        · cases h
    | none =>
      simp only [readText, hw]
      by_cases hdate : ty = TypeDate ∨ ty = TypeNewDate
      · rw [if_pos hdate]
        rcases hdate with rfl | rfl <;> exact dateText_sub s d h
      · rw [if_neg hdate]
        by_cases hdtm : ty = TypeDatetime ∨ ty = TypeTimestamp
        · rw [if_pos hdtm]
          rcases hdtm with rfl | rfl <;> exact datetimeText_sub s d h
        · rw [if_neg hdtm]; exact h

theorem denote_fits (ops : FloatOps) (f : Field) (cell : Bytes) (d : Val) (v : GoVal)
    (hden : denoteText ops f (some cell) = some d) (hpt : parseTextValue ops f cell = .ok v) :
    integerFitsColumn f v = true := by
  obtain ⟨ty, flag⟩ := f
  cases hw : intWidth ty with
  | none => exact integerFitsColumn_nonint ty flag v hw
  | some w =>
    simp only [denoteText, hw] at hden
    cases hx : intText cell with
    | none => simp only [hx] at hden; cases hden
    | some x =>
      simp only [hx] at hden
      split at hden
      · next hr => exact (int_cell ops ty flag w cell x v hw hx hpt).1 ▸ hr
      · cases hden

theorem col_exact (ops : FloatOps) (hops : FloatOpsOk ops) (f : Field) (cell : Bytes) (d : Val) (v : GoVal)
    (b rest : Bytes) (hlen : cell.length < 2 ^ 62)
    (hden : readText ops f (some cell) = some d)
    (hpt : parseTextValue ops f cell = .ok v)
    (hfit : integerFitsColumn f v = true)
    (habv : appendBinaryValue ops f.typ v = .ok b) :
    ∃ v', decodeValue f (b ++ rest) = some (v', rest) ∧ Val.same v' d = true := by
  obtain ⟨ty, flag⟩ := f
  cases hw : intWidth ty with
  | none => exact nonint_col ops hops ty flag cell d v b rest hlen hw hden hpt habv
  | some w =>
    simp only [readText, hw] at hden
    cases hx : intText cell with
    | none => rw [hx] at hden; cases hden
    | some x =>
      rw [hx] at hden
      cases hden
      exact ⟨.int x, int_col ops ty flag w cell x v b rest hw hx
        (inIntRange_of_fits ops ty flag w cell x v hw hx hpt hfit) hpt habv, same_refl _⟩

/-! ### delivery: a server's value of the column's type is converted -/

theorem nonint_total (ops : FloatOps) (ty flag : Nat) (cell : Bytes) (d : Val) (hlen : cell.length < 2 ^ 31)
    (hw : intWidth ty = none) (hden : readText ops ⟨ty, flag⟩ (some cell) = some d) :
    ∃ v b, parseTextValue ops ⟨ty, flag⟩ cell = .ok v ∧ appendBinaryValue ops ty v = .ok b := by
  have hfloat : ∀ ty, ty = TypeFloat ∨ ty = TypeDouble → ops.parseFloat cell ≠ none →
      ∃ v b, parseTextValue ops ⟨ty, flag⟩ cell = .ok v ∧ appendBinaryValue ops ty v = .ok b := by
    intro ty h hp
    rw [parseTextValue_float ops ty flag cell h]
    cases hb : ops.parseFloat cell with
    | none => exact absurd hb hp
    | some bits => rcases h with rfl | rfl <;> exact ⟨_, _, rfl, rfl⟩
  rcases nonint_class ty hw with rfl | rfl | rfl | h | h | rfl | h | h
  · exact hfloat _ (.inl rfl) fun hp => by
      change (ops.parseFloat cell).map _ = some d at hden; rw [hp] at hden; cases hden
  · exact hfloat _ (.inr rfl) fun hp => by
      change (ops.parseFloat cell).map _ = some d at hden; rw [hp] at hden; cases hden
  · change (decimalText cell).map (fun (u, sc) => Val.dec u sc) = some d at hden
    cases hdt : decimalText cell with
    | none => rw [hdt] at hden; cases hden
    | some p =>
      obtain ⟨val, ex, hn⟩ := newFromString_of_decimalText cell p.1 p.2 hdt hlen
      exact ⟨.dec val ex, _, by rw [parseTextValue_newDecimal, hn], rfl⟩
  · rcases h with rfl | rfl <;> exact ⟨_, _, rfl, rfl⟩
  · obtain ⟨t, ht, -⟩ := decodeDate_datetimeBytes cell d (by rcases h with rfl | rfl <;> exact hden)
    refine ⟨.str cell, t, by rcases h with rfl | rfl <;> rfl, ?_⟩
    rw [appendBinaryValue_of_bytes ops ty _ t (by rcases h with rfl | rfl <;> exact ht)]
    rcases h with rfl | rfl <;> rfl
  · obtain ⟨t, ht, -⟩ := decodeTime_durationBytes cell d hden
    exact ⟨.str cell, t, rfl, by rw [appendBinaryValue_of_bytes ops TypeDuration (.str cell) t ht]; rfl⟩
  · rcases h with h | rfl
    · obtain ⟨-, ⟨v, hv, ha⟩, -⟩ := bytes_type ops ty flag cell [] h
      exact ⟨v, _, hv, ha⟩
    · exact ⟨_, _, rfl, rfl⟩
  · rw [h] at hden; cases hden

theorem col_total (ops : FloatOps) (f : Field) (cell : Bytes) (hlen : cell.length < 2 ^ 31)
    (hs : serverCell ops f (some cell) = true) :
    ∃ v b, parseTextValue ops f cell = .ok v ∧ integerFitsColumn f v = true
      ∧ appendBinaryValue ops f.typ v = .ok b := by
  obtain ⟨ty, flag⟩ := f
  unfold serverCell at hs
  simp only [Bool.and_eq_true, Bool.or_eq_true, Bool.not_eq_true', bne_iff_ne, ne_eq] at hs
  obtain ⟨hden, hsp⟩ := hs
  cases hd : denoteText ops ⟨ty, flag⟩ (some cell) with
  | none => rw [hd] at hden; cases hden
  | some d =>
    have hva : ∃ v b, parseTextValue ops ⟨ty, flag⟩ cell = .ok v ∧ appendBinaryValue ops ty v = .ok b := by
      cases hw : intWidth ty with
      | none => exact nonint_total ops ty flag cell d hlen hw (denote_sub_read ops _ _ d hd)
      | some w =>
        have hd' := hd
        simp only [denoteText, hw] at hd'
        cases hx : intText cell with
        | none => simp only [hx] at hd'; cases hd'
        | some x =>
          simp only [hx] at hd'
          split at hd'
          · next hr =>
            refine (int_cell_total ops ty flag w cell x hw hx hr fun hu => ?_).imp fun _ h => ⟨_, h⟩
            rcases hsp with h | h
            · simp [hw, hu] at h
            · exact h
          · cases hd'
    obtain ⟨v, b, hp, ha⟩ := hva
    exact ⟨v, b, hp, denote_fits ops _ cell d v hd hp, ha⟩

end GaeaVerif.C13
