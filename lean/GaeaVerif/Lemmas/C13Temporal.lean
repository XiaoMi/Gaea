import GaeaVerif.Lemmas.C13Digits
/-
  C13 helper lemmas: dates, datetimes and times — the model's `time.Parse`
  transliterations on the spellings of the spec, and the spec's binary readers on
  the model's temporal encodings.
-/
namespace GaeaVerif.C13
open GaeaVerif GaeaVerif.BinRow GaeaVerif.BinProto GaeaVerif.LenEnc

theorem two_some (a b : UInt8) (n : Nat) (h : two a b = some n) :
    isDigit a = true ∧ isDigit b = true ∧ n = digVal a * 10 + digVal b ∧ n < 100 := by
  unfold two at h
  split at h
  · rename_i hd
    simp only [Bool.and_eq_true] at hd
    simp only [Option.some.injEq] at h
    have := digVal_lt a hd.1; have := digVal_lt b hd.2
    exact ⟨hd.1, hd.2, h.symm, by omega⟩
  · simp at h

theorem four_some (a b c d : UInt8) (n : Nat) (h : four a b c d = some n) :
    isDigit a = true ∧ isDigit b = true ∧ isDigit c = true ∧ isDigit d = true
      ∧ n = digVal a * 1000 + digVal b * 100 + digVal c * 10 + digVal d ∧ n < 10000 := by
  unfold four at h
  split at h
  · rename_i hd
    simp only [Bool.and_eq_true] at hd
    simp only [Option.some.injEq] at h
    have := digVal_lt a hd.1.1.1; have := digVal_lt b hd.1.1.2; have := digVal_lt c hd.1.2; have := digVal_lt d hd.2
    exact ⟨hd.1.1.1, hd.1.1.2, hd.1.2, hd.2, h.symm, by omega⟩
  · simp at h

theorem getnum_two (a b : UInt8) (rest : Bytes) (fixed : Bool) (ha : isDigit a = true) (hb : isDigit b = true) :
    getnum (a :: b :: rest) fixed = some (digVal a * 10 + digVal b, rest) := by
  simp [getnum, ha, hb]

theorem parseYear4_four (a b c d : UInt8) (rest : Bytes) (y : Nat) (h : four a b c d = some y) :
    parseYear4 (a :: b :: c :: d :: rest) = some (y, rest) := by
  obtain ⟨ha, hb, hc, hd, hy, _⟩ := four_some a b c d y h
  unfold parseYear4
  simp [ha, hb, hc, hd, decVal, hy]
  omega

theorem skipChar_same (c : UInt8) (rest : Bytes) (hc : c ≠ 32) : skipChar (c :: rest) c = some rest := by
  have : (c == 32) = false := by simpa using hc
  simp [skipChar, this]

theorem skipChar_space_digit (c : UInt8) (rest : Bytes) (h : isDigit c = true) :
    skipChar (32 :: c :: rest) 32 = some (c :: rest) := by
  simp [skipChar, cutspace, isDigit_beq h (k := 32) rfl]

theorem parseYMD_shape (y0 y1 y2 y3 m0 m1 d0 d1 : UInt8) (rest : Bytes) (y m d : Nat)
    (hy : four y0 y1 y2 y3 = some y) (hm : two m0 m1 = some m) (hd : two d0 d1 = some d) :
    parseYMD (y0 :: y1 :: y2 :: y3 :: 45 :: m0 :: m1 :: 45 :: d0 :: d1 :: rest)
      = if m = 0 ∨ m > 12 then none else some (y, m, d, rest) := by
  obtain ⟨hm0, hm1, hmv, _⟩ := two_some _ _ _ hm
  obtain ⟨hd0, hd1, hdv, _⟩ := two_some _ _ _ hd
  unfold parseYMD
  rw [parseYear4_four _ _ _ _ _ _ hy]
  simp only [skipChar_same 45 _ (by decide), getnum_two _ _ _ _ hm0 hm1, getnum_two _ _ _ _ hd0 hd1, ← hmv, ← hdv]

theorem fracText_some (frac : Bytes) (us : Nat) (h : fracText frac = some us) :
    (frac = [] ∧ us = 0) ∨ (∃ ds, frac = 46 :: ds ∧ ds ≠ [] ∧ ds.all isDigit = true ∧ ds.length ≤ 6
      ∧ us = decVal ds * 10 ^ (6 - ds.length)) := by
  unfold fracText at h
  split at h
  · left; simp at h; exact ⟨rfl, h.symm⟩
  · right
    rename_i ds
    split at h
    · rename_i hc
      simp only [Bool.and_eq_true, decide_eq_true_eq] at hc
      have := (allDigits_iff ds).1 hc.1
      simp only [Option.some.injEq] at h
      exact ⟨ds, rfl, this.1, this.2, hc.2, h.symm⟩
    · simp at h
  · simp at h

theorem fracText_lt (frac : Bytes) (us : Nat) (h : fracText frac = some us) : us < 1000000 := by
  rcases fracText_some frac us h with ⟨-, rfl⟩ | ⟨ds, -, -, hd, hlen, rfl⟩
  · decide
  · have := Nat.mul_lt_mul_of_pos_right (decVal_lt ds hd) (Nat.pow_pos (by decide) : 0 < 10 ^ (6 - ds.length))
    rwa [← Nat.pow_add, show ds.length + (6 - ds.length) = 6 by omega] at this

theorem takeWhile_all (p : UInt8 → Bool) (s : Bytes) (h : s.all p = true) : s.takeWhile p = s := by
  induction s with
  | nil => rfl
  | cons c cs ih =>
    simp only [List.all_cons, Bool.and_eq_true] at h
    simp [h.1, ih h.2]

theorem parseSecFrac_shape (s0 s1 : UInt8) (frac : Bytes) (sec us : Nat)
    (hs : two s0 s1 = some sec) (hlt : sec < 60) (hf : fracText frac = some us) :
    parseSecFrac (s0 :: s1 :: frac) = some (sec, us * 1000, []) := by
  obtain ⟨h0, h1, hv, _⟩ := two_some _ _ _ hs
  unfold parseSecFrac
  rw [getnum_two _ _ _ _ h0 h1, ← hv]
  simp only [if_neg (show ¬ sec ≥ 60 by omega)]
  rcases fracText_some frac us hf with ⟨hnil, hus⟩ | ⟨ds, hfr, hne, hd, hlen, hus⟩
  · subst hnil; subst hus; simp
  · subst hfr
    cases ds with
    | nil => exact absurd rfl hne
    | cons d ds' =>
      have hd' := hd
      simp only [List.all_cons, Bool.and_eq_true] at hd
      have htw : ((46 : UInt8) :: d :: ds').drop 1 = d :: ds' := rfl
      simp only [show ((46 : UInt8) == 46) = true from rfl, Bool.true_or, hd.1, Bool.and_self, if_true, htw,
        takeWhile_all _ _ hd']
      have hlen' : (d :: ds').length ≤ 9 := by omega
      rw [List.take_of_length_le hlen']
      have hdl : ((46 : UInt8) :: d :: ds').drop (1 + (d :: ds').length) = [] := by
        apply List.drop_of_length_le; simp; omega
      rw [hdl]
      generalize hL : (d :: ds').length = L at *
      subst hus
      rw [show 9 - L = (6 - L) + 3 by omega, Nat.pow_add, Nat.mul_assoc]

/-- `hget`: the hour is any spelling `hs` that `getnum` reads up to the colon — two digits in a DATETIME
    (`getnum_two`), what `strconv.Itoa` wrote in a TIME (`getnum_itoa`). -/
theorem parseClock_shape (hs : Bytes) (h : Nat) (i0 i1 s0 s1 : UInt8) (frac : Bytes) (mi sec us : Nat)
    (hget : ∀ X, getnum (hs ++ 58 :: X) false = some (h, 58 :: X)) (hh : h < 24)
    (hi : two i0 i1 = some mi) (hmi : mi < 60) (hsec : two s0 s1 = some sec) (hs60 : sec < 60)
    (hf : fracText frac = some us) :
    parseClock (hs ++ 58 :: i0 :: i1 :: 58 :: s0 :: s1 :: frac) = some (h, mi, sec, us * 1000) := by
  obtain ⟨hi0, hi1, hiv, _⟩ := two_some _ _ _ hi
  unfold parseClock
  rw [hget]
  simp only [if_neg (show ¬ h ≥ 24 by omega), skipChar_same 58 _ (by decide), getnum_two _ _ _ _ hi0 hi1, ← hiv,
    if_neg (show ¬ mi ≥ 60 by omega), parseSecFrac_shape s0 s1 frac sec us hsec hs60 hf]
  rfl

/-- The hour of the day that `stringToMysqlTime` spells with `strconv.Itoa` and parses again. -/
theorem getnum_itoa (h : Nat) (hh : h < 24) (X : Bytes) :
    getnum (intToDec (h : Int) ++ 58 :: X) false = some (h, 58 :: X) := by
  have hd : intToDec (h : Int) = natToDecAux (h + 1) h [] := by
    unfold intToDec natToDec
    rw [if_neg (by omega), Int.natAbs_natCast]
  rw [hd, natToDecAux]
  by_cases h10 : h < 10
  · obtain ⟨hd0, hv0⟩ := ofNat48_digit h h10
    rw [if_pos h10]
    simp only [List.singleton_append, getnum, hd0, Bool.not_true, Bool.false_eq_true, if_false,
      show isDigit 58 = false from rfl, hv0]
  · obtain ⟨h', rfl⟩ : ∃ h', h = h' + 1 := ⟨h - 1, by omega⟩
    obtain ⟨hd1, hv1⟩ := ofNat48_digit ((h' + 1) / 10) (by omega)
    obtain ⟨hd0, hv0⟩ := ofNat48_digit ((h' + 1) % 10) (by omega)
    rw [if_neg h10, natToDecAux, if_pos (by omega), List.cons_append, List.cons_append, List.nil_append,
      getnum_two _ _ _ _ hd1 hd0, hv1, hv0]
    congr 2; omega

/-! ### dates: `YYYY-MM-DD` with any two-digit month and day -/

theorem dateRead_some (cell : Bytes) (dv : Val) (h : dateRead cell = some dv) :
    ∃ y0 y1 y2 y3 m0 m1 d0 d1 y m d, cell = [y0, y1, y2, y3, 45, m0, m1, 45, d0, d1]
      ∧ four y0 y1 y2 y3 = some y ∧ two m0 m1 = some m ∧ two d0 d1 = some d
      ∧ dv = .dt y m d 0 0 0 0 := by
  unfold dateRead at h
  split at h
  · rename_i y0 y1 y2 y3 m0 m1 d0 d1
    split at h
    · rename_i y m d hy hm hd
      simp only [Option.some.injEq] at h
      exact ⟨y0, y1, y2, y3, m0, m1, d0, d1, y, m, d, rfl, hy, hm, hd, h.symm⟩
    · simp at h
  · simp at h

theorem splitTextDate_shape (y0 y1 y2 y3 m0 m1 d0 d1 : UInt8) (y m d : Nat)
    (hy : four y0 y1 y2 y3 = some y) (hm : two m0 m1 = some m) (hd : two d0 d1 = some d) :
    splitTextDate [y0, y1, y2, y3, 45, m0, m1, 45, d0, d1] = some (y, m, d) := by
  obtain ⟨a, b, c, e, hyv, _⟩ := four_some _ _ _ _ _ hy
  obtain ⟨hm0, hm1, hmv, _⟩ := two_some _ _ _ hm
  obtain ⟨hd0, hd1, hdv, _⟩ := two_some _ _ _ hd
  simp [splitTextDate, a, b, c, e, hm0, hm1, hd0, hd1, hyv, hmv, hdv]

theorem decodeDate4 (y m d : Nat) (rest : Bytes) (hy : y < 65536) (hm : m < 256) (hd : d < 256) :
    decodeDate ([4] ++ leBytes y 2 ++ [UInt8.ofNat m, UInt8.ofNat d] ++ rest) = some (.dt y m d 0 0 0 0, rest) := by
  have hl := leNat_leBytes 2 y (by omega)
  simp only [leBytes] at hl ⊢
  simp only [List.cons_append, List.nil_append, decodeDate, hl,
    UInt8.toNat_ofNat_of_lt' hm, UInt8.toNat_ofNat_of_lt' hd]

theorem decodeDate_dateBytes (cell rest : Bytes) (dv : Val) (h : dateRead cell = some dv) :
    decodeDate (dateBytes cell ++ rest) = some (dv, rest) := by
  obtain ⟨y0, y1, y2, y3, m0, m1, d0, d1, y, m, d, hc, hy, hm, hd, hdv⟩ := dateRead_some cell dv h
  subst hc; subst hdv
  have hylt := (four_some _ _ _ _ _ hy).2.2.2.2.2
  have hmlt := (two_some _ _ _ hm).2.2.2
  have hdlt := (two_some _ _ _ hd).2.2.2
  have hpy := parseYMD_shape y0 y1 y2 y3 m0 m1 d0 d1 [] y m d hy hm hd
  have hsp := splitTextDate_shape y0 y1 y2 y3 m0 m1 d0 d1 y m d hy hm hd
  have h4 := decodeDate4 y m d rest (by omega) (by omega) (by omega)
  unfold dateBytes parseDate
  rw [hpy, hsp]
  by_cases hmr : m = 0 ∨ m > 12
  · simp only [if_pos hmr]
    by_cases hz : y ≠ 0 ∨ m ≠ 0 ∨ d ≠ 0
    · simp only [if_pos hz]; exact h4
    · simp only [if_neg hz]
      have : y = 0 ∧ m = 0 ∧ d = 0 := by omega
      obtain ⟨e1, e2, e3⟩ := this; subst e1; subst e2; subst e3
      rfl
  · simp only [if_neg hmr, List.isEmpty_nil, Bool.not_true, Bool.false_eq_true, if_false]
    by_cases hdr : d < 1 ∨ d > daysIn m y
    · simp only [if_pos hdr]
      by_cases hz : y ≠ 0 ∨ m ≠ 0 ∨ d ≠ 0
      · simp only [if_pos hz]; exact h4
      · omega
    · simp only [if_neg hdr]; exact h4

theorem dateText_sub (cell : Bytes) (dv : Val) (h : dateText cell = some dv) : dateRead cell = some dv := by
  unfold dateText at h
  unfold dateRead
  split at h
  · split at h
    · split at h
      · exact h
      · cases h
    · cases h
  · cases h

/-! ### datetimes: `YYYY-MM-DD HH:MM:SS[.f{1,6}]` with any two-digit month and day -/

theorem datetimeRead_some (cell : Bytes) (dv : Val) (h : datetimeRead cell = some dv) :
    ∃ y0 y1 y2 y3 m0 m1 d0 d1 h0 h1 i0 i1 s0 s1 frac y m d hh mi sec us,
      cell = y0 :: y1 :: y2 :: y3 :: 45 :: m0 :: m1 :: 45 :: d0 :: d1 :: 32 :: h0 :: h1 :: 58 :: i0 :: i1 :: 58 :: s0 :: s1 :: frac
      ∧ four y0 y1 y2 y3 = some y ∧ two m0 m1 = some m ∧ two d0 d1 = some d ∧ two h0 h1 = some hh
      ∧ two i0 i1 = some mi ∧ two s0 s1 = some sec ∧ fracText frac = some us
      ∧ hh < 24 ∧ mi < 60 ∧ sec < 60 ∧ dv = .dt y m d hh mi sec us := by
  unfold datetimeRead at h
  split at h
  · rename_i y0 y1 y2 y3 m0 m1 d0 d1 h0 h1 i0 i1 s0 s1 frac
    split at h
    · rename_i y m d hh mi sec us hy hm hd hhh hmi hsec hus
      split at h
      · rename_i hr
        simp only [Option.some.injEq] at h
        exact ⟨y0, y1, y2, y3, m0, m1, d0, d1, h0, h1, i0, i1, s0, s1, frac, y, m, d, hh, mi, sec, us, rfl,
          hy, hm, hd, hhh, hmi, hsec, hus, hr.1, hr.2.1, hr.2.2, h.symm⟩
      · simp at h
    · simp at h
  · simp at h

theorem decodeDate11 (y m d h mi s us : Nat) (rest : Bytes) (hy : y < 65536) (hm : m < 256) (hd : d < 256)
    (hh : h < 256) (hmi : mi < 256) (hs : s < 256) (hus : us < 4294967296) :
    decodeDate ([11] ++ leBytes y 2 ++ [UInt8.ofNat m, UInt8.ofNat d, UInt8.ofNat h, UInt8.ofNat mi, UInt8.ofNat s]
        ++ leBytes us 4 ++ rest) = some (.dt y m d h mi s us, rest) := by
  have hl := leNat_leBytes 2 y (by omega)
  have hl4 := leNat_leBytes 4 us (by omega)
  simp only [leBytes] at hl hl4 ⊢
  simp only [List.cons_append, List.nil_append, decodeDate, hl, hl4,
    UInt8.toNat_ofNat_of_lt' hm, UInt8.toNat_ofNat_of_lt' hd, UInt8.toNat_ofNat_of_lt' hh,
    UInt8.toNat_ofNat_of_lt' hmi, UInt8.toNat_ofNat_of_lt' hs]

theorem splitTextDatetime_shape (y0 y1 y2 y3 m0 m1 d0 d1 h0 h1 i0 i1 s0 s1 : UInt8) (frac : Bytes)
    (y m d hh mi sec us : Nat)
    (hy : four y0 y1 y2 y3 = some y) (hm : two m0 m1 = some m) (hd : two d0 d1 = some d)
    (hhh : two h0 h1 = some hh) (hmi : two i0 i1 = some mi) (hsec : two s0 s1 = some sec)
    (hus : fracText frac = some us) (hh24 : hh < 24) (hmi60 : mi < 60) (hs60 : sec < 60) :
    splitTextDatetime (y0 :: y1 :: y2 :: y3 :: 45 :: m0 :: m1 :: 45 :: d0 :: d1 :: 32 :: h0 :: h1 :: 58 :: i0 :: i1 :: 58 :: s0 :: s1 :: frac)
      = some (y, m, d, hh, mi, sec, us) := by
  obtain ⟨hh0, hh1, hhv, _⟩ := two_some _ _ _ hhh
  obtain ⟨hi0, hi1, hiv, _⟩ := two_some _ _ _ hmi
  obtain ⟨hs0, hs1, hsv, _⟩ := two_some _ _ _ hsec
  have hsp := splitTextDate_shape y0 y1 y2 y3 m0 m1 d0 d1 y m d hy hm hd
  unfold splitTextDatetime
  simp only [hsp, bne_self_eq_false, Bool.or_self, Bool.false_eq_true, if_false, hh0, hh1, hi0, hi1, hs0, hs1,
    Bool.and_self, Bool.not_true, ← hhv, ← hiv, ← hsv]
  rw [if_neg (by omega)]
  rcases fracText_some frac us hus with ⟨hnil, hus0⟩ | ⟨ds, hfr, hne, hdg, hlen, husv⟩
  · subst hnil; subst hus0; rfl
  · subst hfr
    have hl1 : ¬ ds.length < 1 := by
      cases ds with
      | nil => exact absurd rfl hne
      | cons _ _ => simp
    simp only [bne_self_eq_false, Bool.false_or, Bool.or_eq_true, decide_eq_true_eq, hdg, Bool.not_true,
      Bool.false_eq_true, if_false, husv]
    rw [if_neg (by omega)]

theorem datetimeBytes_digits (y0 y1 y2 y3 m0 m1 d0 d1 h0 h1 i0 i1 s0 s1 : UInt8) (frac : Bytes)
    (y m d hh mi sec us : Nat)
    (hy : four y0 y1 y2 y3 = some y) (hm : two m0 m1 = some m) (hd : two d0 d1 = some d)
    (hhh : two h0 h1 = some hh) (hmi : two i0 i1 = some mi) (hsec : two s0 s1 = some sec)
    (hus : fracText frac = some us) (hh24 : hh < 24) (hmi60 : mi < 60) (hs60 : sec < 60) :
    datetimeBytes (y0 :: y1 :: y2 :: y3 :: 45 :: m0 :: m1 :: 45 :: d0 :: d1 :: 32 :: h0 :: h1 :: 58 :: i0 :: i1 :: 58 :: s0 :: s1 :: frac)
      = .ok (if y = 0 ∧ m = 0 ∧ d = 0 ∧ hh = 0 ∧ mi = 0 ∧ sec = 0 ∧ us = 0 then [0]
      else [11] ++ leBytes y 2 ++ [UInt8.ofNat m, UInt8.ofNat d, UInt8.ofNat hh, UInt8.ofNat mi, UInt8.ofNat sec]
            ++ leBytes us 4) := by
  have hsplit := splitTextDatetime_shape y0 y1 y2 y3 m0 m1 d0 d1 h0 h1 i0 i1 s0 s1 frac y m d hh mi sec us
    hy hm hd hhh hmi hsec hus hh24 hmi60 hs60
  unfold datetimeBytes
  split
  · next hz =>
    -- the text is "0000-00-00 00:00:00": all numbers are zero
    rw [hz, show splitTextDatetime zeroDatetimeText = some (0, 0, 0, 0, 0, 0, 0) from rfl] at hsplit
    cases hsplit
    rfl
  · obtain ⟨hh0, hh1, hhv, _⟩ := two_some _ _ _ hhh
    have hpy := parseYMD_shape y0 y1 y2 y3 m0 m1 d0 d1
      (32 :: h0 :: h1 :: 58 :: i0 :: i1 :: 58 :: s0 :: s1 :: frac) y m d hy hm hd
    have hclk := parseClock_shape [h0, h1] hh i0 i1 s0 s1 frac mi sec us
      (by intro X; rw [hhv]; exact getnum_two _ _ _ _ hh0 hh1) hh24 hmi hmi60 hsec hs60 hus
    simp only [List.cons_append, List.nil_append] at hclk
    -- where `time.Parse` rejects the month or the day, `splitTextDatetime` supplies the same numbers
    unfold parseDateTime
    rw [hpy, hsplit]
    by_cases hmr : m = 0 ∨ m > 12
    · simp only [if_pos hmr, Option.filter_none]
      split <;> rfl
    · simp only [if_neg hmr, skipChar_space_digit _ _ hh0, hclk]
      by_cases hdr : d < 1 ∨ d > daysIn m y
      · simp only [if_pos hdr, Option.filter_none]
        split <;> rfl
      · simp only [if_neg hdr]
        rw [Option.filter_eq_some_iff.2 ⟨rfl, by simp [Nat.mul_mod_left]⟩]
        simp only
        rw [Nat.mul_div_cancel _ (by decide : 0 < 1000), if_neg (by omega)]

theorem decodeDate_datetimeBytes (cell : Bytes) (dv : Val) (h : datetimeRead cell = some dv) :
    ∃ b, datetimeBytes cell = .ok b ∧ ∀ rest, decodeDate (b ++ rest) = some (dv, rest) := by
  obtain ⟨y0, y1, y2, y3, m0, m1, d0, d1, h0, h1, i0, i1, s0, s1, frac, y, m, d, hh, mi, sec, us, hc,
    hy, hm, hd, hhh, hmi, hsec, hus, hh24, hmi60, hs60, hdv⟩ := datetimeRead_some cell dv h
  subst hc; subst hdv
  have hylt := (four_some _ _ _ _ _ hy).2.2.2.2.2
  have hmlt := (two_some _ _ _ hm).2.2.2
  have hdlt := (two_some _ _ _ hd).2.2.2
  have huslt := fracText_lt frac us hus
  refine ⟨_, datetimeBytes_digits y0 y1 y2 y3 m0 m1 d0 d1 h0 h1 i0 i1 s0 s1 frac y m d hh mi sec us
    hy hm hd hhh hmi hsec hus hh24 hmi60 hs60, ?_⟩
  intro rest
  by_cases hz : y = 0 ∧ m = 0 ∧ d = 0 ∧ hh = 0 ∧ mi = 0 ∧ sec = 0 ∧ us = 0
  · rw [if_pos hz]
    obtain ⟨e1, e2, e3, e4, e5, e6, e7⟩ := hz
    subst e1; subst e2; subst e3; subst e4; subst e5; subst e6; subst e7
    rfl
  · rw [if_neg hz]
    exact decodeDate11 y m d hh mi sec us rest (by omega) (by omega) (by omega) (by omega) (by omega) (by omega) (by omega)

theorem datetimeText_sub (cell : Bytes) (dv : Val) (h : datetimeText cell = some dv) :
    datetimeRead cell = some dv := by
  unfold datetimeText at h
  unfold datetimeRead
  split at h
  · split at h
    · split at h
      · next hr => rw [if_pos hr.2.2]; exact h
      · cases h
    · cases h
  · cases h

/-! ### times: `[-]H…:MM:SS[.f{1,6}]` up to 838 hours -/

theorem splitColon_eq (s : Bytes) : splitColon s = Split.cut 58 s := by
  induction s with
  | nil => rfl
  | cons c cs ih => rw [splitColon, Split.cut, ih]

theorem timeText_some (cell : Bytes) (dv : Val) (h : timeText cell = some dv) :
    ∃ (neg : Bool) (hs : Bytes) (i0 i1 s0 s1 : UInt8) (frac : Bytes) (mi sec us : Nat),
      cell = (if neg then [45] else []) ++ (hs ++ 58 :: i0 :: i1 :: 58 :: s0 :: s1 :: frac)
      ∧ hs ≠ [] ∧ hs.all isDigit = true ∧ decVal hs ≤ 838
      ∧ two i0 i1 = some mi ∧ two s0 s1 = some sec ∧ fracText frac = some us ∧ mi < 60 ∧ sec < 60
      ∧ dv = .time (if neg then -((((decVal hs * 60 + mi) * 60 + sec) * 1000000 + us : Nat) : Int)
                    else ((((decVal hs * 60 + mi) * 60 + sec) * 1000000 + us : Nat) : Int)) := by
  have hcell := sign_split cell
  unfold timeText at h
  simp only at h
  generalize (if (cell.head? == some 45) = true then cell.drop 1 else cell) = body at h hcell
  split at h
  · rename_i hs i0 i1 s0 s1 frac hsc
    split at h
    · rename_i mi sec us hmi hsec hus
      split at h
      · rename_i hr
        simp only [Option.some.injEq] at h
        have had := (allDigits_iff _).1 hr.1
        refine ⟨cell.head? == some 45, hs, i0, i1, s0, s1, frac, mi, sec, us, ?_, had.1, had.2, hr.2.1, hmi, hsec, hus,
          hr.2.2.1, hr.2.2.2, h.symm⟩
        rw [← Split.eq_of_cut_some ((splitColon_eq _).symm.trans hsc)]; exact hcell
      · simp at h
    · simp at h
  · simp at h

theorem stringToMysqlTime_shape (neg : Bool) (hs : Bytes) (i0 i1 s0 s1 : UInt8) (frac : Bytes) (mi sec us : Nat)
    (hne : hs ≠ []) (hd : hs.all isDigit = true) (hH : decVal hs < 2 ^ 63)
    (hmi : two i0 i1 = some mi) (hsec : two s0 s1 = some sec) (hus : fracText frac = some us)
    (hmi60 : mi < 60) (hs60 : sec < 60) :
    stringToMysqlTime ((if neg then [45] else []) ++ (hs ++ 58 :: i0 :: i1 :: 58 :: s0 :: s1 :: frac))
      = some { isNegative := neg, day := ((decVal hs / 24 : Nat) : Int), hour := ((decVal hs % 24 : Nat) : Int),
               minute := (mi : Int), second := (sec : Int), microsecond := (us : Int) } := by
  have hpi := parseInt_signed_of_lt neg hs hne hd hH
  have hhead : (((if neg then [45] else [] : Bytes) ++ hs).head? == some 45) = neg := by
    cases neg with
    | true => rfl
    | false =>
      have := head_digit_ne_minus hs hne hd
      simpa using this
  -- the text is split at its first colon, which follows the sign and the hour digits
  obtain ⟨hidx, htake, hdrop⟩ := findIdx_split (· == 58) ((if neg then [45] else [] : Bytes) ++ hs)
    (i0 :: i1 :: 58 :: s0 :: s1 :: frac) 58 (fun c hc => by
      rcases List.mem_append.1 hc with h | h
      · cases neg
        · cases h
        · cases List.mem_singleton.1 h; rfl
      · exact isDigit_beq (List.all_eq_true.1 hd c h) rfl) rfl
  rw [← List.append_assoc]
  generalize (if neg = true then [45] else [] : Bytes) ++ hs = sh at *
  generalize hHd : decVal hs = H at *
  have hhour : (if neg = true then hackAbs (if neg = true then -(H : Int) else (H : Int)) else (if neg = true then -(H : Int) else (H : Int))) = (H : Int) := by
    cases neg with
    | false => rfl
    | true =>
      simp only [if_true]
      unfold hackAbs
      rw [if_neg (by omega)]
      omega
  have hclk := parseClock_shape (intToDec ((H % 24 : Nat) : Int)) (H % 24) i0 i1 s0 s1 frac mi sec us
    (getnum_itoa (H % 24) (by omega)) (by omega) hmi hmi60 hsec hs60 hus
  unfold stringToMysqlTime
  simp only [hidx, htake, hdrop, hpi, hhead, hhour]
  have htm : Int.tmod (H : Int) 24 = ((H % 24 : Nat) : Int) := by
    rw [Int.tmod_eq_emod_of_nonneg (by omega)]; omega
  have htd : Int.tdiv (H : Int) 24 = ((H / 24 : Nat) : Int) := by
    rw [Int.tdiv_eq_ediv_of_nonneg (by omega)]; omega
  rw [htm, htd]
  rw [show intToDec ((H % 24 : Nat) : Int) ++ [58] ++ (i0 :: i1 :: 58 :: s0 :: s1 :: frac)
      = intToDec ((H % 24 : Nat) : Int) ++ 58 :: i0 :: i1 :: 58 :: s0 :: s1 :: frac from by simp]
  rw [hclk]
  simp

theorem toU32_nat (n : Nat) (h : n < 4294967296) : toU32 (n : Int) = n := by
  unfold toU32; omega

theorem toU8_nat (n : Nat) (h : n < 256) : (toU8 (n : Int)).toNat = n := by
  unfold toU8
  have : ((n : Int) % 256).toNat = n := by omega
  rw [this]; exact UInt8.toNat_ofNat_of_lt' h

theorem decodeTime_mysqlTimeToBinaryResult (neg : Bool) (H mi sec us : Nat) (rest : Bytes) (hH : H / 24 < 2 ^ 32)
    (hmi : mi < 60) (hsec : sec < 60) (hus : us < 1000000) :
    decodeTime (mysqlTimeToBinaryResult
        { isNegative := neg, day := ((H / 24 : Nat) : Int), hour := ((H % 24 : Nat) : Int),
          minute := (mi : Int), second := (sec : Int), microsecond := (us : Int) } ++ rest)
      = some (.time (if neg then -((((H * 60 + mi) * 60 + sec) * 1000000 + us : Nat) : Int)
                    else ((((H * 60 + mi) * 60 + sec) * 1000000 + us : Nat) : Int)), rest) := by
  unfold mysqlTimeToBinaryResult
  simp only
  by_cases hz : ((H / 24 : Nat) : Int) = 0 ∧ ((H % 24 : Nat) : Int) = 0 ∧ (mi : Int) = 0 ∧ (sec : Int) = 0 ∧ (us : Int) = 0
  · rw [if_pos hz]
    have : H = 0 ∧ mi = 0 ∧ sec = 0 ∧ us = 0 := by omega
    obtain ⟨e1, e2, e3, e4⟩ := this; subst e1; subst e2; subst e3; subst e4
    cases neg <;> rfl
  · rw [if_neg hz]
    have hd := leNat_leBytes 4 (H / 24) (by omega)
    have hu := leNat_leBytes 4 us (by omega)
    have hHeq : H / 24 * 24 + H % 24 = H := by omega
    have hnb : ((if neg = true then (1 : UInt8) else 0).toNat ≤ 1) := by cases neg <;> decide
    rw [toU32_nat _ (by omega), toU32_nat _ (by omega)]
    simp only [leBytes] at hd hu ⊢
    by_cases hu0 : (us : Int) = 0
    · have hus0 : us = 0 := by omega
      subst hus0
      simp only [hu0, if_true, ne_eq, not_true_eq_false, if_false, List.cons_append, List.nil_append, List.append_nil,
        decodeTime, hd, mkTime, toU8_nat _ (show H % 24 < 256 by omega), toU8_nat _ (show mi < 256 by omega),
        toU8_nat _ (show sec < 256 by omega)]
      rw [if_pos ⟨hnb, by omega, hmi, hsec, by omega⟩, hHeq]
      cases neg <;> rfl
    · simp only [hu0, if_false, ne_eq, not_false_eq_true, if_true, List.cons_append, List.nil_append,
        decodeTime, hd, hu, mkTime, toU8_nat _ (show H % 24 < 256 by omega), toU8_nat _ (show mi < 256 by omega),
        toU8_nat _ (show sec < 256 by omega)]
      rw [if_pos ⟨hnb, by omega, hmi, hsec, hus⟩, hHeq]
      cases neg <;> rfl

theorem decodeTime_durationBytes (cell : Bytes) (dv : Val) (h : timeText cell = some dv) :
    ∃ b, durationBytes cell = .ok b ∧ ∀ rest, decodeTime (b ++ rest) = some (dv, rest) := by
  obtain ⟨neg, hs, i0, i1, s0, s1, frac, mi, sec, us, hc, hne, hd, hH, hmi, hsec, hus, hmi60, hs60, hdv⟩ :=
    timeText_some cell dv h
  subst hc; subst hdv
  have huslt := fracText_lt frac us hus
  unfold durationBytes
  rw [stringToMysqlTime_shape neg hs i0 i1 s0 s1 frac mi sec us hne hd (by omega) hmi hsec hus hmi60 hs60]
  exact ⟨_, rfl, fun rest =>
    decodeTime_mysqlTimeToBinaryResult neg (decVal hs) mi sec us rest (by omega) hmi60 hs60 huslt⟩

end GaeaVerif.C13
