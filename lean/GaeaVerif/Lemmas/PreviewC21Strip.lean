import GaeaVerif.Lemmas.PreviewC21Lemmas
/-
  Helper lemmas for C21: `StripLeadingComments` on leading trivia, and the loop
  of `PreviewMainStatement`, which sees a text only through what
  `StripLeadingComments` leaves of it.
-/
namespace GaeaVerif.PreviewC21
open GaeaVerif GaeaVerif.LexC17

def Trivia.isXopen : Trivia → Bool
  | .xopen _ _ => true
  | _ => false

theorem stripLoop_nocomment (fuel : Nat) (z : Bytes) (h : hasCommentPrefix z = false) : stripLoop fuel z = z := by
  cases fuel with
  | zero => rfl
  | succ n => simp [stripLoop, h]

theorem renderTrivia_cons (t : Trivia) (ts : List Trivia) : renderTrivia (t :: ts) = t.render ++ renderTrivia ts := rfl

theorem stripLoop_block (fuel : Nat) (body R : Bytes) (hfree : Trivia.ok.hasSS (body ++ [0x2A]) = false)
    (hfirst : ∀ b t, body = b :: t → b.toNat ≠ 0x21) :
    stripLoop (fuel + 1) ((Trivia.cblock body).render ++ R) = stripLoop fuel (trimLeadingBlanks R) := by
  have e : (Trivia.cblock body).render ++ R = 0x2F :: 0x2A :: (body ++ 0x2A :: 0x2F :: R) := by simp [Trivia.render]
  have hbang : thirdIsBang (0x2F :: 0x2A :: (body ++ 0x2A :: 0x2F :: R)) = false := by
    cases body with
    | nil => rfl
    | cons b t => simpa [thirdIsBang] using hfirst b t rfl
  have hdrop : (0x2F :: 0x2A :: (body ++ 0x2A :: 0x2F :: R)).drop (body.length + 4) = R := by
    rw [show (0x2F : UInt8) :: 0x2A :: (body ++ 0x2A :: 0x2F :: R) = (0x2F :: 0x2A :: body ++ [0x2A, 0x2F]) ++ R by simp,
      List.drop_left' (by simp)]
  have hcp : hasCommentPrefix (0x2F :: 0x2A :: (body ++ 0x2A :: 0x2F :: R)) = true := rfl
  rw [e]
  simp only [stripLoop]
  rw [if_pos hcp, if_pos (by decide)]
  simp only [List.drop_succ_cons, List.drop_zero, indexSub_starslash body R hfree, hbang, Bool.false_eq_true, if_false, hdrop]

theorem stripLoop_line (fuel : Nat) (c : UInt8) (pre R : Bytes) (hc : hasCommentPrefix (c :: (pre ++ 0x0A :: R)) = true)
    (hns : c.toNat ≠ 0x2F) (hpre : ∀ b ∈ c :: pre, b.toNat ≠ 0x0A) :
    stripLoop (fuel + 1) (c :: (pre ++ 0x0A :: R)) = stripLoop fuel (trimLeadingBlanks R) := by
  have hidx := indexSub_nl (c :: pre) R hpre
  have hdrop : (c :: (pre ++ 0x0A :: R)).drop ((c :: pre).length + 1) = R := by
    rw [show c :: (pre ++ 0x0A :: R) = (c :: pre ++ [0x0A]) ++ R by simp, List.drop_left' (by simp)]
  simp only [stripLoop]
  rw [if_pos hc, if_neg hns]
  rw [List.cons_append] at hidx
  simp only [hidx, hdrop]

theorem stripLoop_comment (t : Trivia) (hok : t.ok = true) (hx : t.isXopen = false) (hws : ∀ bs, t ≠ .ws bs) (fuel : Nat)
    (R : Bytes) :
    (∃ b c, t.render = b :: c ∧ b.toNat < 0x80 ∧ isLeadBlank b.toNat = false) ∧
      stripLoop (fuel + 1) (t.render ++ R) = stripLoop fuel (trimLeadingBlanks R) := by
  cases t with
  | ws bs => exact absurd rfl (hws bs)
  | cblock body =>
    simp only [Trivia.ok, Trivia.ok.blockFree, Bool.and_eq_true, Bool.not_eq_true'] at hok
    refine ⟨⟨0x2F, _, rfl, by decide, by decide⟩, stripLoop_block fuel body R hok.1 ?_⟩
    rintro b t rfl
    simpa using hok.2
  | cdash body =>
    simp only [Trivia.ok, Bool.and_eq_true, List.all_eq_true, decide_eq_true_eq] at hok
    refine ⟨⟨0x2D, _, rfl, by decide, by decide⟩, ?_⟩
    rw [show (Trivia.cdash body).render ++ R = 0x2D :: ((0x2D :: body) ++ 0x0A :: R) by simp [Trivia.render]]
    exact stripLoop_line fuel 0x2D (0x2D :: body) R rfl (by decide)
      (List.forall_mem_cons.mpr ⟨by decide, List.forall_mem_cons.mpr ⟨by decide, hok.2⟩⟩)
  | chash body =>
    simp only [Trivia.ok, List.all_eq_true, decide_eq_true_eq] at hok
    refine ⟨⟨0x23, _, rfl, by decide, by decide⟩, ?_⟩
    rw [show (Trivia.chash body).render ++ R = 0x23 :: (body ++ 0x0A :: R) by simp [Trivia.render]]
    -- a `#` comment needs a second byte to count as a comment prefix: it has one (at least the newline)
    exact stripLoop_line fuel 0x23 body R (by cases body <;> rfl) (by decide) (List.forall_mem_cons.mpr ⟨by decide, hok⟩)
  | xopen v bl => simp [Trivia.isXopen] at hx

/-- A beginning of a text at which `StripLeadingComments` stops, whatever follows: it starts and ends with
    an ASCII byte that is not white space, and it opens no comment, or it opens `/*!`. -/
structure Stops (P : Bytes) : Prop where
  solid : Solid P
  stable : ∀ r n, stripLoop n (P ++ r) = P ++ r

/-- Of what follows `P` the end may go: `trimLeadingBlanks` trims on the right as well. -/
theorem stripLoop_trivia : ∀ (ts : List Trivia) (P r : Bytes) (fuel : Nat),
    (∀ t ∈ ts, t.ok = true ∧ t.isXopen = false) → Stops P → ts.length ≤ fuel →
    ∃ m, stripLoop fuel (trimLeadingBlanks (renderTrivia ts ++ (P ++ r))) = P ++ r.take m := by
  intro ts
  induction ts with
  | nil =>
    intro P r fuel _ hP _
    obtain ⟨m, hm⟩ := trimLeadingBlanks_prefix P r hP.solid
    exact ⟨m, by simp only [renderTrivia, List.map_nil, List.flatten_nil, List.nil_append, hm, hP.stable]⟩
  | cons t rest ih =>
    intro P r fuel hts hP hf
    have hrest : ∀ t' ∈ rest, t'.ok = true ∧ t'.isXopen = false := fun t' h' => hts t' (by simp [h'])
    obtain ⟨hok, hnx⟩ := hts t (by simp)
    simp only [List.length_cons] at hf
    rw [renderTrivia_cons, List.append_assoc]
    by_cases hws : ∃ bs, t = .ws bs
    · obtain ⟨bs, rfl⟩ := hws
      simp only [Trivia.ok, Bool.and_eq_true, List.all_eq_true] at hok
      rw [show (Trivia.ws bs).render = bs from rfl, trimLeadingBlanks_lead bs _ (fun b hb => lead_byte b (hok.2 b hb))]
      exact ih P r fuel hrest hP (by omega)
    · -- a comment: nothing is trimmed in front of it; what is trimmed behind it is trimmed of `r`
      obtain ⟨fuel, rfl⟩ : ∃ f, fuel = f + 1 := ⟨fuel - 1, by omega⟩
      have hc := stripLoop_comment t hok hnx (fun bs h => hws ⟨bs, h⟩) fuel
      obtain ⟨b, c, e, hb, hsb⟩ := (hc []).1
      obtain ⟨m, hm⟩ := trimLeadingBlanks_prefix (t.render ++ (renderTrivia rest ++ P)) r
        (solid_front e hb hsb (EndsSolid.append_left _ hP.solid.last))
      simp only [List.append_assoc] at hm
      rw [hm, (hc _).2]
      obtain ⟨m', hm'⟩ := ih P (r.take m) fuel hrest hP (by omega)
      exact ⟨min m' m, by rw [hm', List.take_take]⟩

theorem renderTrivia_length_ge : ∀ ts : List Trivia, (∀ t ∈ ts, t.ok = true) → ts.length ≤ (renderTrivia ts).length := by
  intro ts
  induction ts with
  | nil => intro _; simp
  | cons t rest ih =>
    intro h
    have := ih (fun t' h' => h t' (List.mem_cons_of_mem _ h'))
    have h1 : 1 ≤ t.render.length := by
      have hok := h t List.mem_cons_self
      cases t with
      | ws bs =>
        cases bs with
        | nil => simp [Trivia.ok] at hok
        | cons b t => simp [Trivia.render]
      | _ => simp [Trivia.render]
    rw [renderTrivia_cons]
    simp only [List.length_append, List.length_cons]
    omega

theorem stripLeadingComments_trivia (ts : List Trivia) (P r : Bytes)
    (hts : ∀ t ∈ ts, t.ok = true ∧ t.isXopen = false) (hP : Stops P) :
    ∃ m, stripLeadingComments (renderTrivia ts ++ (P ++ r)) = P ++ r.take m := by
  simp only [stripLeadingComments]
  apply stripLoop_trivia ts P r _ hts hP
  have := renderTrivia_length_ge ts (fun t h => (hts t h).1)
  simp only [List.length_append]
  omega

theorem previewMainLoop_comment (T : Tables) (n : Nat) {sql S : Bytes} (h : stripLeadingComments sql = S)
    (hc : previewTrimmed T S = T.comment) :
    previewMainLoop T (n + 1) sql = previewMainLoop T n (dropSpecCodeStart S) := by
  simp only [previewMainLoop, preview, h, hc, if_true]

theorem previewMainLoop_withK (T : Tables) (n : Nat) {sql S main : Bytes} (h : stripLeadingComments sql = S)
    (hne : T.withK ≠ T.comment) (hw : previewTrimmed T S = T.withK)
    (hm : withMainStatement (trimLeftFunc (fun r => !isLetterU r) S.length S) = some main) :
    previewMainLoop T (n + 1) sql = previewMainLoop T n main := by
  simp only [previewMainLoop, preview, h, hw, if_neg hne, if_true, hm]

end GaeaVerif.PreviewC21
