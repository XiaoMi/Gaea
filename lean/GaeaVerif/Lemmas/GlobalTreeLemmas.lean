import GaeaVerif.Model.GlobalTree
/-
  The name skeleton of a statement tree (Model/GlobalTree.lean: `skeleton`, the
  walk of the planner's handlers) lists exactly the names of the tree
  (`refs`, a listing that knows nothing about handlers): no handler skips a
  column.
-/
namespace GaeaVerif.GlobalTree
open GaeaVerif GaeaVerif.Layout GaeaVerif.Global

/-- how the planner prints the name met at a position -/
def posKind : Pos → RefKind
  | .tableRef => .table
  | .setColumn | .insColumn | .insValue => .bare
  | _ => .column

/-- a name of the skeleton without its position -/
def nameRef (n : Name) : Ref :=
  { kind := posKind n.pos, schema := n.schema, table := n.table, name := n.name, alias := n.alias }

@[simp] theorem nameRef_mkName (pos : Pos) (c : ColRef) : nameRef (mkName pos c) = colRef (posKind pos) c := rfl

@[simp] theorem map_visitNames (pos : Pos) (e : Expr) :
    (visitNames pos e).map nameRef = e.cols.map (colRef (posKind pos)) := by
  simp [visitNames, List.map_map, Function.comp_def]

theorem map_cmpOperand (e : Expr) : (cmpOperand e).map nameRef = e.cols.map (colRef .column) := by
  fun_cases cmpOperand e
  · rfl
  · rfl
  · exact map_visitNames _ _

theorem map_binopOperand (e : Expr) : (binopOperand e).map nameRef = e.cols.map (colRef .column) := by
  fun_cases binopOperand e
  · rfl
  · rfl
  · exact map_visitNames _ _

/-- **`handleComparisonExpr` reaches every column of a condition**, in text order -/
theorem map_condNames (e : Expr) : (condNames e).map nameRef = e.cols.map (colRef .column) := by
  fun_induction condNames e <;>
    simp only [*, Expr.cols, List.map_append, List.map_cons, List.map_nil, map_visitNames, nameRef_mkName,
      map_cmpOperand, map_binopOperand, List.cons_append, List.nil_append, List.append_assoc] <;> rfl

theorem map_fieldNames (f : Field) : (fieldNames f).map nameRef = fieldRefs f := by
  fun_cases fieldNames f
  · rfl
  · rfl
  · rfl
  · exact map_visitNames _ _

theorem map_optCond (o : Option Expr) : (optCond o).map nameRef = optRefs o := by
  cases o <;> simp [optCond, optRefs, map_condNames]

theorem map_tableNames (t : TableRef) : (tableNames t).map nameRef = tableRefs t := by
  unfold tableNames tableRefs
  cases h : t.on <;> simp [optRefs, map_condNames, nameRef, posKind]

theorem map_byNames (b : ByItem) : (byNames b).map nameRef = byRefs b := by
  cases b <;> simp [byNames, byRefs, posKind]

theorem map_flatMap_eq {α β γ : Type} (l : List α) (f : α → List β) (g : α → List γ) (h : β → γ)
    (hfg : ∀ a, (f a).map h = g a) : (l.flatMap f).map h = l.flatMap g := by
  induction l with
  | nil => rfl
  | cons a l ih => simp [List.flatMap_cons, hfg, ih]

theorem visitNames_pos (pos : Pos) (e : Expr) : ∀ n ∈ visitNames pos e, n.pos = pos := by
  intro n hn
  simp only [visitNames, List.mem_map] at hn
  obtain ⟨c, _, rfl⟩ := hn
  rfl

theorem visitNames_whole (pos : Pos) (e : Expr) : ∀ n ∈ visitNames pos e, n.whole = false := by
  intro n hn
  simp only [visitNames, List.mem_map] at hn
  obtain ⟨c, _, rfl⟩ := hn
  rfl

theorem hasPlainField_skeleton (fields : List Field) (c : String) :
    hasPlainField (fields.flatMap fieldNames) c = selectsPlain fields c := by
  unfold hasPlainField selectsPlain
  rw [List.any_flatMap]
  congr 1
  funext f
  fun_cases fieldNames f
  · rfl
  · rfl
  · simp [mkName]
  · next e he =>
    split
    · next x h => cases h; exact absurd rfl (he x)
    · exact List.any_eq_false.mpr fun n hn => by simp [visitNames_whole _ _ n hn]

/-- the filter of `appendedFields` -/
def keepBy (fields : List Name) (n : Name) : Bool :=
  (n.pos == .byItem && !hasPlainField fields n.name) || n.pos == .byExpr

/-- the relabelling of `appendedFields` -/
def relabel (n : Name) : Name := { n with pos := if n.pos == .byItem then .byAppended else .byExprAppended }

theorem appendedFields_eq (s : Stmt) :
    appendedFields s = if s.kind = .select then (s.tail.filter (keepBy s.fields)).map relabel else [] := rfl

theorem appended_byNames (fields : List Field) (b : ByItem) :
    (((byNames b).filter (keepBy (fields.flatMap fieldNames))).map relabel).map nameRef = appendedOf fields b := by
  cases b with
  | col c =>
    simp only [byNames, appendedOf]
    by_cases h : selectsPlain fields c.name
    · simp [keepBy, mkName, hasPlainField_skeleton, h]
    · simp [keepBy, mkName, hasPlainField_skeleton, h, relabel, nameRef, posKind, colRef]
  | agg e =>
    simp only [byNames, appendedOf]
    have hf : (visitNames .byExpr e).filter (keepBy (fields.flatMap fieldNames)) = visitNames .byExpr e := by
      rw [List.filter_eq_self]
      intro n hn
      simp [keepBy, visitNames_pos _ _ n hn]
    rw [hf]
    simp [visitNames, List.map_map, Function.comp_def, relabel, mkName, nameRef, posKind, colRef]
  | lit => rfl
  | other => rfl

theorem appended_flatMap (fields : List Field) (l : List ByItem) :
    (((l.flatMap byNames).filter (keepBy (fields.flatMap fieldNames))).map relabel).map nameRef =
      l.flatMap (appendedOf fields) := by
  induction l with
  | nil => rfl
  | cons b l ih =>
    simp only [List.flatMap_cons, List.filter_append, List.map_append, ih, appended_byNames]

theorem keepBy_mkName (fields : List Name) (pos : Pos) (c : ColRef) (h : (pos == .byItem || pos == .byExpr) = false) :
    keepBy fields (mkName pos c) = false := by
  rw [Bool.or_eq_false_iff] at h
  simp [keepBy, mkName, h.1, h.2]

theorem filter_visitNames (fields : List Name) (pos : Pos) (e : Expr) (h : (pos == .byItem || pos == .byExpr) = false) :
    (visitNames pos e).filter (keepBy fields) = [] :=
  List.filter_eq_nil_iff.mpr fun n hn => by
    obtain ⟨c, _, rfl⟩ := List.mem_map.mp hn
    simp [keepBy_mkName fields pos c h]

theorem filter_cmpOperand (fields : List Name) (e : Expr) : (cmpOperand e).filter (keepBy fields) = [] := by
  fun_cases cmpOperand e
  · rfl
  · rfl
  · exact filter_visitNames _ _ _ rfl

theorem filter_binopOperand (fields : List Name) (e : Expr) : (binopOperand e).filter (keepBy fields) = [] := by
  fun_cases binopOperand e
  · rfl
  · rfl
  · exact filter_visitNames _ _ _ rfl

theorem filter_condNames (fields : List Name) (e : Expr) : (condNames e).filter (keepBy fields) = [] := by
  fun_induction condNames e <;>
    simp +decide only [*, List.filter_append, List.filter_cons, List.append_nil, List.filter_nil, filter_cmpOperand,
      filter_binopOperand, filter_visitNames, keepBy_mkName, Bool.false_eq_true, if_false]

theorem filter_optCond (fields : List Name) (o : Option Expr) : (optCond o).filter (keepBy fields) = [] := by
  cases o with
  | none => rfl
  | some e => exact filter_condNames fields e

theorem filter_havingNames (fields : List Name) (o : Option Expr) : (havingNames o).filter (keepBy fields) = [] := by
  cases o with
  | none => rfl
  | some e => exact filter_visitNames _ _ e rfl

theorem map_appendedFields (s : TStmt) : (appendedFields (skeleton s)).map nameRef = appendedRefs s := by
  rw [appendedFields_eq]
  unfold appendedRefs
  by_cases hk : s.kind = .select
  · have hk' : (skeleton s).kind = .select := hk
    rw [if_pos hk, if_pos hk']
    have htail : (skeleton s).tail = optCond s.«where» ++ s.groupBy.flatMap byNames ++ havingNames s.having ++
        s.orderBy.flatMap byNames := by
      simp [skeleton, tailNames, hk]
    have hfields : (skeleton s).fields = s.fields.flatMap fieldNames := rfl
    rw [htail, hfields]
    simp only [List.filter_append, List.map_append, List.flatMap_append, filter_optCond, filter_havingNames,
      List.append_nil, List.nil_append, appended_flatMap]
  · have hk' : ¬ (skeleton s).kind = .select := hk
    rw [if_neg hk, if_neg hk']
    rfl

theorem map_havingNames (o : Option Expr) : (havingNames o).map nameRef = optRefs o := by
  cases o <;> simp [havingNames, optRefs, posKind]

theorem map_insAssign (a : Assign) : (insAssign a).map nameRef = insAssignRefs a := by
  simp [insAssign, insAssignRefs, posKind]

theorem map_tailNames (s : TStmt) : (tailNames s).map nameRef = tailRefs s := by
  unfold tailNames tailRefs
  cases s.kind
  · simp only [List.map_append, map_optCond, map_havingNames, map_flatMap_eq _ _ _ _ map_byNames]
  · simp only [List.map_append, map_optCond, map_flatMap_eq _ _ _ _ map_byNames]
    congr 2
    apply map_flatMap_eq
    intro a
    simp [posKind]
  · simp only [List.map_append, map_optCond, map_flatMap_eq _ _ _ _ map_byNames]
  · simp only [List.map_append, map_flatMap_eq _ _ _ _ map_insAssign]
    congr 2
    · congr 1
      · simp [List.map_map, Function.comp_def, posKind]
      · apply map_flatMap_eq
        intro row
        apply map_flatMap_eq
        intro e
        simp [posKind]

/-- **The planner's handlers meet every name of the statement**: the name
    skeleton, positions forgotten, is the handler-independent listing `refs` -/
theorem map_textNames (s : TStmt) : (textNames (skeleton s)).map nameRef = refs s := by
  unfold textNames refs
  simp only [List.map_append, map_appendedFields]
  have h1 : (skeleton s).fields.map nameRef = s.fields.flatMap fieldRefs :=
    map_flatMap_eq _ _ _ _ map_fieldNames
  have h2 : (skeleton s).«from».map nameRef = s.tables.flatMap tableRefs :=
    map_flatMap_eq _ _ _ _ map_tableNames
  have h3 := map_tailNames s
  rw [h1, h2]
  show _ ++ _ ++ _ ++ (tailNames s).map nameRef = _
  rw [h3]

end GaeaVerif.GlobalTree
