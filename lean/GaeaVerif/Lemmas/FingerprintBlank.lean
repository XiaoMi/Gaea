import GaeaVerif.Model.Fingerprint
import GaeaVerif.Model.FingerprintGrammar
import GaeaVerif.Lemmas.FingerprintTokenizer
/-
  `blankComments` on the statements of the token grammar
  (Model/FingerprintGrammar.lean): words, numbers and quoted strings are left
  as they are, every comment piece is overwritten by blanks, the content of a
  value list becomes `contentBlank` — the text of `Stmt.toCore` (`blank_stmt`);
  and `Stmt.toCore` is a comment-free statement with the same skeleton
  (`toCore_core`).

  What `blankComments` does to a piece of text is said by `Blanks`; the pieces
  of a statement are put together with `Blanks.append` and `Blanks.flatMap`.
-/
namespace GaeaVerif.FingerprintBlank
open GaeaVerif.Fingerprint GaeaVerif.FingerprintGrammar GaeaVerif.FingerprintSteps

/-- Started in mode `m`, the loop of `blankComments` turns `t` into `t'` whatever
    follows `t`, and goes on behind it in mode `m'`. -/
def Blanks (m : BMode) (t t' : List Char) (m' : BMode) : Prop :=
  ∀ tl, blankGo m (t ++ tl) = t' ++ blankGo m' tl

namespace Blanks
variable {m m' m'' : BMode} {a a' b b' : List Char}

theorem nil : Blanks m [] [] m := fun _ => rfl

theorem append (h1 : Blanks m a a' m') (h2 : Blanks m' b b' m'') : Blanks m (a ++ b) (a' ++ b') m'' :=
  fun tl => by rw [List.append_assoc, h1, h2, List.append_assoc]

theorem flatMap {α : Type} {f g : α → List Char} : ∀ (l : List α), (∀ x ∈ l, Blanks m (f x) (g x) m) →
    Blanks m (l.flatMap f) (l.flatMap g) m
  | [], _ => nil
  | x :: l, h => by
    simp only [List.flatMap_cons]
    exact (h x (by simp)).append (flatMap l fun y hy => h y (by simp [hy]))

theorem whole {t t' : List Char} (h : Blanks m t t' m') : blankGo m t = t' := by
  have := h []
  rwa [List.append_nil, blankGo, List.append_nil] at this

end Blanks

/-- Characters `blankComments` copies without looking at anything else. -/
def inert (c : Char) : Bool := c ≠ '\'' && c ≠ '"' && c ≠ '/' && c ≠ '#' && c ≠ '-'

theorem Blanks.cons {c : Char} {b b' : List Char} {m' : BMode} (h : inert c = true) (hb : Blanks .code b b' m') :
    Blanks .code (c :: b) (c :: b') m' := fun tl => by
  simp only [inert, Bool.and_eq_true, ne_eq, decide_not, Bool.not_eq_true', decide_eq_false_iff_not] at h
  obtain ⟨⟨⟨⟨h1, h2⟩, h3⟩, h4⟩, h5⟩ := h
  simp [blankGo, h1, h2, h3, h4, h5, hb tl]

theorem blanks_inert : ∀ (w : List Char), w.all inert = true → Blanks .code w w .code
  | [], _ => .nil
  | c :: r, h => by
    simp only [List.all_cons, Bool.and_eq_true] at h
    exact .cons h.1 (blanks_inert r h.2)

theorem notBad_inert {c : Char} (h : wordBad c = false) : inert c = true := by
  simp only [wordBad, Bool.or_eq_false_iff, decide_eq_false_iff_not] at h
  obtain ⟨⟨⟨⟨⟨⟨⟨_, h1⟩, h2⟩, h3⟩, _⟩, h5⟩, h6⟩, _⟩ := h
  simp [inert, h1, h2, h3, h5, h6]

/-! ### Word text -/

theorem blanks_word (w : List Char) (h : wordShape w = true) : Blanks .code w w .code :=
  blanks_inert w (List.all_eq_true.mpr fun x hx => notBad_inert (wordShape_notBad h x hx))

/-! ### Numbers -/

theorem numberChar_inert {c : Char} (h : isNumberChar c = true) (hm : c ≠ '-') : inert c = true := by
  have h1 : c ≠ '\'' := by intro e; subst e; revert h; decide
  have h2 : c ≠ '"' := by intro e; subst e; revert h; decide
  have h3 : c ≠ '/' := by intro e; subst e; revert h; decide
  have h4 : c ≠ '#' := by intro e; subst e; revert h; decide
  simp [inert, h1, h2, h3, h4, hm]

theorem digit_inert {d : Char} (h : isDigit d = true) : inert d = true :=
  numberChar_inert (by simp [isNumberChar, h]) (by intro e; subst e; revert h; decide)

theorem Blanks.minus {d : Char} {r t' : List Char} {m' : BMode} (hd : isDigit d = true)
    (h : Blanks .code (d :: r) t' m') : Blanks .code ('-' :: d :: r) ('-' :: t') m' := fun tl => by
  have hne : d ≠ '-' := by intro e; subst e; revert hd; decide
  show blankGo .code ('-' :: (d :: r ++ tl)) = '-' :: (t' ++ blankGo m' tl)
  rw [← h tl]
  simp [blankGo, startsDash, hne]

theorem blanks_numTail : ∀ (rest : List Char) (p : Char), numTail p rest = true → Blanks .code rest rest .code
  | [], _, _ => .nil
  | c :: r, p, h => by
    unfold numTail at h
    by_cases hc : c = '-' ∨ c = '+'
    · rw [if_pos hc] at h
      simp only [Bool.and_eq_true] at h
      obtain ⟨⟨_, hnext⟩, hrest⟩ := h
      have ih := blanks_numTail r c hrest
      rcases hc with hc | hc <;> subst hc
      · cases r with
        | nil => simp at hnext
        | cons d r' => exact ih.minus hnext
      · exact .cons (by decide) ih
    · rw [if_neg hc] at h
      simp only [Bool.and_eq_true] at h
      exact .cons (numberChar_inert h.1 fun e => hc (Or.inl e)) (blanks_numTail r c h.2)

theorem blanks_num (n : List Char) (h : numShape n = true) : Blanks .code n n .code := by
  cases n with
  | nil => simp [numShape] at h
  | cons c r =>
    simp only [numShape] at h
    by_cases hd : isDigit c = true
    · rw [if_pos hd] at h
      exact .cons (digit_inert hd) (blanks_numTail r c h)
    · rw [if_neg hd] at h
      by_cases hsd : c = '-' ∨ c = '+' ∨ c = '.'
      · rw [if_pos hsd] at h
        cases r with
        | nil => simp at h
        | cons d r' =>
          simp only [Bool.and_eq_true] at h
          have hrest : Blanks .code (d :: r') (d :: r') .code := .cons (digit_inert h.1) (blanks_numTail r' d h.2)
          rcases hsd with e | e | e <;> subst e
          · exact hrest.minus h.1
          · exact .cons (by decide) hrest
          · exact .cons (by decide) hrest
      · rw [if_neg hsd] at h; cases h

/-! ### Quoted strings -/

theorem Blanks.quoteOpen {c : Char} (hc : c = '\'' ∨ c = '"') : Blanks .code [c] [c] (.quote c false) :=
  fun tl => by simp [blankGo, hc]

theorem blanks_quote_body (c : Char) (hc : c = '\'' ∨ c = '"') :
    ∀ (body : List Char) (esc : Bool), closesAt c esc body = true → Blanks (.quote c esc) body body .code := by
  intro body
  induction body with
  | nil => intro esc h; simp [closesAt] at h
  | cons x rest ih =>
    intro esc h tl
    unfold closesAt at h
    by_cases hx : x = c
    · subst hx
      simp only [ne_eq, not_true_eq_false, if_false] at h
      cases esc with
      | true =>
        simp only [if_true] at h
        simp only [List.cons_append, blankGo, if_true]
        rw [ih false h tl]
      | false =>
        simp only [Bool.false_eq_true, if_false] at h
        cases rest with
        | nil =>
          have hb : x ≠ '\\' := by rcases hc with e | e <;> subst e <;> decide
          simp [blankGo, hb]
        | cons y rest2 =>
          simp only at h
          by_cases hy : y = x
          · subst hy
            rw [if_pos rfl] at h
            have h2 := ih true h tl
            -- in code mode the second quote character reopens the value
            have e1 : blankGo (.quote y false) (y :: (y :: rest2) ++ tl) = y :: blankGo .code ((y :: rest2) ++ tl) := by
              have hb : y ≠ '\\' := by rcases hc with e | e <;> subst e <;> decide
              simp [blankGo, hb]
            have e2 : blankGo .code ((y :: rest2) ++ tl) = blankGo (.quote y true) ((y :: rest2) ++ tl) := by
              simp [blankGo, hc]
            rw [e1, e2, h2]; rfl
          · rw [if_neg hy] at h; cases h
    · simp only [ne_eq, hx, not_false_eq_true, if_true] at h
      cases esc with
      | true =>
        simp only [if_true] at h
        simp only [List.cons_append, blankGo, if_true]
        rw [ih false h tl]
      | false =>
        simp only [Bool.false_eq_true, if_false] at h
        by_cases hb : x = '\\'
        · subst hb
          simp only [if_true] at h
          simp only [List.cons_append, blankGo, Bool.false_eq_true, if_false, if_true]
          rw [ih true h tl]
        · simp only [hb, if_false] at h
          simp only [List.cons_append, blankGo, Bool.false_eq_true, if_false, hb, hx]
          rw [ih false h tl]

theorem blanks_str (t : List Char) (h : strShape t = true) : Blanks .code t t .code := by
  cases t with
  | nil => simp [strShape] at h
  | cons c body =>
    simp only [strShape, Bool.and_eq_true, Bool.or_eq_true, decide_eq_true_eq] at h
    exact (Blanks.quoteOpen h.1).append (blanks_quote_body c h.1 body false h.2)

/-! ### Chunks -/

theorem blanks_segs : ∀ (segs : List Seg) (ctx : SegCtx), segsOK ctx segs = true →
    Blanks .code (segsText segs) (segsText segs) .code
  | [], _, _ => .nil
  | x :: rest, ctx, h => by
    rw [segsText_cons]
    cases x with
    | w t =>
      simp only [segsOK, Bool.and_eq_true] at h
      obtain ⟨⟨_, hws⟩, hr⟩ := h
      cases hl : t.getLast? with
      | none => rw [hl] at hr; cases hr
      | some a => rw [hl] at hr; exact (blanks_word t hws).append (blanks_segs rest _ hr)
    | n t =>
      simp only [segsOK, Bool.and_eq_true] at h
      exact (blanks_num t h.1.1.2).append (blanks_segs rest _ h.2)
    | s t =>
      simp only [segsOK, Bool.and_eq_true] at h
      exact (blanks_str t h.1.1.2).append (blanks_segs rest _ h.2)
    | p c t =>
      simp only [segsOK, Bool.and_eq_true, Bool.or_eq_true, decide_eq_true_eq] at h
      obtain ⟨⟨⟨⟨_, hc⟩, hss⟩, _⟩, hr⟩ := h
      have hci : inert c = true := by rcases hc with e | e <;> subst e <;> decide
      exact (Blanks.cons hci (blanks_str t hss)).append (blanks_segs rest _ hr)

/-! ### Separator pieces -/

theorem space_inert {c : Char} (h : isSpace c = true) : inert c = true := by
  rcases isSpace_cases h with e | e | e | e | e | e <;> subst e <;> decide

theorem Blanks.mlcOpen {b : Char} (hb : b ≠ '!') : Blanks .code ['/', '*', b] [' ', ' ', ' '] (.mlc (b = '*')) :=
  fun tl => by simp [blankGo, startsMlc, hb]

theorem blanks_mlc_body : ∀ (body : List Char) (p : Char), mlcTail (p :: body) = true →
    Blanks (.mlc (p = '*')) body (List.replicate body.length ' ') .code := by
  intro body
  induction body with
  | nil => intro p h; simp [mlcTail] at h
  | cons b r ih =>
    intro p h tl
    unfold mlcTail at h
    by_cases hpb : p = '*' ∧ b = '/'
    · rw [if_pos hpb] at h
      simp only [List.isEmpty_iff] at h
      subst h
      simp [blankGo, hpb.1, hpb.2]
    · rw [if_neg hpb] at h
      have hm : (if b = '/' ∧ decide (p = '*') = true then BMode.code else BMode.mlc (decide (b = '*'))) =
          BMode.mlc (decide (b = '*')) := by
        rw [if_neg]; intro hh; exact hpb ⟨by simpa using hh.2, hh.1⟩
      simp only [List.cons_append, blankGo, hm, List.length_cons, List.replicate_succ]
      rw [ih b h tl]

theorem Blanks.dashOpen {c : Char} (hs : isSpace c = true) (hn : c ≠ '\n') :
    Blanks .code ['-', '-', c] [' ', ' ', ' '] .olc :=
  fun tl => by simp [blankGo, startsDash, hs, hn]

theorem Blanks.hashOpen : Blanks .code ['#'] [' '] .olc := fun tl => by simp [blankGo]

theorem blanks_olc_body : ∀ (r : List Char) (b : Char), lineTail (b :: r) = true →
    Blanks .olc (b :: r) (List.replicate r.length ' ' ++ ['\n']) .code := by
  intro r
  induction r with
  | nil =>
    intro b h tl
    by_cases hb : b = '\n'
    · subst hb; simp [blankGo]
    · simp [lineTail, hb] at h
  | cons b2 r2 ih =>
    intro b h tl
    unfold lineTail at h
    by_cases hb : b = '\n'
    · rw [if_pos hb] at h; cases h
    · rw [if_neg hb] at h
      rw [List.cons_append, blankGo, if_neg hb, ih b2 h tl]
      rfl

theorem gapText_replicate (n : Nat) : gapText (List.replicate n (SepPiece.ws ' ')) = List.replicate n ' ' := by
  induction n with
  | zero => rfl
  | succ n ih =>
    simp only [List.replicate_succ, gapText, List.flatMap_cons, SepPiece.text] at ih ⊢
    rw [ih]; rfl

theorem gapText_append (g g' : Gap) : gapText (g ++ g') = gapText g ++ gapText g' := List.flatMap_append

theorem blanks_piece (p : SepPiece) (h : p.ok = true) : Blanks .code p.text (gapText p.blank) .code := by
  cases p with
  | ws c => exact .cons (space_inert h) .nil
  | mlc body =>
    cases body with
    | nil => simp [SepPiece.ok, mlcTail] at h
    | cons b rest =>
      simp only [SepPiece.ok, Bool.and_eq_true, Bool.not_eq_true', decide_eq_false_iff_not] at h
      rw [SepPiece.blank, gapText_replicate]
      exact (Blanks.mlcOpen (by simpa using h.2)).append (blanks_mlc_body rest b h.1)
  | dash c body =>
    cases body with
    | nil => simp [SepPiece.ok, lineTail] at h
    | cons b r =>
      simp only [SepPiece.ok, Bool.and_eq_true, ne_eq, decide_eq_true_eq] at h
      rw [SepPiece.blank, gapText_append, gapText_replicate]
      exact (Blanks.dashOpen h.1.1 (by simpa using h.1.2)).append (blanks_olc_body r b h.2)
  | hash body =>
    cases body with
    | nil => simp [SepPiece.ok, lineTail] at h
    | cons b r =>
      rw [SepPiece.blank, gapText_append, gapText_replicate]
      exact Blanks.hashOpen.append (blanks_olc_body r b h)

theorem gapText_gapBlank (g : Gap) : gapText (gapBlank g) = g.flatMap fun p => gapText p.blank := by
  simp [gapText, gapBlank, List.flatMap_assoc]

theorem blanks_gap (g : Gap) (h : gapOK g = true) : Blanks .code (gapText g) (gapText (gapBlank g)) .code := by
  rw [gapText_gapBlank]
  exact Blanks.flatMap g fun p hp => blanks_piece p (List.all_eq_true.mp h p hp)

/-! ### The content of a value list -/

theorem length_blankGo : ∀ (l : List Char) (m : BMode), (blankGo m l).length = l.length := by
  intro l
  induction l with
  | nil => intro m; simp [blankGo]
  | cons c r ih =>
    intro m
    cases m with
    | code =>
      simp only [blankGo]
      repeat' split
      all_goals simp [ih]
    | quote _ _ | mlcOpen | mlc _ => simp [blankGo, ih]
    | olc => simp only [blankGo]; split <;> simp [ih]

theorem startsMlc_barrier (a tl : List Char) (z : Char) (hz : z ≠ '*') :
    startsMlc (a ++ z :: tl) = startsMlc (a ++ [z]) := by
  cases a with
  | nil =>
    simp only [List.nil_append, startsMlc]
    split
    · rename_i h; simp at h; exact absurd h.1 hz
    · split
      · rename_i h; simp at h; exact absurd h.1 hz
      · rfl
  | cons x a' =>
    cases a' with
    | nil => by_cases hx : x = '*' <;> simp [startsMlc, hx]
    | cons y a'' => by_cases hx : x = '*' <;> simp [startsMlc, hx]

theorem startsDash_barrier (a tl : List Char) (z : Char) (hz : z ≠ '-') :
    startsDash (a ++ z :: tl) = startsDash (a ++ [z]) := by
  cases a with
  | nil =>
    have e1 : startsDash (z :: tl) = false := by
      unfold startsDash; split
      · rename_i h; simp at h; exact absurd h.1 hz
      · rename_i h; simp at h; exact absurd h.1 hz
      · rfl
    have e2 : startsDash [z] = false := by
      unfold startsDash; split
      · rename_i h; simp at h; exact absurd h hz
      · rename_i h; simp at h
      · rfl
    simp [e1, e2]
  | cons x a' =>
    cases a' with
    | nil => by_cases hx : x = '-' <;> simp [startsDash, hx]
    | cons y a'' => by_cases hx : x = '-' <;> simp [startsDash, hx]

/-- `)` is neither `/`, `-` nor `*`, so no look-ahead of `blankGo` inside `a` reaches beyond it. -/
theorem blank_upto_paren : ∀ (a : List Char) (m : BMode) (tl : List Char), blankMode m (a ++ [')']) = .code →
    blankGo m (a ++ ')' :: tl) = (blankGo m (a ++ [')'])).dropLast ++ ')' :: blankGo .code tl := by
  intro a
  induction a with
  | nil =>
    intro m tl h
    cases m with
    | code => simp [blankGo]
    | quote qc esc =>
      simp only [List.nil_append, blankMode] at h
      simp only [List.nil_append, blankGo, h]
      simp
    | mlcOpen | mlc _ | olc => simp [blankMode] at h
  | cons c a' ih =>
    intro m tl h
    have key : ∀ (x : Char) (m' : BMode), blankMode m' (a' ++ [')']) = .code →
        x :: blankGo m' (a' ++ ')' :: tl) = (x :: blankGo m' (a' ++ [')'])).dropLast ++ ')' :: blankGo .code tl := by
      intro x m' hm
      have hne : blankGo m' (a' ++ [')']) ≠ [] := by
        intro e
        have := length_blankGo (a' ++ [')']) m'
        rw [e] at this; simp at this
      rw [List.dropLast_cons_of_ne_nil hne, List.cons_append, ← ih m' tl hm]
    cases m with
    | code =>
      simp only [List.cons_append, blankGo, blankMode, startsMlc_barrier a' tl ')' (by decide),
        startsDash_barrier a' tl ')' (by decide)] at h ⊢
      split
      · rename_i hq; rw [if_pos hq] at h; exact key _ _ h
      · rename_i hq; rw [if_neg hq] at h
        split
        · rename_i hs; rw [if_pos hs] at h; exact key _ _ h
        · rename_i hs; rw [if_neg hs] at h
          split
          · rename_i ho; rw [if_pos ho] at h; exact key _ _ h
          · rename_i ho; rw [if_neg ho] at h; exact key _ _ h
    | quote _ _ | mlcOpen | mlc _ =>
      simp only [List.cons_append, blankGo, blankMode] at h ⊢
      exact key _ _ h
    | olc =>
      simp only [List.cons_append, blankGo, blankMode] at h ⊢
      split
      · rename_i hn; rw [if_pos hn] at h; exact key _ _ h
      · rename_i hn; rw [if_neg hn] at h; exact key _ _ h

theorem blanks_content {content c' : List Char} (h : contentBlank content = some c') {t t' : List Char} {m' : BMode}
    (ht : Blanks .code t t' m') : Blanks .code (content ++ ')' :: t) (c' ++ ')' :: t') m' := by
  unfold contentBlank at h
  by_cases hm : blankMode .code (content ++ [')']) = .code
  · rw [if_pos hm, Option.some.injEq] at h
    intro tl
    rw [List.append_assoc, List.cons_append, blank_upto_paren content .code _ hm, h, ht tl, List.append_assoc,
      List.cons_append]
  · rw [if_neg hm] at h; cases h

/-! ### Items and statements -/

theorem contentOK_some {content : List Char} (h : contentOK content = true) :
    ∃ c', contentBlank content = some c' ∧ listContentOK c' = true := by
  unfold contentOK at h
  cases hc : contentBlank content with
  | none => rw [hc] at h; cases h
  | some c' => rw [hc] at h; exact ⟨c', rfl, h⟩

theorem blanks_row (r : Row) (h : r.ok = true) : Blanks .code r.text r.toCore.text .code := by
  simp only [Row.ok, Bool.and_eq_true] at h
  obtain ⟨c', hc, _⟩ := contentOK_some h.2
  simp only [Row.text, Row.toCore, hc, Option.getD_some]
  exact (blanks_gap _ h.1.1).append (.cons (by decide) ((blanks_gap _ h.1.2).append
    (.cons (by decide) (blanks_content hc .nil))))

theorem blanks_rows (rows : List Row) (h : rows.all Row.ok = true) :
    Blanks .code (rows.flatMap Row.text) ((rows.map Row.toCore).flatMap Row.text) .code := by
  rw [List.flatMap_map]
  exact Blanks.flatMap rows fun r hr => blanks_row r (List.all_eq_true.mp h r hr)

theorem blanks_item (it : Item) (h : it.shapeOK = true) : Blanks .code it.text it.toCore.text .code := by
  cases it with
  | chunk segs => exact blanks_segs segs .start h
  | vlist kw gap content rows =>
    simp only [Item.shapeOK, Bool.and_eq_true, kwShape] at h
    obtain ⟨⟨⟨⟨⟨hkw, _⟩, _⟩, hgap⟩, hcontent⟩, hrows⟩ := h
    obtain ⟨c', hc, _⟩ := contentOK_some hcontent
    simp only [Item.text, Item.toCore, hc, Option.getD_some]
    exact (blanks_word kw hkw).append ((blanks_gap gap hgap).append
      (.cons (by decide) (blanks_content hc (blanks_rows rows hrows))))

def coreItems (its : List (Item × Gap)) : List (Item × Gap) := its.map fun p => (p.1.toCore, gapBlank p.2)

theorem coreItems_cons (it : Item) (g : Gap) (rest : List (Item × Gap)) :
    coreItems ((it, g) :: rest) = (it.toCore, gapBlank g) :: coreItems rest := rfl

theorem blanks_items : ∀ (its : List (Item × Gap)), (∀ p ∈ its, p.1.shapeOK = true ∧ gapOK p.2 = true) →
    Blanks .code (renderItems its) (renderItems (coreItems its)) .code
  | [], _ => .nil
  | (it, g) :: rest, h =>
    have hp := h (it, g) (by simp)
    (blanks_item it hp.1).append ((blanks_gap g hp.2).append (blanks_items rest fun p hp => h p (by simp [hp])))

/-- **`blankComments` on a statement of the grammar** gives the text of the
    same statement with every comment overwritten by blanks. -/
theorem blank_stmt (s : Stmt) (hok : s.ok = true) : blankComments s.text = s.toCore.text := by
  obtain ⟨hlead, hinit, hlast, htail, _, _⟩ := (stmt_ok_iff s).mp hok
  exact ((blanks_gap s.lead hlead).append ((blanks_items s.init hinit).append
    ((blanks_item s.last hlast).append (blanks_gap s.tail htail)))).whole

/-! ### `toCore` is a core statement with the same skeleton -/

theorem wsGap_replicate (n : Nat) : wsGap (List.replicate n (SepPiece.ws ' ')) = true := by
  simp [wsGap, gapOK, gapIsWs, List.all_replicate, SepPiece.ok, SepPiece.isWs, isSpace]

theorem wsGap_append (a b : Gap) (ha : wsGap a = true) (hb : wsGap b = true) : wsGap (a ++ b) = true := by
  simp only [wsGap, gapOK, gapIsWs, Bool.and_eq_true, List.all_append] at *
  exact ⟨⟨ha.1, hb.1⟩, ⟨ha.2, hb.2⟩⟩

theorem wsGap_piece (p : SepPiece) (h : p.ok = true) : wsGap p.blank = true := by
  have hnl : wsGap [SepPiece.ws '\n'] = true := by decide
  cases p with
  | ws c => simpa [SepPiece.blank, wsGap, gapOK, gapIsWs, SepPiece.isWs] using h
  | mlc body => exact wsGap_replicate _
  | dash _ _ | hash _ => exact wsGap_append _ _ (wsGap_replicate _) hnl

theorem wsGap_blank : ∀ (g : Gap), gapOK g = true → wsGap (gapBlank g) = true := by
  intro g
  induction g with
  | nil => intro _; rfl
  | cons p rest ih =>
    intro h
    simp only [gapOK, List.all_cons, Bool.and_eq_true] at h
    simp only [gapBlank, List.flatMap_cons]
    exact wsGap_append _ _ (wsGap_piece p h.1) (ih (by simpa [gapOK] using h.2))

theorem piece_blank_ne (p : SepPiece) : p.blank ≠ [] := by
  cases p <;> simp [SepPiece.blank]

theorem gapBlank_isEmpty (g : Gap) : (gapBlank g).isEmpty = g.isEmpty := by
  cases g with
  | nil => rfl
  | cons p rest =>
    simp only [gapBlank, List.flatMap_cons, List.isEmpty_cons]
    cases h : p.blank with
    | nil => exact absurd h (piece_blank_ne p)
    | cons _ _ => rfl

theorem row_toCore_core (r : Row) (h : r.ok = true) : r.toCore.core = true := by
  simp only [Row.ok, Bool.and_eq_true] at h
  obtain ⟨c', hc, hl⟩ := contentOK_some h.2
  simp [Row.core, Row.toCore, wsGap_blank _ h.1.1, wsGap_blank _ h.1.2, hc, hl]

theorem item_toCore_core (it : Item) (h : it.shapeOK = true) : it.toCore.core = true := by
  cases it with
  | chunk segs => exact h
  | vlist kw gap content rows =>
    simp only [Item.shapeOK, Bool.and_eq_true] at h
    obtain ⟨⟨⟨hkw, hgap⟩, hcontent⟩, hrows⟩ := h
    obtain ⟨c', hc, hl⟩ := contentOK_some hcontent
    simp only [Item.toCore, Item.core, Bool.and_eq_true, hc, Option.getD_some]
    refine ⟨⟨⟨hkw, wsGap_blank gap hgap⟩, hl⟩, ?_⟩
    rw [List.all_map]
    apply List.all_eq_true.mpr
    intro r hr
    exact row_toCore_core r (List.all_eq_true.mp hrows r hr)

theorem item_toCore_norm (it : Item) (h : it.shapeOK = true) : it.toCore.norm = it.norm := by
  cases it with
  | chunk segs => rfl
  | vlist kw gap content rows =>
    simp only [Item.shapeOK, Bool.and_eq_true] at h
    obtain ⟨c', hc, _⟩ := contentOK_some h.1.2
    simp only [Item.toCore, Item.norm, hc, Option.getD_some]
    have hlen : c'.length = content.length := by
      unfold contentBlank at hc
      split at hc
      · simp only [Option.some.injEq] at hc
        rw [← hc, List.length_dropLast, length_blankGo]; simp
      · cases hc
    have : c'.isEmpty = content.isEmpty := by
      cases c' <;> cases content <;> simp_all
    rw [this]

theorem item_toCore_misc (it : Item) :
    it.toCore.isList = it.isList ∧ it.toCore.rows.isEmpty = it.rows.isEmpty ∧ it.toCore.isPlain = it.isPlain ∧
      (∀ prev d, it.toCore.ctxOK1 prev d = it.ctxOK1 prev d) ∧ (∀ prev, it.toCore.nextPrev prev = it.nextPrev prev) ∧
      (∀ prev d, it.toCore.nextDupe prev d = it.nextDupe prev d) := by
  cases it with
  | chunk segs => exact ⟨rfl, rfl, rfl, fun _ _ => rfl, fun _ => rfl, fun _ _ => rfl⟩
  | vlist kw gap content rows =>
    refine ⟨rfl, ?_, rfl, fun _ _ => rfl, fun _ => rfl, fun _ _ => rfl⟩
    simp [Item.toCore, Item.rows]

theorem ctxOK_toCore : ∀ (its : List Item) (prev : List Char) (d : Bool),
    ctxOK prev d (its.map Item.toCore) = ctxOK prev d its := by
  intro its
  induction its with
  | nil => intro _ _; rfl
  | cons it rest ih =>
    intro prev d
    obtain ⟨_, _, _, h4, h5, h6⟩ := item_toCore_misc it
    simp only [List.map_cons, ctxOK, h4, h5, h6, ih]

theorem sepsOK_toCore : ∀ (its : List (Item × Gap)), sepsOK (coreItems its) = sepsOK its
  | [] => rfl
  | (it, g) :: rest => by
    obtain ⟨h1, h2, _⟩ := item_toCore_misc it
    have he : (coreItems rest).isEmpty = rest.isEmpty := by cases rest <;> rfl
    have hp : startsPlain (coreItems rest) = startsPlain rest := by
      rcases rest with _ | ⟨⟨it2, _⟩, _⟩
      · rfl
      · exact (item_toCore_misc it2).2.2.1
    rw [coreItems_cons, sepsOK_cons, sepsOK_cons, sepsOK_toCore rest, gapBlank_isEmpty, h1, h2, he, hp]

theorem skelOf_toCore : ∀ (its : List (Item × Gap)), (∀ p ∈ its, p.1.shapeOK = true) →
    skelOf (coreItems its) = skelOf its := by
  intro its
  induction its with
  | nil => intro _; rfl
  | cons p rest ih =>
    intro h
    obtain ⟨it, g⟩ := p
    rw [coreItems_cons]
    simp only [skelOf, gapBlank_isEmpty, item_toCore_norm it (h (it, g) (by simp)),
      ih (fun p hp => h p (by simp [hp]))]

theorem toCore_allItems (s : Stmt) : s.toCore.allItems = coreItems s.allItems := by
  simp [Stmt.allItems, Stmt.toCore, coreItems, Stmt.lastSep, gapBlank, SepPiece.blank]

theorem toCore_items (s : Stmt) : s.toCore.items = s.items.map Item.toCore := by
  simp [Stmt.items, Stmt.toCore]

theorem allItems_shape (s : Stmt) (hok : s.ok = true) : ∀ p ∈ s.allItems, p.1.shapeOK = true := by
  obtain ⟨_, hinit, hlast, _⟩ := (stmt_ok_iff s).mp hok
  intro p hp
  simp only [Stmt.allItems, List.mem_append, List.mem_singleton] at hp
  rcases hp with hp | hp
  · exact (hinit p hp).1
  · subst hp; exact hlast

/-- The statement with its comments blanked is a core statement with the same skeleton. -/
theorem toCore_core (s : Stmt) (hok : s.ok = true) : s.toCore.core = true ∧ s.toCore.skeleton = s.skeleton := by
  have hshape := allItems_shape s hok
  obtain ⟨hlead, hinit, hlast, htail, hctx, hseps⟩ := (stmt_ok_iff s).mp hok
  refine ⟨?_, ?_⟩
  · refine (stmt_core_iff _).mpr ⟨wsGap_blank _ hlead, ?_, item_toCore_core _ hlast, wsGap_blank _ htail, ?_, ?_⟩
    · intro p hp
      obtain ⟨p0, hp0, rfl⟩ := List.mem_map.mp hp
      exact ⟨item_toCore_core _ (hinit p0 hp0).1, wsGap_blank _ (hinit p0 hp0).2⟩
    · rw [toCore_items, ctxOK_toCore]; exact hctx
    · rw [toCore_allItems, sepsOK_toCore]; exact hseps
  · simp only [Stmt.skeleton]
    rw [toCore_allItems, skelOf_toCore _ hshape]

end GaeaVerif.FingerprintBlank
