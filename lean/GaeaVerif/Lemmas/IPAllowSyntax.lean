import GaeaVerif.Lemmas.IPAllowSplit
/-
  Lemmas about the text syntax of C35's allow-list entries (`Model/IPAllow.lean`):
  what a successful parse of the reference parser for `netip.ParseAddr`, of
  `dtoi` and of `stringslite.Cut` says about the text, and that the parsers do
  not tell upper-case from lower-case hex digits (`lowerAll`: one lemma per
  parser function, from `lowerHex_cases`).
-/
namespace GaeaVerif.C35
open GaeaVerif GaeaVerif.IPAllow

theorem ite_some_inv {α : Type} {c : Prop} [Decidable c] {x a : α} {y : Option α}
    (h : (if c then some x else y) = some a) : x = a ∨ y = some a := by
  split at h
  · exact Or.inl (Option.some.inj h)
  · exact Or.inr h

theorem parseIPv6_some (s : Bytes) (a : Addr) (h : parseIPv6 s = some a) :
    a.bytes.length = 16 ∧ a.zone = s.contains 0x25 := by
  unfold parseIPv6 at h
  simp only [Option.ite_none_left_eq_some] at h
  generalize v6Loop 10 _ [] _ = r at h
  rcases ite_some_inv h.2 with h | h
  · subst h; exact ⟨rfl, rfl⟩
  · cases r with
    | none => cases h
    | some p =>
      obtain ⟨ip, ell⟩ := p
      simp only at h
      by_cases hlt : ip.length < 16
      · rw [if_pos hlt] at h
        cases ell with
        | none => cases h
        | some e =>
          cases h
          refine ⟨?_, rfl⟩
          simp only [List.length_append, List.length_take, List.length_replicate, List.length_drop]
          omega
      · rw [if_neg hlt, Option.ite_none_left_eq_some, Option.ite_none_left_eq_some] at h
        obtain ⟨-, h16, h⟩ := h
        cases h
        exact ⟨Decidable.of_not_not h16, rfl⟩

/-- No leading zero: `010` is not 8 (octal) and not 10, it is no field at all. -/
theorem v4Field_decimal (p : Bytes) (v : UInt8) (h : v4Field p = some v) :
    p ≠ [] ∧ p.all isDigit = true ∧ ¬ (p.length > 1 ∧ p.head? = some 0x30) ∧ p.length ≤ 3
      ∧ decVal p ≤ 255 ∧ v.toNat = decVal p := by
  simp only [v4Field, Option.ite_none_left_eq_some, Bool.or_eq_true, List.isEmpty_iff, Bool.not_eq_true',
    Bool.and_eq_true, decide_eq_true_eq, beq_iff_eq, not_or, Bool.not_eq_false, Nat.not_lt, Option.some.injEq] at h
  obtain ⟨⟨h1, h2⟩, h3, h4, h5, rfl⟩ := h
  exact ⟨h1, h2, h3, h4, h5, by rw [UInt8.toNat_ofNat']; omega⟩

theorem netipParseAddr_some {s : Bytes} {a : Addr} (h : netipParseAddr s = some a) :
    (∃ b, parseIPv4Fields s = some b ∧ a = { bytes := b, zone := false }) ∨ parseIPv6 s = some a := by
  unfold netipParseAddr at h
  split at h
  · obtain ⟨b, hb, rfl⟩ := Option.map_eq_some_iff.mp h
    exact Or.inl ⟨b, hb, rfl⟩
  · exact Or.inr h
  · cases h

theorem cutSlash_some {t a m : Bytes} (h : cutSlash t = some (a, m)) : t = a ++ 0x2f :: m :=
  Split.eq_of_cut_some (cutSlash_eq t ▸ h)

theorem dtoiLoop_all (m : Bytes) : ∀ (n i v j : Nat), dtoiLoop m n i = some (v, j) → j = i + m.length →
    ∀ c ∈ m, (0x30 ≤ c ∧ c ≤ 0x39) := by
  induction m with
  | nil => intro n i v j _ _ c hc; simp at hc
  | cons x xs ih =>
    intro n i v j h hj c hc
    unfold dtoiLoop at h
    by_cases hx : 0x30 ≤ x ∧ x ≤ 0x39
    · simp only [hx, and_self, if_true] at h
      split at h
      · simp at h
      · simp only [List.mem_cons] at hc
        rcases hc with hc | hc
        · rw [hc]; exact hx
        · exact ih _ _ v j h (by simp only [List.length_cons] at hj; omega) c hc
    · simp only [hx, if_false, Option.some.injEq, Prod.mk.injEq] at h
      simp only [List.length_cons] at hj
      omega

theorem dtoi_all_digits {m : Bytes} (hok : (dtoi m).2.2 = true) (hlen : (dtoi m).2.1 = m.length) :
    ∀ c ∈ m, 0x30 ≤ c ∧ c ≤ 0x39 := by
  unfold dtoi at hok hlen
  cases hd : dtoiLoop m 0 0 with
  | none => rw [hd] at hok; cases hok
  | some r =>
    obtain ⟨v, j⟩ := r
    rw [hd] at hok hlen
    by_cases hj : j = 0
    · simp only [hj, if_true] at hok; cases hok
    · simp only [hj, if_false] at hlen
      exact dtoiLoop_all m 0 0 v j hd (by omega)

/-- `A`–`F` to `a`–`f`, every other byte as it is. -/
def lowerHex (c : UInt8) : UInt8 := if 0x41 ≤ c ∧ c ≤ 0x46 then c + 0x20 else c

@[elab_as_elim]
theorem lowerHex_cases {P : UInt8 → Prop} (c : UInt8) (hfix : ∀ c, lowerHex c = c → P c)
    (hup : ∀ k, k < 6 → P (UInt8.ofNat (0x41 + k))) : P c := by
  by_cases h : 0x41 ≤ c ∧ c ≤ 0x46
  · have h' : 0x41 ≤ c.toNat ∧ c.toNat ≤ 0x46 := h
    have := hup (c.toNat - 0x41) (by omega)
    rwa [show 0x41 + (c.toNat - 0x41) = c.toNat by omega, UInt8.ofNat_toNat] at this
  · exact hfix c (if_neg h)

theorem lowerHex_hexVal (c : UInt8) : hexVal8? (lowerHex c) = hexVal8? c :=
  lowerHex_cases c (fun _ h => by rw [h]) (by decide)

theorem lowerHex_eq_dot (c : UInt8) : (lowerHex c = 0x2e) = (c = 0x2e) :=
  lowerHex_cases c (fun _ h => by rw [h]) (by decide)
theorem lowerHex_eq_colon (c : UInt8) : (lowerHex c = 0x3a) = (c = 0x3a) :=
  lowerHex_cases c (fun _ h => by rw [h]) (by decide)
theorem lowerHex_eq_pct (c : UInt8) : (lowerHex c = 0x25) = (c = 0x25) :=
  lowerHex_cases c (fun _ h => by rw [h]) (by decide)
theorem lowerHex_eq_slash (c : UInt8) : (lowerHex c = 0x2f) = (c = 0x2f) :=
  lowerHex_cases c (fun _ h => by rw [h]) (by decide)
theorem lowerHex_isDigit (c : UInt8) : isDigit (lowerHex c) = isDigit c :=
  lowerHex_cases c (fun _ h => by rw [h]) (by decide)
theorem lowerHex_digit (c : UInt8) : isDigit c = true → lowerHex c = c :=
  lowerHex_cases c (fun _ h _ => h) (by decide)
theorem lowerHex_dtoi_digit (c : UInt8) :
    (0x30 ≤ lowerHex c ∧ lowerHex c ≤ 0x39) = (0x30 ≤ c ∧ c ≤ 0x39) :=
  lowerHex_cases c (fun _ h => by rw [h]) (by decide)
theorem lowerHex_dtoi_val (c : UInt8) : (0x30 ≤ c ∧ c ≤ 0x39) → lowerHex c = c :=
  lowerHex_cases c (fun _ h _ => h) (by decide)

abbrev lowerAll (s : Bytes) : Bytes := s.map lowerHex

theorem lowerAll_digits (p : Bytes) (h : p.all isDigit = true) : lowerAll p = p := by
  rw [List.all_eq_true] at h
  exact (List.map_congr_left fun c hc => lowerHex_digit c (h c hc)).trans (List.map_id p)

theorem lowerAll_all_isDigit (p : Bytes) : (lowerAll p).all isDigit = p.all isDigit := by
  rw [List.all_map, show isDigit ∘ lowerHex = isDigit from funext lowerHex_isDigit]

theorem v4Field_lower (p : Bytes) : v4Field (lowerAll p) = v4Field p := by
  by_cases h : p.all isDigit = true
  · rw [lowerAll_digits p h]
  · have h' : (lowerAll p).all isDigit ≠ true := by rw [lowerAll_all_isDigit]; exact h
    unfold v4Field
    simp [h, h']

theorem parseIPv4Fields_lower (s : Bytes) : parseIPv4Fields (lowerAll s) = parseIPv4Fields s := by
  unfold parseIPv4Fields
  rw [splitOn_eq, splitOn_eq, Split.split_map lowerHex fun c => Iff.of_eq (lowerHex_eq_dot c), List.map_map,
    show v4Field ∘ lowerAll = v4Field from funext v4Field_lower]

theorem headOpt_lower_dot (s : Bytes) : ((lowerAll s).head? = some 0x2e) = (s.head? = some 0x2e) := by
  cases s with
  | nil => rfl
  | cons c cs => simp only [lowerAll, List.map_cons, List.head?_cons, Option.some.injEq, lowerHex_eq_dot]

theorem v6Loop_lower (fuel : Nat) : ∀ (s ip : Bytes) (ell : Option Nat),
    v6Loop fuel (lowerAll s) ip ell = v6Loop fuel s ip ell := by
  induction fuel with
  | zero => intro s ip ell; rfl
  | succ fuel ih =>
    intro s ip ell
    conv => lhs; unfold v6Loop
    conv => rhs; unfold v6Loop
    simp only [List.takeWhile_map, List.dropWhile_map, List.foldl_map, Function.comp_def, lowerHex_hexVal,
      headOpt_lower_dot, parseIPv4Fields_lower, List.length_map, List.isEmpty_map]
    -- both sides make the same tests; they differ only in the text after the group of digits
    refine ite_congr rfl (fun _ => rfl) fun _ => ite_congr rfl (fun _ => rfl) fun _ =>
      ite_congr rfl (fun _ => rfl) fun _ => ?_
    generalize s.dropWhile (fun c => (hexVal8? c).isSome) = rest
    cases rest with
    | nil => rfl
    | cons c r1 =>
      simp only [List.map_cons, ne_eq, lowerHex_eq_colon]
      refine ite_congr rfl (fun _ => rfl) fun _ => ?_
      cases r1 with
      | nil => rfl
      | cons c2 r2 =>
        have h2 := ih r2
        have h1 := ih (c2 :: r2)
        simp only [lowerAll, List.map_cons] at h1 h2
        simp only [List.map_cons, lowerHex_eq_colon, List.isEmpty_map, h1, h2]

theorem contains_pct_lower (s : Bytes) : (lowerAll s).contains 0x25 = s.contains 0x25 := by
  simp only [List.contains_eq_any_beq, List.any_map, Function.comp_def, Bool.beq_eq_decide_eq,
    eq_comm (a := (0x25 : UInt8)), lowerHex_eq_pct]

theorem take2_colon_lower (s : Bytes) :
    ((lowerAll s).take 2 == [0x3a, 0x3a]) = (s.take 2 == [0x3a, 0x3a]) := by
  rw [Bool.eq_iff_iff]
  simp only [beq_iff_eq]
  match s with
  | [] => simp
  | [a] => simp
  | a :: b :: r => simp [lowerAll, lowerHex_eq_colon]

theorem parseIPv6_lower (input : Bytes) : parseIPv6 (lowerAll input) = parseIPv6 input := by
  unfold parseIPv6
  simp only [contains_pct_lower, List.takeWhile_map, List.dropWhile_map, Function.comp_def, ne_eq, lowerHex_eq_pct,
    List.length_map, take2_colon_lower]
  have hdrop : ∀ x : Bytes, (lowerAll x).drop 2 = lowerAll (x.drop 2) := fun x => by simp [lowerAll]
  generalize input.takeWhile (· ≠ 0x25) = s
  by_cases hl : (decide (s.length ≥ 2) && s.take 2 == [0x3a, 0x3a]) = true
  · simp only [hl, if_true, hdrop, List.isEmpty_map, v6Loop_lower]
  · have hl' : (decide (s.length ≥ 2) && s.take 2 == [0x3a, 0x3a]) = false := by simpa using hl
    simp only [hl', Bool.false_and, Bool.false_eq_true, if_false, v6Loop_lower]

theorem findOpt_special_lower (s : Bytes) :
    (lowerAll s).find? (fun c => c = 0x2e || c = 0x3a || c = 0x25)
      = (s.find? (fun c => c = 0x2e || c = 0x3a || c = 0x25)) := by
  induction s with
  | nil => rfl
  | cons c cs ih =>
    simp only [lowerAll, List.map_cons, List.find?_cons, lowerHex_eq_dot, lowerHex_eq_colon, lowerHex_eq_pct] at ih ⊢
    split
    · rename_i h
      have : lowerHex c = c := by
        simp only [Bool.or_eq_true, decide_eq_true_eq] at h
        rcases h with (h | h) | h
        · rw [h]; rfl
        · rw [h]; rfl
        · rw [h]; rfl
      rw [this]
    · exact ih

theorem netipParseAddr_lower (s : Bytes) : netipParseAddr (lowerAll s) = netipParseAddr s := by
  unfold netipParseAddr
  rw [findOpt_special_lower, parseIPv4Fields_lower, parseIPv6_lower]

theorem cutSlash_lower (t : Bytes) :
    cutSlash (lowerAll t) = (cutSlash t).map fun p => (lowerAll p.1, lowerAll p.2) := by
  rw [cutSlash_eq, cutSlash_eq]
  exact Split.cut_map lowerHex (fun c => Iff.of_eq (lowerHex_eq_slash c)) t

theorem dtoiLoop_lower (m : Bytes) : ∀ n i, dtoiLoop (lowerAll m) n i = dtoiLoop m n i := by
  induction m with
  | nil => intro n i; rfl
  | cons c cs ih =>
    intro n i
    simp only [lowerAll, List.map_cons] at ih ⊢
    unfold dtoiLoop
    simp only [lowerHex_dtoi_digit]
    split
    · rename_i h
      rw [lowerHex_dtoi_val c h]
      simp only [ih]
    · rfl

theorem dtoi_lower (m : Bytes) : dtoi (lowerAll m) = dtoi m := by
  unfold dtoi; rw [dtoiLoop_lower]

end GaeaVerif.C35
