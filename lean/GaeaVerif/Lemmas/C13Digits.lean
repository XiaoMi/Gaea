import GaeaVerif.Model.BinRow
import GaeaVerif.Spec.BinProto
import GaeaVerif.Lemmas.Decimal
import GaeaVerif.Lemmas.SplitOn
import GaeaVerif.Props.C12
/-
  C13 helper lemmas: decimal digit strings (`decVal`, `natToDec`), the spec's
  length-encoded reader against the model's writer, trailing zero trimming,
  splitting at the decimal point, the integer parsers of `strconv` and
  `math/big` on `[-]digits`, the first occurrence of a byte.
-/
namespace GaeaVerif.C13
open GaeaVerif GaeaVerif.BinRow GaeaVerif.BinProto GaeaVerif.LenEnc

/-! `decVal` is `Dec.val digVal` by definition, and `natToDec` writes `Nat.toDigits 10`: the
    facts about both come from Lemmas/Decimal.lean. -/

theorem decVal_nil : decVal [] = 0 := rfl

theorem decVal_append (a b : Bytes) : decVal (a ++ b) = decVal a * 10 ^ b.length + decVal b :=
  Dec.val_append ..

theorem digVal_lt (c : UInt8) (h : isDigit c = true) : digVal c < 10 := by
  simp only [isDigit, Bool.and_eq_true, decide_eq_true_eq, UInt8.le_iff_toNat_le] at h
  have := h.2
  simp only [digVal]
  simp at this; omega

theorem decVal_lt (s : Bytes) (h : s.all isDigit = true) : decVal s < 10 ^ s.length :=
  Dec.val_lt fun c hc => digVal_lt c (List.all_eq_true.mp h c hc)

theorem decVal_replicate_zero (k : Nat) : decVal (List.replicate k 48) = 0 :=
  (congrArg decVal (List.append_nil _).symm).trans (Dec.val_replicate_append (d := digVal) (z := 48) rfl k [])

theorem ofNat48_digit (n : Nat) (h : n < 10) : isDigit (UInt8.ofNat (48 + n)) = true ∧ digVal (UInt8.ofNat (48 + n)) = n := by
  have e : (UInt8.ofNat (48 + n)).toNat = 48 + n := UInt8.toNat_ofNat_of_lt' (by simp only [UInt8.size]; omega)
  refine ⟨?_, by rw [digVal, e, Nat.add_sub_cancel_left]⟩
  simp only [isDigit, Bool.and_eq_true, decide_eq_true_eq, UInt8.le_iff_toNat_le, e]
  exact ⟨by simp, by simp; omega⟩

theorem natToDecAux_eq (fuel n : Nat) (acc : Bytes) (h : n < fuel) :
    natToDecAux fuel n acc = (Nat.toDigits 10 n).map (fun c => UInt8.ofNat c.toNat) ++ acc := by
  induction fuel generalizing n acc with
  | zero => omega
  | succ fuel ih =>
    rw [natToDecAux, Dec.toDigits_eq]
    by_cases hn : n < 10
    · rw [if_pos hn, if_pos hn, List.map_singleton, Nat.toNat_digitChar_of_lt_ten hn]; rfl
    · rw [if_neg hn, if_neg hn, ih _ _ (by omega), List.map_append, List.map_singleton,
        Nat.toNat_digitChar_of_lt_ten (Nat.mod_lt n (by decide)), List.append_assoc]; rfl

theorem natToDec_eq (n : Nat) : natToDec n = (Nat.toDigits 10 n).map fun c => UInt8.ofNat c.toNat :=
  (natToDecAux_eq _ _ _ (Nat.lt_succ_self n)).trans (List.append_nil _)

theorem decVal_natToDec (n : Nat) : decVal (natToDec n) = n := by
  rw [natToDec_eq]
  exact Dec.val_map_toDigits (fun k hk => by rw [Nat.toNat_digitChar_of_lt_ten hk]; exact (ofNat48_digit k hk).2) n

theorem natToDec_digits (n : Nat) : (natToDec n).all isDigit = true := by
  rw [natToDec_eq, List.all_eq_true]
  intro b hb
  obtain ⟨k, hk, rfl⟩ := Dec.mem_map_toDigits hb
  rw [Nat.toNat_digitChar_of_lt_ten hk]; exact (ofNat48_digit k hk).1

theorem natToDec_ne_nil (n : Nat) : natToDec n ≠ [] := by
  rw [natToDec_eq]; exact fun h => Nat.toDigits_ne_nil (List.map_eq_nil_iff.mp h)

theorem natToDec_len_le (n k : Nat) (hk : 1 ≤ k) (hn : n < 10 ^ k) : (natToDec n).length ≤ k := by
  rw [natToDec_eq, List.length_map]; exact Dec.length_toDigits_le hk hn

theorem takeN_append (a rest : Bytes) : takeN a.length (a ++ rest) = some (a, rest) := by
  simp [takeN]

theorem takeN_append' (a rest : Bytes) (n : Nat) (h : n = a.length) : takeN n (a ++ rest) = some (a, rest) := by
  subst h; exact takeN_append a rest

theorem takeLenEnc_prefixed (m : UInt8) (w : Nat) (b rest : Bytes) (hm : ¬ m.toNat < 251)
    (hw : (if m = 0xfc then 2 else if m = 0xfd then 3 else if m = 0xfe then 8 else 0) = w) (hw0 : w ≠ 0)
    (hb : b.length < 256 ^ w) :
    takeLenEnc (m :: leBytes b.length w ++ b ++ rest) = some (b, rest) := by
  simp only [takeLenEnc, List.cons_append, List.append_assoc, if_neg hm, hw, if_neg hw0,
    takeN_append' (leBytes b.length w) _ w (leBytes_length _ w).symm,
    leNat_leBytes w b.length hb, takeN_append]

theorem takeLenEnc_append (b rest : Bytes) (h : b.length < 2 ^ 64) :
    takeLenEnc (appendLenEncStringBytes b ++ rest) = some (b, rest) := by
  unfold appendLenEncStringBytes appendLenEncInt
  by_cases h1 : b.length ≤ 250
  · rw [if_pos h1]
    simp only [List.cons_append, List.nil_append, takeLenEnc,
      UInt8.toNat_ofNat_of_lt' (show b.length < 256 by omega), if_pos (show b.length < 251 by omega)]
    exact takeN_append b rest
  rw [if_neg h1]
  by_cases h2 : b.length ≤ 0xffff
  · rw [if_pos h2]; exact takeLenEnc_prefixed 0xfc 2 b rest (by decide) rfl (by decide) (by omega)
  rw [if_neg h2]
  by_cases h3 : b.length ≤ 0xffffff
  · rw [if_pos h3]; exact takeLenEnc_prefixed 0xfd 3 b rest (by decide) rfl (by decide) (by omega)
  · rw [if_neg h3]; exact takeLenEnc_prefixed 0xfe 8 b rest (by decide) rfl (by decide) (by omega)

theorem lenEncIntSize_bounds (i : Nat) : 1 ≤ lenEncIntSize i ∧ lenEncIntSize i ≤ 9 := by
  fun_cases lenEncIntSize i <;> omega

theorem appendLenEncStringBytes_length (b : Bytes) :
    (appendLenEncStringBytes b).length = lenEncIntSize b.length + b.length := by
  rw [appendLenEncStringBytes, List.length_append, GaeaVerif.C12.appendLenEncInt_length]

theorem dropWhile_zero_spec (l : Bytes) :
    ∃ k, l = List.replicate k 48 ++ l.dropWhile (· == 48) := by
  induction l with
  | nil => exact ⟨0, rfl⟩
  | cons c cs ih =>
    by_cases hc : c = 48
    · subst hc
      obtain ⟨k, hk⟩ := ih
      refine ⟨k + 1, ?_⟩
      simp only [List.dropWhile_cons, beq_self_eq_true, if_true, List.replicate_succ, List.cons_append]
      rw [← hk]
    · refine ⟨0, ?_⟩
      simp [hc]

theorem trim_spec (s : Bytes) : ∃ k, s = trimTrailingZeros s ++ List.replicate k 48 := by
  obtain ⟨k, hk⟩ := dropWhile_zero_spec s.reverse
  refine ⟨k, ?_⟩
  unfold trimTrailingZeros
  have := congrArg List.reverse hk
  simp only [List.reverse_reverse, List.reverse_append, List.reverse_replicate] at this
  exact this

theorem all_of_append_left {p : UInt8 → Bool} {a b : Bytes} (h : (a ++ b).all p = true) : a.all p = true := by
  simp only [List.all_append, Bool.and_eq_true] at h; exact h.1

theorem trim_digits (s : Bytes) (h : s.all isDigit = true) : (trimTrailingZeros s).all isDigit = true := by
  obtain ⟨k, hk⟩ := trim_spec s
  rw [hk] at h
  exact all_of_append_left h

theorem trim_len_le (s : Bytes) : (trimTrailingZeros s).length ≤ s.length := by
  obtain ⟨k, hk⟩ := trim_spec s
  have := congrArg List.length hk
  simp at this; omega

theorem isDigit_ne {c k : UInt8} (h : isDigit c = true) (hk : isDigit k = false) : c ≠ k :=
  fun e => by rw [e, hk] at h; cases h

theorem isDigit_beq {c k : UInt8} (h : isDigit c = true) (hk : isDigit k = false) : (c == k) = false :=
  beq_eq_false_iff_ne.2 (isDigit_ne h hk)

theorem splitDot_eq (s : Bytes) : splitDot s = Split.cut 46 s := by
  induction s with
  | nil => rfl
  | cons c cs ih => rw [splitDot, Split.cut, ih]

theorem splitDot_digits (a : Bytes) (h : a.all isDigit = true) : splitDot a = none :=
  (splitDot_eq a).trans (Split.cut_none fun c hc => isDigit_ne (List.all_eq_true.mp h c hc) rfl)

theorem splitDot_append (a b : Bytes) (h : a.all isDigit = true) : splitDot (a ++ 46 :: b) = some (a, b) :=
  (splitDot_eq _).trans (Split.cut_some (fun c hc => isDigit_ne (List.all_eq_true.mp h c hc) rfl) b)

theorem head_digit_ne_minus (s : Bytes) (hne : s ≠ []) (h : s.all isDigit = true) : s.head? ≠ some 45 := by
  cases s with
  | nil => exact absurd rfl hne
  | cons c cs =>
    simp only [List.all_cons, Bool.and_eq_true] at h
    simp only [List.head?_cons, ne_eq, Option.some.injEq]
    exact isDigit_ne h.1 rfl

/-- The spec's readers strip a leading `-` this way. -/
theorem sign_split (s : Bytes) :
    s = (if s.head? == some 45 then [45] else []) ++ (if s.head? == some 45 then s.drop 1 else s) := by
  cases s with
  | nil => rfl
  | cons c cs =>
    by_cases hc : c = 45
    · subst hc; rfl
    · simp [hc]

theorem allDigits_iff (s : Bytes) : allDigits s = true ↔ s ≠ [] ∧ s.all isDigit = true := by
  unfold allDigits; cases s <;> simp

theorem findIdx_none (p : UInt8 → Bool) (s : Bytes) (h : ∀ c ∈ s, p c = false) : findIdx p s = none := by
  induction s with
  | nil => rfl
  | cons c cs ih =>
    simp only [findIdx, h c (by simp)]
    rw [ih (fun x hx => h x (by simp [hx]))]; rfl

theorem findIdx_split (p : UInt8 → Bool) (a b : Bytes) (c : UInt8) (ha : ∀ x ∈ a, p x = false) (hc : p c = true) :
    findIdx p (a ++ c :: b) = some a.length ∧ (a ++ c :: b).take a.length = a
      ∧ (a ++ c :: b).drop (a.length + 1) = b := by
  refine ⟨?_, List.take_left' rfl, ?_⟩
  · induction a with
    | nil => simp [findIdx, hc]
    | cons x xs ih =>
      simp only [List.cons_append, findIdx, ha x (by simp), Bool.false_eq_true, if_false,
        ih (fun y hy => ha y (by simp [hy])), Option.map_some, List.length_cons]
  · rw [show a ++ c :: b = (a ++ [c]) ++ b by simp, List.drop_left' (by simp)]

theorem parseUint_digits (ds : Bytes) (b : Nat) (hne : ds ≠ []) (hd : ds.all isDigit = true) :
    parseUint ds b = if decVal ds < 2 ^ b then some (decVal ds) else none := by
  cases ds with
  | nil => exact absurd rfl hne
  | cons c cs => simp only [parseUint, List.isEmpty_cons, hd]; rfl

theorem digit_not_sign (c : UInt8) (h : isDigit c = true) : (c == 43) = false ∧ (c == 45) = false :=
  ⟨isDigit_beq h rfl, isDigit_beq h rfl⟩

theorem parseInt_signed (neg : Bool) (ds : Bytes) (hne : ds ≠ []) (hd : ds.all isDigit = true) (x : Int)
    (hx : x = if neg then -(decVal ds : Int) else (decVal ds : Int)) :
    parseInt ((if neg then [45] else []) ++ ds) 64 = if -2 ^ 63 ≤ x ∧ x < 2 ^ 63 then some x else none := by
  -- after the sign, both cases are `ParseUint` followed by the cutoff test
  have key : parseInt ((if neg then [45] else []) ++ ds) 64 =
      match parseUint ds 64 with
      | none => none
      | some un =>
        if !neg && un ≥ 2 ^ 63 then none else if neg && un > 2 ^ 63 then none
        else some (if neg then -(un : Int) else (un : Int)) := by
    cases neg with
    | true => rfl
    | false =>
      cases ds with
      | nil => exact absurd rfl hne
      | cons c cs =>
        obtain ⟨h43, h45⟩ := digit_not_sign c (by simp only [List.all_cons, Bool.and_eq_true] at hd; exact hd.1)
        simp only [Bool.false_eq_true, if_false, List.nil_append, parseInt, h43, h45, Bool.or_false]
        rfl
  rw [key, parseUint_digits ds 64 hne hd]
  generalize decVal ds = d at hx
  subst hx
  by_cases h64 : d < 2 ^ 64
  · rw [if_pos h64]
    cases neg with
    | true =>
      simp only [Bool.not_true, Bool.false_and, Bool.false_eq_true, if_false, Bool.true_and, decide_eq_true_eq, if_true]
      by_cases h : d > 2 ^ 63
      · rw [if_pos h, if_neg (by omega)]
      · rw [if_neg h, if_pos (by omega)]
    | false =>
      simp only [Bool.not_false, Bool.true_and, Bool.false_and, Bool.false_eq_true, if_false, decide_eq_true_eq]
      by_cases h : d ≥ 2 ^ 63
      · rw [if_pos h, if_neg (by omega)]
      · rw [if_neg h, if_pos (by omega)]
  · rw [if_neg h64, if_neg (by cases neg <;> simp <;> omega)]

theorem parseInt_signed_of_lt (neg : Bool) (ds : Bytes) (hne : ds ≠ []) (hd : ds.all isDigit = true)
    (hlt : decVal ds < 2 ^ 63) :
    parseInt ((if neg then [45] else []) ++ ds) 64
      = some (if neg then -(decVal ds : Int) else (decVal ds : Int)) := by
  rw [parseInt_signed neg ds hne hd _ rfl, if_pos]
  cases neg <;> simp <;> omega

theorem parseBigInt_shape (neg : Bool) (ds : Bytes) (hne : ds ≠ []) (hd : ds.all isDigit = true) :
    parseBigInt ((if neg then [45] else []) ++ ds)
      = some (if neg then -(decVal ds : Int) else (decVal ds : Int)) := by
  have he : ds.isEmpty = false := by cases ds <;> simp at hne ⊢
  cases neg with
  | true =>
    simp only [if_true, List.singleton_append, parseBigInt]
    simp [he, hd]
  | false =>
    cases ds with
    | nil => exact absurd rfl hne
    | cons c cs =>
      have hd' := hd
      simp only [List.all_cons, Bool.and_eq_true] at hd
      obtain ⟨h43, h45⟩ := digit_not_sign c hd.1
      simp only [Bool.false_eq_true, if_false, List.nil_append, parseBigInt, h43, h45, Bool.or_false]
      simp [hd']

end GaeaVerif.C13
