import GaeaVerif.Lemmas.LexC17Basic
/-
  Helper lemmas for C17: every dispatch of the scanner consumes at least one
  byte, so `scan` never runs out of fuel and every token it returns strictly
  decreases a measure of the scanner stack: the loop of
  `SplitStatementToPieces` ends for every text.
-/
namespace GaeaVerif.LexC17
open GaeaVerif

theorem scanIdentifier_pos (rest : Bytes) (h : rest ≠ []) : 1 ≤ scanIdentifier rest := by
  have := peek_width_pos rest h
  simp only [scanIdentifier]; omega

theorem startWithAt_pos (rest : Bytes) : 1 ≤ (startWithAt rest).2 := by
  fun_cases startWithAt rest <;> simp only <;> omega

theorem opLen_pos (rest : Bytes) : 1 ≤ opLen rest := by
  fun_cases opLen rest <;> omega

theorem startWithXxBb_pos (p : UInt8 → Bool) (rest : Bytes) : 1 ≤ startWithXxBb p rest := by
  fun_cases startWithXxBb p rest <;> omega

theorem scanFloat_ge (rest0 : Bytes) : spanLen isDigitB rest0 ≤ scanFloat rest0 := by
  unfold scanFloat
  simp only []
  repeat' split
  all_goals omega

theorem scanFloat_dot (t : Bytes) : 1 ≤ scanFloat (0x2E :: t) := by
  unfold scanFloat
  have hd : spanLen isDigitB ((0x2E : UInt8) :: t) = 0 := by
    simp [spanLen, List.takeWhile, isDigitB, isDigit]
  have : (0x2E : UInt8).toNat = 0x2E := by decide
  simp only [hd, List.drop_zero, this, if_true]
  repeat' split
  all_goals omega

theorem startWithDot_pos (b : UInt8) (t : Bytes) (hb : b.toNat = 0x2E) : 1 ≤ startWithDot (b :: t) := by
  obtain rfl : b = 0x2E := UInt8.toNat_inj.mp hb
  have := scanFloat_dot t
  fun_cases startWithDot (0x2E :: t) <;> omega

theorem numberPrefix_pos (b : UInt8) (t : Bytes) (hf : 1 ≤ scanFloat (b :: t)) :
    Sum.elim (1 ≤ ·) (1 ≤ ·) (numberPrefix (b :: t)) := by
  unfold numberPrefix
  simp only [List.drop_succ_cons, List.drop_zero]
  refine ite_ind _ _ _ _ (fun _ => ?_) (fun _ => Nat.le_refl 1)
  cases t with
  | nil => exact Nat.le_refl 1
  | cons b1 r2 =>
    simp only
    repeat' refine ite_ind _ _ _ _ (fun _ => ?_) (fun _ => ?_)
    all_goals (simp only [Sum.elim_inl, Sum.elim_inr]; omega)

theorem numberTail_pos (rest0 : Bytes) (k : Nat) (hk : 1 ≤ k) (hf : 1 ≤ scanFloat rest0) : 1 ≤ numberTail rest0 k := by
  fun_cases numberTail rest0 k <;> omega

theorem startWithNumber_pos (b : UInt8) (t : Bytes) (hb : isDigit b.toNat = true) : 1 ≤ startWithNumber (b :: t) := by
  have hd1 : 1 ≤ spanLen isDigitB (b :: t) := by
    simp [spanLen, List.takeWhile, isDigitB, hb]
  have hf : 1 ≤ scanFloat (b :: t) := Nat.le_trans hd1 (scanFloat_ge (b :: t))
  have hp := numberPrefix_pos b t hf
  unfold startWithNumber
  cases hpre : numberPrefix (b :: t) with
  | inr n => rw [hpre] at hp; exact hp
  | inl k => rw [hpre] at hp; exact numberTail_pos _ k hp hf

theorem incLine_pos (b : UInt8) (t : Bytes) (hb : b.toNat < 0x80) (hn : b.toNat ≠ 0x0A) :
    1 ≤ incAsLongAs (· ≠ 0x0A) (b :: t) := by
  rw [incAsLongAs_step _ _ (by simp) (by rw [peek_ascii b t hb]; simpa using hn), peek_ascii b t hb]
  omega

theorem commentLoop_le : ∀ (fuel : Nat) (star : Bool) (l : Bytes) (k : Nat),
    commentLoop fuel star l = some k → 1 ≤ k ∧ k ≤ l.length := by
  intro fuel
  induction fuel with
  | zero => intro star l k h; simp [commentLoop] at h
  | succ n ih =>
    intro star l k h
    cases l with
    | nil => simp [commentLoop] at h
    | cons b t =>
      have hw := peek_width_pos (b :: t) (by simp)
      have hwl := peek_width_le (b :: t)
      simp only [commentLoop] at h
      split at h
      · simp only [Option.some.injEq] at h; omega
      · simp only [Option.map_eq_some_iff] at h
        obtain ⟨k', hk', rfl⟩ := h
        have := ih _ _ _ hk'
        simp only [List.length_drop] at this
        omega

theorem sqlOffsetInComment_pos (c : Bytes) (hc : 2 ≤ c.length) (b : Nat) (h : sqlOffsetInComment c = some b) :
    1 ≤ b ∧ b < c.length := by
  unfold sqlOffsetInComment at h
  simp only [] at h
  cases hfi : c.findIdx? isSpaceB with
  | none =>
    simp only [hfi] at h
    rw [if_pos (by omega)] at h
    split at h
    · simp only [Option.some.injEq] at h; omega
    · simp at h
  | some i =>
    have hlt : i < c.length := (List.findIdx?_eq_some_iff_getElem.mp hfi).1
    simp only [hfi] at h
    rw [if_pos hlt] at h
    split at h
    · simp only [Option.some.injEq] at h; omega
    · simp at h

theorem trimComment_short_or_nil (c : Bytes) : (trimComment c).length + 3 ≤ c.length ∨ (trimComment c) = [] := by
  unfold trimComment
  simp only []
  have h3 : 3 ≤ specCodeStartLen c := by unfold specCodeStartLen; simp only []; omega
  by_cases hl : c.length ≤ specCodeStartLen c
  · right
    have : c.drop (specCodeStartLen c) = [] := List.drop_eq_nil_of_le hl
    simp [this]
  · left
    have h1 : ((List.take ((c.drop (specCodeStartLen c)).length - 2) (c.drop (specCodeStartLen c))).reverse.dropWhile isBlankB).reverse.length
        ≤ (c.drop (specCodeStartLen c)).length - 2 := by
      rw [List.length_reverse]
      refine Nat.le_trans (List.dropWhile_sublist _).length_le ?_
      rw [List.length_reverse, List.length_take]
      omega
    simp only [List.length_drop] at h1 ⊢
    omega

/-- Progress made by one dispatch on the unread input `rest`; a token is never the model's own `stuck`.  A
    `/*! */` or `/*+ */` comment gives up at least three bytes more than the code it holds, and no more than `rest` has:
    that pays for the scanner opened on the code (`mu`). -/
def StepOK (rest : Bytes) : Step → Prop
  | .tok t n => 1 ≤ n ∧ t ≠ .stuck
  | .skip n => 1 ≤ n
  | .special _ n inner _ => inner.length + 3 ≤ n ∧ n ≤ rest.length
  | .unclosed => True
  | .panic => True

theorem stepOK_other {rest : Bytes} {n : Nat} (hn : 1 ≤ n) : StepOK rest (.tok .other n) := And.intro hn nofun

theorem startWithDash_ok (b : UInt8) (t : Bytes) (hb : b.toNat = 0x2D) : StepOK (b :: t) (startWithDash (b :: t)) := by
  have hi : ∀ t', 1 ≤ incAsLongAs (· ≠ 0x0A) (b :: t') := fun t' => incLine_pos b t' (by omega) (by omega)
  unfold startWithDash
  repeat' split
  all_goals first | exact hi _ | exact stepOK_other (by omega)

theorem startWithSlash_ok (b : UInt8) (t : Bytes) : StepOK (b :: t) (startWithSlash (b :: t)) := by
  unfold startWithSlash
  cases t with
  | nil => exact stepOK_other (Nat.le_refl 1)
  | cons a t' =>
    simp only
    split
    · cases hcl : commentLoop t'.length false t' with
      | none => trivial
      | some k =>
        obtain ⟨hk1, hk2⟩ := commentLoop_le _ _ _ _ hcl
        have hlen : (List.take (2 + k) (b :: a :: t')).length = 2 + k := by
          simp only [List.length_take, List.length_cons]; omega
        simp only
        cases t' with
        | nil => simp at hk2; omega
        | cons x t'' =>
          simp only
          split
          · -- hint
            cases hso : sqlOffsetInComment (List.take (2 + k) (b :: a :: x :: t'')) with
            | none => trivial
            | some begin =>
              obtain ⟨hb1, hb2⟩ := sqlOffsetInComment_pos _ (by rw [hlen]; omega) _ hso
              simp only [StepOK, List.length_drop, List.length_take, List.length_cons] at *
              omega
          · split
            · cases hso : sqlOffsetInComment (List.take (2 + k) (b :: a :: x :: t'')) with
              | none => trivial
              | some begin =>
                simp only [StepOK]
                rcases trimComment_short_or_nil (List.take (2 + k) (b :: a :: x :: t'')) with h | h
                · rw [hlen] at h
                  simp only [List.length_cons] at *
                  omega
                · rw [h]
                  simp only [List.length_nil, List.length_cons] at *
                  omega
            · simp only [StepOK]; omega
    · exact stepOK_other (Nat.le_refl 1)

theorem classOfRune_ne_stuck (r : Nat) : classOfRune r ≠ .stuck := by
  fun_cases classOfRune r <;> simp

theorem startWithAt_class (rest : Bytes) : (startWithAt rest).1 ≠ .stuck := by
  unfold startWithAt
  simp only []
  split
  · simp only [scanIdentifierOrString]
    repeat' split
    all_goals first | exact classOfRune_ne_stuck _ | simp
  · simp

theorem plainStep_progress (rest : Bytes) (h : rest ≠ []) : StepOK rest (plainStep rest) := by
  cases rest with
  | nil => exact absurd rfl h
  | cons b t =>
    have hw := peek_width_pos (b :: t) (by simp)
    unfold plainStep
    dsimp only
    refine ite_ind _ _ _ _ (fun _ => stepOK_other (scanIdentifier_pos _ (by simp))) fun _ => ?_
    refine ite_ind _ _ _ _ (fun _ => stepOK_other hw) fun _ => ?_
    refine ite_ind _ _ _ _ (fun _ => And.intro (startWithAt_pos _) (startWithAt_class _)) fun _ => ?_
    refine ite_ind _ _ _ _ (fun hc => incLine_pos b t (by omega) (by omega)) fun _ => ?_
    refine ite_ind _ _ _ _ (fun hc => startWithDash_ok b t hc) fun _ => ?_
    refine ite_ind _ _ _ _ (fun _ => startWithSlash_ok b t) fun _ => ?_
    refine ite_ind _ _ _ _ (fun _ => stepOK_other (startWithXxBb_pos _ _)) fun _ => ?_
    refine ite_ind _ _ _ _ (fun _ => stepOK_other (startWithXxBb_pos _ _)) fun _ => ?_
    refine ite_ind _ _ _ _ (fun hc => stepOK_other (startWithDot_pos b t hc)) fun _ => ?_
    refine ite_ind _ _ _ _ (fun _ => stepOK_other (scanIdentifier_pos _ (by simp))) fun _ => ?_
    refine ite_ind _ _ _ _ (fun _ => stepOK_other (by simp only [scanQuotedIdent]; omega)) fun _ => ?_
    refine ite_ind _ _ _ _ (fun hc => stepOK_other (startWithNumber_pos b t hc)) fun _ => ?_
    refine ite_ind _ _ _ _ (fun _ => stepOK_other (by simp only [startString]; omega)) fun _ => ?_
    refine ite_ind _ _ _ _ (fun _ => And.intro (opLen_pos _) (by split <;> nofun)) fun _ => stepOK_other hw

/-- Weight of one scanner: a token takes at least a byte off it, a `/*! */` or `/*+ */` comment of `n` bytes is
    traded for a scanner on at most `n - 3` bytes, and the last term is the `hintEnd` token a hint scanner still owes. -/
def mu1 (f : Frame) : Nat := 2 * f.rest.length + 1 + (if f.hint && !f.ended then 1 else 0)

/-- Measure that decreases with every `;` / other token. -/
def mu (fs : List Frame) : Nat := (fs.map mu1).sum

/-- `scan` on `fs` had fuel enough, and a `;` or other token it returned has lowered `mu`. -/
def ScanGood (fs : List Frame) (o : ScanOut) : Prop :=
  o.tok ≠ .stuck ∧ (o.tok = .semi ∨ o.tok = .other → mu o.frames < mu fs)

theorem mu_cons (f : Frame) (ps : List Frame) : mu (f :: ps) = mu1 f + mu ps := by simp [mu]
theorem scanFuel_cons (f : Frame) (ps : List Frame) : scanFuel (f :: ps) = f.rest.length + 2 + scanFuel ps := by
  simp [scanFuel]; omega

theorem scanGood_mono (fs fs' : List Frame) (o : ScanOut) (h : ScanGood fs' o) (hmu : mu fs' ≤ mu fs) : ScanGood fs o :=
  ⟨h.1, fun ht => Nat.lt_of_lt_of_le (h.2 ht) hmu⟩

theorem endOf_good (fuel : Nat) (f : Frame) (ps : List Frame) (o : Nat) (f' : Frame)
    (ih : ∀ fs, scanFuel fs ≤ fuel → ScanGood fs (scan fuel fs)) (hfuel : scanFuel (f :: ps) ≤ fuel + 1)
    (hlen : f'.rest.length ≤ f.rest.length) (hh : f'.hint = f.hint) :
    ScanGood (f :: ps) (endOf fuel f ps o f') := by
  unfold endOf
  cases ps with
  | nil => exact ⟨by simp, by simp⟩
  | cons p ps' =>
    simp only
    split
    · rename_i hc
      refine ⟨by simp, fun _ => ?_⟩
      simp only [mu_cons, mu1, hh]
      simp only [Bool.and_eq_true, Bool.not_eq_true'] at hc
      simp only [hc.1, hc.2, Bool.not_true, Bool.and_false, Bool.not_false, Bool.and_true, Bool.false_eq_true, if_false, if_true]
      omega
    · have h1 := ih (p :: ps') (by rw [scanFuel_cons] at hfuel; omega)
      refine ⟨h1.1, fun ht => ?_⟩
      have := h1.2 ht
      rw [mu_cons f]; omega

theorem scan_good : ∀ (fuel : Nat) (fs : List Frame), scanFuel fs ≤ fuel → ScanGood fs (scan fuel fs) := by
  intro fuel
  induction fuel with
  | zero => intro fs h; simp only [scanFuel] at h; omega
  | succ fuel ih =>
    intro fs hfuel
    cases fs with
    | nil => exact ⟨by simp [scan], by simp [scan]⟩
    | cons f ps =>
      rw [scan_cons]
      simp only
      have hdl : (f.rest.drop (incAsLongAs isSpace f.rest)).length ≤ f.rest.length := by
        simp only [List.length_drop]; omega
      cases hrest : f.rest.drop (incAsLongAs isSpace f.rest) with
      | nil =>
        simp only
        exact endOf_good fuel f ps _ _ ih hfuel (by simp) rfl
      | cons b t =>
        simp only
        rw [hrest] at hdl
        have hstep := plainStep_progress (b :: t) (by simp)
        cases hp : plainStep (b :: t) with
        | tok tk n =>
          rw [hp] at hstep
          have hadv : ((b :: t).drop n).length + 1 ≤ f.rest.length := by
            have := hstep.1
            simp only [List.length_drop, List.length_cons] at hdl ⊢; omega
          cases tk with
          | eof => simp only; exact endOf_good fuel f ps _ _ ih hfuel (by simp only; omega) rfl
          | semi | other =>
            simp only
            refine ⟨by simp, fun _ => ?_⟩
            simp only [mu_cons, mu1]; omega
          | panic => exact ⟨by simp, by simp⟩
          | stuck => exact absurd rfl hstep.2
        | skip n =>
          rw [hp] at hstep
          simp only [StepOK] at hstep
          simp only
          have hadv : ((b :: t).drop n).length + 1 ≤ f.rest.length := by
            simp only [List.length_drop, List.length_cons] at hdl ⊢; omega
          exact scanGood_mono _ _ _ (ih _ (by rw [scanFuel_cons] at hfuel ⊢; simp only; omega))
            (by simp only [mu_cons, mu1]; omega)
        | unclosed =>
          simp only
          exact endOf_good fuel f ps _ _ ih hfuel (by simp) rfl
        | special hint n inner begin =>
          rw [hp] at hstep
          simp only [StepOK] at hstep
          -- the scanner opened on `inner` is paid for by the `n ≥ inner.length + 3` bytes this one gives up
          have hadv : ((b :: t).drop n).length + n ≤ f.rest.length := by
            simp only [List.length_drop, List.length_cons] at hdl hstep ⊢; omega
          cases hint with
          | true =>
            simp only
            refine ⟨by simp, fun _ => ?_⟩
            simp only [mu_cons, mu1, Bool.not_false, Bool.and_true, if_true]; omega
          | false =>
            simp only
            exact scanGood_mono _ _ _ (ih _ (by rw [scanFuel_cons] at hfuel; simp only [scanFuel_cons]; omega))
              (by simp only [mu_cons, mu1, Bool.false_and, Bool.false_eq_true, if_false]; omega)
        | panic => simp only; exact ⟨by simp, by simp⟩

theorem splitLoop_no_hang (blob : Bytes) : ∀ (fuel : Nat) (fs : List Frame) (sb : Nat) (e : Bool) (ps : List Bytes),
    mu fs < fuel → splitLoop blob fuel fs sb e ps ≠ .hang := by
  intro fuel
  induction fuel with
  | zero => intro fs _ _ _ h; omega
  | succ n ih =>
    intro fs sb e ps h
    simp only [splitLoop]
    split
    · have hg := scan_good (scanFuel fs) fs (Nat.le_refl _)
      cases ht : (scan (scanFuel fs) fs).tok with
      | semi =>
        have hmu := hg.2 (Or.inl ht)
        simp only
        split
        · exact ih _ _ _ _ (by omega)
        · split
          · simp
          · exact ih _ _ _ _ (by omega)
      | other =>
        have hmu := hg.2 (Or.inr ht)
        exact ih _ _ _ _ (by omega)
      | eof =>
        simp only
        repeat' split
        all_goals simp
      | panic => simp
      | stuck => exact absurd ht hg.1
    · simp

end GaeaVerif.LexC17
