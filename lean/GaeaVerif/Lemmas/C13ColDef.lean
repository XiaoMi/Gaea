import GaeaVerif.Lemmas.C13Digits
import GaeaVerif.Props.C12
import GaeaVerif.Model.ColDef
/-
  C13 helper lemmas: column definitions.  `FieldData.Parse` on the packet a
  server sends for a column, `writeColumnDefinition` on what it extracted, and
  the spec's reader on both.
-/
namespace GaeaVerif.C13
open GaeaVerif GaeaVerif.BinRow GaeaVerif.BinProto GaeaVerif.LenEnc GaeaVerif.ColDef

/-- What `Parse` extracts from the definition `c`. -/
def fieldOf (c : ColumnDef) : FieldFull :=
  { schema := c.schema, table := c.table, orgTable := c.orgTable, name := c.name, orgName := c.orgName,
    charset := c.charset, columnLength := c.columnLength, typ := c.typ, flag := c.flags, decimal := c.decimals,
    defaultValueLength := 0, defaultValue := none }

theorem fieldOf_toField (c : ColumnDef) : (fieldOf c).toField = c.toField := rfl

theorem readStr_drop (p b suf : Bytes) (n : Nat) (h : p.drop n = appendLenEncStringBytes b ++ suf)
    (hb : b.length < 2 ^ 63) :
    readStr p n = .ok (b, ((n + (appendLenEncStringBytes b).length : Nat) : Int))
      ∧ p.drop (n + (appendLenEncStringBytes b).length) = suf := by
  have hn : n ≤ p.length := by
    have := congrArg List.length h
    rw [List.length_drop, List.length_append, appendLenEncStringBytes_length] at this
    have := (lenEncIntSize_bounds b.length).1
    omega
  refine ⟨?_, by rw [← List.drop_drop, h, List.drop_left' rfl]⟩
  have hk := GaeaVerif.C12.lenenc_str_roundtrip (p.take n) suf b hb
  rw [List.append_assoc, ← h, List.take_append_drop, List.length_take, Nat.min_eq_left hn] at hk
  unfold readStr
  rw [hk]
  simp only [appendLenEncStringBytes_length]
  congr 2; omega

theorem skipLenEncString_append (p b suf : Bytes) (hp : p = appendLenEncStringBytes b ++ suf) (hb : b.length < 2 ^ 63) :
    skipLenEncString p 0 = .ok (((appendLenEncStringBytes b).length : Nat) : Int) := by
  subst hp
  unfold skipLenEncString appendLenEncStringBytes
  have e : appendLenEncInt b.length ++ b ++ suf = [] ++ appendLenEncInt b.length ++ (b ++ suf) := by simp
  have h := GaeaVerif.C12.lenenc_int_roundtrip [] (b ++ suf) b.length (by omega)
  simp only [List.length_nil, Int.natCast_zero, Int.zero_add] at h
  rw [e, h]
  simp only [R.bind_ok]
  rw [u64ToInt_of_lt hb]
  have hlen := GaeaVerif.C12.appendLenEncInt_length b.length
  rw [if_neg (by simp only [List.length_append, List.length_nil, hlen]; omega)]
  simp only [List.length_append, hlen]
  congr 1

theorem columnDefTail_length (c : ColumnDef) : (columnDefTail c).length = 13 := by
  simp [columnDefTail, leBytes_length]

theorem fixedPart_tail (c : ColumnDef) (h : c.wf) :
    fixedPart (columnDefTail c) = some (c.charset, c.columnLength, c.typ, c.flags, c.decimals) := by
  obtain ⟨h1, h2, h3, h4, h5, _⟩ := h
  have e1 : ((columnDefTail c).drop 1).take 2 = leBytes c.charset 2 := by simp [columnDefTail, leBytes]
  have e2 : ((columnDefTail c).drop 3).take 4 = leBytes c.columnLength 4 := by simp [columnDefTail, leBytes]
  have e3 : (columnDefTail c).getD 7 0 = UInt8.ofNat c.typ := by simp [columnDefTail, leBytes]
  have e4 : ((columnDefTail c).drop 8).take 2 = leBytes c.flags 2 := by simp [columnDefTail, leBytes]
  have e5 : (columnDefTail c).getD 10 0 = UInt8.ofNat c.decimals := by simp [columnDefTail, leBytes]
  unfold fixedPart
  rw [if_neg (by rw [columnDefTail_length]; omega), e1, e2, e3, e4, e5,
    leNat_leBytes 2 c.charset (by omega), leNat_leBytes 4 c.columnLength (by omega),
    leNat_leBytes 2 c.flags (by omega), UInt8.toNat_ofNat_of_lt' h3,
    UInt8.toNat_ofNat_of_lt' h5]

theorem fieldParse_encode (c : ColumnDef) (h : c.wf) : fieldParse (encodeColumnDef c) = .ok (fieldOf c) := by
  obtain ⟨_, _, _, _, _, l0, l1, l2, l3, l4, l5⟩ := id h
  generalize hp : encodeColumnDef c = p
  simp only [encodeColumnDef, List.append_assoc] at hp
  -- the catalog is skipped, five strings are read, each read leaving the rest of the packet
  have k0 := skipLenEncString_append p c.catalog _ hp.symm (by omega)
  have d1 := congrArg (List.drop (appendLenEncStringBytes c.catalog).length) hp.symm
  rw [List.drop_left' rfl] at d1
  obtain ⟨k1, d2⟩ := readStr_drop p c.schema _ _ d1 (by omega)
  obtain ⟨k2, d3⟩ := readStr_drop p c.table _ _ d2 (by omega)
  obtain ⟨k3, d4⟩ := readStr_drop p c.orgTable _ _ d3 (by omega)
  obtain ⟨k4, d5⟩ := readStr_drop p c.name _ _ d4 (by omega)
  obtain ⟨k5, d6⟩ := readStr_drop p c.orgName _ _ d5 (by omega)
  have hl := congrArg List.length d6
  rw [List.length_drop, columnDefTail_length] at hl
  unfold fieldParse
  simp only [k0, k1, k2, k3, k4, k5]
  rw [goSlice_drop p _ (by omega), d6]
  simp only [fixedPart_tail c h]
  rw [if_neg (by omega)]
  rfl

theorem write_fieldOf (c : ColumnDef) :
    writeColumnDefinition (fieldOf c) = .ok (encodeColumnDef { c with catalog := defCatalog }) := by
  simp only [writeColumnDefinition, fieldOf, GaeaVerif.C12.write_eq_append, encodeColumnDef, columnDefTail,
    appendLenEncStringBytes, defCatalog]
  simp [appendLenEncInt, List.append_assoc]

theorem decode_encode_coldef (c : ColumnDef) (h : c.wf) : decodeColumnDef (encodeColumnDef c) = some c := by
  obtain ⟨h1, h2, h3, h4, h5, l0, l1, l2, l3, l4, l5⟩ := h
  unfold decodeColumnDef encodeColumnDef
  simp only [List.append_assoc]
  rw [takeLenEnc_append _ _ (by omega)]
  simp only
  rw [takeLenEnc_append _ _ (by omega)]
  simp only
  rw [takeLenEnc_append _ _ (by omega)]
  simp only
  rw [takeLenEnc_append _ _ (by omega)]
  simp only
  rw [takeLenEnc_append _ _ (by omega)]
  simp only
  rw [takeLenEnc_append _ _ (by omega)]
  simp only
  have hc := leNat_leBytes 2 c.charset (by omega)
  have hl := leNat_leBytes 4 c.columnLength (by omega)
  have hf := leNat_leBytes 2 c.flags (by omega)
  simp only [leBytes] at hc hl hf
  simp only [columnDefTail, leBytes, List.cons_append, List.nil_append, hc, hl, hf,
    UInt8.toNat_ofNat_of_lt' h3, UInt8.toNat_ofNat_of_lt' h5]

theorem wf_defCatalog (c : ColumnDef) (h : c.wf) : ({ c with catalog := defCatalog } : ColumnDef).wf := by
  obtain ⟨h1, h2, h3, h4, h5, l0, l1, l2, l3, l4, l5⟩ := h
  exact ⟨h1, h2, h3, h4, h5, by simp [defCatalog], l1, l2, l3, l4, l5⟩

theorem parseDefs_encode (cds : List ColumnDef) (h : ∀ c ∈ cds, c.wf) :
    parseDefs (cds.map encodeColumnDef) = .ok (cds.map fieldOf) := by
  induction cds with
  | nil => rfl
  | cons c cs ih =>
    simp only [List.map_cons, parseDefs, fieldParse_encode c (h c (by simp)),
      ih (fun c' hc' => h c' (by simp [hc']))]

theorem writeDefs_fieldOf (cds : List ColumnDef) :
    writeDefs (cds.map fieldOf) = .ok (cds.map fun c => encodeColumnDef { c with catalog := defCatalog }) := by
  induction cds with
  | nil => rfl
  | cons c cs ih => simp only [List.map_cons, writeDefs, write_fieldOf c, ih]

theorem toField_map (cds : List ColumnDef) :
    (cds.map fieldOf).map FieldFull.toField = cds.map ColumnDef.toField := by
  simp [List.map_map, Function.comp_def, fieldOf_toField]

theorem stmtResult_shape (ops : FloatOps) (cds : List ColumnDef) (h : ∀ c ∈ cds, c.wf) (rows : List Bytes) :
    stmtResult ops (cds.map encodeColumnDef) rows
      = match rowsToBinary ops (cds.map ColumnDef.toField) rows with
        | .err e => .err e
        | .ok bins => .ok (cds.map (fun c => encodeColumnDef { c with catalog := defCatalog }), bins) := by
  unfold stmtResult
  simp only [parseDefs_encode cds h, toField_map, writeDefs_fieldOf]
  cases rowsToBinary ops (cds.map ColumnDef.toField) rows <;> rfl

end GaeaVerif.C13
