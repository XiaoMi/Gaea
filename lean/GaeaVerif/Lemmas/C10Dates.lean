import GaeaVerif.Lemmas.C10Rules
import GaeaVerif.Lemmas.Decimal
/-
  C10: ParseYearRange / ParseMonthRange / ParseDayRange.  The lists both
  copies produce are strictly ascending.  The strict copies (models) do not
  panic, accept only what the lenient copies (router) accept, with the same
  result, and return a non-empty list (`StrictOf`), because the bounds of a
  range are ordered as strings first and, being digit strings of equal length,
  are then ordered as numbers.
-/
namespace GaeaVerif.C10
open GaeaVerif

theorem intRange_eq_consec (lo hi : Int) : intRange lo hi = consec lo (hi - lo + 1).toNat := by
  unfold intRange consec
  apply List.map_congr_left
  intro k _; omega

theorem intRange_ne_nil (lo hi : Int) (h : lo ≤ hi) : intRange lo hi ≠ [] := by
  intro e
  have := congrArg List.length e
  rw [intRange_eq_consec, length_consec] at this
  simp at this
  omega

/-! ### months -/

/-- lower bound of everything `monthLoop n y m` emits -/
def monthLb (y m : Int) : Int := if 12 < m then (y + 1) * 100 + m % 12 else y * 100 + m

theorem monthLoop_spec : ∀ (n : Nat) (y m : Int),
    (∀ x ∈ monthLoop n y m, monthLb y m ≤ x) ∧ (monthLoop n y m).Pairwise (· < ·)
  | 0, y, m => by simp [monthLoop]
  | n + 1, y, m => by
    -- the first number is `monthLb y m`, and the bound of the rest is above it
    have key : ∀ y' m', monthLb y m < monthLb y' m' →
        (∀ x ∈ monthLb y m :: monthLoop n y' m', monthLb y m ≤ x) ∧
          (monthLb y m :: monthLoop n y' m').Pairwise (· < ·) := by
      intro y' m' hlb
      have ih := monthLoop_spec n y' m'
      have hrest : ∀ x ∈ monthLoop n y' m', monthLb y m < x := fun x hx => by have := ih.1 x hx; omega
      refine ⟨fun x hx => ?_, List.Pairwise.cons hrest ih.2⟩
      rcases List.mem_cons.mp hx with h | h
      · omega
      · exact Int.le_of_lt (hrest x h)
    unfold monthLoop
    by_cases hm : 12 < m
    · have := key (y + 1) (m % 12 + 1) (by unfold monthLb; rw [if_pos hm]; split <;> omega)
      simpa only [monthLb, if_pos hm] using this
    · have := key y (m + 1) (by unfold monthLb; rw [if_neg hm]; split <;> omega)
      simpa only [monthLb, if_neg hm] using this

/-! ### days -/

def ValidDate (dt : Nat × Nat × Nat) : Prop :=
  1 ≤ dt.2.1 ∧ dt.2.1 ≤ 12 ∧ 1 ≤ dt.2.2 ∧ dt.2.2 ≤ daysIn dt.2.1 dt.1

theorem daysIn_le (m y : Nat) : daysIn m y ≤ 31 ∧ 28 ≤ daysIn m y := by
  unfold daysIn; repeat' split
  all_goals omega

theorem nextDay_valid (dt : Nat × Nat × Nat) (h : ValidDate dt) :
    ValidDate (nextDay dt) ∧ dayNum dt < dayNum (nextDay dt) := by
  obtain ⟨y, m, d⟩ := dt
  unfold ValidDate at h
  simp only at h
  have hd := daysIn_le m y
  by_cases h1 : d < daysIn m y
  · simp only [nextDay, h1, if_true, ValidDate, dayNum]
    refine ⟨⟨h.1, h.2.1, by omega, by omega⟩, by omega⟩
  · by_cases h2 : m < 12
    · have := daysIn_le (m + 1) y
      simp only [nextDay, h1, h2, if_true, if_false, ValidDate, dayNum]
      refine ⟨⟨by omega, by omega, by omega, by omega⟩, by omega⟩
    · have := daysIn_le 1 (y + 1)
      simp only [nextDay, h1, h2, if_false, ValidDate, dayNum]
      refine ⟨⟨by omega, by omega, by omega, by omega⟩, by omega⟩

theorem dayLoop_spec : ∀ (n : Nat) (dt : Nat × Nat × Nat), ValidDate dt →
    (∀ x ∈ dayLoop n dt, dayNum dt ≤ x) ∧ (dayLoop n dt).Pairwise (· < ·)
  | 0, dt, _ => by simp [dayLoop]
  | n + 1, dt, h => by
    unfold dayLoop
    have hn := nextDay_valid dt h
    have ih := dayLoop_spec n (nextDay dt) hn.1
    refine ⟨?_, ?_⟩
    · intro x hx
      rcases List.mem_cons.mp hx with h1 | h1
      · omega
      · have := ih.1 x h1; omega
    · refine List.Pairwise.cons ?_ ih.2
      intro x hx
      have := ih.1 x hx; omega

theorem timeParseDay_valid (s : Str) (dt : Nat × Nat × Nat) (h : timeParseDay s = some dt) : ValidDate dt := by
  unfold timeParseDay at h
  split at h
  · simp only at h
    split at h
    · next hv => cases h; exact hv
    · cases h
  · cases h

/-! ### the three parsers: ascending lists -/

theorem parseYearRange_pairwise (st : Bool) (dr : Str) (nums : List Int)
    (h : parseYearRange st dr = .ok nums) : nums.Pairwise (· < ·) := by
  unfold parseYearRange at h
  split at h
  · repeat' split at h
    all_goals cases h
    exact List.pairwise_singleton _ _
  · repeat' split at h
    all_goals cases h
    exact intRange_eq_consec _ _ ▸ consec_pairwise _ _
  · cases h

theorem parseMonthRange_pairwise (st : Bool) (dr : Str) (nums : List Int)
    (h : parseMonthRange st dr = .ok nums) : nums.Pairwise (· < ·) := by
  unfold parseMonthRange at h
  split at h
  · repeat' split at h
    all_goals cases h
    exact List.pairwise_singleton _ _
  · repeat' split at h
    all_goals cases h
    exact (monthLoop_spec _ _ _).2
  · cases h

theorem parseDayRange_pairwise (st : Bool) (dr : Str) (nums : List Int)
    (h : parseDayRange st dr = .ok nums) : nums.Pairwise (· < ·) := by
  unfold parseDayRange at h
  split at h
  · repeat' split at h
    all_goals cases h
    exact List.pairwise_singleton _ _
  · obtain ⟨_, h⟩ := ite_fail_eq_ok.mp h
    split at h
    · cases h
    · next b hb =>
      split at h <;> cases h
      exact (dayLoop_spec _ b (timeParseDay_valid _ b hb)).2
  · cases h

/-! ### digit strings -/

/-! `digitsVal` is `Dec.val digitVal` by definition (Lemmas/Decimal.lean). -/

theorem digitsVal_append (a b : Str) : digitsVal (a ++ b) = digitsVal a * 10 ^ b.length + digitsVal b :=
  Dec.val_append ..

theorem digitsVal_split (s : Str) (n : Nat) :
    digitsVal s = digitsVal (s.take n) * 10 ^ (s.drop n).length + digitsVal (s.drop n) := by
  rw [← digitsVal_append, List.take_append_drop]

theorem isDigit_iff (c : Char) : isDigit c = true ↔ 48 ≤ c.toNat ∧ c.toNat ≤ 57 := by
  simp [isDigit]

theorem allDigits_cons (c : Char) (cs : Str) : allDigits (c :: cs) = true ↔ isDigit c = true ∧ allDigits cs = true := by
  simp [allDigits]

theorem digitVal_lt {cs : Str} (h : allDigits cs = true) : ∀ c ∈ cs, digitVal c < 10 := fun c hc => by
  have := (isDigit_iff c).mp (List.all_eq_true.mp h c hc)
  unfold digitVal; omega

theorem digitsVal_lt (cs : Str) (h : allDigits cs = true) : digitsVal cs < 10 ^ cs.length :=
  Dec.val_lt (digitVal_lt h)

theorem digitsVal_le_of_not_strLt : ∀ (a b : Str), a.length = b.length → allDigits a = true → allDigits b = true →
    strLt b a = false → digitsVal a ≤ digitsVal b := fun a b hl ha hb h => by
  have dig : ∀ {s : Str}, allDigits s = true → ∀ c ∈ s, 48 ≤ c.toNat ∧ c.toNat ≤ 57 :=
    fun hs c hc => (isDigit_iff c).mp (List.all_eq_true.mp hs c hc)
  have := Dec.lex_digits (key := Char.toNat) (L := strLt) rfl (fun _ _ _ _ => rfl) b a hl.symm (dig hb) (dig ha)
  rw [h] at this
  exact Nat.le_of_not_lt (of_decide_eq_false this.symm)

theorem strLt_asymm : ∀ (a b : Str), strLt a b = true → strLt b a = false
  | [], [], h => by simp [strLt] at h
  | [], _ :: _, _ => by simp [strLt]
  | _ :: _, [], h => by simp [strLt] at h
  | x :: as, y :: bs, h => by
    unfold strLt at h ⊢
    split at h
    · next h1 =>
      rw [if_neg (by omega), if_pos h1]
    · split at h
      · cases h
      · next h1 h2 =>
        rw [if_neg h2, if_neg h1]
        exact strLt_asymm as bs h

theorem orderPair_not_lt (a0 b0 : Str) : strLt (orderPair a0 b0).2 (orderPair a0 b0).1 = false := by
  unfold orderPair
  split
  · next h => exact strLt_asymm _ _ h
  · next h => simpa using h

theorem atoi_short (s : Str) (hd : allDigits s = true) (h0 : 0 < s.length) (h8 : s.length ≤ 8) :
    atoi s = some (digitsVal s : Int) := by
  have hlt : digitsVal s < 2 ^ 63 := by
    have := digitsVal_lt s hd
    have : 10 ^ s.length ≤ 10 ^ 8 := Nat.pow_le_pow_right (by omega) h8
    omega
  have hbody : atoiBody false s = some (digitsVal s : Int) := by
    have : s ≠ [] := fun e => by simp [e] at h0
    simp [atoiBody, hd, hlt, this]
  cases s with
  | nil => simp at h0
  | cons c cs =>
    -- a digit is neither `+` nor `-`
    have hc := (isDigit_iff c).mp ((allDigits_cons c cs).mp hd).1
    unfold atoi
    split
    · next heq => rw [(List.cons.inj heq).1] at hc; simp at hc
    · next heq => rw [(List.cons.inj heq).1] at hc; simp at hc
    · exact hbody

theorem allDigits_take (s : Str) (n : Nat) (h : allDigits s = true) : allDigits (s.take n) = true := by
  unfold allDigits at *
  rw [List.all_eq_true] at *
  intro x hx; exact h x (List.mem_of_mem_take hx)

theorem allDigits_drop (s : Str) (n : Nat) (h : allDigits s = true) : allDigits (s.drop n) = true := by
  unfold allDigits at *
  rw [List.all_eq_true] at *
  intro x hx; exact h x (List.mem_of_mem_drop hx)

/-! ### the models copies against the router's copies -/

/-- `p1` is a strict copy of the parser `p2`: it does not panic, and a list it returns is not empty (so that
    `nums[0]` in `dateLoop` is in range) and is what `p2` returns for the same range -/
def StrictOf (p1 p2 : Str → R (List Int)) : Prop :=
  ∀ dr, Safe (p1 dr) fun nums => nums ≠ [] ∧ p2 dr = .ok nums

/-- `h` is the guard `strict && !timeParseYear s` of the strict copy, refuted, in the shape `by_cases` leaves it
    (so too in `timeParseMonth_spec`) -/
theorem timeParseYear_spec (s : Str) (h : ¬ (true && !timeParseYear s) = true) : s.length = 4 ∧ allDigits s = true := by
  simpa [timeParseYear] using h

theorem parseYearRange_strict : StrictOf (parseYearRange true) (parseYearRange false) := by
  intro dr
  unfold parseYearRange
  split
  · next a _ =>
    by_cases hl : a.length ≠ 4
    · rw [if_pos hl]; exact Safe.fail
    by_cases hs : (true && !timeParseYear a) = true
    · rw [if_neg hl, if_pos hs]; exact Safe.fail
    rw [if_neg hl, if_neg hl, if_neg hs, if_neg (by simp)]
    cases atoi a with
    | none => exact Safe.fail
    | some n => exact Safe.ok ⟨by simp, rfl⟩
  · next a0 b0 _ =>
    by_cases hA : (true && !timeParseYear (orderPair a0 b0).1) = true
    · rw [if_pos hA]; exact Safe.fail
    by_cases hB : (true && !timeParseYear (orderPair a0 b0).2) = true
    · rw [if_neg hA]
      cases atoi (orderPair a0 b0).1 with
      | none => exact Safe.fail
      | some n => simp only; rw [if_pos hB]; exact Safe.fail
    obtain ⟨hla, hda⟩ := timeParseYear_spec _ hA
    obtain ⟨hlb, hdb⟩ := timeParseYear_spec _ hB
    rw [if_neg hA, if_neg (by simp), atoi_short _ hda (by omega) (by omega)]
    simp only
    rw [if_neg hB, if_neg (by simp), atoi_short _ hdb (by omega) (by omega)]
    have := digitsVal_le_of_not_strLt _ _ (by omega) hda hdb (orderPair_not_lt a0 b0)
    exact Safe.ok ⟨intRange_ne_nil _ _ (by omega), rfl⟩
  · exact Safe.fail

theorem monthLoop_ne_nil (n : Nat) (y m : Int) (h : 0 < n) : monthLoop n y m ≠ [] := by
  cases n with
  | zero => omega
  | succ n => unfold monthLoop; split <;> simp

theorem dayLoop_ne_nil (n : Nat) (dt : Nat × Nat × Nat) (h : 0 < n) : dayLoop n dt ≠ [] := by
  cases n with
  | zero => omega
  | succ n => simp [dayLoop]

theorem timeParseMonth_spec (s : Str) (h : ¬ (true && !timeParseMonth s) = true) :
    s.length = 6 ∧ allDigits s = true ∧ 1 ≤ digitsVal (s.drop 4) ∧ digitsVal (s.drop 4) ≤ 12 := by
  have h' : timeParseMonth s = true := by simpa using h
  simp only [timeParseMonth, Bool.and_eq_true, beq_iff_eq, decide_eq_true_eq] at h'
  exact ⟨h'.1.1.1, h'.1.1.2, h'.1.2, h'.2⟩

theorem atoi_take_drop (s : Str) (hl : s.length = 6) (hd : allDigits s = true) :
    atoi (s.take 4) = some (digitsVal (s.take 4) : Int) ∧ atoi (s.drop 4) = some (digitsVal (s.drop 4) : Int) :=
  ⟨atoi_short _ (allDigits_take _ 4 hd) (by simp; omega) (by simp; omega),
    atoi_short _ (allDigits_drop _ 4 hd) (by simp; omega) (by simp; omega)⟩

theorem parseMonthRange_strict : StrictOf (parseMonthRange true) (parseMonthRange false) := by
  intro dr
  unfold parseMonthRange
  split
  · next a _ =>
    by_cases hl : a.length ≠ 6
    · rw [if_pos hl]; exact Safe.fail
    by_cases hs : (true && !timeParseMonth a) = true
    · rw [if_neg hl, if_pos hs]; exact Safe.fail
    rw [if_neg hl, if_neg hl, if_neg hs, if_neg (by simp)]
    cases atoi a with
    | none => exact Safe.fail
    | some n => exact Safe.ok ⟨by simp, rfl⟩
  · next a0 b0 _ =>
    by_cases hl : (a0.length ≠ 6 || b0.length ≠ 6) = true
    · rw [if_pos hl]; exact Safe.fail
    by_cases hA : (true && !timeParseMonth (orderPair a0 b0).1) = true
    · rw [if_neg hl, if_pos hA]; exact Safe.fail
    obtain ⟨hla, hda, ha1, ha2⟩ := timeParseMonth_spec _ hA
    obtain ⟨ea1, ea2⟩ := atoi_take_drop _ hla hda
    rw [if_neg hl, if_neg hl, if_neg hA, if_neg (by simp), ea1, ea2]
    simp only
    by_cases hB : (true && !timeParseMonth (orderPair a0 b0).2) = true
    · rw [if_pos hB]; exact Safe.fail
    obtain ⟨hlb, hdb, hb1, hb2⟩ := timeParseMonth_spec _ hB
    obtain ⟨eb1, eb2⟩ := atoi_take_drop _ hlb hdb
    rw [if_neg hB, if_neg (by simp), eb1, eb2]
    -- `yyyymm` of the first bound is at most that of the second: at least one month
    have hle := digitsVal_le_of_not_strLt _ _ (by omega) hda hdb (orderPair_not_lt a0 b0)
    rw [digitsVal_split (orderPair a0 b0).1 4, digitsVal_split (orderPair a0 b0).2 4,
      show ((orderPair a0 b0).1.drop 4).length = 2 by simp; omega,
      show ((orderPair a0 b0).2.drop 4).length = 2 by simp; omega] at hle
    exact Safe.ok ⟨monthLoop_ne_nil _ _ _ (by omega), rfl⟩
  · exact Safe.fail

theorem timeParseDay_spec (s : Str) (dt : Nat × Nat × Nat) (h : timeParseDay s = some dt) :
    s.length = 8 ∧ allDigits s = true ∧ dayNum dt = (digitsVal s : Int) := by
  unfold timeParseDay at h
  split at h
  · next hc =>
    simp only [Bool.and_eq_true, beq_iff_eq] at hc
    simp only at h
    split at h <;> cases h
    refine ⟨hc.1, hc.2, ?_⟩
    have h1 := digitsVal_split s 4
    have h2 := digitsVal_split (s.drop 4) 2
    rw [show (s.drop 4).length = 4 by simp; omega] at h1
    simp only [List.drop_drop, Nat.reduceAdd] at h2
    rw [show (s.drop 6).length = 2 by simp; omega] at h2
    simp only [dayNum, h1, h2]
    omega
  · cases h

theorem countDays_ge : ∀ (fuel : Nat) (cur t : Nat × Nat × Nat) (acc : Int), acc ≤ countDays fuel cur t acc
  | 0, _, _, acc => by simp [countDays]
  | fuel + 1, cur, t, acc => by
    unfold countDays
    split
    · omega
    · have := countDays_ge fuel (nextDay cur) t (acc + 1); omega

theorem parseDayRange_strict : StrictOf (parseDayRange true) (parseDayRange false) := by
  intro dr
  unfold parseDayRange
  split
  · next a _ =>
    by_cases hl : a.length ≠ 8
    · rw [if_pos hl]; exact Safe.fail
    by_cases hs : (true && (timeParseDay a).isNone) = true
    · rw [if_neg hl, if_pos hs]; exact Safe.fail
    rw [if_neg hl, if_neg hl, if_neg hs, if_neg (by simp)]
    cases atoi a with
    | none => exact Safe.fail
    | some n => exact Safe.ok ⟨by simp, rfl⟩
  · next a0 b0 _ =>
    by_cases hl : (a0.length ≠ 8 || b0.length ≠ 8) = true
    · rw [if_pos hl]; exact Safe.fail
    rw [if_neg hl]
    cases hb : timeParseDay (orderPair a0 b0).1 with
    | none => exact Safe.fail
    | some b =>
      cases he : timeParseDay (orderPair a0 b0).2 with
      | none => exact Safe.fail
      | some e =>
        obtain ⟨hla, hda, hna⟩ := timeParseDay_spec _ b hb
        obtain ⟨hlb, hdb, hnb⟩ := timeParseDay_spec _ e he
        have hle := digitsVal_le_of_not_strLt _ _ (by omega) hda hdb (orderPair_not_lt a0 b0)
        have hcount : 0 ≤ daysCount b e := by
          unfold daysCount
          rw [if_neg (by omega)]
          exact countDays_ge _ _ _ 0
        exact Safe.ok ⟨dayLoop_ne_nil _ _ (by omega), rfl⟩
  · exact Safe.fail

end GaeaVerif.C10
