import GaeaVerif.Model.StmtGoFloat
import GaeaVerif.Lemmas.Decimal
/-
  What can be proved about Model/StmtGoFloat.lean, the model of Go's `%v`
  formatting of a float (C15: a FLOAT / DOUBLE parameter is written into the
  statement by `util.ItoString` = `fmt.Sprintf("%v", f)`):

    fmtV_numLit      a finite float is rendered as a numeric literal
                     `[-] digits [. digits] [e (+|-) digits]` (what `readUNum` reads is one)
    findShortest_inB, chosenOf_inB
                     the number whose digits are printed lies between the
                     midpoints to the neighbouring floats (a midpoint only when
                     the mantissa is even)
    digitsTrim_value the digit list and decimal point position denote that number
    fmtE_value, fmtF_value, fmtDigits_value
                     the text written (`%e` or `%f` form) denotes those digits
                     (`readUNum`, a reader of numeric literals, as reference)
    float_literal_within_half_ulp
                     all of it together: the literal of a finite non-zero float
                     denotes a decimal inside the float's rounding interval

  That the server reads such a decimal back as the same double (its reader of
  numeric literals rounds to nearest, ties to even) is not provable here: the
  server is not modelled.  It is the named assumption `ReadsNearestDouble` of
  Props/C15.lean.
-/
namespace GaeaVerif.StmtFloat
open GaeaVerif GaeaVerif.StmtGoFloat

/-- an ASCII digit -/
def IsDig (c : UInt8) : Prop := 0x30 ≤ c ∧ c ≤ 0x39

/-- a non-empty run of ASCII digits -/
def Digs1 (l : Bytes) : Prop := l ≠ [] ∧ ∀ c ∈ l, IsDig c

theorem digitChar_isDig (d : Nat) (h : d < 10) : IsDig (digitChar d) := by
  unfold IsDig digitChar
  have : (UInt8.ofNat (48 + d)).toNat = 48 + d := by simp [UInt8.toNat_ofNat']; omega
  constructor <;> (simp only [UInt8.le_iff_toNat_le, this]; simp; try omega)

theorem digs1_zero : Digs1 [0x30] := ⟨by simp, fun c hc => List.mem_singleton.mp hc ▸ ⟨by decide, by decide⟩⟩

theorem digs1_map (l : List Nat) (hne : l ≠ []) (h : ∀ d ∈ l, d < 10) : Digs1 (l.map digitChar) := by
  refine ⟨by simpa using hne, ?_⟩
  intro c hc
  simp only [List.mem_map] at hc
  obtain ⟨d, hd, rfl⟩ := hc
  exact digitChar_isDig d (h d hd)

theorem digitsOf_lt (n : Nat) : ∀ d ∈ digitsOf n, d < 10 := by
  intro d hd
  unfold digitsOf at hd
  split at hd
  · cases hd
  · obtain ⟨k, hk, rfl⟩ := Dec.mem_map_toDigits hd
    rw [Nat.toNat_digitChar_sub_48_of_lt_ten hk]; exact hk

theorem digitsTrim_lt (r : Nat) (s : Int) : ∀ d ∈ (digitsTrim r s).1, d < 10 := by
  intro d hd
  unfold digitsTrim at hd
  simp only [List.mem_reverse] at hd
  have := (List.dropWhile_sublist (fun x => x == 0)).subset hd
  exact digitsOf_lt r d (List.mem_reverse.mp this)

/-! ### the numeric-literal grammar -/

/-- `digits [ '.' digits ] [ 'e' ('+'|'-') digits ]` -/
def UNumLit (b : Bytes) : Prop :=
  ∃ ip fp ep, b = ip ++ fp ++ ep ∧ Digs1 ip ∧
    (fp = [] ∨ ∃ f, fp = 0x2e :: f ∧ Digs1 f) ∧
    (ep = [] ∨ ∃ s e, ep = 0x65 :: s :: e ∧ (s = 0x2b ∨ s = 0x2d) ∧ Digs1 e)

/-- a numeric literal with an optional minus sign -/
def NumLit (b : Bytes) : Prop := UNumLit b ∨ ∃ u, b = 0x2d :: u ∧ UNumLit u

theorem uNumLit_head (b : Bytes) (h : UNumLit b) : ∃ c r, b = c :: r ∧ IsDig c := by
  obtain ⟨ip, fp, ep, rfl, ⟨hne, hd⟩, _, _⟩ := h
  cases ip with
  | nil => exact absurd rfl hne
  | cons c r => exact ⟨c, r ++ fp ++ ep, by simp, hd c (by simp)⟩

/-- A numeric literal starts with a digit, or with `-` and a digit: it is none
    of `NaN`, `+Inf`, `-Inf`, and no identifier, string, comment or placeholder. -/
theorem numLit_head (b : Bytes) (h : NumLit b) :
    (∃ c r, b = c :: r ∧ IsDig c) ∨ (∃ c r, b = 0x2d :: c :: r ∧ IsDig c) := by
  rcases h with h | ⟨u, rfl, h⟩
  · exact Or.inl (uNumLit_head b h)
  · obtain ⟨c, r, rfl, hc⟩ := uNumLit_head u h
    exact Or.inr ⟨c, r, rfl, hc⟩

/-! ### the digits chosen lie inside the rounding interval of the float -/

/-- `x` lies between the bounds `lo` and `up`; a bound itself only when `inc`. -/
def InB (lo up : Nat) (inc : Bool) (x : Nat) : Prop :=
  (lo < x ∨ (inc = true ∧ x = lo)) ∧ (x < up ∨ (inc = true ∧ x = up))

/-- Whatever the fuel and the starting exponent, the number `findShortest`
    returns lies inside the bounds (given that `v` itself lies strictly inside). -/
theorem findShortest_inB (v lo up : Nat) (inc : Bool) (h : lo < v ∧ v < up) :
    ∀ fuel j, InB lo up inc (findShortest v lo up inc fuel j).1 := by
  intro fuel j
  fun_induction findShortest v lo up inc fuel j
  case case1 t j p down upv okdown okup pick hok =>
    -- `v` lies between the two candidates; the one picked passed its test
    have hp : 0 < p := Nat.pos_of_ne_zero (by simp [p])
    have hdown : down ≤ v := Nat.div_mul_le_self v p
    have hup : v < upv := by
      have := Nat.div_add_mod v p
      have := Nat.mod_lt v hp
      simp only [upv, down]; rw [Nat.mul_comm]; omega
    have hd : okdown = true → InB lo up inc down := fun hd => ⟨by simpa [okdown] using hd, .inl (by omega)⟩
    have hu : okup = true → InB lo up inc upv := fun hu => ⟨.inl (by omega), by simpa [okup] using hu⟩
    show InB lo up inc pick
    cases hd' : okdown
    · have hu' : okup = true := by simpa [hd'] using hok
      simp only [pick, hd', Bool.false_and, Bool.false_eq_true, if_false]
      exact hu hu'
    · cases hu' : okup
      · simp only [pick, hd', hu', Bool.and_false, Bool.false_eq_true, if_false, if_true]
        exact hd hd'
      · simp only [pick, hd', hu', Bool.and_self, if_true]
        have := hd hd'; have := hu hu'
        split
        · assumption
        · split
          · assumption
          · split <;> assumption
  case case2 => exact ⟨.inl h.1, .inl h.2⟩
  case case3 => exact ⟨.inl h.1, .inl h.2⟩
  case case4 ih => exact ih

/-! ### the digit list denotes the chosen number -/

/-! `natOfDigits` is `Dec.val id` and `digVal` (below) is `Dec.val (·.toNat - 48)` by definition
    (Lemmas/Decimal.lean). -/

theorem natOfDigits_append (a b : List Nat) : natOfDigits (a ++ b) = natOfDigits a * 10 ^ b.length + natOfDigits b :=
  Dec.val_append ..

theorem natOfDigits_digitsOf (n : Nat) : natOfDigits (digitsOf n) = n := by
  unfold digitsOf
  split
  · subst_vars; rfl
  · exact Dec.val_map_toDigits (enc := fun c => c.toNat - 48) (d := id)
      (fun k hk => Nat.toNat_digitChar_sub_48_of_lt_ten hk) n

theorem natOfDigits_trim (m : List Nat) :
    natOfDigits m.reverse =
      natOfDigits (m.dropWhile (· == 0)).reverse * 10 ^ (m.length - (m.dropWhile (· == 0)).length) ∧
    (m.dropWhile (· == 0)).length ≤ m.length := by
  induction m with
  | nil => simp [natOfDigits]
  | cons x m ih =>
    by_cases hx : x = 0
    · subst hx
      have hd : (0 :: m).dropWhile (· == 0) = m.dropWhile (· == 0) := by simp
      rw [hd]
      have hl : (0 :: m).length - (m.dropWhile (· == 0)).length =
          (m.length - (m.dropWhile (· == 0)).length) + 1 := by simp only [List.length_cons]; omega
      refine ⟨?_, by simp only [List.length_cons]; omega⟩
      rw [hl, List.reverse_cons, natOfDigits_append, ih.1, Nat.pow_succ, Nat.mul_assoc]
      simp [natOfDigits]
    · have hd : (x :: m).dropWhile (· == 0) = x :: m := by simp [hx]
      rw [hd]; simp

/-- **The digits denote the chosen number**: for `(ds, dp) = digitsTrim r s`,
    `ds` read as a number, times the power of ten of the stripped zeros, is `r`
    (so `0.d₁d₂… × 10^dp = r × 10^s`), and `ds` has no more digits than `r`. -/
theorem digitsTrim_value (r : Nat) (s : Int) :
    (digitsTrim r s).1.length ≤ (digitsOf r).length ∧
    natOfDigits (digitsTrim r s).1 * 10 ^ ((digitsOf r).length - (digitsTrim r s).1.length) = r ∧
    (digitsTrim r s).2 = ((digitsOf r).length : Int) + s := by
  have h := natOfDigits_trim (digitsOf r).reverse
  simp only [List.reverse_reverse, List.length_reverse] at h
  have e1 : (digitsTrim r s).1 = ((digitsOf r).reverse.dropWhile (· == 0)).reverse := rfl
  refine ⟨?_, ?_, rfl⟩
  · rw [e1, List.length_reverse]; exact h.2
  · rw [e1, List.length_reverse, ← h.1, natOfDigits_digitsOf]

/-! ### what a numeric literal denotes -/

def isDigB (c : UInt8) : Bool := 0x30 ≤ c && c ≤ 0x39

theorem isDigB_iff (c : UInt8) : isDigB c = true ↔ IsDig c := by
  unfold isDigB IsDig; simp

/-- value of a run of ASCII digits -/
def digVal (l : Bytes) : Nat := l.foldl (fun a c => a * 10 + (c.toNat - 48)) 0

/-- the exponent part: nothing, or `e`, a sign and at least one digit -/
def readExp : Bytes → Option Int
  | [] => some 0
  | 0x65 :: s :: e =>
    if e ≠ [] ∧ e.all isDigB = true then
      (if s = 0x2b then some (digVal e : Int) else if s = 0x2d then some (-(digVal e : Int)) else none)
    else none
  | _ => none

/-- Reads a whole string `digits [ . digits ] [ e ± digits ]` as the pair
    `(M, E)` that denotes `M × 10^E`: `M` the digits before and after the point
    read as one number, `E` the exponent minus the number of digits after the
    point.  `none` for anything else. -/
def readUNum (b : Bytes) : Option (Nat × Int) :=
  let ip := b.takeWhile isDigB
  if ip = [] then none else
  match b.dropWhile isDigB with
  | 0x2e :: t =>
    let f := t.takeWhile isDigB
    if f = [] then none
    else (readExp (t.dropWhile isDigB)).map fun x => (digVal (ip ++ f), x - (f.length : Int))
  | r => (readExp r).map fun x => (digVal ip, x)

theorem readExp_some {ep : Bytes} {x : Int} (h : readExp ep = some x) :
    ep = [] ∨ ∃ s e, ep = 0x65 :: s :: e ∧ (s = 0x2b ∨ s = 0x2d) ∧ Digs1 e := by
  unfold readExp at h
  split at h
  · exact .inl rfl
  · rename_i s e
    split at h
    · rename_i hc
      refine .inr ⟨s, e, rfl, ?_, hc.1, fun c hc' => (isDigB_iff c).mp (List.all_eq_true.mp hc.2 c hc')⟩
      by_cases h1 : s = 0x2b
      · exact .inl h1
      · by_cases h2 : s = 0x2d
        · exact .inr h2
        · simp [h1, h2] at h
    · cases h
  · cases h

theorem readExp_digs {e : Bytes} (he : Digs1 e) (neg : Bool) :
    readExp (0x65 :: (if neg then 0x2d else 0x2b) :: e) = some (if neg then -(digVal e : Int) else digVal e) := by
  have hall : e.all isDigB = true := List.all_eq_true.mpr fun c hc => (isDigB_iff c).mpr (he.2 c hc)
  cases neg <;> simp [readExp, he.1, hall]

theorem takeWhile_digs (a r : Bytes) (ha : ∀ c ∈ a, IsDig c) (hr : r = [] ∨ ∃ c t, r = c :: t ∧ isDigB c = false) :
    (a ++ r).takeWhile isDigB = a ∧ (a ++ r).dropWhile isDigB = r := by
  have hp : ∀ c ∈ a, isDigB c = true := fun c hc => (isDigB_iff c).mpr (ha c hc)
  rw [List.takeWhile_append_of_pos hp, List.dropWhile_append_of_pos hp]
  rcases hr with rfl | ⟨c, t, rfl, hc⟩
  · simp
  · simp [hc]

theorem readUNum_parts (ip f ep : Bytes) (x : Int) (hip : Digs1 ip) (hf : ∀ c ∈ f, IsDig c) (hep : readExp ep = some x) :
    readUNum (ip ++ ((if f = [] then [] else 0x2e :: f) ++ ep)) = some (digVal (ip ++ f), x - (f.length : Int)) := by
  have hr : ep = [] ∨ ∃ c t, ep = c :: t ∧ isDigB c = false :=
    (readExp_some hep).imp id fun ⟨s, e, h, _⟩ => ⟨_, _, h, by decide⟩
  unfold readUNum
  by_cases hfe : f = []
  · subst hfe
    obtain ⟨h1, h2⟩ := takeWhile_digs ip ep hip.2 hr
    simp only [if_true, List.nil_append, List.append_nil, h1, h2, if_neg hip.1]
    rcases readExp_some hep with h | ⟨s, e, h, _⟩ <;> subst h <;> simp [hep]
  · obtain ⟨h1, h2⟩ := takeWhile_digs ip (0x2e :: (f ++ ep)) hip.2 (Or.inr ⟨0x2e, f ++ ep, rfl, by decide⟩)
    obtain ⟨h3, h4⟩ := takeWhile_digs f ep hf hr
    simp only [if_neg hfe, List.cons_append, h1, h2, if_neg hip.1, h3, h4, hep]
    rfl

theorem readUNum_numLit {b : Bytes} {p : Nat × Int} (h : readUNum b = some p) : UNumLit b := by
  have hb := (List.takeWhile_append_dropWhile (p := isDigB) (l := b)).symm
  have hdig : ∀ l : Bytes, ∀ c ∈ l.takeWhile isDigB, IsDig c :=
    fun l c hc => (isDigB_iff c).mp (List.all_eq_true.mp List.all_takeWhile c hc)
  unfold readUNum at h
  simp only at h
  split at h
  · cases h
  · rename_i hne
    split at h
    · rename_i t ht
      split at h
      · cases h
      · rename_i hf
        obtain ⟨x, hx, _⟩ := Option.map_eq_some_iff.mp h
        refine ⟨_, 0x2e :: t.takeWhile isDigB, _, ?_, ⟨hne, hdig b⟩, .inr ⟨_, rfl, hf, hdig t⟩, readExp_some hx⟩
        rw [List.append_assoc, List.cons_append, List.takeWhile_append_dropWhile, ← ht]; exact hb
    · obtain ⟨x, hx, _⟩ := Option.map_eq_some_iff.mp h
      exact ⟨_, [], _, by simp, ⟨hne, hdig b⟩, .inl rfl, readExp_some hx⟩

/-! ### what `fmtE` and `fmtF` write denotes the digits -/

theorem digVal_append (a b : Bytes) : digVal (a ++ b) = digVal a * 10 ^ b.length + digVal b :=
  Dec.val_append ..

theorem digVal_replicate_zero (n : Nat) : digVal (List.replicate n 0x30) = 0 :=
  (congrArg digVal (List.append_nil _).symm).trans
    (Dec.val_replicate_append (d := fun c : UInt8 => c.toNat - 48) (z := 0x30) rfl n [])

theorem digitChar_val (d : Nat) (h : d < 10) : (digitChar d).toNat - 48 = d := by
  rw [digitChar, ← Nat.toNat_digitChar_of_lt_ten h, Dec.toNat_byte_digitChar h, Nat.add_sub_cancel_left]

theorem digVal_map_digitChar (l : List Nat) (h : ∀ d ∈ l, d < 10) : digVal (l.map digitChar) = natOfDigits l :=
  (Dec.val_map ..).trans (Dec.val_congr fun d hd => digitChar_val d (h d hd))

theorem digs_toDigits (n : Nat) :
    Digs1 ((Nat.toDigits 10 n).map fun c => UInt8.ofNat c.toNat) ∧
      digVal ((Nat.toDigits 10 n).map fun c => UInt8.ofNat c.toNat) = n := by
  refine ⟨⟨fun h => Nat.toDigits_ne_nil (List.map_eq_nil_iff.mp h), fun c hc => ?_⟩,
    Dec.val_map_toDigits (fun k hk => by rw [Dec.toNat_byte_digitChar hk, Nat.add_sub_cancel_left]) n⟩
  obtain ⟨k, hk, rfl⟩ := Dec.mem_map_toDigits hc
  rw [Nat.toNat_digitChar_of_lt_ten hk]; exact digitChar_isDig k hk

theorem readExp_fmtE (x : Int) :
    readExp (0x65 :: (if x < 0 then 0x2d else 0x2b) ::
      ((if x.natAbs < 10 then [0x30] else []) ++ (Nat.toDigits 10 x.natAbs).map fun c => UInt8.ofNat c.toNat)) = some x := by
  obtain ⟨hd, hv⟩ := digs_toDigits x.natAbs
  generalize (Nat.toDigits 10 x.natAbs).map (fun c => UInt8.ofNat c.toNat) = ds at hd hv ⊢
  -- the `0` written in front of a single digit changes neither
  have he : Digs1 ((if x.natAbs < 10 then [0x30] else []) ++ ds) ∧
      digVal ((if x.natAbs < 10 then [0x30] else []) ++ ds) = x.natAbs := by
    split
    · exact ⟨⟨by simp, fun c hc => (List.mem_cons.mp hc).elim (· ▸ ⟨by decide, by decide⟩) (hd.2 c)⟩,
        by rw [show ([0x30] : Bytes) = List.replicate 1 0x30 from rfl, digVal_append, digVal_replicate_zero, hv]; simp⟩
    · exact ⟨by simpa using hd, by simpa using hv⟩
  have := readExp_digs he.1 (decide (x < 0))
  simp only [decide_eq_true_eq] at this
  rw [this, he.2]
  split <;> (congr 1; omega)

/-- **`%e` form**: `d.ddde±xx` denotes `0.d₁d₂… × 10^dp`, i.e. the digits as a
    number times `10^(dp - number of digits)`. -/
theorem fmtE_value (ds : List Nat) (dp : Int) (hne : ds ≠ []) (h : ∀ d ∈ ds, d < 10) :
    readUNum (fmtE ds dp) = some (natOfDigits ds, dp - (ds.length : Int)) := by
  obtain ⟨d0, rest, rfl⟩ := List.exists_cons_of_ne_nil hne
  have hds := digs1_map _ hne h
  have e : fmtE (d0 :: rest) dp =
      [digitChar d0] ++ ((if rest.map digitChar = [] then [] else 0x2e :: rest.map digitChar) ++
        (0x65 :: (if dp - 1 < 0 then 0x2d else 0x2b) :: ((if (dp - 1).natAbs < 10 then [0x30] else []) ++
          (Nat.toDigits 10 (dp - 1).natAbs).map fun c => UInt8.ofNat c.toNat))) := by
    cases rest <;> simp [fmtE]
  rw [e, readUNum_parts _ _ _ _ ⟨by simp, fun c hc => hds.2 c (by simpa using Or.inl (List.mem_singleton.mp hc))⟩
    (fun c hc => hds.2 c (by simp [hc])) (readExp_fmtE (dp - 1))]
  have := digVal_map_digitChar (d0 :: rest) h
  simp only [List.map_cons, List.singleton_append, List.length_map, List.length_cons] at this ⊢
  rw [this]; congr 2; omega

/-- The character at position `k` of the digit string padded with zeros on both sides. -/
def padAt (ds : List Nat) (k : Int) : UInt8 :=
  if k < 0 ∨ k ≥ (ds.length : Int) then 0x30 else digitChar (ds.getD k.toNat 0)

def window (ds : List Nat) (k : Int) (n : Nat) : Bytes := (List.range n).map fun (i : Nat) => padAt ds (k + (i : Int))

theorem fmtF_eq (ds : List Nat) (dp : Int) :
    fmtF ds dp = (if dp > 0 then window ds 0 dp.toNat else [0x30]) ++
      (if window ds dp ((ds.length : Int) - dp).toNat = [] then []
       else 0x2e :: window ds dp ((ds.length : Int) - dp).toNat) := by
  unfold fmtF
  simp only
  congr 1
  · by_cases hdp : dp > 0
    · rw [if_pos hdp, if_pos hdp]
      refine List.map_congr_left fun i _ => ?_
      simp only [padAt, Int.zero_add, Int.toNat_natCast]
      by_cases hi : (i : Int) < (ds.length : Int)
      · rw [if_pos hi, if_neg (by omega)]
      · rw [if_neg hi, if_pos (by omega)]
    · rw [if_neg hdp, if_neg hdp]
  · by_cases hp : (ds.length : Int) - dp > 0
    · rw [if_pos hp, if_pos (by omega), if_neg (List.ne_nil_of_length_pos (by simp [window]; omega))]; rfl
    · rw [if_neg hp, if_neg (by decide), if_pos (by rw [show ((ds.length : Int) - dp).toNat = 0 by omega]; rfl)]

theorem window_succ (ds : List Nat) (k : Int) (n : Nat) :
    window ds k (n + 1) = window ds k n ++ [padAt ds (k + (n : Int))] := by
  simp [window, List.range_succ]

theorem window_add (ds : List Nat) (k : Int) (a b : Nat) :
    window ds k (a + b) = window ds k a ++ window ds (k + (a : Int)) b := by
  simp [window, List.range_add, Int.add_assoc]

theorem digs1_window (ds : List Nat) (h : ∀ d ∈ ds, d < 10) (k : Int) {n : Nat} (hn : 0 < n) :
    Digs1 (window ds k n) := by
  refine ⟨List.ne_nil_of_length_pos (by simpa [window] using hn), fun c hc => ?_⟩
  obtain ⟨i, _, rfl⟩ := List.mem_map.mp hc
  unfold padAt
  split
  · exact ⟨by decide, by decide⟩
  · refine digitChar_isDig _ ?_
    rw [List.getD_eq_getElem?_getD]
    cases hj : ds[(k + (i : Int)).toNat]? with
    | none => exact Nat.zero_lt_succ _
    | some d => exact h d (List.mem_of_getElem? hj)

theorem digs_window (ds : List Nat) (h : ∀ d ∈ ds, d < 10) (k : Int) (n : Nat) : ∀ c ∈ window ds k n, IsDig c := by
  cases n with
  | zero => simp [window]
  | succ n => exact (digs1_window ds h k (Nat.succ_pos n)).2

theorem window_neg (ds : List Nat) (Z : Nat) : window ds (-(Z : Int)) Z = List.replicate Z 0x30 := by
  have : List.replicate Z (0x30 : UInt8) = (List.range Z).map fun _ => 0x30 := by
    rw [List.map_const', List.length_range]
  rw [this]
  exact List.map_congr_left fun i hi => if_pos (.inl (by have := List.mem_range.mp hi; omega))

theorem digVal_window (ds : List Nat) (h : ∀ d ∈ ds, d < 10) (n : Nat) :
    digVal (window ds 0 n) = natOfDigits (ds.take n) * 10 ^ (n - ds.length) := by
  induction n with
  | zero => simp [window, digVal, natOfDigits]
  | succ n ih =>
    rw [window_succ, digVal_append, ih, List.length_singleton, Nat.pow_one, padAt, Int.zero_add,
      Int.toNat_natCast]
    by_cases hn : n < ds.length
    · have := digVal_map_digitChar [ds[n]] (by simpa using h _ (List.getElem_mem hn))
      rw [if_neg (by omega), List.take_add_one, List.getD_eq_getElem?_getD, List.getElem?_eq_getElem hn,
        natOfDigits_append, show n + 1 - ds.length = 0 by omega, show n - ds.length = 0 by omega]
      simpa [natOfDigits] using this
    · rw [if_pos (by omega), List.take_of_length_le (by omega), List.take_of_length_le (by omega),
        show n + 1 - ds.length = n - ds.length + 1 by omega, Nat.pow_succ, ← Nat.mul_assoc]
      rfl

/-- **`%f` form**: the text denotes `M × 10^E` with `M = digits × 10^k`,
    `E + k = dp - number of digits`: trailing zeros of the integer part (`k > 0`,
    then `E = 0`) or a fraction (`k = 0`). -/
theorem fmtF_value (ds : List Nat) (dp : Int) (hne : ds ≠ []) (h : ∀ d ∈ ds, d < 10) :
    ∃ (M : Nat) (E : Int) (k : Nat), readUNum (fmtF ds dp) = some (M, E) ∧ M = natOfDigits ds * 10 ^ k ∧
      E + (k : Int) = dp - (ds.length : Int) ∧ (k = 0 ∨ E = 0) := by
  have hlen : 0 < ds.length := List.length_pos_iff.mpr hne
  rw [fmtF_eq]
  by_cases hdp : dp > 0
  · -- the digits up to the point and those behind it are together one window, of `D` or of all digits
    obtain ⟨D, rfl⟩ : ∃ D : Nat, dp = (D : Int) := ⟨dp.toNat, by omega⟩
    have hr := readUNum_parts _ _ [] 0 (digs1_window ds h 0 (n := D) (by omega))
      (digs_window ds h D (ds.length - D)) rfl
    have hw := window_add ds 0 D (ds.length - D)
    rw [Int.zero_add] at hw
    rw [List.append_nil, ← hw, digVal_window ds h, List.take_of_length_le (by omega)] at hr
    rw [if_pos hdp, Int.toNat_natCast, show ((ds.length : Int) - (D : Int)).toNat = ds.length - D by omega]
    exact ⟨_, _, D + (ds.length - D) - ds.length, hr, rfl, by simp [window]; omega, by simp [window]; omega⟩
  · -- 0.000ddd
    obtain ⟨Z, rfl⟩ : ∃ Z : Nat, dp = -(Z : Int) := ⟨(-dp).toNat, by omega⟩
    have hr := readUNum_parts _ _ [] 0 digs1_zero (digs_window ds h (-(Z : Int)) (Z + ds.length)) rfl
    rw [List.append_nil] at hr
    rw [if_neg hdp, show ((ds.length : Int) - -(Z : Int)).toNat = Z + ds.length by omega]
    refine ⟨_, _, 0, hr, ?_, by simp [window]; omega, .inl rfl⟩
    have hw := window_add ds (-(Z : Int)) Z ds.length
    rw [window_neg, Int.add_left_neg] at hw
    rw [hw, ← List.append_assoc, digVal_append, digVal_window ds h, List.take_length,
      show ([0x30] : Bytes) ++ List.replicate Z 0x30 = List.replicate (Z + 1) 0x30 from rfl,
      digVal_replicate_zero]
    simp [window]

/-! ### the literal of a finite non-zero float lies inside its rounding interval -/

theorem fmtDigits_value (ds : List Nat) (dp : Int) (hne : ds ≠ []) (h : ∀ d ∈ ds, d < 10) :
    ∃ (M : Nat) (E : Int) (k : Nat), readUNum (fmtDigits ds dp) = some (M, E) ∧ M = natOfDigits ds * 10 ^ k ∧
      E + (k : Int) = dp - (ds.length : Int) ∧ (k = 0 ∨ E = 0) := by
  unfold fmtDigits
  split
  · exact ⟨_, _, 0, fmtE_value ds dp hne h, by simp, by simp, Or.inl rfl⟩
  · exact fmtF_value ds dp hne h

/-- The float and the midpoints to its neighbours, scaled to integers
    `(v, lo, up, s)` in units of `10^s` (`scaled`). -/
def scaledOf (dbl : Bool) (bits : Nat) : Nat × Nat × Nat × Int :=
  let me := mantExp dbl bits
  scaled (4 * me.1) (lower4 dbl me.1 me.2) (4 * me.1 + 2) (me.2 - mantbits dbl - 2)

/-- The number (in units of `10^s`) whose digits are printed. -/
def chosenOf (dbl : Bool) (bits : Nat) : Nat :=
  let sc := scaledOf dbl bits
  (findShortest sc.1 sc.2.1 sc.2.2.1 (decide ((mantExp dbl bits).1 % 2 = 0))
    (digitsOf sc.2.2.1).length (digitsOf sc.2.2.1).length).1

theorem scaled_order (v4 l4 u4 : Nat) (e : Int) (h : 0 < l4 ∧ l4 < v4 ∧ v4 < u4) :
    let sc := scaled v4 l4 u4 e
    0 < sc.2.1 ∧ sc.2.1 < sc.1 ∧ sc.1 < sc.2.2.1 ∧ sc.2.2.2 ≤ 0 := by
  unfold scaled
  split
  · have hp : 0 < 2 ^ e.toNat := Nat.pos_of_ne_zero (by simp)
    exact ⟨Nat.mul_pos h.1 hp, Nat.mul_lt_mul_of_pos_right h.2.1 hp, Nat.mul_lt_mul_of_pos_right h.2.2 hp,
      Int.le_refl 0⟩
  · have hp : 0 < 5 ^ (-e).toNat := Nat.pos_of_ne_zero (by simp)
    rename_i hneg
    exact ⟨Nat.mul_pos h.1 hp, Nat.mul_lt_mul_of_pos_right h.2.1 hp, Nat.mul_lt_mul_of_pos_right h.2.2 hp,
      by show e ≤ 0; omega⟩

theorem scaledOf_order (dbl : Bool) (bits : Nat) (hm : (mantExp dbl bits).1 ≠ 0) :
    0 < (scaledOf dbl bits).2.1 ∧ (scaledOf dbl bits).2.1 < (scaledOf dbl bits).1 ∧
    (scaledOf dbl bits).1 < (scaledOf dbl bits).2.2.1 ∧ (scaledOf dbl bits).2.2.2 ≤ 0 :=
  scaled_order _ _ _ _ (by unfold lower4; split <;> omega)

/-- A midpoint itself counts only when the float's mantissa is even: that is when
    round-half-to-even reads a midpoint back as this float. -/
theorem chosenOf_inB (dbl : Bool) (bits : Nat) (hm : (mantExp dbl bits).1 ≠ 0) :
    InB (scaledOf dbl bits).2.1 (scaledOf dbl bits).2.2.1 (decide ((mantExp dbl bits).1 % 2 = 0))
      (chosenOf dbl bits) := by
  have h := scaledOf_order dbl bits hm
  exact findShortest_inB _ _ _ _ ⟨h.2.1, h.2.2.1⟩ _ _

/-- The decimal `M × 10^E` lies inside the rounding interval of the finite
    non-zero float with these bits: with `(v, lo, up, s) = scaledOf`,
    `s ≤ E` and the integer `M × 10^(E-s)` (the decimal in units of `10^s`) lies
    between `lo` and `up`. -/
def WithinHalfUlp (dbl : Bool) (bits : Nat) (M : Nat) (E : Int) : Prop :=
  (scaledOf dbl bits).2.2.2 ≤ E ∧
  InB (scaledOf dbl bits).2.1 (scaledOf dbl bits).2.2.1 (decide ((mantExp dbl bits).1 % 2 = 0))
    (M * 10 ^ (E - (scaledOf dbl bits).2.2.2).toNat)

theorem fmtDigits_digitsTrim (r : Nat) (s : Int) (hr : 0 < r) (hs : s ≤ 0) :
    ∃ M E, readUNum (fmtDigits (digitsTrim r s).1 (digitsTrim r s).2) = some (M, E) ∧ s ≤ E ∧
      M * 10 ^ (E - s).toNat = r := by
  obtain ⟨hle, hval, hdp⟩ := digitsTrim_value r s
  have hlt := digitsTrim_lt r s
  generalize (digitsTrim r s).1 = ds at *
  generalize (digitsTrim r s).2 = dp at *
  generalize (digitsOf r).length = L at *
  have hne : ds ≠ [] := by
    rintro rfl
    simp [natOfDigits] at hval
    omega
  obtain ⟨M, E, k, hread, hM, hE, hk⟩ := fmtDigits_value ds dp hne hlt
  refine ⟨M, E, hread, by omega, ?_⟩
  have hexp : k + (E - s).toNat = L - ds.length := by omega
  rw [hM, Nat.mul_assoc, ← Nat.pow_add, hexp, hval]

/-- **float_literal_within_half_ulp.**  For every finite non-zero float32 /
    float64, the text `%v` prints for its magnitude is a numeric literal that
    denotes a decimal `M × 10^E` inside the float's rounding interval. -/
theorem float_literal_within_half_ulp (dbl : Bool) (bits : Nat) (hm : (mantExp dbl bits).1 ≠ 0) :
    ∃ M E, readUNum (fmtMagnitude dbl bits) = some (M, E) ∧ WithinHalfUlp dbl bits M E := by
  have hord := scaledOf_order dbl bits hm
  have hin := chosenOf_inB dbl bits hm
  have hr : 0 < chosenOf dbl bits := by
    rcases hin.1 with h | ⟨_, h⟩ <;> omega
  obtain ⟨M, E, hread, hE, hval⟩ := fmtDigits_digitsTrim _ _ hr hord.2.2.2
  refine ⟨M, E, ?_, hE, hval ▸ hin⟩
  -- `shortestOf dbl bits` unfolds to `digitsTrim (chosenOf dbl bits) (scaledOf dbl bits).2.2.2`
  rw [fmtMagnitude, if_neg hm]; exact hread

/-! ### the literal belongs to the numeric-literal grammar -/

theorem fmtMagnitude_numLit (dbl : Bool) (bits : Nat) : UNumLit (fmtMagnitude dbl bits) := by
  by_cases hm : (mantExp dbl bits).1 = 0
  · rw [fmtMagnitude, if_pos hm]
    exact ⟨[0x30], [], [], rfl, digs1_zero, .inl rfl, .inl rfl⟩
  · obtain ⟨M, E, h, _⟩ := float_literal_within_half_ulp dbl bits hm
    exact readUNum_numLit h

/-- **A finite float is rendered as a numeric literal**: an optional minus
    sign, digits, optionally `.` and digits, optionally `e`, a sign and digits. -/
theorem fmtV_numLit (dbl : Bool) (bits : Nat) (hf : finite dbl bits = true) : NumLit (fmtV dbl bits) := by
  unfold fmtV
  rw [if_pos hf]
  split
  · right; exact ⟨_, rfl, fmtMagnitude_numLit dbl bits⟩
  · left; simpa using fmtMagnitude_numLit dbl bits

end GaeaVerif.StmtFloat
