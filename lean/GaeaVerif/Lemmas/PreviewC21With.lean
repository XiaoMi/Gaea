import GaeaVerif.Lemmas.PreviewC21Word
/-
  Helper lemmas for C21: `withMainStatement` on a WITH clause given as a list
  of lexical pieces (`WTok`), followed by the main statement: what the loop
  does on one piece, and `wfW` as the run of that over the pieces.
-/
namespace GaeaVerif.PreviewC21
open GaeaVerif GaeaVerif.LexC17

/-- The lexical pieces a WITH clause is made of. -/
inductive WTok where
  | blank (t : Trivia)                  -- white space, `/* */`, `-- `, `#` comment
  | word (w : Bytes)                    -- a keyword, a name, a number
  | quoted (q : UInt8) (body : Bytes)   -- 'text', "text" or `name`
  | lpar
  | rpar
  | sym (b : UInt8)                     -- any other character
  deriving DecidableEq, Repr

def WTok.render : WTok → Bytes
  | .blank t => t.render
  | .word w => w
  | .quoted q body => q :: body ++ [q]
  | .lpar => [0x28]
  | .rpar => [0x29]
  | .sym b => [b]

def renderW (ts : List WTok) : Bytes := (ts.map WTok.render).flatten

/-- Each piece is what it says: a comment is closed where it ends and is no
    `/*!` or `/*M!` comment; a word is made of identifier characters; a quoted
    text holds neither its quote nor a backslash; a symbol is none of the
    above and opens no comment. -/
def WTok.ok : WTok → Bool
  | .blank t => t.ok && !t.isXopen &&
      (match t with
       | .cblock body => !isPrefixB [0x21] (body ++ [0x2A]) && !isPrefixB [0x4D, 0x21] (body ++ [0x2A, 0x2F])
       | .ws bs => bs.all isWsByte        -- no semicolon inside a WITH clause
       | _ => true)
  | .word w => w ≠ [] && w.all isIdentByte
  | .quoted q body => isQuoteByte q && body.all (fun b => b ≠ q && b.toNat ≠ 0x5C)
  | .lpar => true
  | .rpar => true
  | .sym b => !isWsByte b && !isIdentByte b && !isQuoteByte b && b.toNat ≠ 0x28 && b.toNat ≠ 0x29 && b.toNat ≠ 0x23

def isComma : WTok → Bool
  | .sym b => b.toNat = 0x2C
  | _ => false

def isAsTok : WTok → Bool
  | .word w => isAsWord w.length w
  | _ => false

/-- What follows a piece does not merge with it: a word is followed by a
    character that ends it, `-` is not followed by `-`, `/` not by `*`. -/
def boundary (tok : WTok) (next : Option UInt8) : Bool :=
  match tok with
  | .word _ => (match next with | some b => !isIdentByte b | none => false)
  | .sym b =>
    (if b.toNat = 0x2D then (match next with | some n => n.toNat ≠ 0x2D | none => true) else true) &&
    (if b.toNat = 0x2F then (match next with | some n => n.toNat ≠ 0x2A | none => true) else true)
  | _ => true

/-- The pieces form the part of a WITH statement in front of its main
    statement, read from nesting depth `depth` (`closed`: a parenthesis has just
    closed at the outermost level): parentheses are balanced, after a
    parenthesis that closes at the outermost level comes `,` or AS, and the
    last piece that is not a blank is such a parenthesis.  The main statement
    starts with a letter. -/
def wfW : Nat → Bool → List WTok → Bool
  | depth, closed, [] => closed && depth == 0
  | depth, closed, .blank _ :: r => wfW depth closed r
  | depth, closed, tok :: r =>
    (!closed || isComma tok || isAsTok tok) &&
    boundary tok ((renderW r).head?) &&
    (match tok with
     | .lpar => wfW (depth + 1) false r
     | .rpar => decide (0 < depth) && wfW (depth - 1) (decide (depth - 1 = 0)) r
     | _ => wfW depth false r)

/-- The main statement starts with an ASCII letter and its first word is not AS. -/
structure MainStart (main : Bytes) : Prop where
  letter : ∃ b t, main = b :: t ∧ isAsciiLetterB b = true
  notAs : isAsWord (spanLen isIdentByte main) main = false

/-- The state of the loop after a piece: nesting depth, and whether a
    parenthesis has just closed at the outermost level. -/
def WTok.after (depth : Nat) (closed : Bool) : WTok → Nat × Bool
  | .blank _ => (depth, closed)
  | .lpar => (depth + 1, false)
  | .rpar => (depth - 1, decide (depth - 1 = 0))
  | _ => (depth, false)

/-- What `wfW` asks of a piece read in state `depth`, `closed` in front of a text that starts with `next`. -/
def WTok.fits (depth : Nat) (closed : Bool) (next : Option UInt8) : WTok → Bool
  | .blank _ => true
  | .rpar => !closed && decide (0 < depth)
  | tok => (!closed || isComma tok || isAsTok tok) && boundary tok next

theorem wfW_cons (depth : Nat) (closed : Bool) (tok : WTok) (r : List WTok) :
    wfW depth closed (tok :: r) =
      (tok.fits depth closed (renderW r).head? && wfW (tok.after depth closed).1 (tok.after depth closed).2 r) := by
  cases tok <;> simp [wfW, WTok.fits, WTok.after, Bool.and_assoc, isComma, isAsTok, boundary]

theorem isWsByte_eq (b : UInt8) : isWsByte b = isAsciiWs b := rfl

theorem withMainLoop_ws (depth : Nat) (closed : Bool) : ∀ (bs X : Bytes) (fuel : Nat),
    (∀ b ∈ bs, isWsByte b = true) → bs.length ≤ fuel →
    withMainLoop fuel depth closed (bs ++ X) = withMainLoop (fuel - bs.length) depth closed X := by
  intro bs
  induction bs with
  | nil => intro X fuel _ _; simp
  | cons b t ih =>
    intro X fuel h hf
    obtain ⟨f, rfl⟩ : ∃ f, fuel = f + 1 := ⟨fuel - 1, by simp only [List.length_cons] at hf; omega⟩
    have hb := h b (by simp)
    simp only [List.cons_append, withMainLoop, hb, if_true]
    rw [ih X f (fun b' hb' => h b' (by simp [hb'])) (by simp only [List.length_cons] at hf; omega)]
    simp only [List.length_cons]
    congr 1
    omega

theorem spanLen_word (w X : Bytes) (hw : ∀ b ∈ w, isIdentByte b = true)
    (hX : match X.head? with | some b => isIdentByte b = false | none => True) :
    spanLen isIdentByte (w ++ X) = w.length := by
  exact spanLen_run isIdentByte w X hw (headSat_iff.mpr fun b hb => by rw [hb] at hX; exact hX)

theorem isAsWord_append (w X : Bytes) : isAsWord w.length (w ++ X) = isAsWord w.length w := by
  match w with
  | [] | [_] | [_, _] => simp [isAsWord]
  | a :: b :: c :: t => simp only [isAsWord, List.length_cons, List.cons_append]

theorem withMainLoop_step (fuel depth : Nat) (closed : Bool) (c : UInt8) (t : Bytes)
    (hws : isWsByte c = false) (hhash : c.toNat ≠ 0x23) (hdash : ¬ (c.toNat = 0x2D ∧ dashComment t = true))
    (hslash : ¬ (c.toNat = 0x2F ∧ startsStar t = true)) :
    withMainLoop (fuel + 1) depth closed (c :: t) =
      (if closed = true ∧ c.toNat ≠ 0x2C ∧ isAsWord (spanLen isIdentByte (c :: t)) (c :: t) = false then some (c :: t)
       else if spanLen isIdentByte (c :: t) > 0 then withMainLoop fuel depth false ((c :: t).drop (spanLen isIdentByte (c :: t)))
       else if isQuoteByte c then
         match indexSub [c] t with
         | none => none
         | some e =>
           if (t.take e).any (·.toNat = 0x5C) then none else withMainLoop fuel depth false (t.drop (e + 1))
       else if c.toNat = 0x28 then withMainLoop fuel (depth + 1) false t
       else if c.toNat = 0x29 then
         if depth = 0 then none else withMainLoop fuel (depth - 1) (decide (depth - 1 = 0)) t
       else withMainLoop fuel depth false t) := by
  have h1 : ¬ (c.toNat = 0x23 ∨ (c.toNat = 0x2D ∧ dashComment t = true)) := by
    intro h; rcases h with h | h
    · exact hhash h
    · exact hdash h
  simp only [withMainLoop, hws, Bool.false_eq_true, if_false, h1, hslash]
  rfl

theorem withMainLoop_punct (fuel depth : Nat) (closed : Bool) (c : UInt8) (t : Bytes)
    (hws : isWsByte c = false) (hid : isIdentByte c = false) (hq : isQuoteByte c = false) (hhash : c.toNat ≠ 0x23)
    (hdash : ¬ (c.toNat = 0x2D ∧ dashComment t = true)) (hslash : ¬ (c.toNat = 0x2F ∧ startsStar t = true))
    (hcl : closed = true → c.toNat = 0x2C) :
    withMainLoop (fuel + 1) depth closed (c :: t) =
      (if c.toNat = 0x28 then withMainLoop fuel (depth + 1) false t
       else if c.toNat = 0x29 then
         if depth = 0 then none else withMainLoop fuel (depth - 1) (decide (depth - 1 = 0)) t
       else withMainLoop fuel depth false t) := by
  have hspan : spanLen isIdentByte (c :: t) = 0 := by simp [spanLen, List.takeWhile, hid]
  rw [withMainLoop_step fuel depth closed c t hws hhash hdash hslash, hspan,
    if_neg (fun h => h.2.1 (hcl h.1)), if_neg (Nat.lt_irrefl 0), if_neg (by simp [hq])]

theorem identByte_facts (c : UInt8) (h : isIdentByte c = true) :
    isWsByte c = false ∧ c.toNat ≠ 0x23 ∧ c.toNat ≠ 0x2D ∧ c.toNat ≠ 0x2F ∧ c.toNat ≠ 0x2C ∧ isQuoteByte c = false := by
  simp only [isIdentByte, isLetter, isDigit, Bool.or_eq_true, Bool.and_eq_true, decide_eq_true_eq] at h
  simp only [isWsByte, isQuoteByte, Bool.or_eq_false_iff, Bool.and_eq_false_iff, decide_eq_false_iff_not]
  omega

theorem headOf (r main : Bytes) (n : UInt8) (h : r.head? = some n) : ∃ t, r ++ main = n :: t := by
  cases r with
  | nil => simp at h
  | cons a t => simp only [List.head?_cons, Option.some.injEq] at h; exact ⟨t ++ main, by rw [h]; rfl⟩

theorem letter_facts (b : UInt8) (h : isAsciiLetterB b = true) :
    isIdentByte b = true ∧ isWsByte b = false ∧ b.toNat ≠ 0x23 ∧ b.toNat ≠ 0x2D ∧ b.toNat ≠ 0x2F ∧ b.toNat ≠ 0x2C ∧
      b.toNat ≠ 0x2A := by
  have hb := isAsciiLetterB_range b h
  simp only [isIdentByte, isLetter, isDigit, isWsByte, Bool.or_eq_true, Bool.and_eq_true, decide_eq_true_eq,
    Bool.or_eq_false_iff, Bool.and_eq_false_iff, decide_eq_false_iff_not]
  omega

theorem isAsWord_kw (kw : Bytes) (X : Bytes) (h3 : 3 ≤ kw.length) (hletters : ∀ b ∈ kw, isAsciiLetterB b = true) :
    isAsWord (spanLen isIdentByte (kw ++ X)) (kw ++ X) = false := by
  have hge : kw.length ≤ spanLen isIdentByte (kw ++ X) := by
    simp only [spanLen]
    have hall : ∀ b ∈ kw, isIdentByte b = true := fun b hb => (letter_facts b (hletters b hb)).1
    rw [List.takeWhile_append_of_pos hall]
    simp
  simp only [isAsWord, Bool.and_eq_false_iff, decide_eq_false_iff_not]
  left; omega

theorem word_boundary (w : Bytes) (r : List WTok) (main : Bytes)
    (hbd : boundary (.word w) (renderW r).head? = true) :
    ∃ n tl, renderW r ++ main = n :: tl ∧ isIdentByte n = false := by
  cases h : renderW r with
  | nil => rw [h] at hbd; simp [boundary] at hbd
  | cons a t => rw [h] at hbd; exact ⟨a, t ++ main, rfl, by simpa [boundary] using hbd⟩

theorem fits_main (depth : Nat) (closed : Bool) (tok : WTok) (r : Bytes) (main : Bytes) (hm : MainStart main)
    (h : tok.fits depth closed r.head? = true) : tok.fits depth closed (r ++ main).head? = true := by
  cases r with
  | cons a t => exact h
  | nil =>
    obtain ⟨b, t, rfl, hb⟩ := hm.letter
    have hl := letter_facts b hb
    cases tok with
    | word w => simp [WTok.fits, boundary] at h
    | sym c =>
      simp only [WTok.fits, boundary, List.head?_nil, List.nil_append, List.head?_cons, Bool.and_eq_true] at h ⊢
      refine ⟨h.1, ?_, ?_⟩
      · split <;> simp [hl.2.2.2.1]
      · split <;> simp [hl.2.2.2.2.2.2]
    | _ => exact h

theorem withMainLoop_cblock (fuel depth : Nat) (closed : Bool) (body R : Bytes)
    (hfree : Trivia.ok.hasSS (body ++ [0x2A]) = false)
    (hp1 : isPrefixB [0x21] (body ++ [0x2A]) = false) (hp2 : isPrefixB [0x4D, 0x21] (body ++ [0x2A, 0x2F]) = false) :
    withMainLoop (fuel + 1) depth closed (0x2F :: 0x2A :: (body ++ 0x2A :: 0x2F :: R)) = withMainLoop fuel depth closed R := by
  have hq1 : isPrefixB [0x21] (body ++ 0x2A :: 0x2F :: R) = false := by
    simp only [isPrefixB, List.length_cons, List.length_nil] at hp1 ⊢
    rw [show body ++ 0x2A :: 0x2F :: R = (body ++ [0x2A]) ++ 0x2F :: R by simp, List.take_append_of_le_length (by simp)]
    exact hp1
  have hq2 : isPrefixB [0x4D, 0x21] (body ++ 0x2A :: 0x2F :: R) = false := by
    simp only [isPrefixB, List.length_cons, List.length_nil] at hp2 ⊢
    rw [show body ++ 0x2A :: 0x2F :: R = (body ++ [0x2A, 0x2F]) ++ R by simp, List.take_append_of_le_length (by simp)]
    exact hp2
  have hidx := indexSub_starslash body R hfree
  have hdrop : List.drop (body.length + 2) (body ++ 0x2A :: 0x2F :: R) = R := by
    rw [show body ++ 0x2A :: 0x2F :: R = (body ++ [0x2A, 0x2F]) ++ R by simp, List.drop_left' (by simp)]
  have h0 : isWsByte 0x2F = false := by decide
  have h2 : (0x2F : UInt8).toNat = 0x2F ∧ startsStar (0x2A :: (body ++ 0x2A :: 0x2F :: R)) = true := ⟨by decide, by simp [startsStar]⟩
  simp only [withMainLoop, h0, Bool.false_eq_true, if_false, h2, and_self, if_true, List.drop_succ_cons, List.drop_zero, hq1, hq2,
    Bool.or_self, hidx, hdrop]
  rw [if_neg (by intro h; rcases h with h | ⟨h, _⟩ <;> exact absurd h (by decide))]

theorem withMainLoop_line (fuel depth : Nat) (closed : Bool) (c : UInt8) (pre R : Bytes)
    (hc : c.toNat = 0x23 ∨ (c.toNat = 0x2D ∧ dashComment (pre ++ 0x0A :: R) = true))
    (hpre : ∀ b ∈ pre, b.toNat ≠ 0x0A) (hcn : c.toNat ≠ 0x0A) :
    withMainLoop (fuel + 1) depth closed (c :: (pre ++ 0x0A :: R)) = withMainLoop fuel depth closed R := by
  have h0 : isWsByte c = false := by
    simp only [isWsByte, Bool.or_eq_false_iff, Bool.and_eq_false_iff, decide_eq_false_iff_not]
    rcases hc with h | h <;> omega
  have hidx := indexSub_nl (c :: pre) R (List.forall_mem_cons.mpr ⟨hcn, hpre⟩)
  simp only [List.cons_append, List.length_cons] at hidx
  have hdrop : List.drop (pre.length + 1 + 1) (c :: (pre ++ 0x0A :: R)) = R := by
    simp only [List.drop_succ_cons]
    rw [show pre ++ 0x0A :: R = (pre ++ [0x0A]) ++ R by simp, List.drop_left' (by simp)]
  simp only [withMainLoop, h0, Bool.false_eq_true, if_false, hc, if_true, hidx, hdrop]

theorem WTok.render_pos (tok : WTok) (hok : tok.ok = true) : 1 ≤ tok.render.length := by
  cases tok with
  | blank t =>
    simp only [WTok.ok, Bool.and_eq_true] at hok
    have := renderTrivia_length_ge [t] (by simpa using hok.1.1)
    simpa [renderTrivia, WTok.render] using this
  | word w =>
    simp only [WTok.ok, Bool.and_eq_true, decide_eq_true_eq] at hok
    exact List.length_pos_iff.mpr hok.1
  | _ => simp [WTok.render]

theorem withMainLoop_tok (tok : WTok) (hok : tok.ok = true) (depth : Nat) (closed : Bool) (R : Bytes) (fuel : Nat)
    (hfit : tok.fits depth closed R.head? = true) (hf : tok.render.length ≤ fuel) :
    ∃ fuel', fuel ≤ fuel' + tok.render.length ∧
      withMainLoop fuel depth closed (tok.render ++ R) =
        withMainLoop fuel' (tok.after depth closed).1 (tok.after depth closed).2 R := by
  have hpos := tok.render_pos hok
  cases tok with
  | blank t =>
    simp only [WTok.ok, Bool.and_eq_true, Bool.not_eq_true'] at hok
    obtain ⟨⟨htok, hnx⟩, hextra⟩ := hok
    cases t with
    | ws bs =>
      simp only [List.all_eq_true] at hextra
      exact ⟨fuel - bs.length, by simp only [WTok.render, Trivia.render] at hf ⊢; omega,
        withMainLoop_ws depth closed bs R fuel hextra hf⟩
    | cblock body =>
      obtain ⟨f, rfl⟩ : ∃ f, fuel = f + 1 := ⟨fuel - 1, by omega⟩
      simp only [Trivia.ok, Bool.and_eq_true] at htok
      simp only [Bool.and_eq_true, Bool.not_eq_true'] at hextra
      refine ⟨f, by omega, ?_⟩
      rw [show (WTok.blank (.cblock body)).render ++ R = 0x2F :: 0x2A :: (body ++ 0x2A :: 0x2F :: R) by
        simp [WTok.render, Trivia.render]]
      exact withMainLoop_cblock f depth closed body _ (by simpa [Trivia.ok.blockFree] using htok.1) hextra.1 hextra.2
    | cdash body =>
      obtain ⟨f, rfl⟩ : ∃ f, fuel = f + 1 := ⟨fuel - 1, by omega⟩
      simp only [Trivia.ok, Bool.and_eq_true, List.all_eq_true] at htok
      have hdc : dashComment ((0x2D :: body) ++ 0x0A :: R) = true := by
        cases body with
        | nil => simp [dashComment]
        | cons x xs =>
          have := htok.1
          simp only [isAsciiWs, Bool.and_eq_true, Bool.or_eq_true, decide_eq_true_eq] at this
          simp only [dashComment, List.cons_append, Bool.and_eq_true, decide_eq_true_eq, Bool.or_eq_true]
          exact ⟨by decide, by left; omega⟩
      refine ⟨f, by omega, ?_⟩
      rw [show (WTok.blank (.cdash body)).render ++ R = 0x2D :: ((0x2D :: body) ++ 0x0A :: R) by
        simp [WTok.render, Trivia.render]]
      exact withMainLoop_line f depth closed 0x2D (0x2D :: body) _ (Or.inr ⟨by decide, hdc⟩)
        (List.forall_mem_cons.mpr ⟨by decide, fun b hb => by simpa using htok.2 b hb⟩) (by decide)
    | chash body =>
      obtain ⟨f, rfl⟩ : ∃ f, fuel = f + 1 := ⟨fuel - 1, by omega⟩
      simp only [Trivia.ok, List.all_eq_true] at htok
      refine ⟨f, by omega, ?_⟩
      rw [show (WTok.blank (.chash body)).render ++ R = 0x23 :: (body ++ 0x0A :: R) by simp [WTok.render, Trivia.render]]
      exact withMainLoop_line f depth closed 0x23 body _ (Or.inl (by decide)) (by
        intro b hb; have := htok b hb; simpa using this) (by decide)
    | xopen v bl => simp [Trivia.isXopen] at hnx
  | word w =>
    simp only [WTok.fits, Bool.and_eq_true, Bool.or_eq_true, Bool.not_eq_true', isComma, Bool.false_eq_true, or_false] at hfit
    obtain ⟨hcl, hbd⟩ := hfit
    simp only [WTok.ok, Bool.and_eq_true, decide_eq_true_eq, List.all_eq_true] at hok
    obtain ⟨hne, hall⟩ := hok
    obtain ⟨c, w', rfl⟩ := List.exists_cons_of_ne_nil hne
    obtain ⟨f, rfl⟩ : ∃ f, fuel = f + 1 := ⟨fuel - 1, by omega⟩
    have hc := identByte_facts c (hall c (by simp))
    have hspan : spanLen isIdentByte ((c :: w') ++ R) = (c :: w').length := spanLen_word _ R hall (by
      cases R with
      | nil => simp [boundary] at hbd
      | cons n t => simpa [boundary] using hbd)
    -- in state `closed` the loop takes a word that is not AS for the main statement; `fits` makes this one AS
    have hcond : ¬ (closed = true ∧ c.toNat ≠ 0x2C ∧ isAsWord (c :: w').length (c :: (w' ++ R)) = false) := by
      intro ⟨h1, _, h3⟩
      rcases hcl with hcl | hcl
      · rw [h1] at hcl; exact absurd hcl (by simp)
      · simp only [isAsTok] at hcl
        have := isAsWord_append (c :: w') R
        simp only [List.cons_append] at this
        rw [this, hcl] at h3
        exact absurd h3 (by simp)
    refine ⟨f, by omega, ?_⟩
    simp only [WTok.render, WTok.after, List.cons_append] at hspan ⊢
    rw [withMainLoop_step f depth closed c (w' ++ R) hc.1 hc.2.1 (fun h => hc.2.2.1 h.1) (fun h => hc.2.2.2.1 h.1), hspan,
      if_neg hcond, if_pos (by simp), ← List.cons_append, List.drop_left]
  | quoted q body =>
    simp only [WTok.fits, Bool.and_eq_true, Bool.or_eq_true, Bool.not_eq_true', isComma, isAsTok, Bool.false_eq_true, or_false] at hfit
    obtain ⟨hcl, _⟩ := hfit
    simp only [WTok.ok, Bool.and_eq_true, List.all_eq_true, decide_eq_true_eq] at hok
    obtain ⟨hq, hbody⟩ := hok
    obtain ⟨f, rfl⟩ : ∃ f, fuel = f + 1 := ⟨fuel - 1, by omega⟩
    have hqf : isWsByte q = false ∧ q.toNat ≠ 0x23 ∧ q.toNat ≠ 0x2D ∧ q.toNat ≠ 0x2F ∧ isIdentByte q = false := by
      simp only [isQuoteByte, Bool.or_eq_true, decide_eq_true_eq] at hq
      simp only [isWsByte, isIdentByte, isLetter, isDigit, Bool.or_eq_false_iff, Bool.and_eq_false_iff, decide_eq_false_iff_not]
      omega
    have hspan : spanLen isIdentByte (q :: (body ++ q :: R)) = 0 := by
      simp [spanLen, List.takeWhile, hqf.2.2.2.2]
    have hnb : (List.take body.length (body ++ q :: R)).any (fun b => decide (b.toNat = 0x5C)) = false := by
      rw [List.take_left]
      simp only [List.any_eq_false, decide_eq_true_eq]
      intro b hb; exact (hbody b hb).2
    refine ⟨f, by omega, ?_⟩
    simp only [WTok.render, WTok.after, List.cons_append, List.append_assoc, List.nil_append]
    rw [withMainLoop_step f depth closed q _ hqf.1 hqf.2.1 (fun h => hqf.2.2.1 h.1) (fun h => hqf.2.2.2.1 h.1), hspan,
      if_neg (by intro ⟨h1, _⟩; rw [h1] at hcl; exact absurd hcl (by simp)), if_neg (by simp), if_pos hq]
    simp only [indexSub_byte q body R (fun b hb => (hbody b hb).1), hnb, Bool.false_eq_true, if_false]
    rw [show body ++ q :: R = (body ++ [q]) ++ R by simp, List.drop_left' (by simp)]
  | lpar =>
    simp only [WTok.fits, Bool.and_eq_true, Bool.or_eq_true, Bool.not_eq_true', isComma, isAsTok, Bool.false_eq_true, or_false] at hfit
    obtain ⟨f, rfl⟩ : ∃ f, fuel = f + 1 := ⟨fuel - 1, by omega⟩
    refine ⟨f, by omega, ?_⟩
    simp only [WTok.render, WTok.after, List.cons_append, List.nil_append]
    rw [withMainLoop_punct f depth closed 0x28 _ (by decide) (by decide) (by decide) (by decide)
      (fun h => absurd h.1 (by decide)) (fun h => absurd h.1 (by decide)) (fun h => by rw [h] at hfit; simp at hfit),
      if_pos (by decide)]
  | rpar =>
    simp only [WTok.fits, Bool.and_eq_true, Bool.not_eq_true', decide_eq_true_eq] at hfit
    obtain ⟨f, rfl⟩ : ∃ f, fuel = f + 1 := ⟨fuel - 1, by omega⟩
    refine ⟨f, by omega, ?_⟩
    simp only [WTok.render, WTok.after, List.cons_append, List.nil_append]
    rw [withMainLoop_punct f depth closed 0x29 _ (by decide) (by decide) (by decide) (by decide)
      (fun h => absurd h.1 (by decide)) (fun h => absurd h.1 (by decide)) (fun h => by rw [h] at hfit; simp at hfit),
      if_neg (by decide), if_pos (by decide), if_neg (by omega)]
  | sym b =>
    simp only [WTok.fits, Bool.and_eq_true, Bool.or_eq_true, Bool.not_eq_true', isComma, isAsTok, Bool.false_eq_true, or_false,
      decide_eq_true_eq, boundary] at hfit
    obtain ⟨hcl, hbd⟩ := hfit
    simp only [WTok.ok, Bool.and_eq_true, Bool.not_eq_true', decide_eq_true_eq] at hok
    obtain ⟨⟨⟨⟨⟨hws, hid⟩, hqb⟩, hlp⟩, hrp⟩, hhash⟩ := hok
    obtain ⟨f, rfl⟩ : ∃ f, fuel = f + 1 := ⟨fuel - 1, by omega⟩
    have hdash : ¬ (b.toNat = 0x2D ∧ dashComment R = true) := by
      intro ⟨hb, hd⟩
      have h1 := hbd.1
      rw [if_pos hb] at h1
      cases R with
      | nil => simp [dashComment] at hd
      | cons n t => simp only [dashComment, Bool.and_eq_true, decide_eq_true_eq] at hd; simp [hd.1] at h1
    have hslash : ¬ (b.toNat = 0x2F ∧ startsStar R = true) := by
      intro ⟨hb, hd⟩
      have h1 := hbd.2
      rw [if_pos hb] at h1
      cases R with
      | nil => simp [startsStar] at hd
      | cons n t => simp only [startsStar, decide_eq_true_eq] at hd; simp [hd] at h1
    refine ⟨f, by omega, ?_⟩
    simp only [WTok.render, WTok.after, List.cons_append, List.nil_append]
    rw [withMainLoop_punct f depth closed b _ hws hid hqb hhash hdash hslash
      (fun h => by rcases hcl with hcl | hcl; exact absurd h (by simp [hcl]); exact hcl), if_neg hlp, if_neg hrp]

theorem withMainLoop_toks : ∀ (toks : List WTok) (depth : Nat) (closed : Bool) (main : Bytes) (fuel : Nat),
    (∀ t ∈ toks, t.ok = true) → wfW depth closed toks = true → MainStart main →
    (renderW toks).length + 1 ≤ fuel →
    withMainLoop fuel depth closed (renderW toks ++ main) = some main := by
  intro toks
  induction toks with
  | nil =>
    intro depth closed main fuel _ hwf hm hf
    obtain ⟨f, rfl⟩ : ∃ f, fuel = f + 1 := ⟨fuel - 1, by omega⟩
    simp only [wfW, Bool.and_eq_true, beq_iff_eq] at hwf
    obtain ⟨b, t, e, hb⟩ := hm.letter
    have hl := letter_facts b hb
    have hna := hm.notAs
    simp only [renderW, List.map_nil, List.flatten_nil, List.nil_append]
    rw [e] at hna ⊢
    rw [withMainLoop_step f depth closed b t hl.2.1 hl.2.2.1 (fun h => hl.2.2.2.1 h.1) (fun h => hl.2.2.2.2.1 h.1)]
    rw [if_pos ⟨hwf.1, hl.2.2.2.2.2.1, hna⟩]
  | cons tok r ih =>
    intro depth closed main fuel hok hwf hm hf
    rw [wfW_cons, Bool.and_eq_true] at hwf
    have hrender : renderW (tok :: r) = tok.render ++ renderW r := by simp [renderW]
    rw [hrender, List.length_append] at hf
    obtain ⟨fuel', hfuel, hstep⟩ := withMainLoop_tok tok (hok tok (by simp)) depth closed (renderW r ++ main) fuel
      (fits_main depth closed tok _ main hm hwf.1) (by omega)
    rw [hrender, List.append_assoc, hstep]
    exact ih _ _ main fuel' (fun t h => hok t (by simp [h])) hwf.2 hm (by omega)

end GaeaVerif.PreviewC21
