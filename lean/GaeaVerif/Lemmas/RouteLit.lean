import GaeaVerif.Model.RouteLit
import GaeaVerif.Lemmas.InsertStoredLemmas
import GaeaVerif.Lemmas.RouteLists
/-
  Lemmas about the literals of a comparison with the sharding column
  (Model/RouteLit.lean) for Props/C01.lean: the `Lit` built for a literal the
  planner does not route by, `encodeStr` is injective, and — family by family —
  a literal that `getShardingCompareValue` hands to the rule denotes exactly an
  integer (a string) that the rule places where it places the literal.
-/
namespace GaeaVerif.RouteLit
open GaeaVerif GaeaVerif.ShardGo GaeaVerif.ShardPlace GaeaVerif.Route GaeaVerif.Insert GaeaVerif.InsertStored
  GaeaVerif.ShardLemmas

/-! ### `mkLit` / `litOf` -/

theorem mkLit_wide (fam : Fam) (ct : ColType) (q : SqlLit) (p : Option Int) (e : Bool) (h : isWide fam q = true) :
    (mkLit fam ct q p e).wide = true ∧ (mkLit fam ct q p e).place = none := by
  simp [mkLit, h]

theorem mkLit_place (fam : Fam) (ct : ColType) (q : SqlLit) (p : Option Int) (e : Bool) (i : Int)
    (h : (mkLit fam ct q p e).place = some i) :
    p = some i ∧ (mkLit fam ct q p e).rank = (den ct q).rank ∧
      (mkLit fam ct q p e).sem = (den ct q).sem ∧ (mkLit fam ct q p e).eqStart = e := by
  unfold mkLit at h ⊢
  split at h
  · cases h
  · rename_i hw
    rw [if_neg hw]
    exact ⟨h, rfl, rfl, rfl⟩

theorem litOf_place (fam : Fam) (ct : ColType) (find : Key → Out Int) (eqs : Key → Int → Bool) (q : SqlLit)
    (i : Int) (h : (litOf fam ct find eqs q).place = some i) :
    ∃ key, compareValue fam q = some key ∧ find key = .ok i ∧
      (litOf fam ct find eqs q).rank = (den ct q).rank ∧ (litOf fam ct find eqs q).sem = (den ct q).sem ∧
      (litOf fam ct find eqs q).eqStart = eqs key i := by
  -- every other branch of `litOf` builds the literal with `place := none`
  unfold litOf at h
  split at h
  · cases (mkLit_place _ _ _ _ _ _ h).1
  · rename_i key hc
    split at h
    · rename_i j hf
      have hl : litOf fam ct find eqs q = mkLit fam ct q (some j) (eqs key j) := by simp only [litOf, hc, hf]
      obtain ⟨hp, hr, hs, he⟩ := mkLit_place _ _ _ _ _ _ h
      cases hp
      rw [hl]
      exact ⟨key, hc, hf, hr, hs, he⟩
    · cases (mkLit_place _ _ _ _ _ _ h).1

/-! ### `encodeStr` -/

theorem decode_encode (s : GoStr) (hs : ∀ b ∈ s, b < 256) (fuel : Nat) (hf : s.length ≤ fuel) :
    decodeStr fuel (encodeStr s) = s := by
  induction s generalizing fuel with
  | nil => cases fuel <;> simp [encodeStr, decodeStr]
  | cons b s ih =>
    cases fuel with
    | zero => simp at hf
    | succ fuel =>
      have hb : b < 256 := hs b (by simp)
      have he : encodeStr (b :: s) = b + 1 + 257 * encodeStr s := rfl
      rw [he]
      generalize encodeStr s = e at *
      have h0 : ¬ (b + 1 + 257 * e = 0) := by omega
      have h1 : (b + 1 + 257 * e) % 257 = b + 1 := by omega
      have h2 : (b + 1 + 257 * e) / 257 = e := by omega
      simp only [decodeStr, h0, ↓reduceIte, h1, h2]
      rw [ih (fun c hc => hs c (by simp [hc])) fuel (by simpa using hf)]
      simp

theorem encodeStr_inj (s t : GoStr) (hs : ∀ b ∈ s, b < 256) (ht : ∀ b ∈ t, b < 256)
    (h : encodeStr s = encodeStr t) : s = t := by
  have h1 := decode_encode s hs (s.length + t.length) (by omega)
  have h2 := decode_encode t ht (s.length + t.length) (by omega)
  rw [h] at h1
  rw [← h1, h2]

theorem length_le_encodeStr (s : GoStr) : s.length ≤ encodeStr s := by
  induction s with
  | nil => simp [encodeStr]
  | cons b s ih => simp only [encodeStr, List.length_cons]; omega

/-- the string an encoded value stands for -/
def decode (x : Int) : GoStr := decodeStr x.toNat x.toNat

theorem decode_encodeStr (s : GoStr) (hs : ∀ b ∈ s, b < 256) : decode (encodeStr s : Nat) = s := by
  unfold decode
  simp only [Int.toNat_natCast]
  exact decode_encode s hs _ (length_le_encodeStr s)

/-! ### `compareValue` -/

theorem compareValue_str (fam : Fam) (s : GoStr) :
    compareValue fam (.str s) = if fam.stringTest s then none else some (.str s) := by
  cases fam <;> rfl

theorem compareValue_some {fam : Fam} {q : SqlLit} {key : Key} (h : compareValue fam q = some key) :
    (∃ v, q = .int v ∧ key = .int64 v) ∨ (∃ v, q = .uint v ∧ key = .uint64 v) ∨
      ∃ s, q = .str s ∧ key = .str s ∧ fam.stringTest s = false := by
  cases q with
  | int v => cases h; exact .inl ⟨v, rfl, rfl⟩
  | uint v => cases h; exact .inr (.inl ⟨v, rfl, rfl⟩)
  | str s =>
    rw [compareValue_str] at h
    split at h <;> cases h
    rename_i hs
    exact .inr (.inr ⟨s, rfl, rfl, by simpa using hs⟩)
  | _ => cases h

/-! ### where a rule places the value a literal denotes

`Placed fam ct find pv q`: if `getShardingCompareValue` hands the literal `q` to
the rule and the rule answers `i`, then `q` denotes exactly a value `v` of the
column, and rows holding `v` live in table `i` (`pv v = i`). -/

def Placed (fam : Fam) (ct : ColType) (find : Key → Out Int) (pv : Int → Int) (q : SqlLit) : Prop :=
  ∀ key i, compareValue fam q = some key → find key = .ok i →
    ∃ v, (den ct q).rank = some v ∧ (den ct q).sem = .exact ∧ pv v = i

/-- the table an outcome names (`-1`: no table) -/
def outIdx : Out Int → Int
  | .ok i => i
  | _ => -1

/-- rules that read the key through `NumValue` (mod, range, mycat_long): the
    table of a row of an integer column holding `v` (an int64, or a uint64
    the rule reads as the int64 with the same bits) -/
def pvNum (f : Int → Out Int) (v : Int) : Int := outIdx (f (wrap64 v))

theorem den_int_str (s : GoStr) (n : Int) (h : mysqlInt s = some n) : den .int (.str s) = { rank := some n } := by
  simp [den, strNum, h]

theorem num_den (q : SqlLit) (hq : q.wf) (key : Key) (v : Int) (hc : compareValue .num q = some key)
    (hv : NumValue key = .ok v) : ∃ w, den .int q = { rank := some w } ∧ wrap64 w = v ∧ (0 ≤ v → w = v) := by
  rcases compareValue_some hc with ⟨w, rfl, rfl⟩ | ⟨u, rfl, rfl⟩ | ⟨s, rfl, rfl, hs⟩
  · cases hv
    simp only [SqlLit.wf] at hq
    exact ⟨v, rfl, wrap64_id v (by omega), fun _ => rfl⟩
  · simp only [NumValue, u64ToI64, Out.ok.injEq] at hv
    subst hv
    simp only [SqlLit.wf] at hq
    exact ⟨u, rfl, rfl, fun h0 => by unfold wrap64 at h0 ⊢; omega⟩
  · simp only [NumValue] at hv
    split at hv <;> cases hv
    rename_i hp
    exact ⟨v, den_int_str s v (mysqlInt_of_parseInt64 s v hp), wrap64_id v (parseInt64_some s v hp).2,
      fun _ => rfl⟩

theorem num_placed (f : Int → Out Int) (q : SqlLit) (hq : q.wf) : Placed .num .int (viaNum f) (pvNum f) q := by
  intro key i hc hf
  unfold viaNum at hf
  split at hf
  · rename_i v hv
    obtain ⟨w, hd, hw, _⟩ := num_den q hq key v hc hv
    exact ⟨w, by rw [hd], by rw [hd], by rw [pvNum, hw, hf]; rfl⟩
  · cases hf
  · cases hf

theorem num_rank (q : SqlLit) (hq : q.wf) (key : Key) (v : Int) (hc : compareValue .num q = some key)
    (hv : NumValue key = .ok v) (h0 : 0 ≤ v) : (den .int q).rank = some v ∧ (den .int q).sem = .exact := by
  obtain ⟨w, hd, _, hw⟩ := num_den q hq key v hc hv
  rw [hd, hw h0]
  exact ⟨rfl, rfl⟩

/-- mycat_mod (`big.Int.SetString` of `GetString(key)`): the table of the integer `v` -/
def pvBig (g : Int → Out Int) (v : Int) : Int := outIdx (g v)

/-- the placement function of a rule that reads the key as a big integer -/
def viaBig (g : Int → Out Int) : Key → Out Int :=
  viaStr fun s => match parseBigDec s with
    | some n => g n
    | none => .err .keyPanic

theorem big_placed (g : Int → Out Int) (q : SqlLit) : Placed .big .int (viaBig g) (pvBig g) q := by
  intro key i hc hf
  rcases compareValue_some hc with ⟨v, rfl, rfl⟩ | ⟨v, rfl, rfl⟩ | ⟨s, rfl, rfl, hs⟩
  · simp only [viaBig, viaStr, GetString, parseBigDec_fmtInt] at hf
    exact ⟨v, rfl, rfl, by rw [pvBig, hf]; rfl⟩
  · simp only [viaBig, viaStr, GetString, parseBigDec_fmtNat] at hf
    exact ⟨v, rfl, rfl, by rw [pvBig, hf]; rfl⟩
  · simp only [viaBig, viaStr, GetString] at hf
    split at hf
    · rename_i n hp
      rw [den_int_str s n (mysqlInt_of_parseBigDec s n hp)]
      exact ⟨n, rfl, rfl, by rw [pvBig, hf]; rfl⟩
    · cases hf

/-- the kingshard `hash` rule: the table of a row of an integer column holding `v` -/
def pvHash (n : Nat) (v : Int) : Int := ((v % 2 ^ 64).toNat % n : Nat)

/-- A string MySQL does not read as a number (`looksLikeNumber s = false`) is
    placed by the CRC32 of its text; it is compared with an integer column only
    with the warning "Truncated incorrect DOUBLE value": the hypothesis `hnum`
    excludes it. -/
theorem ksHash_placed_int (n : Nat) (hn : n ≠ 0) (q : SqlLit) (hq : q.wf)
    (hnum : ∀ s, q = .str s → looksLikeNumber s = true) :
    Placed .hash .int (HashShard.FindForKey n) (pvHash n) q := by
  intro key i hc hf
  rcases compareValue_some hc with ⟨v, rfl, rfl⟩ | ⟨v, rfl, rfl⟩ | ⟨s, rfl, rfl, hs⟩
  · simp only [HashShard.FindForKey, HashValue, hn, ↓reduceIte, Out.ok.injEq] at hf
    exact ⟨v, rfl, rfl, hf⟩
  · simp only [HashShard.FindForKey, HashValue, hn, ↓reduceIte, Out.ok.injEq] at hf
    simp only [SqlLit.wf] at hq
    refine ⟨v, rfl, rfl, ?_⟩
    have : ((v : Int) % 2 ^ 64).toNat = v := by omega
    rw [pvHash, this]; exact hf
  · -- a string MySQL reads as a number passes the test only if `strconv.ParseUint` reads it
    simp only [Fam.stringTest, hnum s rfl, Bool.and_true, Option.isNone_eq_false_iff, Option.isSome_iff_exists] at hs
    obtain ⟨m, hp⟩ := hs
    simp only [HashShard.FindForKey, HashValue, hp, hn, ↓reduceIte, Out.ok.injEq] at hf
    obtain ⟨hu, hlt⟩ := parseUint64_some s m hp
    rw [den_int_str s m (mysqlInt_of_parseUDec s m hu)]
    refine ⟨m, rfl, rfl, ?_⟩
    have : ((m : Int) % 2 ^ 64).toNat = m := by omega
    rw [pvHash, this]; exact hf

/-- a string column: the table of a row holding the string encoded as `x`, for
    any placement function -/
def pvStrCol (find : Key → Out Int) (x : Int) : Int := outIdx (find (.str (decode x)))

/-- Integer literals are compared with a string column by converting every
    *row* to a number (a row `'007'` equals 7): the hypothesis `hstr` excludes
    them. -/
theorem strcol_placed (fam : Fam) (find : Key → Out Int) (q : SqlLit) (hq : q.wf)
    (hstr : (∀ v, q ≠ .int v) ∧ (∀ v, q ≠ .uint v)) :
    Placed fam .str find (pvStrCol find) q := by
  intro key i hc hf
  rcases compareValue_some hc with ⟨v, rfl, rfl⟩ | ⟨v, rfl, rfl⟩ | ⟨s, rfl, rfl, -⟩
  · exact absurd rfl (hstr.1 v)
  · exact absurd rfl (hstr.2 v)
  · refine ⟨(encodeStr s : Nat), rfl, rfl, ?_⟩
    rw [pvStrCol, decode_encodeStr s hq, hf]; rfl

/-- mycat_string / mycat_murmur (`GetString(key)` is hashed): the table of a row
    of an integer column holding `v` -/
def pvText (f : GoStr → Out Int) (v : Int) : Int := outIdx (f (fmtInt v))

/-- **Rules that hash the text of the key, integer column.**  FULL STATEMENT,
    NOT TRUE: `∀ f q, q.wf → Placed .text .int (viaStr f) (pvText f) q`
    (`mycat_text_numeric_string_witness` in Props/C01.lean: `'007'` is hashed as
    another text than 7; known finding `mycat-numeric-string-routed-as-text`).
    Proved: integer literals, and string literals that are the decimal spelling
    of the integer MySQL reads from them. -/
theorem text_placed_int_partial (f : GoStr → Out Int) (q : SqlLit)
    (hcanon : ∀ s, q = .str s → ∃ n, mysqlInt s = some n ∧ s = fmtInt n) :
    Placed .text .int (viaStr f) (pvText f) q := by
  intro key i hc hf
  rcases compareValue_some hc with ⟨v, rfl, rfl⟩ | ⟨v, rfl, rfl⟩ | ⟨s, rfl, rfl, -⟩
  · simp only [viaStr, GetString] at hf
    exact ⟨v, rfl, rfl, by rw [pvText, hf]; rfl⟩
  · simp only [viaStr, GetString] at hf
    exact ⟨v, rfl, rfl, by rw [pvText, ShardLemmas.fmtInt_natCast, hf]; rfl⟩
  · obtain ⟨n, hm, hs⟩ := hcanon s rfl
    simp only [viaStr, GetString] at hf
    rw [den_int_str s n hm]
    exact ⟨n, rfl, rfl, by rw [pvText, ← hs, hf]; rfl⟩

theorem wide_kinds (fam : Fam) (q : SqlLit)
    (h : (∃ b, q = .hex b) ∨ (∃ b, q = .bit b) ∨ (∃ d s, q = .dec d s) ∨ (∃ b, q = .float b) ∨ q = .null) :
    isWide fam q = true := by
  rcases h with ⟨b, rfl⟩ | ⟨b, rfl⟩ | ⟨d, s, rfl⟩ | ⟨b, rfl⟩ | rfl <;> rfl

/-- strings the `hash` rule does not read as MySQL does are not routed by -/
theorem wide_hash_numeric_text (s : GoStr) (h1 : parseUint64 s = none) (h2 : looksLikeNumber s = true) :
    isWide .hash (.str s) = true := by
  simp [isWide, compareValue, h1, h2]

/-- strings an integer rule does not read are not routed by -/
theorem wide_num_unread (s : GoStr) (h : parseInt64 s = none) : isWide .num (.str s) = true := by
  simp [isWide, compareValue, h]

theorem wide_big_unread (s : GoStr) (h : parseBigDec s = none) : isWide .big (.str s) = true := by
  simp [isWide, compareValue, h]

end GaeaVerif.RouteLit
