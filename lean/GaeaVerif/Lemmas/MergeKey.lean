import GaeaVerif.Model.Merge
import GaeaVerif.Lemmas.Decimal
import GaeaVerif.Lemmas.SplitOn
/-
  C02 helper lemmas: the re-encoded group / distinct map key is injective; the
  texts `formatValue` produces for BIGINT and DECIMAL values
  (`decimal.Decimal.StringFixed(scale)`) determine the value among the values of
  one column type, and their length is bounded.
-/
namespace GaeaVerif.Merge

/-- what the key keeps of a column: NULL or the text of the value -/
def keyText : Val → Option (List UInt8)
  | .null => none
  | v => some (formatValue v)

/-- Go strings are shorter than 2^64 bytes -/
def ShortText (v : Val) : Prop := (formatValue v).length < 256 ^ 8

theorem encKey_ne_nil (v : Val) : encKey v ≠ [] := by
  cases v <;> simp [encKey]

theorem encKey_of_ne_null {v : Val} (hv : v ≠ .null) :
    encKey v = 1 :: (leBytes (formatValue v).length 8 ++ formatValue v) ∧ keyText v = some (formatValue v) := by
  cases v <;> first | exact absurd rfl hv | exact ⟨rfl, rfl⟩

/-- the tag byte tells NULL from a value, the length field where the text ends -/
theorem encKey_append_inj (v w : Val) (sv : ShortText v) (sw : ShortText w) (r r' : List UInt8)
    (h : encKey v ++ r = encKey w ++ r') : keyText v = keyText w ∧ r = r' := by
  by_cases hv : v = .null <;> by_cases hw : w = .null
  · subst hv hw
    exact ⟨rfl, by simpa [encKey] using h⟩
  · subst hv
    rw [(encKey_of_ne_null hw).1] at h
    exact absurd (List.cons.inj h).1 (by decide)
  · subst hw
    rw [(encKey_of_ne_null hv).1] at h
    exact absurd (List.cons.inj h).1 (by decide)
  · obtain ⟨ev, kv⟩ := encKey_of_ne_null hv
    obtain ⟨ew, kw⟩ := encKey_of_ne_null hw
    rw [ev, ew] at h
    simp only [List.cons_append, List.cons.injEq, true_and, List.append_assoc] at h
    have h1 := List.append_inj h (by rw [leBytes_length, leBytes_length])
    have hlen : (formatValue v).length = (formatValue w).length := by
      have := congrArg leNat h1.1
      rwa [leNat_leBytes 8 _ sv, leNat_leBytes 8 _ sw] at this
    obtain ⟨e, hr⟩ := List.append_inj h1.2 hlen
    exact ⟨by rw [kv, kw, e], hr⟩

theorem generateMapKey_inj : ∀ (k1 k2 : List Val), (∀ v ∈ k1, ShortText v) → (∀ v ∈ k2, ShortText v) →
    generateMapKey k1 = generateMapKey k2 → k1.map keyText = k2.map keyText
  | [], [], _, _, _ => rfl
  | [], w :: ws, _, _, h => by simp [generateMapKey, encKey_ne_nil] at h
  | v :: vs, [], _, _, h => by simp [generateMapKey, encKey_ne_nil] at h
  | v :: vs, w :: ws, s1, s2, h => by
    simp only [generateMapKey, List.flatMap_cons] at h
    obtain ⟨e, hr⟩ := encKey_append_inj v w (s1 v List.mem_cons_self) (s2 w List.mem_cons_self) _ _ h
    rw [List.map_cons, List.map_cons, e, generateMapKey_inj vs ws (fun x hx => s1 x (List.mem_cons_of_mem _ hx))
      (fun x hx => s2 x (List.mem_cons_of_mem _ hx)) hr]

/-- `hinj` holds when the values of a column have one type (`C02.keyText_inj_of_conforms`) -/
theorem generateMapKey_inj_of_text_inj (k1 k2 : List Val)
    (s1 : ∀ v ∈ k1, ShortText v) (s2 : ∀ v ∈ k2, ShortText v)
    (hinj : ∀ p ∈ k1.zip k2, keyText p.1 = keyText p.2 → p.1 = p.2)
    (h : generateMapKey k1 = generateMapKey k2) : k1 = k2 := by
  have hm := generateMapKey_inj k1 k2 s1 s2 h
  have hlen : k1.length = k2.length := by simpa using congrArg List.length hm
  clear h s1 s2
  induction k1 generalizing k2 with
  | nil => cases k2 <;> simp_all
  | cons v vs ih =>
    cases k2 with
    | nil => simp at hlen
    | cons w ws =>
      simp only [List.map_cons, List.cons.injEq] at hm
      have e := hinj (v, w) (by simp) hm.1
      simp only at e
      subst e
      rw [ih ws (fun p hp => hinj p (by simp [hp])) hm.2 (by simpa using hlen)]

theorem dk_map_inj_on {α β : Type} (f : α → β) : ∀ (l1 l2 : List α),
    (∀ a ∈ l1, ∀ b ∈ l2, f a = f b → a = b) → l1.map f = l2.map f → l1 = l2
  | [], [], _, _ => rfl
  | [], _ :: _, _, h => by simp at h
  | _ :: _, [], _, h => by simp at h
  | a :: l1, b :: l2, hinj, h => by
    simp only [List.map_cons, List.cons.injEq] at h
    rw [hinj a (by simp) b (by simp) h.1,
      dk_map_inj_on f l1 l2 (fun x hx y hy => hinj x (by simp [hx]) y (by simp [hy])) h.2]

/-! ### the texts of numbers -/

theorem val_digitsOf (n : Nat) : Dec.val (·.toNat - 48) (digitsOf n) = n :=
  Dec.val_map_toDigits (fun k hk => by rw [Dec.toNat_byte_digitChar hk, Nat.add_sub_cancel_left]) n

theorem val_padLeft (s : Nat) (l : List UInt8) : Dec.val (·.toNat - 48) (padLeft s l) = Dec.val (·.toNat - 48) l :=
  Dec.val_replicate_append (d := fun b : UInt8 => b.toNat - 48) (z := 48) rfl _ l

theorem digitsOf_inj (n m : Nat) (h : digitsOf n = digitsOf m) : n = m := by
  rw [← val_digitsOf n, h, val_digitsOf]

theorem digitsOf_digit (n : Nat) : ∀ b ∈ digitsOf n, 48 ≤ b.toNat ∧ b.toNat ≤ 57 := by
  intro b hb
  obtain ⟨k, hk, rfl⟩ := Dec.mem_map_toDigits hb
  rw [Dec.toNat_byte_digitChar hk]; omega

theorem digitsOf_ne_nil (n : Nat) : digitsOf n ≠ [] :=
  fun h => Nat.toDigits_ne_nil (List.map_eq_nil_iff.mp h)

/-- the text without the sign -/
def decBody (a scale : Nat) : List UInt8 :=
  if scale = 0 then digitsOf a
  else digitsOf (a / 10 ^ scale) ++ [46] ++ padLeft scale (digitsOf (a % 10 ^ scale))

theorem decText_eq (u : Int) (scale : Nat) :
    decText u scale = (if u < 0 then [45] else []) ++ decBody u.natAbs scale := by
  simp only [decText, decBody]
  split <;> simp [List.append_assoc]

theorem decBody_head (a scale : Nat) : ∃ b rest, decBody a scale = b :: rest ∧ 48 ≤ b.toNat := by
  simp only [decBody]
  split
  · cases h : digitsOf a with
    | nil => exact absurd h (digitsOf_ne_nil a)
    | cons b rest => exact ⟨b, rest, rfl, (digitsOf_digit a b (by rw [h]; simp)).1⟩
  · cases h : digitsOf (a / 10 ^ scale) with
    | nil => exact absurd h (digitsOf_ne_nil _)
    | cons b rest =>
      exact ⟨b, rest ++ [46] ++ padLeft scale (digitsOf (a % 10 ^ scale)), by simp,
        (digitsOf_digit _ b (by rw [h]; simp)).1⟩

theorem decBody_inj (a b scale : Nat) (h : decBody a scale = decBody b scale) : a = b := by
  simp only [decBody] at h
  split at h
  · exact digitsOf_inj a b h
  · rename_i hs
    simp only [List.append_assoc, List.singleton_append] at h
    have hno : ∀ n, ∀ b ∈ digitsOf n, b ≠ 46 := by
      rintro n b hb rfl
      have := (digitsOf_digit n 46 hb).1
      revert this; decide
    -- both sides are cut at their first `.`
    have hc := congrArg (Split.cut 46) h
    rw [Split.cut_some (hno _), Split.cut_some (hno _)] at hc
    obtain ⟨h1, h2⟩ := Prod.mk.inj (Option.some.inj hc)
    have hq := digitsOf_inj _ _ h1
    have hm := congrArg (Dec.val (·.toNat - 48)) h2
    rw [val_padLeft, val_padLeft, val_digitsOf, val_digitsOf] at hm
    rw [← Nat.div_add_mod a (10 ^ scale), ← Nat.div_add_mod b (10 ^ scale), hq, hm]

/-- **the DECIMAL text determines the value** among the values of one scale -/
theorem decText_inj (u u' : Int) (scale : Nat) (h : decText u scale = decText u' scale) : u = u' := by
  rw [decText_eq, decText_eq] at h
  obtain ⟨b, rest, hb, hb48⟩ := decBody_head u.natAbs scale
  obtain ⟨b', rest', hb', hb48'⟩ := decBody_head u'.natAbs scale
  by_cases hu : u < 0 <;> by_cases hu' : u' < 0
  · simp only [hu, hu', if_true, List.cons_append, List.nil_append, List.cons.injEq, true_and] at h
    have := decBody_inj _ _ _ h
    omega
  · simp only [hu, hu', if_true, if_false, List.cons_append, List.nil_append] at h
    rw [hb'] at h
    simp only [List.cons.injEq] at h
    have : b'.toNat = 45 := by rw [← h.1]; decide
    omega
  · simp only [hu, hu', if_true, if_false, List.cons_append, List.nil_append] at h
    rw [hb] at h
    simp only [List.cons.injEq] at h
    have : b.toNat = 45 := by rw [h.1]; decide
    omega
  · simp only [hu, hu', if_false, List.nil_append] at h
    have := decBody_inj _ _ _ h
    omega

theorem digitsOf_length_le (n k : Nat) (h : n < 10 ^ k) (hk : 0 < k) : (digitsOf n).length ≤ k := by
  rw [digitsOf, List.length_map]; exact Dec.length_toDigits_le hk h

/-- the DECIMAL text of a value with at most 65 digits and a scale of at most 30 (MySQL's limits) is short -/
theorem decText_length (u : Int) (scale : Nat) (hu : u.natAbs < 10 ^ 65) (hs : scale ≤ 30) :
    (decText u scale).length ≤ 200 := by
  rw [decText_eq]
  have h1 : (if u < 0 then ([45] : List UInt8) else []).length ≤ 1 := by split <;> simp
  have hd : ∀ n, n ≤ u.natAbs → (digitsOf n).length ≤ 65 := by
    intro n hn
    exact digitsOf_length_le n 65 (by omega) (by decide)
  have h2 : (decBody u.natAbs scale).length ≤ 65 + 1 + (30 + 65) := by
    simp only [decBody]
    split
    · have := hd u.natAbs (Nat.le_refl _); omega
    · simp only [List.length_append, List.length_singleton, padLeft, List.length_replicate]
      have a1 := hd (u.natAbs / 10 ^ scale) (Nat.div_le_self _ _)
      have a2 := hd (u.natAbs % 10 ^ scale) (Nat.mod_le _ _)
      omega
  simp only [List.length_append]
  omega

theorem intText_eq_decText (i : Int) : intText i = decText i 0 := by
  simp only [intText, decText, if_true]
  split <;> rfl

theorem intText_inj (i j : Int) (h : intText i = intText j) : i = j :=
  decText_inj i j 0 (by rwa [intText_eq_decText, intText_eq_decText] at h)

end GaeaVerif.Merge
