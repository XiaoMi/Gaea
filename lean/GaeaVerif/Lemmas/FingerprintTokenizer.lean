import GaeaVerif.Model.Fingerprint
import GaeaVerif.Model.FingerprintGrammar
/-
  The tokenizer that the `GetFingerprint` state machine implements on the
  statements of Model/FingerprintGrammar.lean, written as a relation on the
  text alone: `A` says where the tokenizer is (what it has written, which word
  it copied last, what it is in the middle of), `AStep` what one character
  does, `ARun` what a piece of text does.  Neither offsets, the buffer nor the
  variables of the Go function occur; Lemmas/FingerprintSteps.lean shows that
  the state machine follows every rule (`sim_step`).  The last part reads the
  grammar with the rules (`run_…`, `core_run`): every token class leads from a
  state between tokens to such a state and writes its normal form.

  The namespace is `GaeaVerif.FingerprintSteps`, that of Lemmas/FingerprintSteps.lean:
  the relation and its simulation are one theory, in two files because this
  half does not mention the state machine.  Here `run_x` is the `ARun` of the
  grammar's `x`; there `run` is `Fingerprint.run`, the loop of the Go function.
-/
namespace GaeaVerif.FingerprintSteps
open GaeaVerif.Fingerprint GaeaVerif.FingerprintGrammar

/-! ### Characters, word text and gaps -/

theorem isSpace_cases {c : Char} (h : isSpace c = true) :
    c = ' ' ∨ c = '\t' ∨ c = '\r' ∨ c = '\n' ∨ c = Char.ofNat 11 ∨ c = Char.ofNat 12 := by
  simp only [isSpace, Bool.or_eq_true, decide_eq_true_eq] at h
  rcases h with ((((h | h) | h) | h) | h) | h <;> simp [h]

theorem isSpace_facts {r : Char} (hr : isSpace r = true) :
    isDigit r = false ∧ isNumberChar r = false ∧ isNotNumberChar r = false ∧ r ≠ '\'' ∧ r ≠ '"' ∧ r ≠ '+' := by
  rcases isSpace_cases hr with h | h | h | h | h | h <;> subst h <;> decide

theorem isSpace_of_not_bad {c : Char} (h : wordBad c = false) : isSpace c = false := by
  simp only [wordBad, Bool.or_eq_false_iff] at h
  exact h.1.1.1.1.1.1.1

theorem chainOK_notBad : ∀ (a : Char) (rest : List Char), chainOK a rest = true →
    ∀ x ∈ rest, wordBad x = false := by
  intro a rest
  induction rest generalizing a with
  | nil => intro _ x hx; cases hx
  | cons b r ih =>
    intro h x hx
    simp only [chainOK, Bool.and_eq_true] at h
    rcases List.mem_cons.mp hx with hx | hx
    · subst hx
      have := h.1
      simp only [okAfter, Bool.and_eq_true, Bool.not_eq_true'] at this
      exact this.1.1.1
    · exact ih b h.2 x hx

theorem wordShape_first {c : Char} {r : List Char} (h : wordShape (c :: r) = true) : okFirst c = true := by
  simp only [wordShape, Bool.and_eq_true] at h; exact h.1.1

theorem wordShape_notBad {w : List Char} (h : wordShape w = true) : ∀ x ∈ w, wordBad x = false := by
  cases w with
  | nil => simp [wordShape] at h
  | cons c r =>
    have hfirst := wordShape_first h
    simp only [wordShape, Bool.and_eq_true] at h
    simp only [okFirst, Bool.and_eq_true, Bool.not_eq_true'] at hfirst
    intro x hx
    rcases List.mem_cons.mp hx with hx | hx
    · rw [hx]; exact hfirst.1.1
    · exact chainOK_notBad c r h.1.2 x hx

theorem litAfter_false {a : Char} (h : litAfter a = false) : a ≠ ',' ∧ a ≠ '(' ∧ isOpChar a = false := by
  simp only [litAfter, Bool.or_eq_false_iff, decide_eq_false_iff_not] at h
  exact ⟨h.1.1, h.1.2, h.2⟩

theorem litAfter_of_op {a : Char} (h : isOpChar a = true) : litAfter a = true := by
  simp [litAfter, h]

theorem litAfter_cases {a : Char} (h : litAfter a = true) : isOpChar a = true ∨ (isOpChar a = false ∧ (a = '(' ∨ a = ',')) := by
  by_cases ho : isOpChar a = true
  · exact Or.inl ho
  · right
    have ho' : isOpChar a = false := by simpa using ho
    simp only [litAfter, ho', Bool.or_false, Bool.or_eq_true, decide_eq_true_eq] at h
    exact ⟨ho', h.symm⟩

theorem toLower_cases (c : Char) :
    c.toLower = c ∨ (65 ≤ c.val.toNat ∧ c.val.toNat ≤ 90 ∧ c.toLower.val.toNat = c.val.toNat + 32) := by
  unfold Char.toLower
  split
  · rename_i h
    have h1 := UInt32.le_iff_toNat_le.mp h.1
    have h2 := UInt32.le_iff_toNat_le.mp h.2
    have e1 : ('a'.val - 'A'.val).toNat = 32 := by decide
    have e2 : 'A'.val.toNat = 65 := by decide
    have e3 : 'Z'.val.toNat = 90 := by decide
    refine .inr ⟨by omega, by omega, ?_⟩
    simp only [UInt32.toNat_add, e1]; omega
  · exact .inl rfl

theorem toLower_ne (c x : Char) (hx : x.val.toNat < 65) (hc : c ≠ x) : c.toLower ≠ x := by
  rcases toLower_cases c with h | ⟨_, _, h⟩
  · rwa [h]
  · intro e; rw [e] at h; omega

theorem toLower_space (c : Char) (h : isSpace c = false) : isSpace c.toLower = false := by
  simp only [isSpace, Bool.or_eq_false_iff, decide_eq_false_iff_not] at h ⊢
  obtain ⟨⟨⟨⟨⟨h1, h2⟩, h3⟩, h4⟩, h5⟩, h6⟩ := h
  exact ⟨⟨⟨⟨⟨toLower_ne c ' ' (by decide) h1, toLower_ne c '\t' (by decide) h2⟩, toLower_ne c '\r' (by decide) h3⟩,
    toLower_ne c '\n' (by decide) h4⟩, toLower_ne c (Char.ofNat 11) (by decide) h5⟩,
    toLower_ne c (Char.ofNat 12) (by decide) h6⟩

theorem isValuesWord_lower (w : List Char) : isValuesWord (lower w) = isValuesWord w := by
  have : lower (lower w) = lower w := by
    simp only [lower, List.map_map]
    apply List.map_congr_left
    intro c _
    rcases toLower_cases c with h | ⟨_, _, h⟩
    · simp [h]
    · rcases toLower_cases c.toLower with h' | ⟨_, h', _⟩
      · exact h'
      · omega
  simp [isValuesWord, this]

theorem length_lower (w : List Char) : (lower w).length = w.length := by simp [lower]

theorem segsText_cons (x : Seg) (l : List Seg) : segsText (x :: l) = x.text ++ segsText l := by
  simp [segsText]

theorem segsNorm_cons (x : Seg) (l : List Seg) : segsNorm (x :: l) = x.norm ++ segsNorm l := by
  simp [segsNorm]

theorem gapText_ws : ∀ (g : Gap), wsGap g = true → (gapText g).all isSpace = true := by
  intro g
  induction g with
  | nil => intro _; rfl
  | cons p rest ih =>
    intro h
    simp only [wsGap, gapOK, gapIsWs, List.all_cons, Bool.and_eq_true] at h ih
    cases p with
    | ws c =>
      simp only [gapText, List.flatMap_cons, SepPiece.text, List.cons_append, List.nil_append, List.all_cons,
        Bool.and_eq_true]
      exact ⟨by simpa [SepPiece.ok] using h.1.1, ih ⟨h.1.2, h.2.2⟩⟩
    | mlc _ | dash _ _ | hash _ => simp [SepPiece.isWs] at h

theorem parenOK_at (w : List Char) (h : parenOK w = true) (k : Nat) (hk : w[k]? = some '(') :
    isValuesWord (w.take k) = false := by
  have hlt : k < w.length := by
    rcases Nat.lt_or_ge k w.length with h' | h'
    · exact h'
    · rw [List.getElem?_eq_none h'] at hk; cases hk
  unfold parenOK at h
  rw [List.all_eq_true] at h
  have := h k (List.mem_range.mpr hlt)
  simpa [hk] using this

theorem wordCtx_val {prev w : List Char} (h : wordCtx prev w = true) : isValuesWord (lower w) = false := by
  simp only [wordCtx, Bool.and_eq_true, Bool.not_eq_true'] at h
  exact h.1.2

theorem wordCtx_call {prev w : List Char} (h : wordCtx prev w = true) (hm : '(' ∈ w) : prev ≠ kwCall := by
  simp only [wordCtx, Bool.and_eq_true, Bool.not_eq_true', Bool.and_eq_false_iff, decide_eq_false_iff_not] at h
  exact h.2.resolve_left (by simp [hm])

theorem numTail_of_digit (p d : Char) (r : List Char) (hd : isDigit d = true) (h : numTail d r = true) :
    numTail p (d :: r) = true := by
  have hne : ¬ (d = '-' ∨ d = '+') := by
    intro h'; rcases h' with h' | h' <;> subst h' <;> revert hd <;> decide
  unfold numTail
  rw [if_neg hne]
  simp [isNumberChar, hd, h]

theorem closesAt_skip (c : Char) : ∀ (body : List Char) (esc : Bool), closesAt c esc body = true →
    skipQuoted c esc body = some [] := by
  intro body
  induction body with
  | nil => intro esc h; simp [closesAt] at h
  | cons x rest ih =>
    intro esc h
    unfold closesAt at h
    unfold skipQuoted
    by_cases hx : x = c
    · subst hx
      simp only [ne_eq, not_true_eq_false, if_false] at h ⊢
      cases esc with
      | true => exact ih false (by simpa using h)
      | false =>
        simp only [Bool.false_eq_true, if_false] at h ⊢
        cases rest with
        | nil => rfl
        | cons y rest2 =>
          simp only at h ⊢
          by_cases hy : y = x
          · rw [if_pos hy] at h ⊢; exact ih true h
          · rw [if_neg hy] at h; cases h
    · simp only [ne_eq, hx, not_false_eq_true, if_true] at h ⊢
      cases esc with
      | true => exact ih false (by simpa using h)
      | false =>
        simp only [Bool.false_eq_true, if_false] at h ⊢
        by_cases hb : x = '\\'
        · simp only [hb, if_true] at h ⊢; exact ih true h
        · simp only [hb, if_false] at h ⊢; exact ih false h

/-- What `AStep.numEnd` asks of the character behind a number, and `run_strBody` of the one behind a string. -/
theorem after_lit_head (rest : List Seg) (r : Char) (tail : List Char) (hr : isSpace r = true)
    (hok : segsOK .afterLit rest = true) :
    ∃ c xs, segsText rest ++ r :: tail = c :: xs ∧ isNumberChar c = false ∧ isNotNumberChar c = false ∧
      c ≠ '+' ∧ c ≠ '\'' ∧ c ≠ '"' := by
  cases rest with
  | nil =>
    obtain ⟨_, h1, h2, h3, h4, h5⟩ := isSpace_facts hr
    exact ⟨r, tail, by simp [segsText], h1, h2, h5, h3, h4⟩
  | cons x rest' =>
    cases x with
    | w t =>
      cases t with
      | nil => simp [segsOK, wordShape] at hok
      | cons c t' =>
        simp only [segsOK, Bool.and_eq_true, notNumberish, Bool.not_eq_true'] at hok
        obtain ⟨⟨hnn, hws⟩, _⟩ := hok
        simp only [wordShape, Bool.and_eq_true, okFirst, wordBad, Bool.not_eq_true', Bool.or_eq_false_iff,
          decide_eq_false_iff_not] at hws
        obtain ⟨⟨⟨⟨hbad, _⟩, _⟩, _⟩, _⟩ := hws
        obtain ⟨⟨⟨⟨⟨⟨⟨_, hq1⟩, hq2⟩, _⟩, hpl⟩, _⟩, _⟩, _⟩ := hbad
        exact ⟨c, t' ++ segsText rest' ++ r :: tail, by simp [segsText, Seg.text], hnn.1, hnn.2, hpl, hq1, hq2⟩
    | n _ | s _ | p _ _ => simp [segsOK] at hok

theorem after_lit_quote {u : List Char} {rest : List Seg} {r : Char} {tail : List Char} (hss : strShape u = true)
    (hr : isSpace r = true) (hokr : segsOK .afterLit rest = true) :
    ∀ c body, u = c :: body → (segsText rest ++ r :: tail).head? ≠ some c := by
  intro c body hu
  obtain ⟨cc, xs, hcx, _, _, _, hnq1, hnq2⟩ := after_lit_head rest r tail hr hokr
  subst hu
  simp only [strShape, Bool.and_eq_true, Bool.or_eq_true, decide_eq_true_eq] at hss
  rw [hcx]
  rcases hss.1 with h | h <;> subst h <;> simp [hnq1, hnq2]

def isLit : Seg → Bool
  | .w _ => false
  | _ => true

theorem lit_facts {x : Seg} (hx : isLit x = true) :
    x.norm = ['?'] ∧ (∀ prev rest, segsPrev prev (x :: rest) = segsPrev prev rest) ∧
      (∀ prev d rest, segsDupe prev d (x :: rest) = segsDupe prev d rest) ∧
      (∀ prev rest, segsCtx prev (x :: rest) = segsCtx prev rest) := by
  cases x <;> simp [isLit] at hx <;> simp [Seg.norm, segsPrev, segsDupe, segsCtx]

theorem prefix_facts {p : Char} (h : p = 'x' ∨ p = 'b') :
    isOpChar p = false ∧ okFirst p = true ∧ p ≠ '(' ∧ (∀ a, wordBad a = false → okAfter a p = true) := by
  rcases h with h | h <;> subst h <;>
    exact ⟨by decide, by decide, by decide, fun a _ => by simp [okAfter, wordBad, isSpace, isDigit]⟩

theorem valuesWord_cases (kw : List Char) (h : isValuesWord kw = true) :
    lower kw = kwValue ∨ lower kw = kwValues ∨ lower kw = kwIn := by
  simp only [isValuesWord, Bool.or_eq_true, decide_eq_true_eq] at h
  rcases h with (h | h) | h
  · exact Or.inl h
  · exact Or.inr (Or.inl h)
  · exact Or.inr (Or.inr h)

theorem valuesWord_not_special (l : List Char) (h : l = kwValue ∨ l = kwValues ∨ l = kwIn) :
    l ≠ kwUse ∧ l ≠ kwNull ∧ l ≠ kwNullComma ∧ l ≠ kwBy ∧ isAscWord l = false ∧ l ≠ kwUpdate := by
  rcases h with h | h | h <;> subst h <;> decide

/-! ### The tokenizer -/

/-- Which row of a value list is being read: the first (`ne`: something stands between its
    parentheses so far), or a later one (`sp`: a blank has been written behind `(?+)`). -/
inductive RowK where
  | first (ne : Bool)
  | later (sp : Bool)

def RowK.touch : RowK → RowK
  | .first _ => .first true
  | k => k

theorem RowK.touch_touch (k : RowK) : k.touch.touch = k.touch := by cases k <;> rfl

def blankIf (sp : Bool) : List Char := if sp then [' '] else []

def RowK.out : RowK → List Char
  | .first _ => []
  | .later sp => blankIf sp

/-- Where the tokenizer is after a prefix of the text.  `F`: the fingerprint written so far
    (without the blank that `RowK.later` and `between` record in `sp`), `P`: the word copied last,
    `d`: `ON DUPLICATE KEY UPDATE` may have been read (in and behind a value list it has not). -/
inductive A where
  /-- between two items -/
  | clean (d : Bool) (F P : List Char)
  /-- in word text: `w` has been read and is not yet copied, `a` is its last character -/
  | word (d : Bool) (F P w : List Char) (a : Char)
  /-- behind the prefix `x` or `b` that begins a chunk -/
  | pfx (d : Bool) (F P : List Char) (c : Char)
  /-- behind the sign of a number; `w` as for `word` -/
  | sign (d : Bool) (F P w : List Char) (c : Char)
  /-- in a number whose last character is `p` -/
  | num (d : Bool) (F P : List Char) (p : Char)
  /-- in a quoted string opened by `c` -/
  | quote (d : Bool) (F P : List Char) (c : Char) (esc : Bool)
  /-- right behind a literal (`F` ends with its `?`) -/
  | afterLit (d : Bool) (F P : List Char)
  /-- behind `in` / `values` and white space, in front of the parenthesis -/
  | listOpen (F P : List Char)
  /-- inside a row of a value list, at parenthesis depth `depth` -/
  | list (F P : List Char) (k : RowK) (depth : Nat)
  | listQuote (F P : List Char) (k : RowK) (depth : Nat) (c : Char) (esc : Bool)
  /-- behind a row of a value list -/
  | between (F P : List Char) (sp : Bool)

/-- The fingerprint written so far. -/
def A.out : A → List Char
  | .clean _ F _ | .word _ F _ _ _ | .pfx _ F _ _ | .sign _ F _ _ _ | .num _ F _ _ | .quote _ F _ _ _
  | .afterLit _ F _ | .listOpen F _ => F
  | .list F _ k _ | .listQuote F _ k _ _ _ => F ++ k.out
  | .between F _ sp => F ++ blankIf sp

/-- The word copied last once the pending word text `w` (possibly none) is copied. -/
def prevAfter (P w : List Char) : List Char := if w = [] then P else lower w

/-- One character `x` inside a quoted value opened by `c` (`nxt`: the character after `x`):
    `some esc'` if the value goes on, `none` if `x` closes it. -/
inductive QStep (c : Char) : Bool → Char → Option Char → Option Bool → Prop
  | other {esc x nxt} : x ≠ c → QStep c esc x nxt (some (!esc && x == '\\'))
  | escaped {nxt} : QStep c true c nxt (some false)
  | doubled : QStep c false c (some c) (some true)
  | close {nxt} : nxt ≠ some c → QStep c false c nxt none

/-- The states in which a literal may begin: between two items, or glued to word text
    (`w`: the word text not yet copied, `l`: its last character). -/
inductive Open : A → Bool → List Char → List Char → List Char → Option Char → Prop
  | clean {d F P} : Open (.clean d F P) d F P [] none
  | word {d F P w a} : Open (.word d F P w a) d F P w (some a)

/-- What one character does (`nxt`: the character after it, if any). -/
inductive AStep : A → Char → Option Char → A → Prop
  | space {d F P r nxt} : isSpace r = true → AStep (.clean d F P) r nxt (.clean d F P)
  | first {d F P c nxt} : okFirst c = true → (c = '(' → P ≠ kwCall) → AStep (.clean d F P) c nxt (.word d F P [c] c)
  | firstP {d F P c nxt} : c = 'x' ∨ c = 'b' → AStep (.clean d F P) c nxt (.pfx d F P c)
  | mid {d F P w a b nxt} : okAfter a b = true → (b = '(' → P ≠ kwCall ∧ isValuesWord w = false) →
      AStep (.word d F P w a) b nxt (.word d F P (w ++ [b]) b)
  | wordEnd {d F P w a r nxt} : isSpace r = true → wordCtx P w = true →
      AStep (.word d F P w a) r nxt (.clean (d || keyUpd P w) (F ++ lower w ++ [' ']) (lower w))
  | kwSpace {F P w a g nxt} : isSpace g = true → isValuesWord w = true → isOpChar a = false →
      (∀ c0, w.head? = some c0 → isOpChar c0 = false) →
      AStep (.word false F P w a) g nxt (.listOpen (F ++ lower w) (lower w))
  | kwParen {F P w a nxt} : isValuesWord w = true → isOpChar a = false →
      (∀ c0, w.head? = some c0 → isOpChar c0 = false) → P ≠ kwCall →
      AStep (.word false F P w a) '(' nxt (.list (F ++ lower w) (lower w) (.first false) 1)
  | digit {a0 d F P w l c nxt} : Open a0 d F P w l → (∀ a, l = some a → litAfter a = true) → isDigit c = true →
      isValuesWord (lower w) = false → AStep a0 c nxt (.num d (F ++ lower w) (prevAfter P w) c)
  | dot {a0 d F P w l nxt} : Open a0 d F P w l → (∀ a, l = some a → litAfter a = true) →
      (∃ c', nxt = some c' ∧ isDigit c' = true) → isValuesWord (lower w) = false →
      AStep a0 '.' nxt (.num d (F ++ lower w) (prevAfter P w) '.')
  | sign {a0 d F P w l c nxt} : Open a0 d F P w l → (∀ a, l = some a → litAfter a = true) → c = '-' ∨ c = '+' →
      AStep a0 c nxt (.sign d F P w c)
  | signDigit {d F P w s c nxt} : isDigit c = true → isValuesWord (lower w) = false →
      AStep (.sign d F P w s) c nxt (.num d (F ++ lower w) (prevAfter P w) c)
  | quote {a0 d F P w l c nxt} : Open a0 d F P w l → (∀ a, l = some a → a ≠ '\\' ∧ a ≠ 'x' ∧ a ≠ 'b') →
      c = '\'' ∨ c = '"' → isValuesWord (lower w) = false →
      AStep a0 c nxt (.quote d (F ++ lower w) (prevAfter P w) c false)
  /-- the quote of a hex or bit string: the prefix `a` is not copied -/
  | quoteP {d F P w a c nxt} : a = 'x' ∨ a = 'b' → w ≠ [] → c = '\'' ∨ c = '"' → isValuesWord (lower w) = false →
      AStep (.word d F P (w ++ [a]) a) c nxt (.quote d (F ++ lower w) (lower w) c false)
  | quoteP0 {d F P a c nxt} : c = '\'' ∨ c = '"' → AStep (.pfx d F P a) c nxt (.quote d F P c false)
  | numChar {d F P p c nxt} : isNumberChar c = true → AStep (.num d F P p) c nxt (.num d F P c)
  | numPlus {d F P p nxt} : p = 'e' ∨ p = 'E' → AStep (.num d F P p) '+' nxt (.num d F P '+')
  /-- the character behind a number is read as behind any literal, `?` having been written -/
  | numEnd {d F P p c nxt a'} : isNumberChar c = false → isNotNumberChar c = false → c ≠ '+' →
      AStep (.afterLit d (F ++ ['?']) P) c nxt a' → AStep (.num d F P p) c nxt a'
  | quoteIn {d F P c esc x nxt esc'} : QStep c esc x nxt (some esc') →
      AStep (.quote d F P c esc) x nxt (.quote d F P c esc')
  | quoteClose {d F P c esc x nxt} : QStep c esc x nxt none →
      AStep (.quote d F P c esc) x nxt (.afterLit d (F ++ ['?']) P)
  | litSpace {d F P r nxt} : isSpace r = true → AStep (.afterLit d F P) r nxt (.clean d (F ++ [' ']) P)
  | litFirst {d F P c nxt} : okFirst c = true → (c = '(' → P ≠ kwCall) →
      AStep (.afterLit d F P) c nxt (.word d F P [c] c)
  | loSpace {F P r nxt} : isSpace r = true → AStep (.listOpen F P) r nxt (.listOpen F P)
  | loOpen {F P nxt} : AStep (.listOpen F P) '(' nxt (.list F P (.first false) 1)
  | lQuote {F P k n c nxt} : c = '\'' ∨ c = '"' → AStep (.list F P k n) c nxt (.listQuote F P k n c false)
  | lOpen {F P k n nxt} : AStep (.list F P k n) '(' nxt (.list F P k.touch (n + 1))
  | lInner {F P k n nxt} : 1 ≤ n → AStep (.list F P k (n + 1)) ')' nxt (.list F P k.touch n)
  | lOther {F P k n c nxt} : c ≠ '\'' → c ≠ '"' → c ≠ '(' → c ≠ ')' → AStep (.list F P k n) c nxt (.list F P k.touch n)
  | lClose1 {F P ne nxt} :
      AStep (.list F P (.first ne) 1) ')' nxt (.between (F ++ if ne then ['(', '?', '+', ')'] else ['(', ')']) P false)
  | lCloseN {F P sp nxt} : AStep (.list F P (.later sp) 1) ')' nxt (.between F P sp)
  | lqIn {F P k n c esc x nxt esc'} : QStep c esc x nxt (some esc') →
      AStep (.listQuote F P k n c esc) x nxt (.listQuote F P k n c esc')
  | lqClose {F P k n c esc x nxt} : QStep c esc x nxt none →
      AStep (.listQuote F P k n c esc) x nxt (.list F P k.touch n)
  | bSpace {F P sp r nxt} : isSpace r = true → AStep (.between F P sp) r nxt (.between F P true)
  | bComma {F P sp nxt} : AStep (.between F P sp) ',' nxt (.between F P sp)
  | bOpen {F P sp nxt} : AStep (.between F P sp) '(' nxt (.list F P (.later sp) 1)
  | bFirst {F P sp c nxt} : okFirst c = true → isOpChar c = false → c ≠ '(' → c ≠ ',' →
      AStep (.between F P sp) c nxt (.word false (F ++ blankIf sp) P [c] c)

/-- What the text `t` does when `tail` follows it. -/
inductive ARun : A → List Char → List Char → A → Prop
  | nil {a tail} : ARun a [] tail a
  | cons {a a1 a2 c t tail} : AStep a c (t ++ tail).head? a1 → ARun a1 t tail a2 → ARun a (c :: t) tail a2

theorem ARun.append {a b c : A} {t1 t2 tail : List Char} (h1 : ARun a t1 (t2 ++ tail) b) (h2 : ARun b t2 tail c) :
    ARun a (t1 ++ t2) tail c := by
  generalize ht : t2 ++ tail = tl at h1
  induction h1 with
  | nil => exact h2
  | cons hs _ ih => subst ht; exact .cons (by simpa using hs) (ih h2 rfl)

theorem ARun.one {a b : A} {c : Char} {tail : List Char} (h : AStep a c tail.head? b) : ARun a [c] tail b :=
  .cons h .nil

theorem ARun.spaces {a : A} (h : ∀ {r nxt}, isSpace r = true → AStep a r nxt a) :
    ∀ (ws tail : List Char), ws.all isSpace = true → ARun a ws tail a
  | [], _, _ => .nil
  | c :: ws, tail, hws => by
    simp only [List.all_cons, Bool.and_eq_true] at hws
    exact .cons (h hws.1) (ARun.spaces h ws tail hws.2)

/-! ### The rules as a function, for closed test vectors

`astep` picks the rule of `AStep` that applies to a character, if there is one, so that what the tokenizer does
on a concrete text can be computed (Props/C36.lean); it says nothing the rules do not say (`atrace_sound`). -/

def qstep (c : Char) (esc : Bool) (x : Char) (nxt : Option Char) : Option Bool :=
  if x ≠ c then some (!esc && x == '\\') else if esc then some false else if nxt = some c then some true else none

/-- The rules `litSpace`, `litFirst`. -/
def alit (d : Bool) (F P : List Char) (c : Char) : Option A :=
  if isSpace c = true then some (.clean d (F ++ [' ']) P)
  else if okFirst c = true ∧ (c = '(' → P ≠ kwCall) then some (.word d F P [c] c) else none

/-- The side conditions of `kwSpace` and `kwParen`. -/
def kwOK (w : List Char) (a : Char) : Bool :=
  isValuesWord w && !isOpChar a && (match w.head? with | some c0 => !isOpChar c0 | none => true)

def nextDigit : Option Char → Bool
  | some n => isDigit n
  | none => false

def astep : A → Char → Option Char → Option A
  | .clean d F P, c, nxt =>
    if isSpace c = true then some (.clean d F P)
    else if (c = 'x' ∨ c = 'b') ∧ (nxt = some '\'' ∨ nxt = some '"') then some (.pfx d F P c)
    else if okFirst c = true ∧ (c = '(' → P ≠ kwCall) then some (.word d F P [c] c)
    else if isDigit c = true then some (.num d F P c)
    else if c = '.' ∧ nextDigit nxt = true then some (.num d F P '.')
    else if c = '-' ∨ c = '+' then some (.sign d F P [] c)
    else if c = '\'' ∨ c = '"' then some (.quote d F P c false) else none
  | .word d F P w a, c, nxt =>
    if okAfter a c = true ∧ (c = '(' → P ≠ kwCall ∧ isValuesWord w = false) then some (.word d F P (w ++ [c]) c)
    else if isSpace c = true ∧ wordCtx P w = true then
      some (.clean (d || keyUpd P w) (F ++ lower w ++ [' ']) (lower w))
    else if isSpace c = true ∧ d = false ∧ kwOK w a = true then some (.listOpen (F ++ lower w) (lower w))
    else if c = '(' ∧ d = false ∧ kwOK w a = true ∧ P ≠ kwCall then
      some (.list (F ++ lower w) (lower w) (.first false) 1)
    else if (c = '\'' ∨ c = '"') ∧ (a = 'x' ∨ a = 'b') ∧ w = w.dropLast ++ [a] ∧ w.dropLast ≠ [] ∧
        isValuesWord (lower w.dropLast) = false then
      some (.quote d (F ++ lower w.dropLast) (lower w.dropLast) c false)
    else if isValuesWord (lower w) = true then none
    else if isDigit c = true ∧ litAfter a = true then some (.num d (F ++ lower w) (prevAfter P w) c)
    else if c = '.' ∧ litAfter a = true ∧ nextDigit nxt = true then some (.num d (F ++ lower w) (prevAfter P w) '.')
    else if (c = '-' ∨ c = '+') ∧ litAfter a = true then some (.sign d F P w c)
    else if (c = '\'' ∨ c = '"') ∧ a ≠ '\\' ∧ a ≠ 'x' ∧ a ≠ 'b' then
      some (.quote d (F ++ lower w) (prevAfter P w) c false)
    else none
  | .pfx d F P _, c, _ => if c = '\'' ∨ c = '"' then some (.quote d F P c false) else none
  | .sign d F P w _, c, _ =>
    if isDigit c = true ∧ isValuesWord (lower w) = false then some (.num d (F ++ lower w) (prevAfter P w) c) else none
  | .num d F P p, c, _ =>
    if isNumberChar c = true then some (.num d F P c)
    else if c = '+' then (if p = 'e' ∨ p = 'E' then some (.num d F P '+') else none)
    else if isNotNumberChar c = true then none else alit d (F ++ ['?']) P c
  | .quote d F P q esc, c, nxt =>
    match qstep q esc c nxt with
    | some esc' => some (.quote d F P q esc')
    | none => some (.afterLit d (F ++ ['?']) P)
  | .afterLit d F P, c, _ => alit d F P c
  | .listOpen F P, c, _ =>
    if isSpace c = true then some (.listOpen F P) else if c = '(' then some (.list F P (.first false) 1) else none
  | .list F P k n, c, _ =>
    if c = '\'' ∨ c = '"' then some (.listQuote F P k n c false)
    else if c = '(' then some (.list F P k.touch (n + 1))
    else if c = ')' then
      match n, k with
      | 0, _ => none
      | 1, .first ne => some (.between (F ++ if ne then ['(', '?', '+', ')'] else ['(', ')']) P false)
      | 1, .later sp => some (.between F P sp)
      | m + 2, k => some (.list F P k.touch (m + 1))
    else some (.list F P k.touch n)
  | .listQuote F P k n q esc, c, nxt =>
    match qstep q esc c nxt with
    | some esc' => some (.listQuote F P k n q esc')
    | none => some (.list F P k.touch n)
  | .between F P sp, c, _ =>
    if isSpace c = true then some (.between F P true)
    else if c = ',' then some (.between F P sp)
    else if c = '(' then some (.list F P (.later sp) 1)
    else if okFirst c = true ∧ isOpChar c = false then some (.word false (F ++ blankIf sp) P [c] c) else none

def atrace : A → List Char → Option A
  | a, [] => some a
  | a, c :: t =>
    match astep a c t.head? with
    | some a1 => atrace a1 t
    | none => none

theorem qstep_sound (c : Char) (esc : Bool) (x : Char) (nxt : Option Char) : QStep c esc x nxt (qstep c esc x nxt) := by
  unfold qstep
  by_cases h1 : x ≠ c
  · rw [if_pos h1]; exact .other h1
  · rw [if_neg h1]
    obtain rfl : x = c := Decidable.not_not.mp h1
    cases esc with
    | true => exact .escaped
    | false =>
      rw [if_neg Bool.false_ne_true]
      by_cases h2 : nxt = some x
      · rw [if_pos h2, h2]; exact .doubled
      · rw [if_neg h2]; exact .close h2

theorem alit_sound {d : Bool} {F P : List Char} {c : Char} {nxt : Option Char} {a' : A} (h : alit d F P c = some a') :
    AStep (.afterLit d F P) c nxt a' := by
  unfold alit at h
  by_cases h1 : isSpace c = true
  · rw [if_pos h1] at h; cases h; exact .litSpace h1
  · rw [if_neg h1] at h
    by_cases h2 : okFirst c = true ∧ (c = '(' → P ≠ kwCall)
    · rw [if_pos h2] at h; cases h; exact .litFirst h2.1 h2.2
    · rw [if_neg h2] at h; cases h

theorem kwOK_sound {w : List Char} {a : Char} (h : kwOK w a = true) :
    isValuesWord w = true ∧ isOpChar a = false ∧ ∀ c0, w.head? = some c0 → isOpChar c0 = false := by
  simp only [kwOK, Bool.and_eq_true, Bool.not_eq_true'] at h
  refine ⟨h.1.1, h.1.2, fun c0 e => ?_⟩
  rw [e] at h; simpa using h.2

theorem nextDigit_sound {nxt : Option Char} (h : nextDigit nxt = true) : ∃ c', nxt = some c' ∧ isDigit c' = true := by
  cases nxt with
  | none => cases h
  | some n => exact ⟨n, rfl, h⟩

theorem astep_sound {a : A} {c : Char} {nxt : Option Char} {a' : A} : astep a c nxt = some a' → AStep a c nxt a' := by
  have nf : ∀ {b : Bool}, ¬ b = true → b = false := fun h => Bool.eq_false_iff.mpr h
  fun_cases astep a c nxt
  all_goals intro e
  case case1 => cases e; exact .space ‹_›
  case case2 => cases e; exact .firstP ‹_ ∧ _›.1
  case case3 => cases e; exact .first ‹_ ∧ _›.1 ‹_ ∧ _›.2
  case case4 => cases e; simpa [prevAfter, lower] using AStep.digit (nxt := nxt) .clean nofun ‹isDigit c = true› (by decide)
  case case5 =>
    cases e; obtain ⟨rfl, h⟩ := ‹c = '.' ∧ _›
    simpa [prevAfter, lower] using AStep.dot .clean nofun (nextDigit_sound h) (by decide)
  case case6 => cases e; exact .sign .clean nofun ‹_›
  case case7 => cases e; simpa [prevAfter, lower] using AStep.quote (nxt := nxt) .clean nofun ‹c = _ ∨ _› (by decide)
  case case9 => cases e; exact .mid ‹_ ∧ _›.1 ‹_ ∧ _›.2
  case case10 => cases e; exact .wordEnd ‹_ ∧ _›.1 ‹_ ∧ _›.2
  case case11 =>
    cases e; obtain ⟨h1, rfl, h2⟩ := ‹isSpace c = true ∧ _ = false ∧ _›; obtain ⟨k1, k2, k3⟩ := kwOK_sound h2
    exact .kwSpace h1 k1 k2 k3
  case case12 =>
    cases e; obtain ⟨rfl, rfl, h2, h3⟩ := ‹c = '(' ∧ _›; obtain ⟨k1, k2, k3⟩ := kwOK_sound h2
    exact .kwParen k1 k2 k3 h3
  case case13 d F P w a _ _ _ _ h =>
    cases e; obtain ⟨h1, h2, h3, h4, h5⟩ := h
    have := AStep.quoteP (d := d) (F := F) (P := P) (nxt := nxt) h2 h4 h1 h5
    rwa [← h3] at this
  case case15 =>
    cases e
    exact .digit .word (fun _ e => by cases e; exact ‹isDigit c = true ∧ _›.2) ‹isDigit c = true ∧ _›.1
      (nf ‹¬isValuesWord _ = true›)
  case case16 =>
    cases e; obtain ⟨rfl, h1, h2⟩ := ‹c = '.' ∧ _›
    exact .dot .word (fun _ e => by cases e; exact h1) (nextDigit_sound h2) (nf ‹¬isValuesWord _ = true›)
  case case17 => cases e; exact .sign .word (fun _ e => by cases e; exact ‹(_ ∨ _) ∧ _›.2) ‹(_ ∨ _) ∧ _›.1
  case case18 =>
    cases e; obtain ⟨h1, h2⟩ := ‹(c = '\'' ∨ _) ∧ _›
    exact .quote .word (fun _ e => by cases e; exact h2) h1 (nf ‹¬isValuesWord _ = true›)
  case case20 => cases e; exact .quoteP0 ‹_›
  case case22 => cases e; exact .signDigit ‹_ ∧ _›.1 ‹_ ∧ _›.2
  case case24 => cases e; exact .numChar ‹_›
  case case25 => cases e; exact .numPlus ‹_ ∨ _›
  case case28 => rename_i h1 h2 h3; exact .numEnd (nf h1) (nf h3) h2 (alit_sound e)
  case case29 => cases e; exact .quoteIn (‹qstep _ _ _ _ = _› ▸ qstep_sound ..)
  case case30 => cases e; exact .quoteClose (‹qstep _ _ _ _ = _› ▸ qstep_sound ..)
  case case31 => exact alit_sound e
  case case32 => cases e; exact .loSpace ‹_›
  case case33 => cases e; exact .loOpen
  case case35 => cases e; exact .lQuote ‹_›
  case case36 => cases e; exact .lOpen
  case case38 => cases e; exact .lClose1
  case case39 => cases e; exact .lCloseN
  case case40 => cases e; exact .lInner (Nat.succ_le_succ (Nat.zero_le _))
  case case41 => rename_i h1 h2 h3; cases e; exact .lOther (fun e => h1 (.inl e)) (fun e => h1 (.inr e)) h2 h3
  case case42 => cases e; exact .lqIn (‹qstep _ _ _ _ = _› ▸ qstep_sound ..)
  case case43 => cases e; exact .lqClose (‹qstep _ _ _ _ = _› ▸ qstep_sound ..)
  case case44 => cases e; exact .bSpace ‹_›
  case case45 => cases e; exact .bComma
  case case46 => cases e; exact .bOpen
  case case47 => cases e; exact .bFirst ‹_ ∧ _›.1 ‹_ ∧ _›.2 ‹¬c = '('› ‹¬c = ','›
  all_goals cases e

theorem atrace_sound : ∀ {t : List Char} {a a' : A}, atrace a t = some a' → ARun a t [] a'
  | [], a, a', h => by cases h; exact .nil
  | c :: t, a, a', h => by
    unfold atrace at h
    cases h1 : astep a c t.head? with
    | none => rw [h1] at h; cases h
    | some a1 =>
      rw [h1] at h
      exact .cons (by rw [List.append_nil]; exact astep_sound h1) (atrace_sound h)

/-! ### The grammar on the tokenizer -/

theorem run_chain {d : Bool} {F P w : List Char} (hpar : parenOK w = true) (hcall : '(' ∈ w → P ≠ kwCall)
    (tail : List Char) : ∀ (rest pre : List Char) (a : Char), w = pre ++ a :: rest → chainOK a rest = true →
      ∃ z, (a :: rest).getLast? = some z ∧ ARun (.word d F P (pre ++ [a]) a) rest tail (.word d F P w z)
  | [], pre, a, hw, _ => ⟨a, rfl, by rw [hw]; exact .nil⟩
  | b :: rest, pre, a, hw, hch => by
    simp only [chainOK, Bool.and_eq_true] at hch
    obtain ⟨z, hz, h⟩ := run_chain hpar hcall tail rest (pre ++ [a]) b (by rw [hw]; simp) hch.2
    refine ⟨z, by rw [List.getLast?_cons_cons]; exact hz, .cons (.mid hch.1 fun e => ⟨hcall (by rw [hw, e]; simp), ?_⟩) h⟩
    have := parenOK_at w hpar (pre.length + 1) (by rw [hw, e]; simp)
    rwa [hw, show pre ++ a :: b :: rest = (pre ++ [a]) ++ b :: rest by simp, List.take_left' (by simp)] at this

theorem run_wordText {a0 : A} {d : Bool} {F P wr : List Char} {c : Char}
    (h1 : ∀ {nxt}, AStep a0 c nxt (.word d F P [c] c)) (hws : wordShape (c :: wr) = true)
    (hcall : '(' ∈ c :: wr → P ≠ kwCall) (tail : List Char) :
    ∃ z, (c :: wr).getLast? = some z ∧ ARun a0 (c :: wr) tail (.word d F P (c :: wr) z) := by
  simp only [wordShape, Bool.and_eq_true] at hws
  obtain ⟨z, hz, h⟩ := run_chain (d := d) (F := F) hws.2 hcall tail wr [] c rfl hws.1.2
  exact ⟨z, hz, .cons h1 h⟩

theorem run_numTail {d : Bool} {F P : List Char} (tail : List Char) :
    ∀ (rest : List Char) (p : Char), numTail p rest = true → ∃ z, ARun (.num d F P p) rest tail (.num d F P z)
  | [], p, _ => ⟨p, .nil⟩
  | c :: r, p, h => by
    unfold numTail at h
    by_cases hc : c = '-' ∨ c = '+'
    · rw [if_pos hc] at h
      simp only [Bool.and_eq_true, Bool.or_eq_true, decide_eq_true_eq] at h
      obtain ⟨z, hz⟩ := run_numTail tail r c h.2
      rcases hc with rfl | rfl
      · exact ⟨z, .cons (.numChar (by decide)) hz⟩
      · exact ⟨z, .cons (.numPlus h.1.1) hz⟩
    · rw [if_neg hc] at h
      simp only [Bool.and_eq_true] at h
      obtain ⟨z, hz⟩ := run_numTail tail r c h.2
      exact ⟨z, .cons (.numChar h.1) hz⟩

/-- `Q`, `E`: the states inside and behind a quoted value, be it a string literal (`run_strBody`) or a value
    in a list (`run_listScan`). -/
theorem run_quoted {Q : Bool → A} {E : A} {c : Char}
    (hin : ∀ {esc x nxt esc'}, QStep c esc x nxt (some esc') → AStep (Q esc) x nxt (Q esc'))
    (hout : ∀ {esc x nxt}, QStep c esc x nxt none → AStep (Q esc) x nxt E) {tail : List Char}
    (htl : tail.head? ≠ some c) :
    ∀ (body : List Char) (esc : Bool) (rest : List Char), skipQuoted c esc body = some rest →
      ∃ pre, body = pre ++ rest ∧ ARun (Q esc) pre (rest ++ tail) E
  | [], _, _, h => by simp [skipQuoted] at h
  | x :: body, esc, rest, h => by
    have go : ∀ esc', QStep c esc x (body ++ tail).head? (some esc') → skipQuoted c esc' body = some rest →
        ∃ pre, x :: body = pre ++ rest ∧ ARun (Q esc) pre (rest ++ tail) E := by
      intro esc' hq h'
      obtain ⟨pre, hpre, hrun⟩ := run_quoted hin hout htl body esc' rest h'
      exact ⟨x :: pre, by rw [hpre]; rfl, .cons (by rw [← List.append_assoc, ← hpre]; exact hin hq) hrun⟩
    unfold skipQuoted at h
    by_cases hx : x = c
    · subst hx
      simp only [ne_eq, not_true_eq_false, if_false] at h
      cases esc with
      | true => exact go false .escaped (by simpa using h)
      | false =>
        simp only [Bool.false_eq_true, if_false] at h
        have hclose : (rest ++ tail).head? ≠ some x → body = rest →
            ∃ pre, x :: body = pre ++ rest ∧ ARun (Q false) pre (rest ++ tail) E :=
          fun hne e => ⟨[x], by rw [e]; rfl, .one (hout (.close hne))⟩
        cases body with
        | nil => cases h; exact hclose htl rfl
        | cons y body2 =>
          simp only at h
          by_cases hy : y = x
          · rw [if_pos hy] at h; subst hy
            exact go true .doubled h
          · rw [if_neg hy] at h; cases h
            exact hclose (by simpa using hy) rfl
    · simp only [ne_eq, hx, not_false_eq_true, if_true] at h
      refine go _ (.other hx) ?_
      by_cases hb : x = '\\'
      · cases esc <;> simpa [hb] using h
      · cases esc <;> simpa [hb, beq_false_of_ne hb] using h

theorem run_num {a0 : A} {d : Bool} {F P w u : List Char} {l : Option Char} (ho : Open a0 d F P w l)
    (hla : ∀ a, l = some a → litAfter a = true) (hval : isValuesWord (lower w) = false) (hu : numShape u = true)
    (tail : List Char) : ∃ z, ARun a0 u tail (.num d (F ++ lower w) (prevAfter P w) z) := by
  cases u with
  | nil => simp [numShape] at hu
  | cons c r =>
    simp only [numShape] at hu
    by_cases hd : isDigit c = true
    · rw [if_pos hd] at hu
      obtain ⟨z, hz⟩ := run_numTail tail r c hu
      exact ⟨z, .cons (.digit ho hla hd hval) hz⟩
    · rw [if_neg hd] at hu
      by_cases hsd : c = '-' ∨ c = '+' ∨ c = '.'
      · rw [if_pos hsd] at hu
        cases r with
        | nil => simp at hu
        | cons d' r' =>
          simp only [Bool.and_eq_true] at hu
          by_cases hdot : c = '.'
          · subst hdot
            obtain ⟨z, hz⟩ := run_numTail tail (d' :: r') '.' (numTail_of_digit '.' d' r' hu.1 hu.2)
            exact ⟨z, .cons (.dot ho hla ⟨d', rfl, hu.1⟩ hval) hz⟩
          · obtain ⟨z, hz⟩ := run_numTail tail r' d' hu.2
            exact ⟨z, .cons (.sign ho hla (by simpa [hdot] using hsd)) (.cons (.signDigit hu.1 hval) hz)⟩
      · rw [if_neg hsd] at hu; cases hu

theorem run_strBody {d : Bool} {F P body tail : List Char} {c : Char} (hcl : closesAt c false body = true)
    (htl : tail.head? ≠ some c) : ARun (.quote d F P c false) body tail (.afterLit d (F ++ ['?']) P) := by
  obtain ⟨pre, hpre, h⟩ := run_quoted (Q := fun esc => .quote d F P c esc) .quoteIn .quoteClose htl body false []
    (closesAt_skip c body false hcl)
  rw [hpre, List.append_nil]
  exact h

/-- Stated with the run `h` of what follows the literal `x`: a number ends only at the character behind it
    (`numEnd`).  `hw`: `A.word` does not say that `a` is the last character of a non-empty `w`; the prefix of a
    hex or bit string glued to word text (`quoteP`) needs it. -/
theorem run_lit {a0 a' : A} {d : Bool} {F P w tail : List Char} {l : Option Char} {x : Seg} {rest : List Seg}
    {r : Char} (ho : Open a0 d F P w l) (hw : ∀ a, l = some a → w ≠ [] ∧ wordBad a = false)
    (hval : isValuesWord (lower w) = false) (hx : isLit x = true)
    (hok : segsOK (l.elim .start .afterW) (x :: rest) = true) (hr : isSpace r = true)
    (h : ARun (.afterLit d (F ++ lower w ++ ['?']) (prevAfter P w)) (segsText rest ++ [r]) tail a') :
    ARun a0 (segsText (x :: rest) ++ [r]) tail a' := by
  rw [segsText_cons, List.append_assoc]
  have hq : ∀ {u : List Char} {Q : A}, strShape u = true → segsOK .afterLit rest = true →
      (∀ c body, u = c :: body → c = '\'' ∨ c = '"' → ARun Q [c] (body ++ (segsText rest ++ [r] ++ tail))
        (.quote d (F ++ lower w) (prevAfter P w) c false)) → ARun Q (u ++ (segsText rest ++ [r])) tail a' := by
    intro u Q hss hokr h1
    have hnq := after_lit_quote (r := r) (tail := tail) hss hr hokr
    cases u with
    | nil => simp [strShape] at hss
    | cons c body =>
      simp only [strShape, Bool.and_eq_true, Bool.or_eq_true, decide_eq_true_eq] at hss
      exact ((h1 c body rfl hss.1).append (run_strBody hss.2 (by simpa using hnq c body rfl))).append h
  cases x with
  | w t => cases hx
  | n u =>
    have hok' : (∀ a, l = some a → litAfter a = true) ∧ numShape u = true ∧ segsOK .afterLit rest = true := by
      cases l <;> simp only [segsOK, Option.elim, Bool.and_eq_true] at hok <;>
        exact ⟨by simp [hok.1.1.1], hok.1.1.2, hok.2⟩
    obtain ⟨z, hz⟩ := run_num ho hok'.1 hval hok'.2.1 (segsText rest ++ [r] ++ tail)
    obtain ⟨c, xs, hcx, h1, h2, h3, _⟩ := after_lit_head rest r [] hr hok'.2.2
    refine hz.append ?_
    rw [hcx] at h ⊢
    cases h with
    | cons hs hrest => exact .cons (.numEnd h1 h2 h3 hs) hrest
  | s u =>
    have hok' : (∀ a, l = some a → a ≠ '\\' ∧ a ≠ 'x' ∧ a ≠ 'b') ∧ strShape u = true ∧ segsOK .afterLit rest = true := by
      cases l <;> simp only [segsOK, Option.elim, Bool.and_eq_true, decide_eq_true_eq] at hok <;>
        exact ⟨by simp [hok.1.1.1], hok.1.1.2, hok.2⟩
    exact hq hok'.2.1 hok'.2.2 fun c body _ hc => .one (.quote ho hok'.1 hc hval)
  | p pc u =>
    have hok' : (pc = 'x' ∨ pc = 'b') ∧ strShape u = true ∧ segsOK .afterLit rest = true := by
      cases l <;> simp only [segsOK, Bool.and_eq_true, Bool.or_eq_true, decide_eq_true_eq] at hok <;>
        exact ⟨hok.1.1.1.2, hok.1.1.2, hok.2⟩
    cases ho with
    | clean =>
      refine .cons (.firstP hok'.1) (hq hok'.2.1 hok'.2.2 fun c body _ hc => ?_)
      simpa [lower, prevAfter] using ARun.one (AStep.quoteP0 hc)
    | word =>
      obtain ⟨hw, hbad⟩ := hw _ rfl
      obtain ⟨_, _, hppar, hpok⟩ := prefix_facts hok'.1
      refine .cons (.mid (hpok _ hbad) fun e => absurd e hppar) (hq hok'.2.1 hok'.2.2 fun c body _ hc => ?_)
      simpa [prevAfter, hw] using ARun.one (AStep.quoteP hok'.1 hw hc hval)

/-- The tokenizer inside a chunk, in front of a segment that `ctx` may precede; `pend` is the word
    text read and not yet copied, as a segment. -/
inductive ChunkAt (d : Bool) (F P : List Char) : A → SegCtx → List Seg → Prop
  | start : ChunkAt d F P (.clean d F P) .start []
  | afterLit : ChunkAt d F P (.afterLit d F P) .afterLit []
  | afterW {w a} : wordShape w = true → w.getLast? = some a → wordCtx P w = true →
      ChunkAt d F P (.word d F P w a) (.afterW a) [.w w]

theorem run_chunk {r : Char} (hr : isSpace r = true) : ∀ (segs : List Seg) {d : Bool} {F P : List Char} {a0 : A}
    {ctx : SegCtx} {pend : List Seg} (tail : List Char), ChunkAt d F P a0 ctx pend → segsOK ctx segs = true →
    segsCtx (segsPrev P pend) segs = true →
    ARun a0 (segsText segs ++ [r]) tail
      (.clean (segsDupe P d (pend ++ segs)) (F ++ segsNorm (pend ++ segs) ++ [' ']) (segsPrev P (pend ++ segs)))
  | [], d, F, P, a0, ctx, pend, tail, hin, hok, _ => by
    cases hin with
    | start => simp [segsOK] at hok
    | afterLit => simpa [segsText, segsNorm, segsDupe, segsPrev] using ARun.one (AStep.litSpace hr)
    | afterW _ _ hctx => simpa [segsText, segsNorm, segsDupe, segsPrev, Seg.norm] using ARun.one (AStep.wordEnd hr hctx)
  | x :: rest, d, F, P, a0, ctx, pend, tail, hin, hok, hctx => by
    by_cases hx : isLit x = true
    · obtain ⟨hn, hp, hd, hc⟩ := lit_facts hx
      have hokr : segsOK .afterLit rest = true := by
        cases x <;> simp [isLit] at hx <;> simp only [segsOK, Bool.and_eq_true] at hok <;> exact hok.2
      cases hin with
      | start =>
        refine run_lit .clean (by simp) (by decide) hx hok hr ?_
        simpa [segsNorm_cons, hn, hp, hd, lower, prevAfter] using
          run_chunk hr rest tail (.afterLit (d := d) (F := F ++ ['?']) (P := P)) hokr (by rwa [hc] at hctx)
      | afterLit => cases x <;> simp [isLit] at hx <;> simp [segsOK] at hok
      | afterW hws hz hcw =>
        rename_i w a
        have hw : w ≠ [] := by rintro rfl; cases hz
        refine run_lit .word (fun _ e => by cases e; exact ⟨hw, wordShape_notBad hws a (List.mem_of_getLast? hz)⟩)
          (wordCtx_val hcw) hx hok hr ?_
        simpa [segsNorm_cons, hn, hp, hd, prevAfter, hw, segsPrev, segsDupe, show (Seg.w w).norm = lower w from rfl] using
          run_chunk hr rest tail (.afterLit (d := d) (F := F ++ lower w ++ ['?']) (P := lower w)) hokr
            (by simpa [segsPrev, hc] using hctx)
    · cases x with
      | n _ | s _ | p _ _ => simp [isLit] at hx
      | w t =>
        cases t with
        | nil => cases ctx <;> simp [segsOK, wordShape] at hok
        | cons c wr =>
          simp only [segsOK, Bool.and_eq_true] at hok
          have h1 : pend = [] ∧ ((c = '(' → P ≠ kwCall) → ∀ {nxt}, AStep a0 c nxt (.word d F P [c] c)) := by
            cases hin with
            | start => exact ⟨rfl, fun h _ => .first (wordShape_first hok.1.2) h⟩
            | afterLit => exact ⟨rfl, fun h _ => .litFirst (wordShape_first hok.1.2) h⟩
            | afterW => simp at hok
          obtain ⟨rfl, h1⟩ := h1
          simp only [segsPrev, segsCtx, Bool.and_eq_true] at hctx
          have hcall := wordCtx_call hctx.1
          obtain ⟨z, hz, h⟩ := run_wordText (h1 fun e => hcall (by simp [e])) hok.1.2 hcall (segsText rest ++ [r] ++ tail)
          rw [hz] at hok
          rw [segsText_cons, List.append_assoc]
          exact h.append (run_chunk hr rest tail (.afterW hok.1.2 hz hctx.1) hok.2 hctx.2)

theorem run_listScan {F P tail : List Char} (htl : tail.head? = some ')') :
    ∀ (fuel n : Nat) (l : List Char) (k : RowK), listScan fuel n l = true → 1 ≤ n →
      ARun (.list F P k n) l tail (.list F P (if l.isEmpty then k else k.touch) 1)
  | 0, _, _, _, h, _ => by simp [listScan] at h
  | fuel + 1, n, [], k, h, _ => by simp only [listScan, beq_iff_eq] at h; subst h; exact .nil
  | fuel + 1, n, c :: rest, k, h, hn => by
    have ih : ∀ {n' rest'}, listScan fuel n' rest' = true → 1 ≤ n' →
        ARun (.list F P k.touch n') rest' tail (.list F P k.touch 1) := by
      intro n' rest' h' hn'
      have := run_listScan (F := F) (P := P) htl fuel n' rest' k.touch h' hn'
      rwa [RowK.touch_touch, ite_self] at this
    simp only [listScan] at h
    show ARun _ _ _ (.list F P k.touch 1)
    by_cases hq : c = '\'' ∨ c = '"'
    · rw [if_pos hq] at h
      cases hsk : skipQuoted c false rest with
      | none => rw [hsk] at h; cases h
      | some rest' =>
        rw [hsk] at h
        obtain ⟨pre, hpre, hrun⟩ := run_quoted (Q := fun esc => .listQuote F P k n c esc) (E := .list F P k.touch n)
          .lqIn .lqClose (by rw [htl]; rcases hq with rfl | rfl <;> decide) rest false rest' hsk
        rw [hpre]
        exact .cons (.lQuote hq) (hrun.append (ih h hn))
    · rw [if_neg hq] at h
      by_cases ho : c = '('
      · subst ho; rw [if_pos rfl] at h
        exact .cons .lOpen (ih h (by omega))
      · rw [if_neg ho] at h
        by_cases hcl : c = ')'
        · subst hcl; rw [if_pos rfl] at h
          by_cases hd1 : n ≤ 1
          · simp [hd1] at h
          · rw [if_neg hd1] at h
            obtain ⟨m, rfl⟩ : ∃ m, n = m + 1 := ⟨n - 1, by omega⟩
            exact .cons (.lInner (by omega)) (ih h (by omega))
        · rw [if_neg hcl] at h
          exact .cons (.lOther (fun e => hq (.inl e)) (fun e => hq (.inr e)) ho hcl) (ih h hn)

theorem run_between_ws {F P : List Char} {sp : Bool} : ∀ (ws tail : List Char), ws.all isSpace = true →
    ARun (.between F P sp) ws tail (.between F P (sp || !ws.isEmpty))
  | [], _, _ => by simpa using ARun.nil
  | c :: ws, tail, h => by
    simp only [List.all_cons, Bool.and_eq_true] at h
    simpa using ARun.cons (.bSpace h.1) (ARun.spaces .bSpace ws tail h.2)

theorem run_row {F P : List Char} {sp : Bool} (r : Row) (tail : List Char) (hr : r.core = true) :
    ∃ sp', ARun (.between F P sp) r.text tail (.between F P sp') := by
  simp only [Row.core, Bool.and_eq_true] at hr
  have h := run_listScan (F := F) (P := P) (tail := [')'] ++ tail) rfl _ 1 r.content
    (.later ((sp || !(gapText r.g1).isEmpty) || !(gapText r.g2).isEmpty)) hr.2 (Nat.le_refl 1)
  simp only [RowK.touch, ite_self] at h
  exact ⟨_, (run_between_ws _ _ (gapText_ws _ hr.1.1)).append (.cons .bComma
    ((run_between_ws _ _ (gapText_ws _ hr.1.2)).append (.cons .bOpen (h.append (.one .lCloseN)))))⟩

theorem run_rows {F P : List Char} : ∀ (rows : List Row) (sp : Bool) (tail : List Char), rows.all Row.core = true →
    ∃ sp', ARun (.between F P sp) (rows.flatMap Row.text) tail (.between F P sp') ∧ (rows = [] → sp' = sp)
  | [], sp, _, _ => ⟨sp, .nil, fun _ => rfl⟩
  | r :: rows, sp, tail, h => by
    simp only [List.all_cons, Bool.and_eq_true] at h
    obtain ⟨sp1, h1⟩ := run_row (F := F) (P := P) (sp := sp) r (rows.flatMap Row.text ++ tail) h.1
    obtain ⟨sp2, h2, _⟩ := run_rows rows sp1 tail h.2
    exact ⟨sp2, by rw [List.flatMap_cons]; exact h1.append h2, by simp⟩

theorem run_vlist {F P : List Char} (kw : List Char) (gap : Gap) (content : List Char) (rows : List Row)
    (tail : List Char) (hcore : (Item.vlist kw gap content rows).core = true) (hcall : P ≠ kwCall) :
    ∃ sp, ARun (.clean false F P) (Item.vlist kw gap content rows).text tail
        (.between (F ++ (Item.vlist kw gap content rows).norm) (lower kw) sp) ∧ (rows = [] → sp = false) := by
  simp only [Item.core, Bool.and_eq_true, kwShape] at hcore
  obtain ⟨⟨⟨⟨⟨hkwShape, hkw⟩, hplain⟩, hgapw⟩, hcontent⟩, hrows⟩ := hcore
  have hgap := gapText_ws gap hgapw
  obtain ⟨sp, h5, hsp⟩ := run_rows (F := F ++ (Item.vlist kw gap content rows).norm) (P := lower kw) rows false tail hrows
  refine ⟨sp, ?_, hsp⟩
  simp only [Item.text]
  generalize gapText gap = ws at hgap
  generalize rows.flatMap Row.text = R at h5
  cases kw with
  | nil => simp [wordShape] at hkwShape
  | cons c0 kr =>
    obtain ⟨z, hz, h1⟩ := run_wordText (d := false) (F := F) (.first (wordShape_first hkwShape) fun _ => hcall) hkwShape
      (fun _ => hcall) ((ws ++ '(' :: (content ++ ')' :: R)) ++ tail)
    have hop : ∀ x ∈ c0 :: kr, isOpChar x = false := fun x hx => by
      have := List.all_eq_true.mp hplain x hx
      simp only [Bool.and_eq_true, Bool.not_eq_true'] at this
      exact this.1
    have hzop := hop z (List.mem_of_getLast? hz)
    have hhead : ∀ x, (c0 :: kr).head? = some x → isOpChar x = false := fun x e => hop x (List.mem_of_mem_head? e)
    refine h1.append ?_
    have h3 := run_listScan (F := F ++ lower (c0 :: kr)) (P := lower (c0 :: kr)) (tail := (')' :: R) ++ tail) rfl _ 1 content
      (.first false) hcontent (Nat.le_refl 1)
    have h4 : ARun (.list (F ++ lower (c0 :: kr)) (lower (c0 :: kr)) (.first false) 1) (content ++ ')' :: R) tail
        (.between (F ++ (Item.vlist (c0 :: kr) gap content rows).norm) (lower (c0 :: kr)) sp) := by
      have e : F ++ (Item.vlist (c0 :: kr) gap content rows).norm =
          F ++ lower (c0 :: kr) ++ if !content.isEmpty then ['(', '?', '+', ')'] else ['(', ')'] := by
        cases content <;> simp [Item.norm]
      rw [e] at h5 ⊢
      cases content with
      | nil => exact .cons .lClose1 h5
      | cons x xs => exact h3.append (.cons .lClose1 h5)
    cases ws with
    | nil => exact .cons (.kwParen hkw hzop hhead hcall) h4
    | cons g gs =>
      simp only [List.all_cons, Bool.and_eq_true] at hgap
      exact .cons (.kwSpace hgap.1 hkw hzop hhead) ((ARun.spaces .loSpace gs _ hgap.2).append (.cons .loOpen h4))

theorem gapText_isEmpty (g : Gap) : (gapText g).isEmpty = g.isEmpty := by
  cases g with
  | nil => rfl
  | cons p g => cases p <;> simp [gapText, SepPiece.text]

def startsPlain : List (Item × Gap) → Bool
  | [] => true
  | (nx, _) :: _ => nx.isPlain

theorem sepsOK_cons (it : Item) (sep : Gap) (rest : List (Item × Gap)) : sepsOK ((it, sep) :: rest) =
    ((if sep.isEmpty then it.isList && it.rows.isEmpty && !rest.isEmpty else true) &&
      (!it.isList || startsPlain rest) && sepsOK rest) := by
  rcases rest with _ | ⟨⟨_, _⟩, _⟩ <;> rfl

/-- The states between two items: clean, or behind a value list and its separator when a chunk
    that begins with plain word text follows (`P`: the word copied last, `d` as in `A`). -/
inductive AtItem : A → Bool → List Char → List (Item × Gap) → Prop
  | clean {d F P rest} : AtItem (.clean d F P) d P rest
  | between {F P sp rest} : startsPlain rest = true → AtItem (.between F P sp) false P rest

theorem run_item {a : A} {d : Bool} {P : List Char} {it : Item} {g : Gap} {rest : List (Item × Gap)} (tail : List Char)
    (hat : AtItem a d P ((it, g) :: rest)) (hcore : it.core = true) (hg : wsGap g = true)
    (hctx : it.ctxOK1 P d = true) (hseps : sepsOK ((it, g) :: rest) = true) :
    ∃ a', ARun a (it.text ++ gapText g) tail a' ∧ AtItem a' (it.nextDupe P d) (it.nextPrev P) rest ∧
      a'.out = a.out ++ it.norm ++ (if g.isEmpty then [] else [' ']) := by
  have hgws := gapText_ws g hg
  have hge := gapText_isEmpty g
  simp only [sepsOK_cons, Bool.and_eq_true] at hseps
  obtain ⟨⟨hs1, hs2⟩, _⟩ := hseps
  cases it with
  | chunk segs =>
    have hgne : g.isEmpty = false := by
      cases hgi : g.isEmpty with
      | false => rfl
      | true => rw [hgi] at hs1; simp [Item.isList] at hs1
    rw [hgne] at hge ⊢
    cases hws : gapText g with
    | nil => simp [hws] at hge
    | cons r ws =>
      rw [hws] at hgws
      simp only [List.all_cons, Bool.and_eq_true] at hgws
      have key : ARun a (segsText segs ++ [r]) (ws ++ tail)
          (.clean (segsDupe P d segs) (a.out ++ segsNorm segs ++ [' ']) (segsPrev P segs)) := by
        cases hat with
        | clean => exact run_chunk hgws.1 segs _ .start hcore hctx
        | between hsp =>
          rename_i F sp
          cases segs with
          | nil => simp [startsPlain, Item.isPlain] at hsp
          | cons x rest' =>
            cases x with
            | n _ | s _ | p _ _ => simp [startsPlain, Item.isPlain] at hsp
            | w t =>
              cases t with
              | nil => simp [startsPlain, Item.isPlain, plainFirst] at hsp
              | cons c wr =>
                simp only [startsPlain, Item.isPlain, plainFirst, Bool.and_eq_true, Bool.not_eq_true', decide_eq_true_eq] at hsp
                simp only [Item.core, segsOK, Bool.and_eq_true, true_and] at hcore
                simp only [Item.ctxOK1, segsCtx, Bool.and_eq_true] at hctx
                obtain ⟨z, hz, h⟩ := run_wordText (d := false) (F := F ++ blankIf sp) (P := P)
                  (.bFirst (wordShape_first hcore.1) hsp.1.1 hsp.1.2 hsp.2) hcore.1 (wordCtx_call hctx.1)
                  (segsText rest' ++ [r] ++ (ws ++ tail))
                rw [hz] at hcore
                rw [segsText_cons, List.append_assoc]
                exact h.append (run_chunk hgws.1 rest' _ (.afterW hcore.1 hz hctx.1) hcore.2 hctx.2)
      refine ⟨_, ?_, .clean, rfl⟩
      rw [Item.text, ← List.singleton_append, ← List.append_assoc]
      exact key.append (ARun.spaces .space ws tail hgws.2)
  | vlist kw gap content rows =>
    simp only [Item.ctxOK1, Bool.and_eq_true, Bool.not_eq_true', decide_eq_false_iff_not] at hctx
    obtain ⟨hcall, rfl⟩ := hctx
    cases hat with
    | between hsp => simp [startsPlain, Item.isPlain] at hsp
    | clean =>
      obtain ⟨sp, h1, hsp⟩ := run_vlist kw gap content rows (gapText g ++ tail) hcore hcall
      refine ⟨_, h1.append (run_between_ws (gapText g) tail hgws), .between (by simpa [Item.isList] using hs2), ?_⟩
      · rw [hge]
        cases hgi : g.isEmpty with
        | true =>
          -- `sepsOK` lets only a list of one row be glued to what follows: behind it no blank is pending
          rw [hgi] at hs1
          simp only [if_true, Bool.and_eq_true, Item.rows, List.isEmpty_iff] at hs1
          simp [A.out, hsp hs1.1.2, blankIf]
        | false => simp [A.out, blankIf]

theorem renderItems_append (l1 l2 : List (Item × Gap)) : renderItems (l1 ++ l2) = renderItems l1 ++ renderItems l2 := by
  induction l1 with
  | nil => rfl
  | cons p l ih => simp [renderItems, ih]

theorem run_items : ∀ (its : List (Item × Gap)) {a : A} {d : Bool} {P : List Char} (tail : List Char), AtItem a d P its →
    (∀ p ∈ its, p.1.core = true ∧ wsGap p.2 = true) → ctxOK P d (its.map (·.1)) = true → sepsOK its = true →
    ∃ a', ARun a (renderItems its) tail a' ∧ a'.out = a.out ++ normAll its
  | [], a, _, _, _, _, _, _, _ => ⟨a, .nil, by simp [normAll]⟩
  | (it, g) :: rest, a, d, P, tail, hat, hok, hctx, hseps => by
    simp only [List.map_cons, ctxOK, Bool.and_eq_true] at hctx
    obtain ⟨hc, hg⟩ := hok (it, g) (by simp)
    obtain ⟨a1, h1, hat1, ho1⟩ := run_item (renderItems rest ++ tail) hat hc hg hctx.1 hseps
    obtain ⟨a2, h2, ho2⟩ := run_items rest tail hat1 (fun p hp => hok p (by simp [hp])) hctx.2
      (by rw [sepsOK_cons, Bool.and_eq_true] at hseps; exact hseps.2)
    exact ⟨a2, by simpa [renderItems] using h1.append h2, by rw [ho2, ho1]; simp [normAll]⟩

/-- The parts of `Stmt.ok`. -/
theorem stmt_ok_iff (s : Stmt) : s.ok = true ↔ gapOK s.lead = true ∧ (∀ p ∈ s.init, p.1.shapeOK = true ∧ gapOK p.2 = true) ∧
    s.last.shapeOK = true ∧ gapOK s.tail = true ∧ ctxOK [] false s.items = true ∧ sepsOK s.allItems = true := by
  simp only [Stmt.ok, Bool.and_eq_true, List.all_eq_true, and_assoc]

/-- The parts of `Stmt.core`. -/
theorem stmt_core_iff (s : Stmt) : s.core = true ↔ wsGap s.lead = true ∧ (∀ p ∈ s.init, p.1.core = true ∧ wsGap p.2 = true) ∧
    s.last.core = true ∧ wsGap s.tail = true ∧ ctxOK [] false s.items = true ∧ sepsOK s.allItems = true := by
  simp only [Stmt.core, Bool.and_eq_true, List.all_eq_true, and_assoc]

theorem core_run (s : Stmt) (hcore : s.core = true) :
    ∃ a', ARun (.clean false [] []) (s.text ++ [' ']) [] a' ∧ a'.out = normAll s.allItems := by
  obtain ⟨hlead, hinit, hlast, htail, hctx, hseps⟩ := (stmt_core_iff s).mp hcore
  have htext : s.text ++ [' '] = gapText s.lead ++ renderItems s.allItems := by
    simp [Stmt.text, Stmt.allItems, renderItems_append, renderItems, Stmt.lastSep, gapText, SepPiece.text]
  have hitems : ∀ p ∈ s.allItems, p.1.core = true ∧ wsGap p.2 = true := by
    intro p hp
    simp only [Stmt.allItems, List.mem_append, List.mem_singleton] at hp
    rcases hp with hp | rfl
    · exact hinit p hp
    · refine ⟨hlast, ?_⟩
      simp only [wsGap, gapOK, gapIsWs, Bool.and_eq_true] at htail ⊢
      simp [Stmt.lastSep, htail.1, htail.2, SepPiece.ok, SepPiece.isWs, isSpace]
  obtain ⟨a', h, ho⟩ := run_items s.allItems [] (.clean (d := false) (F := []) (P := [])) hitems
    (by simpa [Stmt.allItems, Stmt.items] using hctx) hseps
  exact ⟨a', by rw [htext]; exact (ARun.spaces .space _ _ (gapText_ws _ hlead)).append h,
    by simpa [A.out] using ho⟩

end GaeaVerif.FingerprintSteps
