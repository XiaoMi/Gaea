import GaeaVerif.Lemmas.C24Sums
import GaeaVerif.Lemmas.C24Step
/-
  The effect of a `Step` on the slot and counter ledger of C24 (a case analysis over `Step` each:
  most transitions leave the quantities alone, the rest is linear arithmetic), and the effect of a
  step of the whole system on the sums over the thread list (`Step.sumN`, `Step.sumI`).
-/
namespace GaeaVerif.C24
open GaeaVerif.ResourcePool

section
variable {p : Pool} {a : Alt} {t : Thread} {r : Res}

theorem Step.maxCap_eq (h : Step p a t r) : r.pool.maxCap = p.maxCap := by
  cases h <;> rfl

theorem Step.panic_dead (h : Step p a t r) : evIsPanic r.ev = true → r.thr.pc = .dead := by
  cases h <;> simp [evIsPanic]

/-- A send finds the channel open and with room, Close finds it open. -/
theorem Step.alive (h : Step p a t r) (hl : Local p t) : r.thr.pc ≠ .dead := by
  obtain ⟨-, hcl, hroom, -, -, -, -⟩ := hl
  cases h <;> simp only [ne_eq, reduceCtorEq, not_false_eq_true]
  all_goals simp [tok, pcTok, inLoop, *] at hcl hroom
  all_goals omega

theorem Step.asserts (h : Step p a t r) (hl : Local p t) : A r.pool.maxCap r.thr := by
  obtain ⟨hA, -, -, -, -, -, hcap⟩ := hl
  cases h <;> simp only [A] at hA ⊢ <;> omega

theorem Step.slots (h : Step p a t r) (hl : Local p t) :
    (r.pool.chan.length : Int) + tok r.thr + growP r.thr - r.pool.capacity - closeP r.thr
      = p.chan.length + tok t + growP t - p.capacity - closeP t := by
  have hal := h.alive hl
  obtain ⟨hA, hcl, -, -, -, -, -⟩ := hl
  cases h <;> simp only [tok, pcTok, growP, closeP, List.length_append, List.length_cons, List.length_nil, *]
  all_goals simp [inLoop, A, *] at hA hcl hal ⊢
  all_goals omega

theorem Step.counters (h : Step p a t r) (hl : Local p t) :
    r.pool.inUse - inUseW r.thr = p.inUse - inUseW t
    ∧ r.pool.available - r.pool.chan.length - avW r.thr = p.available - p.chan.length - avW t := by
  have hal := h.alive hl
  obtain ⟨-, hcl, -, -, -, -, -⟩ := hl
  cases h <;> simp only [inUseW, avW, List.length_append, List.length_cons, List.length_nil, and_self, *]
  all_goals simp [inLoop, *] at hcl hal ⊢
  all_goals omega

end

section
variable {p : Pool} {a : Alt} {t : Thread} {r : Res} {l : List Thread} {i : Nat}

theorem Step.sumN (h : Step p a t r) (f : Thread → Nat) (hf : f ⟨[], .kLoad, [], true⟩ = 0) (hi : l[i]? = some t) :
    sumN f (l.set i r.thr ++ r.spawn.toList) + f t = sumN f l + f r.thr := by
  have := sumN_set f l i t r.thr hi
  cases hsp : r.spawn with
  | none => simpa [sumN_append] using this
  | some c => cases h.spawn_eq hsp; simp [sumN_append, hf]; omega

theorem Step.sumI (h : Step p a t r) (f : Thread → Int) (hf : f ⟨[], .kLoad, [], true⟩ = 0) (hi : l[i]? = some t) :
    sumI f (l.set i r.thr ++ r.spawn.toList) + f t = sumI f l + f r.thr := by
  have := sumI_set f l i t r.thr hi
  cases hsp : r.spawn with
  | none => simpa [sumI_append] using this
  | some c => cases h.spawn_eq hsp; simp [sumI_append, hf]; omega

end

end GaeaVerif.C24
