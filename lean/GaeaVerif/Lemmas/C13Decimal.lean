import GaeaVerif.Lemmas.C13Digits
/-
  C13 helper lemmas: decimals — `Decimal.String` of the model read back by the
  spec's `decimalText`, and `decimal.NewFromString` on the spellings of the spec.
-/
namespace GaeaVerif.C13
open GaeaVerif GaeaVerif.BinRow GaeaVerif.BinProto GaeaVerif.LenEnc

theorem decimalText_neg (b : Bytes) :
    decimalText (45 :: b) = (decimalBody b).map fun (u, sc) => (-(u : Int), sc) := by
  unfold decimalText
  simp

theorem decimalText_pos (b : Bytes) (h : b.head? ≠ some 45) :
    decimalText b = (decimalBody b).map fun (u, sc) => ((u : Int), sc) := by
  unfold decimalText
  have : (b.head? == some 45) = false := by simpa using h
  simp [this]

/-- The text `[-]i[.f]`. -/
def decSpell (neg : Bool) (i f : Bytes) : Bytes :=
  (if neg then [45] else []) ++ (i ++ if f = [] then [] else 46 :: f)

theorem length_decSpell (neg : Bool) (i f : Bytes) :
    i.length + f.length ≤ (decSpell neg i f).length ∧ (decSpell neg i f).length ≤ i.length + f.length + 2 := by
  cases neg <;> by_cases hf : f = [] <;> simp [decSpell, hf] <;> omega

theorem decimalText_decSpell (neg : Bool) (i f : Bytes) (hi : i ≠ []) (hdi : i.all isDigit = true)
    (hdf : f.all isDigit = true) :
    decimalText (decSpell neg i f)
      = some (if neg then -(decVal (i ++ f) : Int) else (decVal (i ++ f) : Int), f.length) := by
  have hbody : decimalBody (i ++ if f = [] then [] else 46 :: f) = some (decVal (i ++ f), f.length) := by
    have h1 : allDigits i = true := (allDigits_iff _).2 ⟨hi, hdi⟩
    unfold decimalBody
    by_cases hf : f = []
    · subst hf; rw [if_pos rfl, List.append_nil, splitDot_digits _ hdi]; simp [h1]
    · rw [if_neg hf, splitDot_append _ _ hdi]; simp [h1, (allDigits_iff f).2 ⟨hf, hdf⟩]
  cases neg with
  | true => rw [decSpell, if_pos rfl, List.singleton_append, decimalText_neg, hbody]; rfl
  | false =>
    have hhead : (i ++ if f = [] then [] else 46 :: f).head? ≠ some 45 := by
      cases i with
      | nil => exact absurd rfl hi
      | cons c cs => exact head_digit_ne_minus (c :: cs) hi hdi
    rw [decSpell, if_neg Bool.false_ne_true, List.nil_append, decimalText_pos _ hhead, hbody]; rfl

theorem sign_transfer (u : Int) (M sc sc' : Nat) (h : M * 10 ^ sc = u.natAbs * 10 ^ sc') :
    (if u < 0 then -(M : Int) else (M : Int)) * 10 ^ sc = u * 10 ^ sc' := by
  have h' : ((M : Int) * 10 ^ sc) = (u.natAbs : Int) * 10 ^ sc' := by exact_mod_cast h
  by_cases hu : u < 0
  · rw [if_pos hu, Int.neg_mul, h', show (u.natAbs : Int) = -u by omega, Int.neg_mul, Int.neg_neg]
  · rw [if_neg hu, h', show (u.natAbs : Int) = u by omega]

theorem decimalString_shape (u : Int) (sc : Nat) :
    ∃ intPart fullfrac : Bytes, intPart ≠ [] ∧ intPart.all isDigit = true ∧ fullfrac.all isDigit = true
      ∧ decVal (intPart ++ fullfrac) = u.natAbs ∧ fullfrac.length = sc
      ∧ intPart.length ≤ (natToDec u.natAbs).length + 1
      ∧ decimalString u (-(sc : Int)) = decSpell (decide (u < 0)) intPart (trimTrailingZeros fullfrac) := by
  have hstr := natToDec_digits u.natAbs
  have hne := natToDec_ne_nil u.natAbs
  have hval := decVal_natToDec u.natAbs
  by_cases hsc : sc = 0
  · subst hsc
    refine ⟨natToDec u.natAbs, [], hne, hstr, rfl, by rw [List.append_nil, hval], rfl, by omega, ?_⟩
    have hds : decimalString u (-((0 : Nat) : Int)) = intToDec u := by
      unfold decimalString; simp
    rw [hds, intToDec, decSpell]
    by_cases hu : u < 0 <;> simp [hu, trimTrailingZeros]
  · have hexp : ¬ (-(sc : Int) ≥ 0) := by omega
    have he : (- -(sc : Int)).toNat = sc := by omega
    unfold decimalString
    rw [if_neg hexp]
    simp only [he]
    generalize natToDec u.natAbs = str at *
    by_cases hl : str.length > sc
    · have hsplit : str = str.take (str.length - sc) ++ str.drop (str.length - sc) := (List.take_append_drop _ _).symm
      refine ⟨str.take (str.length - sc), str.drop (str.length - sc), ?_, ?_, ?_, ?_, ?_, ?_, ?_⟩
      · intro e
        have := congrArg List.length e
        simp at this; omega
      · rw [hsplit] at hstr; exact all_of_append_left hstr
      · rw [hsplit, List.all_append, Bool.and_eq_true] at hstr; exact hstr.2
      · rw [List.take_append_drop]; exact hval
      · simp; omega
      · simp; omega
      · rw [if_pos hl, decSpell]
        by_cases hu : u < 0 <;> cases trimTrailingZeros (str.drop (str.length - sc)) <;> simp [hu]
    · refine ⟨[48], List.replicate (sc - str.length) 48 ++ str, by simp, by decide, ?_, ?_, ?_, ?_, ?_⟩
      · rw [List.all_append, hstr]; simp; right; decide
      · rw [show [48] ++ (List.replicate (sc - str.length) 48 ++ str) = List.replicate (sc - str.length + 1) 48 ++ str from by
          simp [List.replicate_succ]]
        rw [decVal_append, decVal_replicate_zero, hval]; simp
      · simp; omega
      · simp
      · rw [if_neg hl, decSpell]
        by_cases hu : u < 0 <;> cases trimTrailingZeros (List.replicate (sc - str.length) 48 ++ str) <;> simp [hu]

theorem decimalString_roundtrip (u : Int) (sc : Nat) :
    ∃ u' sc', decimalText (decimalString u (-(sc : Int))) = some (u', sc') ∧ u' * 10 ^ sc = u * 10 ^ sc' := by
  obtain ⟨i, ff, hi, hdi, hdf, hN, hlen, -, hs⟩ := decimalString_shape u sc
  obtain ⟨k, hk⟩ := trim_spec ff
  refine ⟨_, _, by rw [hs, decimalText_decSpell _ i _ hi hdi (trim_digits ff hdf)], ?_⟩
  -- the trailing zeros that were trimmed: `ff = frac ++ 0…0`
  generalize trimTrailingZeros ff = frac at hk ⊢
  have hmul : decVal (i ++ frac) * 10 ^ sc = u.natAbs * 10 ^ frac.length := by
    rw [← hN, ← hlen, hk, ← List.append_assoc, decVal_append (i ++ frac), decVal_replicate_zero, List.length_append,
      List.length_replicate, Nat.add_zero, Nat.pow_add, Nat.mul_assoc, Nat.mul_comm (10 ^ k)]
  have := sign_transfer u _ sc _ hmul
  by_cases hu : u < 0 <;> simpa [hu] using this

theorem decimalString_len (u : Int) (sc : Nat) :
    (decimalString u (-(sc : Int))).length ≤ (natToDec u.natAbs).length + sc + 3 := by
  obtain ⟨i, ff, -, -, -, -, hlen, hil, hs⟩ := decimalString_shape u sc
  have ht := trim_len_le ff
  have := (length_decSpell (decide (u < 0)) i (trimTrailingZeros ff)).2
  rw [hs]; omega

theorem decimalText_shape (cell : Bytes) (u : Int) (sc : Nat) (h : decimalText cell = some (u, sc)) :
    ∃ (neg : Bool) (i f : Bytes), cell = decSpell neg i f
      ∧ i ≠ [] ∧ i.all isDigit = true ∧ f.all isDigit = true ∧ f.length = sc
      ∧ u = (if neg then -(decVal (i ++ f) : Int) else (decVal (i ++ f) : Int)) := by
  have hcell := sign_split cell
  unfold decimalText at h
  simp only at h
  generalize (if (cell.head? == some 45) = true then cell.drop 1 else cell) = body at h hcell
  generalize (cell.head? == some 45) = neg at h hcell
  cases hb : decimalBody body with
  | none => simp [hb] at h
  | some p =>
    obtain ⟨M, sc0⟩ := p
    simp only [hb, Option.map_some, Option.some.injEq, Prod.mk.injEq] at h
    obtain ⟨hu, hsc⟩ := h
    subst hsc
    unfold decimalBody at hb
    cases hsd : splitDot body with
    | none =>
      rw [hsd] at hb
      simp only at hb
      split at hb
      · rename_i had
        simp only [Option.some.injEq, Prod.mk.injEq] at hb
        obtain ⟨hM, h0⟩ := hb
        have := (allDigits_iff _).1 had
        refine ⟨neg, body, [], ?_, this.1, this.2, by simp, h0, ?_⟩
        · simpa [decSpell] using hcell
        · rw [← hu, ← hM]; simp
      · simp at hb
    | some q =>
      obtain ⟨i, f⟩ := q
      rw [hsd] at hb
      simp only at hb
      split at hb
      · rename_i had
        simp only [Bool.and_eq_true] at had
        simp only [Option.some.injEq, Prod.mk.injEq] at hb
        obtain ⟨hM, h0⟩ := hb
        have hi := (allDigits_iff _).1 had.1
        have hf := (allDigits_iff _).1 had.2
        refine ⟨neg, i, f, ?_, hi.1, hi.2, hf.2, h0, ?_⟩
        · rw [decSpell, if_neg hf.1, ← Split.eq_of_cut_some ((splitDot_eq body).symm.trans hsd)]; exact hcell
        · rw [← hu, ← hM]
      · simp at hb

theorem digit_not_exp_dot (c : UInt8) (h : isDigit c = true) :
    (c == 69 || c == 101) = false ∧ (c == 46) = false :=
  ⟨Bool.or_eq_false_iff.2 ⟨isDigit_beq h rfl, isDigit_beq h rfl⟩, isDigit_beq h rfl⟩

theorem filter_dot_digits (s : Bytes) (h : s.all isDigit = true) : s.filter (· == 46) = [] := by
  rw [List.filter_eq_nil_iff]
  intro c hc
  have := (List.all_eq_true.1 h) c hc
  simp [(digit_not_exp_dot c this).2]

theorem decVal_lt_2_63 (ds : Bytes) (hd : ds.all isDigit = true) (hl : ds.length ≤ 18) : decVal ds < 2 ^ 63 := by
  have h1 := decVal_lt ds hd
  have h2 : 10 ^ ds.length ≤ 10 ^ 18 := Nat.pow_le_pow_right (by decide) hl
  have : (10 : Nat) ^ 18 < 2 ^ 63 := by decide
  omega

/-- The bound is the range of the scale `-f.length`, an `int32`. -/
theorem newFromString_digits (neg : Bool) (i f : Bytes) (hi : i ≠ []) (hdi : i.all isDigit = true)
    (hdf : f.all isDigit = true) :
    newFromString (decSpell neg i f)
      = if f.length ≤ 2147483648 then
          some (if neg then -(decVal (i ++ f) : Int) else (decVal (i ++ f) : Int), -(f.length : Int))
        else none := by
  unfold decSpell
  have hdif : (i ++ f).all isDigit = true := by rw [List.all_append, hdi, hdf]; rfl
  have hneif : i ++ f ≠ [] := by simp [hi]
  have hp1 := parseInt_signed_of_lt neg (i ++ f) hneif hdif
  have hp2 := parseBigInt_shape neg (i ++ f) hneif hdif
  -- the sign and the integer digits hold neither an exponent mark nor a point
  have hsi : ∀ c ∈ (if neg then [45] else [] : Bytes) ++ i, (c == 69 || c == 101) = false ∧ (c == 46) = false := by
    intro c hc
    rcases List.mem_append.1 hc with h | h
    · cases neg
      · cases h
      · cases List.mem_singleton.1 h; exact ⟨rfl, rfl⟩
    · exact digit_not_exp_dot c (List.all_eq_true.1 hdi c h)
  have hfE : ∀ c ∈ f, (c == 69 || c == 101) = false := fun c hc =>
    (digit_not_exp_dot c ((List.all_eq_true.1 hdf) c hc)).1
  have hfilt : ((if neg then [45] else [] : Bytes) ++ i).filter (· == 46) = [] :=
    List.filter_eq_nil_iff.2 fun c hc => by simp [(hsi c hc).2]
  generalize (if neg then -(decVal (i ++ f) : Int) else (decVal (i ++ f) : Int)) = res at hp1 hp2 ⊢
  generalize (if neg = true then [45] else [] : Bytes) = sgn at *
  have hparse : (if (sgn ++ (i ++ f)).length ≤ 18 then parseInt (sgn ++ (i ++ f)) 64
        else parseBigInt (sgn ++ (i ++ f))) = some res := by
    by_cases hl : (sgn ++ (i ++ f)).length ≤ 18
    · rw [if_pos hl]
      apply hp1
      apply decVal_lt_2_63 _ hdif
      simp only [List.length_append] at hl ⊢; omega
    · rw [if_neg hl]; exact hp2
  by_cases hf : f = []
  · subst hf
    simp only [if_true, List.append_nil] at hparse ⊢
    unfold newFromString
    simp only [findIdx_none _ _ fun c hc => (hsi c hc).1, findIdx_none _ _ fun c hc => (hsi c hc).2, hfilt, hparse]
    simp
  · -- the text is split at its only point
    obtain ⟨h1, h2, h3⟩ := findIdx_split (· == 46) (sgn ++ i) f 46 (fun c hc => (hsi c hc).2) rfl
    have hE : findIdx (fun c => c == 69 || c == 101) (sgn ++ i ++ 46 :: f) = none :=
      findIdx_none _ _ fun c hc => by
        rcases List.mem_append.1 hc with h | h
        · exact (hsi c h).1
        · rcases List.mem_cons.1 h with h | h
          · subst h; rfl
          · exact hfE c h
    have hfl : ((sgn ++ i ++ 46 :: f).filter (· == 46)).length = 1 := by
      rw [List.filter_append, hfilt, List.filter_cons, filter_dot_digits f hdf]; rfl
    rw [if_neg hf, ← List.append_assoc]
    unfold newFromString
    simp only [hE, h1, hfl, h2, h3]
    rw [List.append_assoc]
    simp only [hparse]
    have he : (0 : Int) - (((sgn ++ i ++ 46 :: f).length : Int) - ((sgn ++ i).length : Nat) - 1) = -(f.length : Int) := by
      simp only [List.length_append, List.length_cons]; omega
    simp only [he]
    by_cases hl : f.length ≤ 2147483648
    · rw [if_pos hl]; simp; omega
    · rw [if_neg hl]; simp; omega

/-- The length bound keeps the decimal that is written back within a length-encoded string (`decimal_col`). -/
theorem decimal_cell_roundtrip (cell : Bytes) (u : Int) (sc : Nat) (v e : Int)
    (hd : decimalText cell = some (u, sc)) (hn : newFromString cell = some (v, e)) :
    (∃ u' sc', decimalText (decimalString v e) = some (u', sc') ∧ u' * 10 ^ sc = u * 10 ^ sc')
    ∧ (decimalString v e).length ≤ 2 * cell.length + 3 := by
  obtain ⟨neg, i, f, hcell, hi, hdi, hdf, hlen, hu⟩ := decimalText_shape cell u sc hd
  rw [hcell, newFromString_digits neg i f hi hdi hdf] at hn
  split at hn <;> cases hn
  rw [← hu, hlen]
  refine ⟨decimalString_roundtrip u sc, ?_⟩
  have hdif : (i ++ f).all isDigit = true := by rw [List.all_append, hdi, hdf]; rfl
  have habs : u.natAbs = decVal (i ++ f) := by rw [hu]; cases neg <;> simp
  have hil : 1 ≤ (i ++ f).length := by
    cases i with
    | nil => exact absurd rfl hi
    | cons c cs => simp
  have h1 := natToDec_len_le u.natAbs (i ++ f).length hil (by rw [habs]; exact decVal_lt (i ++ f) hdif)
  have h2 := decimalString_len u sc
  have h3 := (length_decSpell neg i f).1
  rw [List.length_append, hlen] at h1
  rw [← hcell, hlen] at h3
  omega

theorem newFromString_of_decimalText (cell : Bytes) (u : Int) (sc : Nat) (h : decimalText cell = some (u, sc))
    (hlen : cell.length < 2 ^ 31) : ∃ v e, newFromString cell = some (v, e) := by
  obtain ⟨neg, i, f, hcell, hi, hdi, hdf, hfl, _⟩ := decimalText_shape cell u sc h
  have := (length_decSpell neg i f).1
  rw [← hcell] at this
  rw [hcell, newFromString_digits neg i f hi hdi hdf, if_pos (by omega)]
  exact ⟨_, _, rfl⟩

end GaeaVerif.C13
