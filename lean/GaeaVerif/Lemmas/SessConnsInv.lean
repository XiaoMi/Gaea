import GaeaVerif.Lemmas.SessConnsWorld
/-
  C18 / C19 / C23: the session invariant `Inv` (what the session holds = what
  is out in the ledger) and its preservation by every function of
  Model/SessionConns.lean, in the order of the model, up to `step` and `run`
  (`Idle`).  Each function is gone through once; the lemma about it also says
  what it leaves of the flags (`SameFlags`, `SameFlagsC`, `SameNs`, `Plain`) and
  of the two maps (`MapsGrow`, `Keep`, `CmdSpec`, `CmdResult`).
-/
namespace GaeaVerif.SessionConns

/-- what the session holds -/
def held (s : St) : CMap := s.txConns ++ s.ksConns

theorem held_tx {s : St} {e : Nat × Nat} (he : e ∈ s.txConns) : e ∈ held s := List.mem_append_left _ he
theorem held_ks {s : St} {e : Nat × Nat} (he : e ∈ s.ksConns) : e ∈ held s := List.mem_append_right _ he
theorem held_vals (s : St) : (held s).vals = s.txConns.vals ++ s.ksConns.vals := vals_append ..
theorem held_keys (s : St) : (held s).keys = s.txConns.keys ++ s.ksConns.keys := keys_append ..

/-- The session invariant.  The connections that are out are those of the two
    maps and of `L` (connections taken by the command in progress that are in
    neither map); the held ones are master connections (for every user, since
    the keep-session repair); the ledger extends `w0`. -/
structure Inv (w0 : World) (cfg : Cfg) (L : CMap) (s : St) : Prop where
  wi : Ledger w0 (held s ++ L) (held s).vals s.w
  ksOff : cfg.ks = false → s.ksConns = []
  ksOn : cfg.ks = true → s.txConns = []
  txIdle : s.isInTransaction = false → s.txConns = []
  loc : L = [] ∨ (cfg.ks = false ∧ s.isInTransaction = false)

/-- everything but the world and the two maps is unchanged -/
structure SameFlags (s s' : St) : Prop where
  autocommit : s'.autocommit = s.autocommit
  inTrans : s'.inTrans = s.inTrans
  continueConn : s'.continueConn = s.continueConn
  savepoints : s'.savepoints = s.savepoints
  closed : s'.closed = s.closed
  nsOld : s'.nsOld = s.nsOld
  nsCtx : s'.nsCtx = s.nsCtx
  nsCur : s'.nsCur = s.nsCur

theorem SameFlags.set (s : St) (w : World) (tx ks : CMap) :
    SameFlags s { s with w := w, txConns := tx, ksConns := ks } := ⟨rfl, rfl, rfl, rfl, rfl, rfl, rfl, rfl⟩

theorem SameFlags.trans {s s' s'' : St} (a : SameFlags s s') (b : SameFlags s' s'') : SameFlags s s'' :=
  ⟨b.autocommit.trans a.autocommit, b.inTrans.trans a.inTrans, b.continueConn.trans a.continueConn,
   b.savepoints.trans a.savepoints, b.closed.trans a.closed, b.nsOld.trans a.nsOld,
   b.nsCtx.trans a.nsCtx, b.nsCur.trans a.nsCur⟩

theorem SameFlags.inTx {s s' : St} (a : SameFlags s s') : s'.isInTransaction = s.isInTransaction := by
  simp [St.isInTransaction, a.autocommit, a.inTrans]

/-- the two maps only gain entries, behind the ones they had (`CMap.put` on a slice that had none) -/
def MapsGrow (s s' : St) : Prop :=
  (∃ A, s'.txConns = s.txConns ++ A) ∧ (∃ B, s'.ksConns = s.ksConns ++ B)

theorem MapsGrow.of_eq {s s' : St} (h1 : s'.txConns = s.txConns) (h2 : s'.ksConns = s.ksConns) : MapsGrow s s' :=
  ⟨⟨[], by simp [h1]⟩, ⟨[], by simp [h2]⟩⟩

theorem MapsGrow.trans {s s' s'' : St} (a : MapsGrow s s') (b : MapsGrow s' s'') : MapsGrow s s'' := by
  obtain ⟨⟨A, hA⟩, ⟨B, hB⟩⟩ := a
  obtain ⟨⟨A', hA'⟩, ⟨B', hB'⟩⟩ := b
  exact ⟨⟨A ++ A', by rw [hA', hA, List.append_assoc]⟩, ⟨B ++ B', by rw [hB', hB, List.append_assoc]⟩⟩

theorem MapsGrow.held {s s' : St} (a : MapsGrow s s') {e : Nat × Nat} (he : e ∈ held s) : e ∈ held s' := by
  obtain ⟨⟨A, hA⟩, ⟨B, hB⟩⟩ := a
  simp only [SessionConns.held, hA, hB, List.mem_append] at he ⊢
  exact he.imp .inl .inl

variable {w0 : World} {ctx : Ctx} {L : CMap} {s s' : St} {c sl : Nat}

theorem Inv.congr {cfg : Cfg} {w1 : World} {L' : CMap} (h : Inv w0 cfg L s)
    (hl : L' = [] ∨ (cfg.ks = false ∧ s.isInTransaction = false))
    (hw : Ledger w1 (held s ++ L') (held s).vals s'.w)
    (htx : s'.txConns = s.txConns := by rfl) (hks : s'.ksConns = s.ksConns := by rfl)
    (hin : s'.isInTransaction = s.isInTransaction := by rfl) : Inv w1 cfg L' s' :=
  ⟨by rw [held, htx, hks]; exact hw, fun hk => hks ▸ h.ksOff hk, fun hk => htx ▸ h.ksOn hk,
    fun hi => htx ▸ h.txIdle (hin ▸ hi), hin ▸ hl⟩

/-- the invariant counted from the present ledger.  This is how `Ext s.w (f s).w` is obtained for a
    function `f` of the model: its lemma applied to `h.rebase` gives `Inv s.w … (f s)`, whose `.wi.ext` it is. -/
theorem Inv.rebase {cfg : Cfg} (h : Inv w0 cfg L s) : Inv s.w cfg L s := h.congr h.loc ⟨h.wi.inv, .refl _⟩

theorem Inv.noLoc {cfg : Cfg} (h : Inv w0 cfg L s) (hm : s.isInTransaction = true ∨ cfg.ks = true) : L = [] :=
  h.loc.resolve_right fun ⟨hk, hin⟩ => by rcases hm with hm | hm <;> simp_all

theorem Inv.held_nil {cfg : Cfg} (h : Inv w0 cfg L s) (hk : cfg.ks = false) (hin : s.isInTransaction = false) :
    held s = [] := by
  simp [held, h.txIdle hin, h.ksOff hk]

/-- outcome of `getBackendConn` for slice `sl`: an error; or the connection the
    session holds for the slice (possibly taken and filed just now); or, outside
    keep-session mode and transactions, a connection taken for this command only -/
inductive GotConn (w0 : World) (cfg : Cfg) (L : CMap) (sl : Nat) (s' : St) : Option Nat → Bool → Prop
  | none (hI : Inv w0 cfg L s') : GotConn w0 cfg L sl s' none true
  | held (c : Nat) (hm : (sl, c) ∈ held s') (hI : Inv w0 cfg L s') : GotConn w0 cfg L sl s' (some c) false
  | loc (c : Nat) (hcl : isClosed c s'.w = false) (hI : Inv w0 cfg (L ++ [(sl, c)]) s') :
      GotConn w0 cfg L sl s' (some c) false

/-- what the functions that take a connection leave of the state -/
def Taken (w0 : World) (cfg : Cfg) (L : CMap) (sl : Nat) (s : St) (r : St × Option Nat × Bool) : Prop :=
  SameFlags s r.1 ∧ MapsGrow s r.1 ∧ GotConn w0 cfg L sl r.1 r.2.1 r.2.2

theorem Inv.got_none {w' : World} (h : Inv w0 ctx.cfg L s) (hw : Ledger w0 (held s ++ L) (held s).vals w') :
    Taken w0 ctx.cfg L sl s ({ s with w := w' }, none, true) :=
  ⟨.set s w' _ _, .of_eq rfl rfl, .none (h.congr h.loc hw)⟩

theorem Inv.got_undo {w' : World} {M' : List Nat} (h : Inv w0 ctx.cfg L s) (hn : c ∉ (held s ++ L).vals)
    (hw : Ledger w0 (held s ++ L ++ [(sl, c)]) ((held s).vals ++ M') w') :
    Taken w0 ctx.cfg L sl s ({ s with w := recycle c (close c w') }, none, true) :=
  h.got_none ((drop_snoc hn ▸ hw.closeRecycle (by simp [CMap.vals])).subM fun _ hd => List.mem_append_left _ hd)

theorem inv_getTransactionConn (hk : ctx.cfg.ks = false)
    (h : Inv w0 ctx.cfg L s) (hin : s.isInTransaction = true) (hL : sl ∉ L.keys) :
    Taken w0 ctx.cfg L sl s (getTransactionConn ctx sl s) := by
  unfold getTransactionConn
  split
  · rename_i c hget
    exact ⟨.set s _ _ _, .of_eq rfl rfl, .held c (held_tx (get?_some_mem hget)) h⟩
  · rename_i hget
    have hks : s.ksConns = [] := h.ksOff hk
    have hsl : sl ∉ (held s ++ L).keys := by
      simp only [held, hks, List.append_nil, keys_append, List.mem_append, not_or]
      exact ⟨get?_none_iff.1 hget, hL⟩
    generalize hp : poolGet ctx true sl s.w = p
    obtain ⟨w1, r⟩ := p
    rcases h.wi.poolGet ctx true sl hsl hp with ⟨c, rfl, hn, -, hw⟩ | ⟨rfl, hw⟩
    · have hcm : c ∈ (held s ++ L ++ [(sl, c)]).vals := by simp [CMap.vals]
      rw [if_pos rfl] at hw
      dsimp only
      have hY := hw.call ctx .Y hcm
      generalize call ctx .Y c w1 = pY at hY ⊢
      obtain ⟨wY, rY⟩ := pY
      dsimp only at hY ⊢
      split
      · exact h.got_undo hn hY
      · have hB : Ledger w0 (held s ++ L ++ [(sl, c)]) ((held s).vals ++ [c])
            (if s.autocommit then call ctx .B c wY else call ctx .A0 c wY).1 := by
          split
          · exact hY.call ctx .B hcm
          · exact hY.call ctx .A0 hcm
        generalize (if s.autocommit then call ctx .B c wY else call ctx .A0 c wY) = pB at hB ⊢
        obtain ⟨wB, rB⟩ := pB
        dsimp only at hB ⊢
        split
        · exact h.got_undo hn hB
        · have hS := List.foldlRecOn (motive := Ledger w0 (held s ++ L ++ [(sl, c)]) ((held s).vals ++ [c]))
            s.savepoints (fun w _ => (call ctx .S c w).1) hB fun _ hw _ _ => hw.call ctx .S hcm
          have hput : s.txConns.put sl c = s.txConns ++ [(sl, c)] := put_of_not_mem (get?_none_iff.1 hget)
          refine ⟨.set s _ _ _, ⟨⟨_, hput⟩, [], by simp⟩, .held c (by simp [held, hput]) ⟨?_, h.ksOff, ?_, ?_, h.loc⟩⟩
          · refine (hS.perm ?_).subM ?_
            · simp only [held, hput, hks, List.append_nil]
              exact perm_snoc_mid _ _ _
            · simp [held, hput, hks, CMap.vals]
          · exact fun hk' => by rw [hk] at hk'; cases hk'
          · exact fun hf => by simp only [St.isInTransaction] at hf hin; rw [hin] at hf; cases hf
    · exact h.got_none hw

theorem inv_getBackendKsConn (hk : ctx.cfg.ks = true)
    (h : Inv w0 ctx.cfg L s) (hL : sl ∉ L.keys) :
    Taken w0 ctx.cfg L sl s (getBackendKsConn ctx sl s) := by
  unfold getBackendKsConn
  split
  · rename_i c hget
    exact ⟨.set s _ _ _, .of_eq rfl rfl, .held c (held_ks (get?_some_mem hget)) h⟩
  · rename_i hget
    have htx : s.txConns = [] := h.ksOn hk
    have hsl : sl ∉ (held s ++ L).keys := by
      simp only [held, htx, List.nil_append, keys_append, List.mem_append, not_or]
      exact ⟨get?_none_iff.1 hget, hL⟩
    generalize hp : sliceGetConn ctx false sl s.w = p
    obtain ⟨w1, r⟩ := p
    rcases h.wi.sliceGetConn ctx false sl hsl hp with ⟨c, rfl, hn, -, hw⟩ | ⟨rfl, hw⟩
    · have hcm : c ∈ (held s ++ L ++ [(sl, c)]).vals := by simp [CMap.vals]
      rw [if_neg Bool.false_ne_true] at hw
      dsimp only
      have hA : Ledger w0 (held s ++ L ++ [(sl, c)]) ((held s).vals ++ [c])
          (if !s.autocommit then call ctx .A0 c w1 else (w1, Res.ok)).1 := by
        split
        · exact hw.call ctx .A0 hcm
        · exact hw
      generalize (if !s.autocommit then call ctx .A0 c w1 else (w1, Res.ok)) = pA at hA ⊢
      obtain ⟨wA, rA⟩ := pA
      dsimp only at hA ⊢
      split
      · exact h.got_undo hn hA
      · have hB : Ledger w0 (held s ++ L ++ [(sl, c)]) ((held s).vals ++ [c])
            (if s.isInTransaction then call ctx .B c wA else (wA, Res.ok)).1 := by
          split
          · exact hA.call ctx .B hcm
          · exact hA
        generalize (if s.isInTransaction then call ctx .B c wA else (wA, Res.ok)) = pB at hB ⊢
        obtain ⟨wB, rB⟩ := pB
        dsimp only at hB ⊢
        split
        · exact h.got_undo hn hB
        · have hput : s.ksConns.put sl c = s.ksConns ++ [(sl, c)] := put_of_not_mem (get?_none_iff.1 hget)
          refine ⟨.set s _ _ _, ⟨⟨[], by simp⟩, _, hput⟩, .held c (by simp [held, hput]) ⟨?_, ?_, fun _ => htx, fun _ => htx, h.loc⟩⟩
          · refine (hB.perm ?_).subM ?_
            · simp only [held, hput, htx, List.nil_append]
              exact perm_snoc_mid _ _ _
            · simp [held, hput, htx, CMap.vals]
          · exact fun hk' => by rw [hk] at hk'; cases hk'
    · exact h.got_none hw

theorem inv_getBackendConn {fromSlave : Bool} (h : Inv w0 ctx.cfg L s) (hL : sl ∉ L.keys) :
    Taken w0 ctx.cfg L sl s (getBackendConn ctx fromSlave sl s) := by
  unfold getBackendConn
  cases hk : ctx.cfg.ks with
  | true => exact inv_getBackendKsConn hk h hL
  | false =>
    simp only [Bool.false_eq_true, if_false]
    unfold getBackendNoKsConn
    cases hin : s.isInTransaction with
    | true => exact inv_getTransactionConn hk h hin hL
    | false =>
      have hh := h.held_nil hk hin
      simp only [Bool.not_false, if_true]
      generalize hp : sliceGetConn ctx fromSlave sl s.w = p
      obtain ⟨w1, r⟩ := p
      rcases h.wi.sliceGetConn ctx fromSlave sl (by simpa [hh] using hL) hp with ⟨c, rfl, hn, hcl, hw⟩ | ⟨rfl, hw⟩
      · refine ⟨.set s _ _ _, .of_eq rfl rfl, .loc c hcl (h.congr (.inr ⟨hk, hin⟩) ?_)⟩
        rw [List.append_assoc] at hw
        exact hw.subM fun d (hd : d ∈ (held s).vals) => by simp [hh, CMap.vals] at hd
      · exact h.got_none hw

/-- connection `c` has been closed and given back -/
def Dropped (w : World) (c : Nat) : Prop :=
  ∃ cn : Conn, w.conns[c]? = some cn ∧ cn.closed = true ∧ 1 ≤ cn.returns

theorem Dropped.ext {w w' : World} {c : Nat} (h : Dropped w c) (hx : Ext w w') : Dropped w' c :=
  let ⟨cn, hcn, hcl, hr⟩ := h
  let ⟨cn', hcn', hr', hcl'⟩ := hx c cn hcn
  ⟨cn', hcn', hcl' hcl, Nat.le_trans hr hr'⟩

theorem closeRecycleAll_drops : ∀ (cs : List Nat) (w : World), (∀ c ∈ cs, ∃ cn : Conn, w.conns[c]? = some cn) →
    ∀ c ∈ cs, Dropped (closeRecycleAll cs w) c := by
  intro cs
  induction cs with
  | nil => exact fun w _ c hc => nomatch hc
  | cons d ds ih =>
    intro w hv c hc
    have hv' : ∀ x ∈ ds, ∃ cn : Conn, (closeRecycle d w).conns[x]? = some cn := fun x hx =>
      let ⟨cn, hcn⟩ := hv x (List.mem_cons_of_mem _ hx)
      let ⟨cn', hcn', _⟩ := ext_closeRecycle d w x cn hcn
      ⟨cn', hcn'⟩
    by_cases hcd : c ∈ ds
    · exact ih _ hv' c hcd
    · obtain rfl : c = d := by simpa [hcd] using hc
      obtain ⟨cn, hcn⟩ := hv c List.mem_cons_self
      have h1 : Dropped (closeRecycle c w) c := by
        rw [closeRecycle_eq hcn]
        exact ⟨cn.afterClose.afterRecycle, by simp [(List.getElem?_eq_some_iff.1 hcn).1],
          by simp [Conn.afterRecycle, Conn.afterClose], by simp [Conn.afterRecycle]⟩
      exact h1.ext (List.foldlRecOn (motive := Ext (closeRecycle c w)) ds _ (.refl _)
        fun _ h x _ => h.trans (ext_closeRecycle x _))

theorem Inv.ks_dropped {cfg : Cfg} (h : Inv w0 cfg L s) (ord : List Nat) :
    ∀ e ∈ s.ksConns, Dropped (closeRecycleAll (iterOrder ord s.ksConns).vals s.w) e.2 := fun e he =>
  closeRecycleAll_drops _ s.w (fun c hc => by
    obtain ⟨sl, hsl⟩ := mem_vals.1 (mem_iter_vals.1 hc)
    exact let ⟨cn, hcn, _⟩ := h.wi.inv.out _ (List.mem_append_left _ (held_ks hsl)); ⟨cn, hcn⟩) e.2
    (mem_iter_vals.2 (mem_vals.2 ⟨e.1, he⟩))

/-- The session stays in its transaction and the transaction's connections all
    stay; a pinned connection stays too, unless it is closed and the session is
    outside a transaction (a statement timeout, a broken connection, or a reload
    of the namespace: `clearKsConns` closes what it drops; a lost connection of a
    transaction stays where it is: the session is then closed at the end of the
    command, `txConnLost`). -/
def Keep (s s' : St) : Prop :=
  (s.isInTransaction = true → s'.isInTransaction = true) ∧ (∀ e ∈ s.txConns, e ∈ s'.txConns) ∧
  ∀ e ∈ s.ksConns, e ∈ s'.ksConns ∨ (isClosed e.2 s'.w = true ∧ s.isInTransaction = false)

theorem Keep.intx {a b : St} (h : Keep a b) : a.isInTransaction = true → b.isInTransaction = true := h.1
theorem Keep.tx {a b : St} (h : Keep a b) : ∀ e ∈ a.txConns, e ∈ b.txConns := h.2.1
theorem Keep.ks {a b : St} (h : Keep a b) :
    ∀ e ∈ a.ksConns, e ∈ b.ksConns ∨ (isClosed e.2 b.w = true ∧ a.isInTransaction = false) := h.2.2

theorem Keep.of_grow {a b : St} (h : MapsGrow a b) (hi : b.isInTransaction = a.isInTransaction) : Keep a b :=
  ⟨fun h => hi ▸ h, fun _ he => let ⟨_, hA⟩ := h.1; hA ▸ List.mem_append_left _ he,
    fun _ he => let ⟨_, hB⟩ := h.2; .inl (hB ▸ List.mem_append_left _ he)⟩

theorem Keep.refl (s : St) : Keep s s := ⟨id, fun _ => id, fun _ => .inl⟩

theorem Keep.notTx {a b : St} (h : Keep a b) (hb : b.isInTransaction = false) : a.isInTransaction = false :=
  Bool.eq_false_iff.2 fun ha => by rw [h.intx ha] at hb; cases hb

/-- closed connections stay closed (`hx`), so what the first step dropped is still closed after the second -/
theorem Keep.trans {a b c : St} (h1 : Keep a b) (h2 : Keep b c) (hx : Ext b.w c.w) : Keep a c :=
  ⟨h2.intx ∘ h1.intx, fun e he => h2.tx e (h1.tx e he), fun e he =>
    (h1.ks e he).elim (fun h => (h2.ks e h).imp_right fun ⟨h3, h4⟩ => ⟨h3, h1.notTx h4⟩)
      fun ⟨h, h'⟩ => .inr ⟨isClosed_ext hx h, h'⟩⟩

theorem clearKsConns_pos (hks : ctx.cfg.ks = true) (hns : s.nsCur > s.nsOld) (hin : s.isInTransaction = false) :
    clearKsConns ctx s = { s with w := closeRecycleAll (iterOrder ctx.ord s.ksConns).vals s.w, ksConns := [] } := by
  simp [clearKsConns, hks, hns, hin]

theorem clearKsConns_neg (h : ctx.cfg.ks = false ∨ s.nsCur ≤ s.nsOld ∨ s.isInTransaction = true) :
    clearKsConns ctx s = s := by
  rcases h with h | h | h
  · simp [clearKsConns, h]
  · simp [clearKsConns, Nat.not_lt.2 h]
  · simp [clearKsConns, h]

theorem inv_clearKsConns (h : Inv w0 ctx.cfg L s) :
    Inv w0 ctx.cfg L (clearKsConns ctx s) ∧ SameFlags s (clearKsConns ctx s) ∧
    (clearKsConns ctx s).txConns = s.txConns ∧
    ((clearKsConns ctx s).ksConns = s.ksConns ∨ (clearKsConns ctx s).ksConns = []) := by
  unfold clearKsConns
  split
  · refine ⟨⟨?_, fun _ => rfl, h.ksOn, h.txIdle, h.loc⟩, .set s _ _ _, rfl, .inr rfl⟩
    have hp : (held s ++ L).Perm (iterOrder ctx.ord s.ksConns ++ (s.txConns ++ L)) := by
      rw [held, List.append_assoc]
      exact List.perm_append_comm_assoc _ _ _ |>.trans ((iterOrder_perm ctx.ord s.ksConns).symm.append_right _)
    have := Ledger.foldl_drop closeRecycle (fun _ _ _ hc hw => hw.closeRecycle hc) _ _ _ (h.wi.perm hp)
    simp only [held, List.append_nil, closeRecycleAll]
    exact this.subM fun d hd => by simp [held, CMap.vals] at hd ⊢; exact .inl hd
  · exact ⟨h, .set s _ _ _, rfl, .inl rfl⟩

theorem keep_clearKsConns (h : Inv w0 ctx.cfg L s) : Keep s (clearKsConns ctx s) := by
  unfold clearKsConns
  split
  · rename_i hc
    refine ⟨id, fun _ => id, fun e he => .inr ⟨?_, by simp_all⟩⟩
    obtain ⟨cn, hcn, hcl, -⟩ := h.ks_dropped ctx.ord e he
    simp only [isClosed, hcn, hcl]
  · exact .refl s

theorem inv_recycleContinueConn (h : Inv w0 ctx.cfg L s) (hc : c ∈ (held s ++ L).vals) :
    Inv w0 ctx.cfg (drop c L) (recycleContinueConn ctx (some c) s) ∧
    SameFlags s (recycleContinueConn ctx (some c) s) ∧ Keep s (recycleContinueConn ctx (some c) s) := by
  have hr := h.wi.recycle hc
  rw [drop_append] at hr
  unfold recycleContinueConn
  dsimp only
  have stay : s.isInTransaction = true ∨ ctx.cfg.ks = true → Inv w0 ctx.cfg (drop c L) s ∧ SameFlags s s ∧ Keep s s :=
    fun hm => by obtain rfl := h.noLoc hm; exact ⟨h, .set s _ _ _, .refl s⟩
  split
  · rename_i hcl
    cases hin : s.isInTransaction with
    | true => exact stay (.inl hin)
    | false =>
      -- a closed connection outside a transaction is forgotten and given back
      have htx := h.txIdle hin
      rw [if_neg Bool.false_ne_true]
      refine ⟨⟨?_, ?_, fun _ => htx, fun _ => htx, h.loc.imp_left fun e => by rw [e]; rfl⟩, .set s _ _ _, id, fun _ => id, fun e he => ?_⟩
      · show Ledger w0 (s.txConns ++ drop c s.ksConns ++ drop c L) (s.txConns ++ drop c s.ksConns).vals _
        simp only [held, htx, List.nil_append] at hr ⊢
        exact hr.subM fun d hd => (List.mem_filter.1 (vals_drop c _ ▸ hd)).1
      · exact fun hk => by simp [forgetKsConn, h.ksOff hk]
      · by_cases hec : e.2 = c
        · exact .inr ⟨by rw [hec]; exact isClosed_ext (ext_recycle c s.w) hcl, hin⟩
        · exact .inl (List.mem_filter.2 ⟨he, by simpa using hec⟩)
  · cases hk : ctx.cfg.ks with
    | true =>
      obtain rfl := h.noLoc (.inr hk)
      rw [if_pos rfl]
      exact ⟨(inv_clearKsConns h).1, (inv_clearKsConns h).2.1, keep_clearKsConns h⟩
    | false =>
      rw [if_neg Bool.false_ne_true]
      cases hin : s.isInTransaction with
      | true => exact stay (.inl hin)
      | false =>
        rw [if_neg Bool.false_ne_true]
        refine ⟨h.congr (.inr ⟨hk, hin⟩) ?_, .set s _ _ _, id, fun _ => id, fun _ => .inl⟩
        rw [h.held_nil hk hin] at hr ⊢; exact hr

theorem recycleBackendConn_some (ctx : Ctx) (c : Nat) (s : St) : recycleBackendConn ctx (some c) s =
    if !isClosed c s.w && (s.continueConn.isSome && morePending c s.w) then s
    else recycleContinueConn ctx (some c) s := by
  simp only [recycleBackendConn, recycleContinueConn]
  cases isClosed c s.w <;> rfl

/-- flags other than `continueConn` -/
structure SameFlagsC (s s' : St) : Prop where
  autocommit : s'.autocommit = s.autocommit
  inTrans : s'.inTrans = s.inTrans
  savepoints : s'.savepoints = s.savepoints
  closed : s'.closed = s.closed
  nsOld : s'.nsOld = s.nsOld
  nsCtx : s'.nsCtx = s.nsCtx
  nsCur : s'.nsCur = s.nsCur

theorem SameFlags.toC {s s' : St} (a : SameFlags s s') : SameFlagsC s s' :=
  ⟨a.autocommit, a.inTrans, a.savepoints, a.closed, a.nsOld, a.nsCtx, a.nsCur⟩

theorem SameFlagsC.trans {s s' s'' : St} (a : SameFlagsC s s') (b : SameFlagsC s' s'') : SameFlagsC s s'' :=
  ⟨b.autocommit.trans a.autocommit, b.inTrans.trans a.inTrans, b.savepoints.trans a.savepoints,
   b.closed.trans a.closed, b.nsOld.trans a.nsOld, b.nsCtx.trans a.nsCtx, b.nsCur.trans a.nsCur⟩

/-- the invariant between `executeCommand` and `writeResponse`: a streamed result
    keeps its connection (`continueConn`) out until the response is written -/
def Mid (w0 : World) (cfg : Cfg) (s : St) : Prop :=
  ∃ L, Inv w0 cfg L s ∧
    match s.continueConn with
    | none => L = []
    | some c => c ∈ (held s ++ L).vals ∧ drop c L = []

theorem mid_of_inv (h : Inv w0 ctx.cfg [] s) (hc : s.continueConn = none) : Mid w0 ctx.cfg s :=
  ⟨[], h, by simp [hc]⟩

theorem GotConn.owned {s1 : St} {pc : Option Nat} {err : Bool}
    (h : GotConn w0 ctx.cfg [] sl s1 pc err) : (pc = .none ∧ err = true ∧ Inv w0 ctx.cfg [] s1) ∨
    ∃ c L', pc = .some c ∧ err = false ∧ Inv w0 ctx.cfg L' s1 ∧ c ∈ (SessionConns.held s1 ++ L').vals ∧ drop c L' = [] := by
  cases h with
  | none hI => exact .inl ⟨rfl, rfl, hI⟩
  | held c hm hI => exact .inr ⟨c, [], rfl, rfl, hI, mem_vals.2 ⟨sl, List.mem_append_left _ hm⟩, rfl⟩
  | loc c _ hI => exact .inr ⟨c, _, rfl, rfl, hI, mem_vals.2 ⟨sl, by simp⟩, by simp [drop]⟩

/-- what a statement leaves -/
structure StmtEnd (w0 : World) (ctx : Ctx) (s s' : St) : Prop where
  mid : Mid w0 ctx.cfg s'
  flags : SameFlagsC s s'
  keep : Keep s s'

/-- the end of `executeSQL` and `handleFieldList`: the connection `c` that `getBackendConn` handed out in
    state `s` goes through `recycleBackendConn`, in the world `w2` and with `continueConn = cc` by then -/
theorem mid_recycleBackendConn {s1 : St} {L' : CMap} (hF : SameFlags s s1) (hG : MapsGrow s s1)
    (hI : Inv w0 ctx.cfg L' s1) (hO : c ∈ (held s1 ++ L').vals) (hd : drop c L' = [])
    (w2 : World) (cc : Option Nat) (hw : Ledger w0 (held s1 ++ L') (held s1).vals w2)
    (hcc : cc = none ∨ (cc = some c ∧ morePending c w2 = true ∧ isClosed c w2 = false)) :
    StmtEnd w0 ctx s (recycleBackendConn ctx (some c) { s1 with w := w2, continueConn := cc }) := by
  have hI2 : Inv w0 ctx.cfg L' { s1 with w := w2, continueConn := cc } := hI.congr hI.loc hw
  have hF2 : SameFlagsC s { s1 with w := w2, continueConn := cc } :=
    ⟨hF.autocommit, hF.inTrans, hF.savepoints, hF.closed, hF.nsOld, hF.nsCtx, hF.nsCur⟩
  rw [recycleBackendConn_some]
  split
  · -- the stream is pending: the connection stays with `continueConn`
    rename_i hg
    refine ⟨⟨L', hI2, ?_⟩, hF2, .of_grow hG hF.inTx⟩
    rcases hcc with rfl | ⟨rfl, -⟩
    · simp at hg
    · exact ⟨hO, hd⟩
  · rename_i hg
    have hcn : cc = none := by
      rcases hcc with h | ⟨rfl, h1, h2⟩
      · exact h
      · simp [h1, h2] at hg
    obtain ⟨hI3, hF3, hK3⟩ := inv_recycleContinueConn hI2 hO
    exact ⟨mid_of_inv (hd ▸ hI3) (hF3.continueConn.trans hcn), hF2.trans hF3.toC,
      .trans (b := { s1 with w := w2, continueConn := cc }) (.of_grow hG hF.inTx) hK3
        (inv_recycleContinueConn hI2.rebase hO).1.wi.ext⟩

theorem inv_executeSQL {fromSlave : Bool} (h : Inv w0 ctx.cfg [] s) (hcont : s.continueConn = none) :
    StmtEnd w0 ctx s (executeSQL ctx fromSlave sl s).1 := by
  unfold executeSQL
  obtain ⟨hF, hG, hC⟩ := inv_getBackendConn (fromSlave := fromSlave) (sl := sl) h (by simp [CMap.keys])
  generalize getBackendConn ctx fromSlave sl s = g at hF hG hC
  obtain ⟨s1, pc, err⟩ := g
  have hc1 : s1.continueConn = none := hF.continueConn.trans hcont
  rcases hC.owned with ⟨rfl, rfl, hI⟩ | ⟨c, L', rfl, rfl, hI, hO, hd⟩
  · exact ⟨mid_of_inv hI hc1, hF.toC, .of_grow hG hF.inTx⟩
  · have fin := mid_recycleBackendConn hF hG hI hO hd
    simp only [Bool.false_eq_true, if_false]
    split
    · exact fin s1.w _ hI.wi (.inl hc1)
    · have hw2 := hI.wi.executeUnshard ctx hO
      have hok := isClosed_executeUnshard_ok (ctx := ctx) (c := c) (w := s1.w)
      generalize executeUnshardSQLInSlice ctx c s1.w = x at hw2 hok
      obtain ⟨w2, r⟩ := x
      dsimp only at hw2 hok ⊢
      split
      · exact fin w2 _ hw2 (.inl hc1)
      · split
        · exact fin w2 (some c) hw2 (.inr ⟨rfl, ‹_›, hok (by simp_all)⟩)
        · exact fin w2 _ hw2 (.inl hc1)

theorem inv_handleFieldList (h : Inv w0 ctx.cfg [] s) (hcont : s.continueConn = none) :
    StmtEnd w0 ctx s (handleFieldList ctx s).1 := by
  unfold handleFieldList
  obtain ⟨hF, hG, hC⟩ := inv_getBackendConn (fromSlave := ctx.cfg.user != .w) (sl := 0) h (by simp [CMap.keys])
  generalize getBackendConn ctx (ctx.cfg.user != .w) 0 s = g at hF hG hC
  obtain ⟨s1, pc, err⟩ := g
  dsimp only at hF hG hC ⊢
  have hc1 : s1.continueConn = none := hF.continueConn.trans hcont
  rcases hC.owned with ⟨rfl, rfl, hI⟩ | ⟨c, L', rfl, rfl, hI, hO, hd⟩
  · exact ⟨mid_of_inv hI hc1, hF.toC, .of_grow hG hF.inTx⟩
  · have fin := fun w2 hw => mid_recycleBackendConn hF hG hI hO hd w2 _ hw (.inl hc1)
    dsimp only
    have hU := hI.wi.call ctx .U hO
    generalize call ctx .U c s1.w = pU at hU ⊢
    obtain ⟨wU, rU⟩ := pU
    dsimp only at hU ⊢
    split
    · exact fin wU hU
    · exact fin _ (hU.call ctx .F hO)

/-- the connections collected by `getBackendConns` are out; outside keep-session mode and transactions
    they are exactly those the command has taken -/
def PcsOK (cfg : Cfg) (L : CMap) (s : St) (pcs : CMap) : Prop :=
  (∀ e ∈ pcs, e ∈ held s ++ L) ∧ (cfg.ks = false → s.isInTransaction = false → L = pcs)

theorem PcsOK.mono {cfg : Cfg} {pcs : CMap} {s1 : St} (hF : SameFlags s s1) (hG : MapsGrow s s1)
    (h : PcsOK cfg L s pcs) : PcsOK cfg L s1 pcs :=
  ⟨fun e he => (List.mem_append.1 (h.1 e he)).elim (fun h => List.mem_append_left _ (hG.held h)) (List.mem_append_right _),
    fun hk hin => h.2 hk (hF.inTx ▸ hin)⟩

theorem PcsOK.vals_sub {cfg : Cfg} {pcs : CMap} (h : PcsOK cfg L s pcs) : ∀ c ∈ pcs.vals, c ∈ (held s ++ L).vals :=
  fun _ hc => let ⟨sl, hsl⟩ := mem_vals.1 hc; mem_vals.2 ⟨sl, h.1 _ hsl⟩

/-- what `getBackendConns` leaves: after a panic (a closed connection among the
    held ones) nothing is with the command -/
def Collected (w0 : World) (cfg : Cfg) (s : St) (r : St × CMap × Got) : Prop :=
  SameFlags s r.1 ∧ MapsGrow s r.1 ∧
  ∃ L', Inv w0 cfg L' r.1 ∧ PcsOK cfg L' r.1 r.2.1 ∧ (r.2.2 = .panic → L' = [])

theorem inv_getBackendConns {fromSlave : Bool} :
    ∀ (sls : List Nat) (s : St) (pcs L : CMap), Inv w0 ctx.cfg L s → sls.Nodup → (∀ x ∈ sls, x ∉ pcs.keys) →
      PcsOK ctx.cfg L s pcs → Collected w0 ctx.cfg s (getBackendConns ctx fromSlave sls s pcs) := by
  intro sls
  induction sls with
  | nil => exact fun s pcs L hI _ _ hP => ⟨.set s _ _ _, .of_eq rfl rfl, L, hI, hP, fun h => by cases h⟩
  | cons sl rest ih =>
    intro s pcs L hI hnd hpk hP
    have hL : sl ∉ L.keys := by
      rcases hI.loc with rfl | ⟨hk, hin⟩
      · simp [CMap.keys]
      · exact hP.2 hk hin ▸ hpk sl List.mem_cons_self
    obtain ⟨hF, hG, hC⟩ := inv_getBackendConn (fromSlave := fromSlave) hI hL
    simp only [getBackendConns]
    generalize getBackendConn ctx fromSlave sl s = g at hF hG hC
    obtain ⟨s1, pc, err⟩ := g
    dsimp only at hF hG hC
    have hP1 := hP.mono hF hG
    have hnd' := List.nodup_cons.1 hnd
    have hput : ∀ c, pcs.put sl c = pcs ++ [(sl, c)] := fun c => put_of_not_mem (hpk sl List.mem_cons_self)
    have hpk' : ∀ c, ∀ x ∈ rest, x ∉ (pcs ++ [(sl, c)]).keys := fun c x hx => by
      rw [keys_append]
      simp only [CMap.keys, List.map_cons, List.map_nil, List.mem_append, List.mem_singleton, not_or]
      exact ⟨hpk x (List.mem_cons_of_mem _ hx), fun e => hnd'.1 (e ▸ hx)⟩
    cases hC with
    | none hI1 => exact ⟨hF, hG, L, hI1, hP1, fun h => by cases h⟩
    | held c hm hI1 =>
      -- the session holds connections: nothing is taken for the command alone
      have hne : ¬(ctx.cfg.ks = false ∧ s1.isInTransaction = false) := fun ⟨hk, hin⟩ => by
        simp [hI1.held_nil hk hin] at hm
      obtain rfl := hI1.loc.resolve_right hne
      dsimp only
      split
      · exact ⟨hF, hG, [], hI1, hP1, fun _ => rfl⟩
      · obtain ⟨hF2, hG2, h2⟩ := ih s1 (pcs.put sl c) [] hI1 hnd'.2 (hput c ▸ hpk' c) ⟨fun e he => by
          rcases List.mem_append.1 (hput c ▸ he) with he | he
          · exact hP1.1 e he
          · exact List.mem_append_left _ (List.mem_singleton.1 he ▸ hm), fun hk hin => absurd ⟨hk, hin⟩ hne⟩
        exact ⟨hF.trans hF2, hG.trans hG2, h2⟩
    | loc c hcl hI1 =>
      obtain ⟨hks, hin⟩ := hI1.loc.resolve_left (by simp)
      obtain rfl := hP1.2 hks hin
      simp only [hcl, Bool.false_eq_true, if_false]
      obtain ⟨hF2, hG2, h2⟩ := ih s1 (L.put sl c) (L ++ [(sl, c)]) hI1 hnd'.2 (hput c ▸ hpk' c)
        ⟨fun e he => List.mem_append_right _ (hput c ▸ he), fun _ _ => (hput c).symm⟩
      exact ⟨hF.trans hF2, hG.trans hG2, h2⟩

theorem inv_recycleBackendConns {pcs : CMap} (h : Inv w0 ctx.cfg L s) (hP : PcsOK ctx.cfg L s pcs) :
    Inv w0 ctx.cfg [] (recycleBackendConns ctx pcs s) ∧ SameFlags s (recycleBackendConns ctx pcs s) ∧
    MapsGrow s (recycleBackendConns ctx pcs s) := by
  unfold recycleBackendConns
  by_cases hm : s.isInTransaction = true ∨ ctx.cfg.ks = true
  · obtain rfl := h.noLoc hm
    rw [if_pos (by rcases hm with hm | hm <;> simp [hm])]
    exact ⟨h, .set s _ _ _, .of_eq rfl rfl⟩
  · obtain ⟨hin, hk⟩ : s.isInTransaction = false ∧ ctx.cfg.ks = false := by simpa using hm
    obtain rfl := hP.2 hk hin
    simp only [hk, hin, Bool.or_self, Bool.false_eq_true, if_false]
    have hp : (held s ++ L).Perm (iterOrder ctx.ord L ++ held s) :=
      List.perm_append_comm.trans ((iterOrder_perm ctx.ord L).symm.append_right _)
    have := Ledger.foldl_drop recycle (fun _ _ _ hc hw => hw.recycle hc) _ _ _ (h.wi.perm hp)
    exact ⟨h.congr (.inl rfl) ((List.append_nil _).symm ▸ this), .set s _ _ _, .of_eq rfl rfl⟩

theorem mem_of_mem_dedup : ∀ (l : List Nat) (y : Nat), y ∈ dedup l → y ∈ l := by
  intro l
  induction l with
  | nil => exact fun y hy => hy
  | cons a as iha =>
    intro y hy
    simp only [dedup] at hy
    split at hy
    · exact List.mem_cons_of_mem _ (iha y hy)
    · exact (List.mem_cons.1 hy).elim (· ▸ List.mem_cons_self) fun hy => List.mem_cons_of_mem _ (iha y hy)

theorem dedup_nodup (l : List Nat) : (dedup l).Nodup := by
  induction l with
  | nil => exact List.nodup_nil
  | cons x xs ih =>
    simp only [dedup]
    split
    · exact ih
    · rename_i hx
      exact List.nodup_cons.2 ⟨fun hmem => hx (by simpa using mem_of_mem_dedup xs x hmem), ih⟩

theorem inv_executeSQLs {fromSlave rs : Bool} {slices : List Nat} (h : Inv w0 ctx.cfg [] s)
    (hcont : s.continueConn = none) : StmtEnd w0 ctx s (executeSQLs ctx fromSlave rs slices s).1 := by
  have done {s' : St} (hI : Inv w0 ctx.cfg [] s') (hF : SameFlags s s') (hG : MapsGrow s s') : StmtEnd w0 ctx s s' :=
    ⟨mid_of_inv hI (hF.continueConn.trans hcont), hF.toC, .of_grow hG hF.inTx⟩
  unfold executeSQLs
  split
  · exact done h (.set s _ _ _) (.of_eq rfl rfl)
  · dsimp only
    generalize hk : (iterOrder ctx.ord ((dedup slices).map fun k => (k, 0))).map (·.1) = keys
    have hnd : keys.Nodup := by
      have hp := (iterOrder_perm ctx.ord ((dedup slices).map fun k => (k, 0))).map (fun e : Nat × Nat => e.1)
      rw [hk] at hp
      exact hp.nodup_iff.2 (by simpa [Function.comp_def] using dedup_nodup slices)
    obtain ⟨hF, hG, L', hI1, hP1, hpan⟩ := inv_getBackendConns (fromSlave := fromSlave) keys s [] [] h hnd
      (by simp [CMap.keys]) ⟨nofun, fun _ _ => rfl⟩
    generalize getBackendConns ctx fromSlave keys s [] = g at hF hG hI1 hP1 hpan
    obtain ⟨s1, pcs, got⟩ := g
    dsimp only at hF hG hI1 hP1 hpan
    cases got with
    | panic => exact done (hpan rfl ▸ hI1) hF hG
    | err =>
      obtain ⟨hI2, hF2, hG2⟩ := inv_recycleBackendConns hI1 hP1
      exact done hI2 (hF.trans hF2) (hG.trans hG2)
    | ok =>
      have hw2 := hI1.wi.execShard ctx rs (bySlice pcs).vals s1.w
        (fun c hc => hP1.vals_sub c (((bySlice_perm pcs).map _).mem_iff.1 hc))
      obtain ⟨hI3, hF3, hG3⟩ := inv_recycleBackendConns (pcs := pcs) (hI1.congr (s' := { s1 with w := _ }) hI1.loc hw2) hP1
      exact done hI3 (hF.trans ((SameFlags.set s1 _ _ _).trans hF3)) (hG.trans (.trans (.of_eq rfl rfl) hG3))

/-- the flags that commands do not touch -/
structure SameNs (s s' : St) : Prop where
  closed : s'.closed = s.closed
  nsOld : s'.nsOld = s.nsOld
  nsCtx : s'.nsCtx = s.nsCtx
  nsCur : s'.nsCur = s.nsCur

/-- what a command that only talks to the held connections leaves alone -/
structure Plain (s s' : St) : Prop where
  tx : s'.txConns = s.txConns
  ks : s'.ksConns = s.ksConns
  cont : s'.continueConn = s.continueConn
  ns : SameNs s s'
  intx : s.isInTransaction = true → s'.isInTransaction = true

theorem Plain.set (s : St) (w : World) (sp : List Nat) : Plain s { s with w := w, savepoints := sp } :=
  ⟨rfl, rfl, rfl, ⟨rfl, rfl, rfl, rfl⟩, id⟩

theorem Plain.refl (s : St) : Plain s s := .set s _ _

theorem Inv.plain (h : Inv w0 ctx.cfg [] s) (hp : Plain s s')
    (hw : Ledger w0 (held s ++ []) (held s).vals s'.w) : Inv w0 ctx.cfg [] s' := by
  refine ⟨?_, fun hk => hp.ks ▸ h.ksOff hk, fun hk => hp.tx ▸ h.ksOn hk, fun hi => hp.tx ▸ h.txIdle ?_, .inl rfl⟩
  · rw [held, hp.tx, hp.ks]; exact hw
  · exact Bool.eq_false_iff.2 fun ht => by rw [hp.intx ht] at hi; cases hi

theorem tx_sub_held (ord : List Nat) (s : St) : ∀ c ∈ (iterOrder ord s.txConns).vals, c ∈ (held s ++ []).vals :=
  fun c hc => by simpa [held, vals_append] using .inl (mem_iter_vals.1 hc)

theorem ks_sub_held (ord : List Nat) (s : St) : ∀ c ∈ (iterOrder ord s.ksConns).vals, c ∈ (held s ++ []).vals :=
  fun c hc => by simpa [held, vals_append] using .inr (mem_iter_vals.1 hc)

theorem inv_handleBegin (h : Inv w0 ctx.cfg [] s) :
    Inv w0 ctx.cfg [] (handleBegin ctx s).1 ∧ Plain s (handleBegin ctx s).1 := by
  have hp : Plain s (handleBegin ctx s).1 := by
    fun_cases handleBegin ctx s <;> exact ⟨rfl, rfl, rfl, ⟨rfl, rfl, rfl, rfl⟩, fun h => by simp_all [St.isInTransaction]⟩
  refine ⟨h.plain hp ?_, hp⟩
  have h1 := h.wi.beginAll ctx _ s.w (tx_sub_held ctx.ord s)
  have h2 := h1.beginAll ctx _ _ (ks_sub_held ctx.ord s)
  fun_cases handleBegin ctx s <;> simp_all

theorem Inv.eachCall {w : World} {body : Nat → World → World × Option Bool} {merge : Bool → Bool → Bool} {k : CK}
    (hk : k ≠ .X) (hb : ∀ c w, (body c w).1 = (call ctx k c w).1) {cs : List Nat}
    (hcs : ∀ c ∈ cs, c ∈ (held s ++ []).vals) (b : Bool) (hw : Ledger w0 (held s ++ []) (held s).vals w) :
    Ledger w0 (held s ++ []) (held s).vals (eachConn body merge cs (w, b)).1 :=
  eachConn_induction body merge cs w b (fun w c hc hw => hb c w ▸ hw.call ctx k (hcs c hc) hk) hw

theorem Inv.savepointAll (ctx : Ctx) {cs : List Nat} (hcs : ∀ c ∈ cs, c ∈ (held s ++ []).vals) (p : World × Bool)
    (hw : Ledger w0 (held s ++ []) (held s).vals p.1) :
    Ledger w0 (held s ++ []) (held s).vals (savepointAll ctx cs p).1 :=
  Inv.eachCall (by decide) (fun _ _ => rfl) hcs p.2 hw

theorem inv_rollbackSavepoint (n : Nat) (h : Inv w0 ctx.cfg [] s) :
    Inv w0 ctx.cfg [] (rollbackSavepoint ctx n s).1 ∧ Plain s (rollbackSavepoint ctx n s).1 := by
  have hp : Plain s (rollbackSavepoint ctx n s).1 := by
    fun_cases rollbackSavepoint ctx n s <;> exact .set s _ _
  refine ⟨h.plain hp ?_, hp⟩
  have h1 := Inv.savepointAll ctx (tx_sub_held ctx.ord s) (s.w, true) h.wi
  have h2 := Inv.savepointAll ctx (ks_sub_held ctx.ord s) _ h1
  fun_cases rollbackSavepoint ctx n s <;> simp +zetaDelta only [*] at h2 <;> exact h2

theorem inv_handleSavepoint (rel : Bool) (n : Nat) (h : Inv w0 ctx.cfg [] s) :
    Inv w0 ctx.cfg [] (handleSavepoint ctx rel n s).1 ∧ Plain s (handleSavepoint ctx rel n s).1 := by
  have hp : Plain s (handleSavepoint ctx rel n s).1 := by
    fun_cases handleSavepoint ctx rel n s <;> exact .set s _ _
  refine ⟨h.plain hp ?_, hp⟩
  have h1 := Inv.savepointAll ctx (tx_sub_held ctx.ord s) (s.w, true) h.wi
  fun_cases handleSavepoint ctx rel n s <;> simp only [*] at h1 <;> exact h1

/-- a loop that gives back every transaction connection, followed by a loop
    over the pinned ones that keeps them: the shape of commit, rollback and
    `set autocommit = 1` -/
theorem Inv.endTx {bodyTx bodyKs : Nat → World → World × Option Bool} {mergeT mergeK : Bool → Bool → Bool}
    (h : Inv w0 ctx.cfg [] s)
    (hbt : ∀ (O : CMap) (w : World) (c : Nat), c ∈ O.vals → Ledger w0 O (held s).vals w →
      Ledger w0 (drop c O) (held s).vals (bodyTx c w).1)
    (hbk : ∀ (O : CMap) (w : World) (c : Nat), c ∈ O.vals → Ledger w0 O (held s).vals w →
      Ledger w0 O (held s).vals (bodyKs c w).1)
    (htx : s'.txConns = []) (hks : s'.ksConns = s.ksConns)
    (hw : s'.w = (eachConn bodyKs mergeK (iterOrder ctx.ord s.ksConns).vals
      (eachConn bodyTx mergeT (iterOrder ctx.ord s.txConns).vals (s.w, true))).1) : Inv w0 ctx.cfg [] s' := by
  have hp : (held s ++ []).Perm (iterOrder ctx.ord s.txConns ++ s.ksConns) := by
    rw [held, List.append_nil]
    exact (iterOrder_perm ctx.ord s.txConns).symm.append_right _
  have h1 := Ledger.eachConn_drop bodyTx mergeT hbt _ _ _ true (h.wi.perm hp)
  generalize eachConn bodyTx mergeT (iterOrder ctx.ord s.txConns).vals (s.w, true) = p at h1 hw
  have h2 := eachConn_induction bodyKs mergeK (iterOrder ctx.ord s.ksConns).vals p.1 p.2
    (fun w c hc hw => hbk _ w c (mem_iter_vals.1 hc) hw) h1
  refine ⟨?_, fun hk => hks ▸ h.ksOff hk, fun _ => htx, fun _ => htx, .inl rfl⟩
  rw [held, htx, hks, hw, List.nil_append, List.append_nil]
  exact h2.subM fun d hd => by simp [held, vals_append, hd]

section
variable {s : St} {ctx : Ctx}
theorem cont_commit : (commit ctx s).1.continueConn = s.continueConn := rfl
theorem cont_rollback : (rollback ctx s).1.continueConn = s.continueConn := rfl
end

theorem inv_commit (h : Inv w0 ctx.cfg [] s) : Inv w0 ctx.cfg [] (commit ctx s).1 :=
  h.endTx (fun _ _ _ hc hw => (hw.call ctx .C hc).recycle hc) (fun _ _ _ hc hw => hw.call ctx .C hc) rfl rfl rfl

theorem inv_rollback (h : Inv w0 ctx.cfg [] s) : Inv w0 ctx.cfg [] (rollback ctx s).1 :=
  h.endTx (fun _ _ _ hc hw => hw.rollbackTx ctx hc) (fun _ _ _ hc hw => hw.rollbackKs ctx hc) rfl rfl rfl

theorem inv_autocommitOn (h : Inv w0 ctx.cfg [] s) :
    Inv w0 ctx.cfg [] (handleSetAutoCommit ctx true s).1 :=
  h.endTx (fun _ _ _ hc hw => (hw.call ctx .A1 hc).recycle hc) (fun _ _ _ hc hw => hw.call ctx .A1 hc) rfl rfl rfl

theorem inv_autocommitOff (h : Inv w0 ctx.cfg [] s) :
    Inv w0 ctx.cfg [] (handleSetAutoCommit ctx false s).1 ∧ Plain s (handleSetAutoCommit ctx false s).1 := by
  have hp : Plain s (handleSetAutoCommit ctx false s).1 :=
    ⟨rfl, rfl, rfl, ⟨rfl, rfl, rfl, rfl⟩, fun _ => by simp [handleSetAutoCommit, St.isInTransaction]⟩
  exact ⟨h.plain hp (Inv.eachCall (merge := mergeAnd) (by decide)
    (fun _ _ => rfl : ∀ c w, (autocommitOffKs ctx c w).1 = _) (ks_sub_held ctx.ord s) true h.wi), hp⟩

theorem Inv.dropKs {body : Nat → World → World} {w : World} (h : Inv w0 ctx.cfg [] s)
    (hb : ∀ (O : CMap) (w : World) (c : Nat), c ∈ O.vals → Ledger w0 O (held s).vals w →
      Ledger w0 (drop c O) (held s).vals (body c w))
    (hw : Ledger w0 (held s ++ []) (held s).vals w)
    (htx : s'.txConns = s.txConns) (hks : s'.ksConns = [])
    (hw' : s'.w = (iterOrder ctx.ord s.ksConns).vals.foldl (fun w c => body c w) w)
    (hin : s'.isInTransaction = s.isInTransaction) : Inv w0 ctx.cfg [] s' := by
  have hp : (held s ++ []).Perm (iterOrder ctx.ord s.ksConns ++ s.txConns) := by
    rw [held, List.append_nil]
    exact List.perm_append_comm.trans ((iterOrder_perm ctx.ord s.ksConns).symm.append_right _)
  have h1 := Ledger.foldl_drop body hb _ _ _ (hw.perm hp)
  refine ⟨?_, fun _ => hks, fun hk => htx ▸ h.ksOn hk, fun hi => htx ▸ h.txIdle (hin ▸ hi), .inl rfl⟩
  rw [held, htx, hks, hw', List.append_nil, List.append_nil]
  exact h1.subM fun d hd => by simp [held, vals_append, hd]

theorem inv_handleKsQuit (h : Inv w0 ctx.cfg [] s) : Inv w0 ctx.cfg [] (handleKsQuit ctx s) :=
  h.dropKs (body := closeRecycle) (fun _ _ _ hc hw => hw.closeRecycle hc) h.wi rfl rfl rfl rfl

theorem inv_sessionClose (h : Inv w0 ctx.cfg [] s) : Inv w0 ctx.cfg [] (sessionClose ctx s) := by
  unfold sessionClose
  split
  · exact h
  · exact inv_handleKsQuit (inv_rollback (s := { s with closed := true }) (h.congr h.loc h.wi))

/-- commands after which the transaction connections must still be there -/
def Body.keepsTx : Body → Bool
  | .commit | .rollback | .ac true | .quit | .disc => false
  | _ => true

/-- the command operations -/
def Body.isCommand : Body → Bool
  | .nsc | .disc => false
  | _ => true

/-- the invariant between two commands -/
structure Idle (w0 : World) (cfg : Cfg) (s : St) : Prop where
  inv : Inv w0 cfg [] s
  cont : s.continueConn = none
  clean : s.closed = true → s.txConns = [] ∧ s.ksConns = []

/-- what `executeCommand` establishes from an `Idle` state: the invariant up to the connection of a
    streamed result (`Mid`), the reload counters untouched, and what it keeps of the two maps
    (`badconn`: a failed keep-session ping, after which the session is closed) -/
def CmdSpec (w0 : World) (ctx : Ctx) (b : Body) (s : St) (p : St × Resp) : Prop :=
  Mid w0 ctx.cfg p.1 ∧ SameNs s p.1 ∧
  (b.keepsTx = true → p.2 = .badconn ∨ Keep s p.1) ∧
  (b.keepsTx = false → p.1.continueConn = none ∧ ∀ e ∈ s.ksConns, e ∈ p.1.ksConns)

theorem spec_plain {b : Body} {r : Resp} (h : Inv w0 ctx.cfg [] s' ∧ Plain s s') (hc : s.continueConn = none) :
    CmdSpec w0 ctx b s (s', r) :=
  let ⟨hI, hp⟩ := h
  ⟨mid_of_inv hI (hp.cont.trans hc), hp.ns,
    fun _ => .inr ⟨hp.intx, fun _ he => hp.tx ▸ he, fun _ he => .inl (hp.ks ▸ he)⟩,
    fun _ => ⟨hp.cont.trans hc, fun _ he => hp.ks ▸ he⟩⟩

theorem spec_endTx {b : Body} {r : Resp} (hI : Inv w0 ctx.cfg [] s') (hb : b.keepsTx = false)
    (hks : s'.ksConns = s.ksConns) (hcont : s'.continueConn = none) (hns : SameNs s s') :
    CmdSpec w0 ctx b s (s', r) :=
  ⟨mid_of_inv hI hcont, hns,
    fun h => absurd (hb ▸ h) Bool.false_ne_true, fun _ => ⟨hcont, fun _ he => hks ▸ he⟩⟩

theorem spec_keep {b : Body} {r : Resp} (h : StmtEnd w0 ctx s s') (hb : b.keepsTx = true) :
    CmdSpec w0 ctx b s (s', r) :=
  ⟨h.mid, ⟨h.flags.closed, h.flags.nsOld, h.flags.nsCtx, h.flags.nsCur⟩,
    fun _ => .inr h.keep, fun hf => absurd (hb ▸ hf) Bool.noConfusion⟩

theorem spec_ping (h : Inv w0 ctx.cfg [] s) (hc : s.continueConn = none) :
    CmdSpec w0 ctx .ping s
      ((handleKeepSessionPing ctx s).1, if (handleKeepSessionPing ctx s).2 then .ok else .badconn) := by
  have h1 := h.wi.pingAll ctx _ s.w (ks_sub_held ctx.ord s)
  unfold handleKeepSessionPing
  generalize pingAll ctx (iterOrder ctx.ord s.ksConns).vals s.w = p at h1
  dsimp only
  split
  · exact spec_plain ⟨h.congr h.loc h1, .set s _ _⟩ hc
  · exact ⟨mid_of_inv (h.dropKs (body := pingDrop s.isInTransaction) (fun _ _ _ hc hw => hw.pingDrop _ hc) h1 rfl rfl rfl rfl) hc,
      ⟨rfl, rfl, rfl, rfl⟩, fun _ => .inl rfl, nofun⟩

theorem spec_executeCommand (b : Body) (h : Idle w0 ctx.cfg s) :
    CmdSpec w0 ctx b s (executeCommand ctx b s) := by
  have hI := h.inv
  have hc := h.cont
  have same {b : Body} {r : Resp} : CmdSpec w0 ctx b s (s, r) := spec_plain ⟨hI, .refl s⟩ hc
  unfold executeCommand
  dsimp only
  cases b with
  | qu k =>
    dsimp only
    split
    · exact same
    · exact spec_keep (inv_executeSQL hI hc) rfl
  | qs k slices =>
    dsimp only
    split
    · exact same
    · exact spec_keep (inv_executeSQLs hI hc) rfl
  | «show» => exact spec_keep (inv_executeSQL hI hc) rfl
  | fl => exact spec_keep (inv_handleFieldList hI hc) rfl
  | begin => exact spec_plain (inv_handleBegin hI) hc
  | commit => exact spec_endTx (inv_commit hI) rfl rfl hc ⟨rfl, rfl, rfl, rfl⟩
  | rollback => exact spec_endTx (inv_rollback hI) rfl rfl hc ⟨rfl, rfl, rfl, rfl⟩
  | ac v =>
    cases v with
    | true => exact spec_endTx (inv_autocommitOn hI) rfl rfl hc ⟨rfl, rfl, rfl, rfl⟩
    | false => exact spec_plain (inv_autocommitOff hI) hc
  | sp n => exact spec_plain (inv_handleSavepoint false n hI) hc
  | rel n => exact spec_plain (inv_handleSavepoint true n hI) hc
  | rbt n => exact spec_plain (inv_rollbackSavepoint n hI) hc
  | ping =>
    dsimp only
    split
    · exact spec_ping hI hc
    · exact same
  | quit => exact spec_endTx (inv_rollback hI) rfl rfl hc ⟨rfl, rfl, rfl, rfl⟩
  | disc => exact spec_endTx hI rfl rfl hc ⟨rfl, rfl, rfl, rfl⟩
  | nsc => exact same

theorem writeResponse_none (r : Resp) (hc : s.continueConn = none) :
    (writeResponse ctx r s).1 = { s with continueConn := none } := by
  simp only [writeResponse, hc, recycleContinueConn]

theorem writeResponse_some (r : Resp) (hc : s.continueConn = some c) :
    ∃ w1, (w1 = s.w ∨ w1 = closeGivenUp c (streamRest ctx c s.w)) ∧ (writeResponse ctx r s).1 =
      { recycleContinueConn ctx (some c) { s with w := w1 } with continueConn := none } := by
  unfold writeResponse
  split
  · rename_i c' hc'
    obtain rfl : c' = c := Option.some.inj (hc'.symm.trans hc)
    dsimp only
    split
    · exact ⟨_, .inr rfl, by simp only [hc]⟩
    · refine ⟨s.w, .inl rfl, ?_⟩
      show ({ recycleContinueConn ctx s.continueConn s with continueConn := none } : St) =
        { recycleContinueConn ctx (some c') s with continueConn := none }
      rw [hc]
  · rename_i hn; rw [hc] at hn; cases hn

theorem idle_writeResponse (r : Resp) (h : Mid w0 ctx.cfg s) (hncl : s.closed = false) :
    Idle w0 ctx.cfg (writeResponse ctx r s).1 ∧ SameFlagsC s (writeResponse ctx r s).1 ∧
    Keep s (writeResponse ctx r s).1 := by
  obtain ⟨L, hI, hL⟩ := h
  cases hcc : s.continueConn with
  | none =>
    rw [writeResponse_none r hcc]
    simp only [hcc] at hL
    subst hL
    exact ⟨⟨hI.congr hI.loc hI.wi, rfl, fun hc => by simp [hncl] at hc⟩,
      ⟨rfl, rfl, rfl, rfl, rfl, rfl, rfl⟩, .refl s⟩
  | some c =>
    simp only [hcc] at hL
    obtain ⟨w1, hw1, e⟩ := writeResponse_some (ctx := ctx) r hcc
    rw [e]
    have hw : Ledger w0 (held s ++ L) (held s).vals w1 := by
      rcases hw1 with rfl | rfl
      · exact hI.wi
      · exact hI.wi.stream ctx hL.1
    obtain ⟨hI3, hF3, hK3⟩ := inv_recycleContinueConn (hI.congr (s' := { s with w := w1 }) hI.loc hw) hL.1
    rw [hL.2] at hI3
    exact ⟨⟨hI3.congr hI3.loc hI3.wi, rfl, fun hc => by simp [hF3.closed.trans hncl] at hc⟩,
      ⟨hF3.autocommit, hF3.inTrans, hF3.savepoints, hF3.closed, hF3.nsOld, hF3.nsCtx, hF3.nsCur⟩, hK3⟩

theorem Idle.rebase {cfg : Cfg} (h : Idle w0 cfg s) : Idle s.w cfg s := ⟨h.inv.rebase, h.cont, h.clean⟩

theorem Idle.congr {cfg : Cfg} {s1 s2 : St} (h : Idle w0 cfg s1) (htx : s2.txConns = s1.txConns := by rfl)
    (hks : s2.ksConns = s1.ksConns := by rfl) (hw : s2.w.conns = s1.w.conns := by rfl)
    (hin : s2.isInTransaction = s1.isInTransaction := by rfl)
    (hcc : s2.continueConn = s1.continueConn := by rfl) (hcl : s2.closed = s1.closed := by rfl) : Idle w0 cfg s2 :=
  ⟨h.inv.congr h.inv.loc (h.inv.wi.congr hw) htx hks hin, hcc ▸ h.cont, by rw [hcl, htx, hks]; exact h.clean⟩

theorem idle_clearKsConns (h : Idle w0 ctx.cfg s) : Idle w0 ctx.cfg (clearKsConns ctx s) := by
  obtain ⟨hI, hF, htx, hks⟩ := inv_clearKsConns (ctx := ctx) h.inv
  refine ⟨hI, hF.continueConn.trans h.cont, fun hc => ?_⟩
  obtain ⟨h1, h2⟩ := h.clean (hF.closed ▸ hc)
  exact ⟨htx.trans h1, hks.elim (·.trans h2) id⟩

theorem closed_sessionClose : (sessionClose ctx s).closed = true := by
  unfold sessionClose
  split
  · assumption
  · rfl

theorem idle_sessionClose (h : Idle w0 ctx.cfg s) : Idle w0 ctx.cfg (sessionClose ctx s) := by
  refine ⟨inv_sessionClose h.inv, ?_, fun _ => ?_⟩ <;> unfold sessionClose <;> split
  · exact h.cont
  · exact h.cont
  · exact h.clean ‹_›
  · exact ⟨rfl, rfl⟩

theorem shouldClear_false (h : ctx.cfg.ks = false ∨ s.nsCtx ≤ s.nsOld) : shouldClear ctx s = false := by
  unfold shouldClear
  rcases h with h | h
  · simp [h]
  · have : decide (s.nsCtx > s.nsOld) = false := by simp; omega
    simp [this]

/-- the state `executeCommand` is run on -/
def prep (ctx : Ctx) (s : St) : St :=
  let s := clearKsConns ctx { s with nsCtx := s.nsCur }
  if !s.isInTransaction then { s with nsOld := s.nsCtx } else s

theorem prep_noKs (hks : ctx.cfg.ks = false) : ∃ o, prep ctx s = { s with nsCtx := s.nsCur, nsOld := o } := by
  simp only [prep, clearKsConns_neg (.inl hks)]
  split
  · exact ⟨_, rfl⟩
  · exact ⟨_, rfl⟩

/-- the end of `runCommand`, once the response is written -/
def finish (ctx : Ctx) (b : Body) (r : Resp) (p : St × Bool) : St × Resp :=
  if !p.2 then (sessionClose ctx (clearKsConns ctx p.1), .none) else
  let s := if b == .quit || shouldClear ctx p.1 || txConnLost p.1 then sessionClose ctx p.1 else p.1
  ({ s with nsOld := s.nsCtx }, r)

/-- `executeCommand`, or the error that ends a keep-session transaction after a reload -/
def exec (ctx : Ctx) (b : Body) (s : St) : St × Resp :=
  if shouldClear ctx s then (s, .err) else executeCommand ctx b s

theorem runCommand_eq (ctx : Ctx) (b : Body) (s : St) : runCommand ctx b s =
    finish ctx b (exec ctx b (prep ctx s)).2
      (writeResponse ctx (exec ctx b (prep ctx s)).2 (exec ctx b (prep ctx s)).1) := rfl

theorem spec_exec (b : Body) (h : Idle w0 ctx.cfg s) : CmdSpec w0 ctx b s (exec ctx b s) := by
  unfold exec
  split
  · exact spec_plain ⟨h.inv, .refl _⟩ h.cont
  · exact spec_executeCommand b h

theorem idle_prep (h : Idle w0 ctx.cfg s) : Idle w0 ctx.cfg (prep ctx s) ∧ (prep ctx s).closed = s.closed := by
  have h1 := idle_clearKsConns (ctx := ctx) (h.congr (s2 := { s with nsCtx := s.nsCur }))
  have c1 := (inv_clearKsConns (ctx := ctx) (h.congr (s2 := { s with nsCtx := s.nsCur })).inv).2.1.closed
  unfold prep
  dsimp only
  split
  · exact ⟨h1.congr, c1⟩
  · exact ⟨h1, c1⟩

theorem keep_prep (h : Idle w0 ctx.cfg s) : Keep s (prep ctx s) ∧ (prep ctx s).nsCtx = (prep ctx s).nsCur := by
  have hI := (h.congr (s2 := { s with nsCtx := s.nsCur })).inv
  have k : Keep s (clearKsConns ctx { s with nsCtx := s.nsCur }) := keep_clearKsConns (ctx := ctx) hI
  have f := (inv_clearKsConns (ctx := ctx) hI).2.1
  unfold prep
  dsimp only
  split
  · exact ⟨k, f.nsCtx.trans f.nsCur.symm⟩
  · exact ⟨k, f.nsCtx.trans f.nsCur.symm⟩

theorem idle_finish {b : Body} {r : Resp} {p : St × Bool} (h : Idle w0 ctx.cfg p.1) :
    Idle w0 ctx.cfg (finish ctx b r p).1 := by
  unfold finish
  split
  · exact idle_sessionClose (idle_clearKsConns h)
  · dsimp only
    split
    · exact (idle_sessionClose h).congr
    · exact h.congr

theorem finish_cases (ctx : Ctx) (b : Body) (r : Resp) (p : St × Bool) : (finish ctx b r p).1.closed = true ∨
    (p.2 = true ∧ txConnLost p.1 = false ∧ (finish ctx b r p).1 = { p.1 with nsOld := p.1.nsCtx }) := by
  unfold finish
  split
  · exact .inl closed_sessionClose
  · dsimp only
    split
    · exact .inl closed_sessionClose
    · exact .inr (by simp_all)

theorem finish_delivered {b : Body} {r : Resp} {p : St × Bool} (hd : p.2 = true) (hq : (b == .quit) = false)
    (hs : shouldClear ctx p.1 = false) (hl : txConnLost p.1 = false) :
    finish ctx b r p = ({ p.1 with nsOld := p.1.nsCtx }, r) := by
  simp [finish, hd, hq, hs, hl]

/-- what one operation leaves of the state it found (`s`) -/
structure CmdResult (b : Body) (s s' : St) : Prop where
  tx : b.keepsTx = true → ∀ e ∈ s.txConns, e ∈ s'.txConns ∨ s'.closed = true
  ks : ∀ e ∈ s.ksConns, e ∈ s'.ksConns ∨ s'.closed = true ∨ (isClosed e.2 s'.w = true ∧ s.isInTransaction = false)
  ns : b.isCommand = true → s'.closed = true ∨ s'.nsCur ≤ s'.nsOld
  intx : b.keepsTx = true → s.isInTransaction = true → s'.closed = true ∨ s'.isInTransaction = true

theorem CmdResult.of_closed {b : Body} (hc : s'.closed = true) : CmdResult b s s' :=
  ⟨fun _ _ _ => .inr hc, fun _ _ => .inr (.inl hc), fun _ => .inl hc, fun _ _ => .inl hc⟩

theorem CmdResult.of_keep {b : Body} {p : St} (hk : Keep s p) (hx : Ext p.w s'.w) (h : CmdResult b p s') :
    CmdResult b s s' where
  tx hb e he := h.tx hb e (hk.tx e he)
  ks e he := (hk.ks e he).elim (fun h1 => (h.ks e h1).imp_right (.imp_right fun ⟨a, b⟩ => ⟨a, hk.notTx b⟩))
    fun ⟨h1, h2⟩ => .inr (.inr ⟨isClosed_ext hx h1, h2⟩)
  ns := h.ns
  intx hb hin := h.intx hb (hk.intx hin)

theorem idle_afterPrep (b : Body) (h2 : Idle w0 ctx.cfg (prep ctx s))
    (c2 : (prep ctx s).closed = false) :
    Idle w0 ctx.cfg (runCommand ctx b s).1 ∧
    ((prep ctx s).nsCtx = (prep ctx s).nsCur → CmdResult b (prep ctx s) (runCommand ctx b s).1) := by
  rw [runCommand_eq]
  have h3 := spec_exec b h2
  generalize exec ctx b (prep ctx s) = p3 at h3
  obtain ⟨s3, r⟩ := p3
  obtain ⟨hm3, hns3, hkt, hkc⟩ := h3
  have c3 : s3.closed = false := hns3.closed.trans c2
  obtain ⟨h4, hF4, hk4⟩ := idle_writeResponse r hm3 c3
  refine ⟨idle_finish h4, fun hn => ?_⟩
  rcases finish_cases ctx b r (writeResponse ctx r s3) with hc | ⟨hd, -, e5⟩
  · exact .of_closed hc
  rw [e5]
  have hr : r ≠ .badconn := by simpa [writeResponse] using hd
  -- the ledger only grows while the response is written
  have hx := (idle_writeResponse r (w0 := s3.w) (let ⟨L, hI, hL⟩ := hm3; ⟨L, hI.rebase, hL⟩) c3).1.inv.wi.ext
  have k4 : b.keepsTx = true → Keep (prep ctx s) (writeResponse ctx r s3).1 := fun hb =>
    ((hkt hb).resolve_left hr).trans hk4 hx
  refine ⟨fun hb e he => .inl ((k4 hb).tx e he), fun e he => ?_, fun _ => .inr ?_, fun hb hin => .inr ((k4 hb).intx hin)⟩
  · cases hb : b.keepsTx with
    | true => exact ((k4 hb).ks e he).imp_right .inr
    | false =>
      -- no result is streamed: the response leaves the maps and the world alone
      simp only [writeResponse_none r (hkc hb).1]
      exact .inl ((hkc hb).2 e he)
  · show (writeResponse ctx r s3).1.nsCur ≤ (writeResponse ctx r s3).1.nsCtx
    rw [hF4.nsCur, hF4.nsCtx, hns3.nsCur, hns3.nsCtx, hn]; exact Nat.le_refl _

theorem idle_runCommand (b : Body) (h : Idle w0 ctx.cfg s) (hncl : s.closed = false) :
    Idle w0 ctx.cfg (runCommand ctx b s).1 ∧ CmdResult b s (runCommand ctx b s).1 :=
  have hp := idle_prep (ctx := ctx) h
  have hk := keep_prep (ctx := ctx) h
  have key := idle_afterPrep b hp.1 (hp.2.trans hncl)
  ⟨key.1, (key.2 hk.2).of_keep hk.1 (idle_afterPrep b hp.1.rebase (hp.2.trans hncl)).1.inv.wi.ext⟩

/-- no statement timeout is injected by this operation -/
def NoTOp (op : Op) : Prop := ∀ f ∈ op.faults, f.mode ≠ .t

def Op.toCtx (cfg : Cfg) (op : Op) : Ctx := { cfg := cfg, ord := op.ord, faults := op.faults }

def St.fresh (s : St) : St := { s with w := { s.w with trace := [] } }

theorem step_command (cfg : Cfg) (op : Op) (hcmd : op.body.isCommand = true) (hncl : s.closed = false) :
    step cfg s op = runCommand (op.toCtx cfg) op.body s.fresh := by
  unfold step
  dsimp only
  rw [if_neg (by simp [hncl])]
  split <;> simp_all [Body.isCommand, Op.toCtx, St.fresh]

theorem closed_step (cfg : Cfg) (op : Op) (h : s.closed = true) : (step cfg s op).1.closed = true := by
  unfold step; simp [h]

/-- the branches of `step`: a session that is closed already, a reload, a disconnect, a command -/
theorem step_cases (cfg : Cfg) (s : St) (op : Op) :
    (s.closed = true ∧ step cfg s op = (s.fresh, .none)) ∨
    (s.closed = false ∧
      ((op.body = .nsc ∧ step cfg s op = ({ s.fresh with nsCur := s.nsCur + 1 }, .ok)) ∨
       (op.body = .disc ∧
         step cfg s op = (sessionClose (op.toCtx cfg) (clearKsConns (op.toCtx cfg) s.fresh), .none)) ∨
       (op.body.isCommand = true ∧ step cfg s op = runCommand (op.toCtx cfg) op.body s.fresh))) := by
  cases hcl : s.closed with
  | true => exact .inl ⟨rfl, by simp [step, hcl, St.fresh]⟩
  | false =>
    refine .inr ⟨rfl, ?_⟩
    cases hcmd : op.body.isCommand with
    | true => exact .inr (.inr ⟨rfl, step_command cfg op hcmd hcl⟩)
    | false =>
      have hb : op.body = .nsc ∨ op.body = .disc := by cases hb : op.body <;> simp_all [Body.isCommand]
      rcases hb with hb | hb
      · exact .inl ⟨hb, by simp [step, hcl, hb, St.fresh]⟩
      · exact .inr (.inl ⟨hb, by simp [step, hcl, hb, St.fresh, Op.toCtx]⟩)

variable {cfg : Cfg}

theorem Idle.fresh (h : Idle w0 cfg s) : Idle w0 cfg s.fresh := h.congr

theorem idle_step (op : Op) (h : Idle w0 cfg s) : Idle w0 cfg (step cfg s op).1 := by
  have h0 := h.fresh
  rcases step_cases cfg s op with ⟨-, e⟩ | ⟨hcl, ⟨-, e⟩ | ⟨-, e⟩ | ⟨-, e⟩⟩ <;> rw [e]
  · exact h0
  · exact h0.congr
  · exact idle_sessionClose (ctx := op.toCtx cfg) (idle_clearKsConns h0)
  · exact (idle_runCommand (ctx := op.toCtx cfg) _ h0 hcl).1

theorem Idle.ext_step (op : Op) (h : Idle w0 cfg s) : Ext s.w (step cfg s op).1.w :=
  (idle_step op h.rebase).inv.wi.ext

theorem idle_init (cfg : Cfg) : Idle {} cfg {} := by
  refine ⟨⟨⟨⟨?_, ?_, ?_, ?_, ?_, ?_, ?_, ?_⟩, .refl _⟩, fun _ => rfl, fun _ => rfl, fun _ => rfl, .inl rfl⟩, rfl, fun _ => ⟨rfl, rfl⟩⟩ <;>
    simp [held, CMap.vals, CMap.keys]

theorem idle_run_all (cfg : Cfg) (ops : List Op) : Idle {} cfg (run cfg ops) :=
  List.foldlRecOn (motive := Idle {} cfg) ops _ (idle_init cfg) fun _ h op _ => idle_step op h

theorem run_snoc (cfg : Cfg) (ops : List Op) (op : Op) :
    run cfg (ops ++ [op]) = (step cfg (run cfg ops) op).1 := by
  simp [run, List.foldl_append]

theorem run_append_induction {P : St → Prop} (cfg : Cfg) (mid : List Op)
    (hstep : ∀ ops, ∀ op ∈ mid, (run cfg ops).closed = false → P (run cfg ops) →
      (run cfg (ops ++ [op])).closed = true ∨ P (run cfg (ops ++ [op]))) :
    ∀ ops, (run cfg ops).closed = true ∨ P (run cfg ops) →
      (run cfg (ops ++ mid)).closed = true ∨ P (run cfg (ops ++ mid)) := by
  induction mid with
  | nil => exact fun ops h => by simpa using h
  | cons op mid ih =>
    intro ops h
    have h1 : (run cfg (ops ++ [op])).closed = true ∨ P (run cfg (ops ++ [op])) := by
      cases hcl : (run cfg ops).closed with
      | true => exact .inl (run_snoc .. ▸ closed_step cfg op hcl)
      | false => exact hstep ops op List.mem_cons_self hcl (h.resolve_left (by simp [hcl]))
    simpa using ih (fun ops o ho => hstep ops o (List.mem_cons_of_mem _ ho)) (ops ++ [op]) h1

theorem Idle.ledger (h : Idle w0 cfg s) : WInv qNone (held s) (held s).vals s.w := by
  have := h.inv.wi.inv
  rwa [List.append_nil] at this

theorem Idle.conn_flags (h : Idle w0 cfg s) : ∀ c ∈ s.w.conns, c.uar = false ∧ c.dup = false :=
  fun c hc => let ⟨i, hi⟩ := List.mem_iff_getElem?.1 hc; h.ledger.flags i c hi

theorem Idle.inTx_of_tx (h : Idle w0 cfg s) {e : Nat × Nat} (he : e ∈ s.txConns) : s.isInTransaction = true :=
  Decidable.by_contra fun hn => by simp [h.inv.txIdle (by simpa using hn)] at he

theorem Idle.held_conn (h : Idle w0 cfg s) {e : Nat × Nat} (he : e ∈ held s) :
    ∃ cn : Conn, s.w.conns[e.2]? = some cn ∧ cn.master = true ∧ cn.slice = e.1 ∧ cn.returns = 0 := by
  obtain ⟨cn, hcn, h0, hsl⟩ := h.ledger.out e he
  obtain ⟨cn', hcn', hm⟩ := h.ledger.mast e.2 (mem_vals.2 ⟨e.1, he⟩)
  rw [hcn] at hcn'; cases hcn'
  exact ⟨cn, hcn, hm, hsl, h0⟩

theorem Idle.returned (h : Idle w0 cfg s) (hcl : s.closed = true) : ∀ c ∈ s.w.conns, c.returns = 1 := by
  intro c hc
  obtain ⟨i, hi⟩ := List.mem_iff_getElem?.1 hc
  exact h.ledger.ret i c hi (by simp [held, h.clean hcl, CMap.vals])

end GaeaVerif.SessionConns
