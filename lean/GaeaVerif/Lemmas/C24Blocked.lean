import GaeaVerif.Lemmas.C24Sums
/-
  What a thread of the pool that cannot move is waiting for (`Blocked`), and
  what such a thread can be doing.
-/
namespace GaeaVerif.C24
open GaeaVerif.ResourcePool

/-- Why a thread cannot move (a send always finds room, see `enabled_or_blocked`). -/
inductive Blocked (p : Pool) (t : Thread) : Prop where
  | finished : t.pc = .idle → t.prog = [] → Blocked p t
  | dead : t.pc = .dead → Blocked p t
  | onLock : p.lock = true → (t.pc = .tLock ∨ ∃ f, t.pc = .soLock f) → Blocked p t
  | onScaling : p.scaling = true → (∃ c, t.pc = .sLock c) → Blocked p t
  | getWait : p.chan = [] → p.closed = false → (∃ f, t.pc = .gWait f) → Blocked p t
  | shrinkWait : p.chan = [] → p.closed = false → (∃ c old i, t.pc = .sShrRecv c old i) → Blocked p t
  | idleTimer : p.idleBusy ≠ 0 → t.pc = .clIdle → Blocked p t
  | capTimer : p.capBusy ≠ 0 → t.pc = .clCap → Blocked p t

theorem enabled_or_blocked {p : Pool} {t : Thread} (a : Alt) (hl : Local p t) :
    (stepThread p t a).isSome = true ∨ Blocked p t := by
  obtain ⟨hA, -, hroom, -, -, -, -⟩ := hl
  -- the arms of `stepThread` that return `some _` go at once, twelve remain; in three of
  -- them a send finds the channel full, against `hroom`
  fun_cases stepThread p t a <;> try exact .inl rfl
  next hpc =>
    fun_cases startOp p t <;> try exact .inl rfl
    next hprog => exact .inr (.finished hpc hprog)
  next hpc => exact .inr (.dead hpc)
  next f hpc hl => exact .inr (.onLock hl (.inr ⟨f, hpc⟩))
  next f hpc _ hch hcl => exact .inr (.getWait hch (by simpa using hcl) ⟨f, hpc⟩)
  next hpc _ hlen => simp [tok, pcTok, hpc] at hroom; omega
  next hpc _ hlen => simp [tok, pcTok, hpc] at hroom; omega
  next c hpc hsc => exact .inr (.onScaling hsc ⟨c, hpc⟩)
  next c old i hpc hch hcl => exact .inr (.shrinkWait hch (by simpa using hcl) ⟨c, old, i, hpc⟩)
  next hpc _ hlen => simp [A, growP, hpc] at hA hroom; omega
  next hpc hl => exact .inr (.onLock hl (.inl hpc))
  next hpc hb => exact .inr (.idleTimer hb hpc)
  next hpc hb => exact .inr (.capTimer hb hpc)

theorem Blocked.sections {p : Pool} {t : Thread} (h : Blocked p t) :
    lockW t = 0 ∧ sweepF t = 0 ∧ (tickF t = 0 ∨ (t.pc = .tLock ∧ p.lock = true))
    ∧ (holder t = 1 → p.chan = [] ∧ p.closed = false ∧ ∃ c old i, t.pc = .sShrRecv c old i) := by
  cases h with
  | finished h _ | dead h | idleTimer _ h | capTimer _ h => simp [lockW, sweepF, tickF, holder, h]
  | onLock hl h => rcases h with h | ⟨_, h⟩ <;> simp [lockW, sweepF, tickF, holder, h, hl]
  | onScaling _ h | getWait _ _ h => obtain ⟨_, h⟩ := h; simp [lockW, sweepF, tickF, holder, h]
  | shrinkWait h1 h2 h => obtain ⟨_, _, _, h⟩ := h; simp [lockW, sweepF, tickF, holder, h, h1, h2]

theorem Blocked.no_slot {p : Pool} {t : Thread} (h : Blocked p t) : pcTok t.pc = 0 ∧ growP t = 0 := by
  cases h with
  | finished h _ | dead h | idleTimer _ h | capTimer _ h => simp [pcTok, growP, h]
  | onLock _ h => rcases h with h | ⟨_, h⟩ <;> simp [pcTok, growP, h]
  | onScaling _ h | getWait _ _ h => obtain ⟨_, h⟩ := h; simp [pcTok, growP, h]
  | shrinkWait _ _ h => obtain ⟨_, _, _, h⟩ := h; simp [pcTok, growP, h]

end GaeaVerif.C24
