import GaeaVerif.Model.InsertStored
import GaeaVerif.Lemmas.ShardStr
/-
  Lemmas for the "stored value" theorems of C03 (Props/C03.lean): Go's
  `strconv.ParseInt` / `ParseUint` / `big.Int.SetString` accept only strings
  MySQL reads as the same integer, and such strings look like numbers to
  `looksLikeNumber`.
-/
namespace GaeaVerif.InsertStored
open GaeaVerif GaeaVerif.ShardGo GaeaVerif.ShardPlace GaeaVerif.Insert GaeaVerif.ShardLemmas

theorem digit_not_space (b : Nat) (h : isDigit b = true) : isAsciiSpace b = false := by
  have := (isDigit_iff b).mp h
  simp only [isAsciiSpace, Bool.or_eq_false_iff, decide_eq_false_iff_not, Bool.and_eq_false_iff]
  omega

theorem isDigit_ne_sign (b : Nat) (h : isDigit b = true) : b ≠ 43 ∧ b ≠ 45 := by
  have := (isDigit_iff b).mp h
  omega

theorem parseUDec_some (s : GoStr) (n : Nat) (h : parseUDec s = some n) :
    s ≠ [] ∧ (∀ b ∈ s, isDigit b = true) ∧ n = digitsVal s 0 := by
  unfold parseUDec at h
  split at h
  · rename_i hc
    simp only [Option.some.injEq] at h
    exact ⟨hc.1, by simpa [List.all_eq_true] using hc.2, h.symm⟩
  · simp at h

theorem parseBigDec_shape (s : GoStr) (n : Int) (h : parseBigDec s = some n) :
    ∃ d, d ≠ [] ∧ (∀ b ∈ d, isDigit b = true) ∧ (s = d ∨ s = 43 :: d ∨ s = 45 :: d) := by
  unfold parseBigDec at h
  split at h
  · rename_i r
    cases hr : parseUDec r with
    | none => simp [hr] at h
    | some m => obtain ⟨a, b, _⟩ := parseUDec_some r m hr; exact ⟨r, a, b, Or.inr (Or.inl rfl)⟩
  · rename_i r
    cases hr : parseUDec r with
    | none => simp [hr] at h
    | some m => obtain ⟨a, b, _⟩ := parseUDec_some r m hr; exact ⟨r, a, b, Or.inr (Or.inr rfl)⟩
  · cases hr : parseUDec s with
    | none => simp [hr] at h
    | some m => obtain ⟨a, b, _⟩ := parseUDec_some s m hr; exact ⟨s, a, b, Or.inl rfl⟩

theorem getLast?_mem {α : Type} (l : List α) (a : α) (h : l.getLast? = some a) : a ∈ l :=
  List.mem_of_getLast? h

/-- **`ParseInt`/`SetString` accept no white space**: trimming changes nothing -/
theorem parseBigDec_trim (s : GoStr) (n : Int) (h : parseBigDec s = some n) : trimSpace s = s := by
  obtain ⟨d, _, hdig, hs⟩ := parseBigDec_shape s n h
  have hall : ∀ b ∈ s, isAsciiSpace b = false := by
    have hd : ∀ b ∈ d, isAsciiSpace b = false := fun b hb => digit_not_space b (hdig b hb)
    rcases hs with rfl | rfl | rfl
    · exact hd
    · exact List.forall_mem_cons.mpr ⟨by decide, hd⟩
    · exact List.forall_mem_cons.mpr ⟨by decide, hd⟩
  exact trimSpace_id s hall

theorem mysqlInt_of_parseBigDec (s : GoStr) (n : Int) (h : parseBigDec s = some n) : mysqlInt s = some n := by
  unfold mysqlInt; rw [parseBigDec_trim s n h]; exact h

theorem mysqlInt_fmtInt (n : Int) : mysqlInt (fmtInt n) = some n :=
  mysqlInt_of_parseBigDec _ _ (parseBigDec_fmtInt n)

theorem parseInt64_some (s : GoStr) (v : Int) (h : parseInt64 s = some v) :
    parseBigDec s = some v ∧ -2 ^ 63 ≤ v ∧ v < 2 ^ 63 := by
  revert h
  fun_cases parseInt64 s <;> intro h <;> cases h
  exact ⟨‹_›, ‹_›⟩

theorem mysqlInt_of_parseInt64 (s : GoStr) (n : Int) (h : parseInt64 s = some n) : mysqlInt s = some n :=
  mysqlInt_of_parseBigDec s n (parseInt64_some s n h).1

theorem takeWhile_all {α : Type} (p : α → Bool) (l : List α) (h : ∀ a ∈ l, p a = true) : l.takeWhile p = l := by
  induction l with
  | nil => rfl
  | cons a r ih => simp [List.takeWhile, h a (by simp), ih (fun b hb => h b (by simp [hb]))]

theorem dropWhile_all {α : Type} (p : α → Bool) (l : List α) (h : ∀ a ∈ l, p a = true) : l.dropWhile p = [] := by
  induction l with
  | nil => rfl
  | cons a r ih => simp [List.dropWhile, h a (by simp), ih (fun b hb => h b (by simp [hb]))]

theorem dropSign_digits (d : GoStr) (hdig : ∀ b ∈ d, isDigit b = true) : dropSign d = d := by
  fun_cases dropSign d
  · exact absurd rfl (isDigit_ne_sign 43 (hdig 43 List.mem_cons_self)).1
  · exact absurd rfl (isDigit_ne_sign 45 (hdig 45 List.mem_cons_self)).2
  · rfl

theorem looksLikeNumber_digits (s d : GoStr) (hd : d ≠ []) (hdig : ∀ b ∈ d, isDigit b = true)
    (ht : dropSign (trimSpace s) = d) : looksLikeNumber s = true := by
  unfold looksLikeNumber
  simp only [ht, takeWhile_all _ d hdig, dropWhile_all _ d hdig]
  have : d.length ≠ 0 := by simpa using hd
  simp [this]

/-- **every string MySQL reads as an integer looks like a number to `looksLikeNumber`** -/
theorem looksLikeNumber_of_mysqlInt (s : GoStr) (n : Int) (h : mysqlInt s = some n) : looksLikeNumber s = true := by
  unfold mysqlInt at h
  obtain ⟨d, hd, hdig, hs⟩ := parseBigDec_shape _ n h
  refine looksLikeNumber_digits s d hd hdig ?_
  rcases hs with hs | hs | hs
  · rw [hs]; exact dropSign_digits d hdig
  · rw [hs]; rfl
  · rw [hs]; rfl

theorem parseUint64_some (s : GoStr) (m : Nat) (h : parseUint64 s = some m) : parseUDec s = some m ∧ m < 2 ^ 64 := by
  unfold parseUint64 at h
  cases hp : parseUDec s with
  | none => simp [hp] at h
  | some v =>
    simp only [hp] at h
    split at h <;> simp at h
    subst h
    exact ⟨rfl, by assumption⟩

theorem mysqlInt_of_parseUDec (s : GoStr) (m : Nat) (h : parseUDec s = some m) : mysqlInt s = some (m : Int) := by
  apply mysqlInt_of_parseBigDec
  obtain ⟨_, hdig, _⟩ := parseUDec_some s m h
  fun_cases parseBigDec s
  · exact absurd rfl (isDigit_ne_sign 43 (hdig 43 List.mem_cons_self)).1
  · exact absurd rfl (isDigit_ne_sign 45 (hdig 45 List.mem_cons_self)).2
  · rw [h]; rfl

/-- a placement function that looks at the key through `NumValue` only -/
def viaNum (f : Int → Out Int) (key : Key) : Out Int :=
  match NumValue key with
  | .ok v => f v
  | .err k => .err k
  | .panic => .panic

/-- a placement function that looks at the key through `GetString` only -/
def viaStr (f : GoStr → Out Int) (key : Key) : Out Int :=
  match GetString key with
  | .ok s => f s
  | .err k => .err k
  | .panic => .panic

theorem fmtInt_nonneg (v : Int) (h : 0 ≤ v) : fmtInt v = fmtNat v.toNat := by
  unfold fmtInt
  have : ¬ (v < 0) := by omega
  simp [this]

theorem parseUint64_fmtNat (v : Nat) (h : v < 2 ^ 64) : parseUint64 (fmtNat v) = some v := by
  unfold parseUint64; rw [parseUDec_fmtNat]; simp [h]

end GaeaVerif.InsertStored
