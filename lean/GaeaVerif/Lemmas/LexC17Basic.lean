import GaeaVerif.Model.LexC17Spec
/-
  Helper lemmas for C17: the decoder and the reader (`decodeRune`, `peek`,
  `incAsLongAs`) on ASCII and non-ASCII bytes (`HighRune`: what `peek` returns
  at a byte ≥ 0x80), `HeadSat P l` (where a scan stops) with `spanLen` on a run
  of bytes, and the one equation of `scan` (`scan_cons`).  The C21 lemma modules
  use the first two parts.
-/
namespace GaeaVerif.LexC17
open GaeaVerif

theorem ite_ind {α : Sort _} (P : α → Prop) (c : Prop) [Decidable c] (a b : α) (ha : c → P a) (hb : ¬ c → P b) :
    P (if c then a else b) := by
  split
  · exact ha ‹_›
  · exact hb ‹_›

theorem peek_ascii (b : UInt8) (t : Bytes) (h : b.toNat < 0x80) : peek (b :: t) = (b.toNat, 1) := by
  simp [peek, h]

theorem decodeRune_ascii (b : UInt8) (t : Bytes) (h : b.toNat < 0x80) : decodeRune (b :: t) = (b.toNat, 1) := by
  simp [decodeRune, h]

theorem lo3_ge (c : Nat) : 0x80 ≤ lo3 c := by unfold lo3; split <;> omega
theorem lo4_ge (c : Nat) : 0x80 ≤ lo4 c := by unfold lo4; split <;> omega
theorem hi3_le (c : Nat) : hi3 c ≤ 0xBF := by unfold hi3; split <;> omega
theorem hi4_le (c : Nat) : hi4 c ≤ 0xBF := by unfold hi4; split <;> omega

/-- The first `k` bytes of `l` are ≥ 0x80 (a missing byte reads as 0). -/
def HighPrefix (l : Bytes) (k : Nat) : Prop := ∀ i, i < k → 0x80 ≤ (l.getD i 0).toNat

/-- A decoded rune `d = (value, width)` at a byte ≥ 0x80: value ≥ 0x80, and its `width` bytes lie inside `l` and
    are all ≥ 0x80, so no ASCII byte of the text is inside it. -/
def HighRune (l : Bytes) (d : Nat × Nat) : Prop := 0x80 ≤ d.1 ∧ 1 ≤ d.2 ∧ d.2 ≤ l.length ∧ HighPrefix l d.2

theorem highPrefix_zero (l : Bytes) : HighPrefix l 0 := fun _ hi => absurd hi (Nat.not_lt_zero _)

theorem highPrefix_cons (b : UInt8) (t : Bytes) (k : Nat) :
    HighPrefix (b :: t) (k + 1) ↔ 0x80 ≤ b.toNat ∧ HighPrefix t k := by
  constructor
  · intro h
    exact ⟨by simpa using h 0 (by omega), fun i hi => by simpa [List.getD_eq_getElem?_getD] using h (i + 1) (by omega)⟩
  · rintro ⟨hb, ht⟩ i hi
    cases i with
    | zero => simpa using hb
    | succ i => simpa [List.getD_eq_getElem?_getD] using ht i (by omega)

/-- The answer `(runeError, 1)` to an invalid encoding is a `HighRune` as well. -/
theorem decodeRune_high (b : UInt8) (t : Bytes) (h : ¬ b.toNat < 0x80) : HighRune (b :: t) (decodeRune (b :: t)) := by
  have hb : 0x80 ≤ b.toNat := by omega
  have herr : HighRune (b :: t) (runeError, 1) :=
    ⟨by decide, Nat.le_refl 1, by simp, (highPrefix_cons b t 0).mpr ⟨hb, highPrefix_zero t⟩⟩
  simp only [decodeRune, if_neg h]
  refine ite_ind _ _ _ _ (fun _ => herr) fun h1 => ?_
  refine ite_ind _ _ _ _ (fun _ => ?_) fun h2 => ?_
  · match t with
    | [] => exact herr
    | b1 :: t' =>
      refine ite_ind _ _ _ _ (fun hc => ?_) (fun _ => herr)
      simp only [isCont, Bool.and_eq_true, decide_eq_true_eq] at hc
      refine ⟨by show 0x80 ≤ _; omega, by show 1 ≤ _; omega, by simp, ?_⟩
      simp only [highPrefix_cons, highPrefix_zero, and_true]
      omega
  refine ite_ind _ _ _ _ (fun _ => ?_) fun h3 => ?_
  · match t with
    | [] | [_] => exact herr
    | b1 :: b2 :: t' =>
      refine ite_ind _ _ _ _ (fun hc => ?_) (fun _ => herr)
      obtain ⟨c1, c2, c3⟩ := hc
      have := lo3_ge b.toNat
      have := hi3_le b.toNat
      -- the second byte of an encoding that starts with 0xE0 is at least 0xA0
      have e0 : b.toNat = 0xE0 ∧ 0xA0 ≤ b1.toNat ∨ b.toNat ≠ 0xE0 := by
        by_cases e : b.toNat = 0xE0
        · left; simp only [lo3, e, if_true] at c1; exact ⟨e, c1⟩
        · right; exact e
      simp only [isCont, Bool.and_eq_true, decide_eq_true_eq] at c3
      refine ⟨by show 0x80 ≤ _; omega, by show 1 ≤ _; omega, by simp, ?_⟩
      simp only [highPrefix_cons, highPrefix_zero, and_true]
      omega
  refine ite_ind _ _ _ _ (fun _ => ?_) (fun _ => herr)
  match t with
  | [] | [_] | [_, _] => exact herr
  | b1 :: b2 :: b3 :: t' =>
    refine ite_ind _ _ _ _ (fun hc => ?_) (fun _ => herr)
    obtain ⟨c1, c2, c3, c4⟩ := hc
    have := lo4_ge b.toNat
    have := hi4_le b.toNat
    -- the second byte of an encoding that starts with 0xF0 is at least 0x90
    have e0 : b.toNat = 0xF0 ∧ 0x90 ≤ b1.toNat ∨ b.toNat ≠ 0xF0 := by
      by_cases e : b.toNat = 0xF0
      · left; simp only [lo4, e, if_true] at c1; exact ⟨e, c1⟩
      · right; exact e
    simp only [isCont, Bool.and_eq_true, decide_eq_true_eq] at c3 c4
    refine ⟨by show 0x80 ≤ _; omega, by show 1 ≤ _; omega, by simp, ?_⟩
    simp only [highPrefix_cons, highPrefix_zero, and_true]
    omega

theorem decodeRune_width_pos (b : UInt8) (t : Bytes) : 1 ≤ (decodeRune (b :: t)).2 := by
  by_cases h : b.toNat < 0x80
  · rw [decodeRune_ascii b t h]; exact Nat.le_refl 1
  · exact (decodeRune_high b t h).2.1

theorem peek_cases (b : UInt8) (t : Bytes) :
    (b.toNat < 0x80 ∧ peek (b :: t) = (b.toNat, 1)) ∨ (0x80 ≤ b.toNat ∧ HighRune (b :: t) (peek (b :: t))) := by
  by_cases hb : b.toNat < 0x80
  · left; exact ⟨hb, peek_ascii b t hb⟩
  · right
    refine ⟨by omega, ?_⟩
    simp only [peek, if_neg hb]
    refine ite_ind _ _ _ _ (fun _ => ?_) (fun _ => decodeRune_high b t hb)
    exact ⟨by show 0x80 ≤ b.toNat; omega, Nat.le_refl 1, by simp,
      (highPrefix_cons b t 0).mpr ⟨by omega, highPrefix_zero t⟩⟩

theorem peek_width_pos (rest : Bytes) (h : rest ≠ []) : 1 ≤ (peek rest).2 := by
  cases rest with
  | nil => exact absurd rfl h
  | cons b t =>
    rcases peek_cases b t with ⟨_, e⟩ | ⟨_, _, h2, _⟩
    · rw [e]; exact Nat.le_refl 1
    · exact h2

theorem peek_width_le (rest : Bytes) : (peek rest).2 ≤ rest.length := by
  cases rest with
  | nil => simp [peek]
  | cons b t =>
    rcases peek_cases b t with ⟨_, e⟩ | ⟨_, _, _, h3, _⟩
    · rw [e]; simp
    · exact h3

theorem incAux_fuel (fn : Nat → Bool) : ∀ (f1 f2 : Nat) (rest : Bytes),
    rest.length ≤ f1 → rest.length ≤ f2 → incAsLongAsAux fn f1 rest = incAsLongAsAux fn f2 rest := by
  intro f1
  induction f1 with
  | zero =>
    intro f2 rest h1 _
    have : rest = [] := List.length_eq_zero_iff.mp (by omega)
    subst this
    cases f2 <;> simp [incAsLongAsAux]
  | succ n ih =>
    intro f2 rest h1 h2
    cases rest with
    | nil => cases f2 <;> simp [incAsLongAsAux]
    | cons b t =>
      cases f2 with
      | zero => simp at h2
      | succ m =>
        simp only [incAsLongAsAux]
        split
        · congr 1
          have hp := peek_width_pos (b :: t) (by simp)
          apply ih
          · simp only [List.length_drop, List.length_cons] at *; omega
          · simp only [List.length_drop, List.length_cons] at *; omega
        · rfl

theorem incAsLongAs_nil (fn : Nat → Bool) : incAsLongAs fn [] = 0 := by
  simp [incAsLongAs, incAsLongAsAux]

theorem incAsLongAs_step (fn : Nat → Bool) (rest : Bytes) (h : rest ≠ []) (hf : fn (peek rest).1 = true) :
    incAsLongAs fn rest = (peek rest).2 + incAsLongAs fn (rest.drop (peek rest).2) := by
  cases rest with
  | nil => exact absurd rfl h
  | cons b t =>
    simp only [incAsLongAs, List.length_cons, incAsLongAsAux, hf, if_true]
    congr 1
    have hp := peek_width_pos (b :: t) (by simp)
    apply incAux_fuel
    · simp only [List.length_drop, List.length_cons]; omega
    · exact Nat.le_refl _

theorem incAsLongAs_stop (fn : Nat → Bool) (rest : Bytes) (hf : fn (peek rest).1 = false) :
    incAsLongAs fn rest = 0 := by
  cases rest with
  | nil => exact incAsLongAs_nil fn
  | cons b t => simp [incAsLongAs, incAsLongAsAux, hf]

theorem incAsLongAs_ascii_run (fn : Nat → Bool) (w rest : Bytes)
    (hw : ∀ b ∈ w, b.toNat < 0x80 ∧ fn b.toNat = true) :
    incAsLongAs fn (w ++ rest) = w.length + incAsLongAs fn rest := by
  induction w with
  | nil => simp
  | cons b t ih =>
    have hb := hw b (by simp)
    have hs := incAsLongAs_step fn (b :: (t ++ rest)) (by simp) (by rw [peek_ascii b _ hb.1]; exact hb.2)
    rw [peek_ascii b _ hb.1] at hs
    simp only [List.cons_append, List.length_cons]
    rw [hs]
    simp only [List.drop_succ_cons, List.drop_zero]
    rw [ih (fun b' hb' => hw b' (by simp [hb']))]
    omega

theorem isWsB_space (b : UInt8) (h : isWsB b = true) : b.toNat < 0x80 ∧ isSpace b.toNat = true := by
  simp only [isWsB, Bool.or_eq_true, Bool.and_eq_true, decide_eq_true_eq] at h
  rcases h with h | h
  · rw [h]; decide
  · exact ⟨by omega, by simp [isSpace, h.1, h.2]⟩

/-- What may follow a run of bytes, seen from the loop that reads the run. -/
def HeadSat (P : UInt8 → Prop) (l : Bytes) : Prop := l = [] ∨ ∃ c t, l = c :: t ∧ P c

theorem HeadSat.nil {P : UInt8 → Prop} : HeadSat P [] := Or.inl rfl

theorem HeadSat.cons {P : UInt8 → Prop} {c : UInt8} {t : Bytes} (h : P c) : HeadSat P (c :: t) := Or.inr ⟨c, t, rfl, h⟩

theorem headSat_iff {P : UInt8 → Prop} {l : Bytes} : HeadSat P l ↔ ∀ c, l.head? = some c → P c := by
  cases l with
  | nil => exact ⟨fun _ _ h => (nomatch h), fun _ => HeadSat.nil⟩
  | cons a t =>
    refine ⟨fun h c hc => ?_, fun h => HeadSat.cons (h a rfl)⟩
    obtain ⟨_, _, e, h⟩ := h.resolve_left (List.cons_ne_nil a t)
    obtain rfl := Option.some.inj hc
    cases e; exact h

theorem HeadSat.mono {P Q : UInt8 → Prop} {l : Bytes} (h : HeadSat P l) (hpq : ∀ c, P c → Q c) : HeadSat Q l :=
  headSat_iff.mpr fun c hc => hpq c (headSat_iff.mp h c hc)

theorem HeadSat.append {P : UInt8 → Prop} {l : Bytes} (h : HeadSat P l) (hne : l ≠ []) (r : Bytes) : HeadSat P (l ++ r) := by
  obtain ⟨c, t, rfl, hc⟩ := h.resolve_left hne
  exact .cons hc

theorem HeadSat.of_prefix {P : UInt8 → Prop} {l l' : Bytes} (h : HeadSat P l) (hp : l' <+: l) : HeadSat P l' := by
  obtain ⟨r, rfl⟩ := hp
  cases l' with
  | nil => exact .nil
  | cons a t => exact .cons (headSat_iff.mp h a rfl)

theorem spanLen_stop (p : UInt8 → Bool) (w more : Bytes) (hm : HeadSat (fun n => p n = false) more) :
    spanLen p (w ++ more) = spanLen p w := by
  induction w with
  | nil =>
    rcases hm with rfl | ⟨n, t, rfl, h⟩
    · rfl
    · simp [spanLen, List.takeWhile, h]
  | cons b t ih =>
    simp only [spanLen, List.cons_append, List.takeWhile]
    cases hp : p b with
    | true => simp only [List.length_cons]; congr 1
    | false => rfl

theorem spanLen_run (p : UInt8 → Bool) (w more : Bytes) (hw : ∀ b ∈ w, p b = true)
    (hm : HeadSat (fun n => p n = false) more) : spanLen p (w ++ more) = w.length := by
  have : more.takeWhile p = [] := by
    rcases hm with rfl | ⟨n, t, rfl, h⟩
    · rfl
    · simp [List.takeWhile, h]
  simp only [spanLen, List.takeWhile_append_of_pos hw, this, List.append_nil]

/-- What a scanner does when it reports token 0 (the local `endOf` of `scan`, with what it closes over as arguments). -/
def endOf (fuel : Nat) (f : Frame) (ps : List Frame) (o : Nat) (f' : Frame) : ScanOut :=
  match ps with
  | [] => ⟨.eof, o, [f']⟩
  | p :: ps' =>
    if f.hint && !f.ended then ⟨.other, o, { f' with ended := true } :: p :: ps'⟩
    else scan fuel (p :: ps')

theorem scan_cons (fuel : Nat) (f : Frame) (ps : List Frame) :
    scan (fuel + 1) (f :: ps) =
      (let up := sumBases (f :: ps)
       let ws := incAsLongAs isSpace f.rest
       let rest := f.rest.drop ws
       let off := f.off + ws
       let adv (n : Nat) : Frame := { f with rest := rest.drop n, off := off + n }
       match rest with
       | [] => endOf fuel f ps (off + up) (adv 0)
       | _ :: _ =>
         match plainStep rest with
         | .tok .eof n => endOf fuel f ps (off + up) (adv n)
         | .tok t n => ⟨t, off + up, adv n :: ps⟩
         | .skip n => scan fuel (adv n :: ps)
         | .unclosed => endOf fuel f ps (off + up) { f with rest := [], off := off + rest.length, errs := true }
         | .special true n inner begin =>
           ⟨.other, off + up,
             { rest := inner, off := 0, base := off + begin, hint := true, ended := false, errs := false } :: adv n :: ps⟩
         | .special false n inner begin =>
           scan fuel ({ rest := inner, off := 0, base := off + begin, hint := false, ended := false, errs := false } :: adv n :: ps)
         | .panic => ⟨.panic, 0, []⟩) := by
  simp only [scan, endOf]
  generalize List.drop (incAsLongAs isSpace f.rest) f.rest = r'
  cases r' with
  | nil => cases ps <;> rfl
  | cons b t =>
    simp only
    cases plainStep (b :: t) with
    | tok t n => cases t <;> cases ps <;> rfl
    | skip n => rfl
    | unclosed => cases ps <;> rfl
    | special hint n inner begin => cases hint <;> rfl
    | panic => rfl

end GaeaVerif.LexC17
