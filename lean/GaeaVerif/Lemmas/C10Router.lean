import GaeaVerif.Lemmas.C10Dates
/-
  C10: what `parseRuleSliceInfos` / `parseRule` guarantee of every rule they
  accept, and how that is carried through the two loops of `NewRouter`.
-/
namespace GaeaVerif.C10
open GaeaVerif

/-- what the sharding function of a parsed rule knows about the rule's
    sub-table list `idx` -/
def ShardWF (sh : ShardFn) (idx : List Int) : Prop :=
  match sh with
  | .hash n | .mod n | .mycatMod n => 0 < n ∧ idx = consec 0 n.toNat
  | .range shards => idx = consec 0 shards.length
  | .mycatLong seg | .mycatString seg _ _ => seg.length = partitionLength ∧ ∀ x ∈ seg, x ∈ idx
  | .mycatMurmur _ count _ => idx = consec 0 count.toNat
  | .mycatPadding p => idx = consec 0 p.mod.toNat ∧ 2 ≤ p.mod ∧ 0 ≤ p.modBegin ∧ p.modBegin < p.modEnd ∧
      p.modEnd ≤ p.padLength
  | _ => True

/-- the rule types for which `parseRule` reads the database list -/
def readsDatabases (cfg : Shard) : Prop :=
  isMycatShardingRule (rtOf cfg.typ) = true ∨ (rtOf cfg.typ = .global ∧ cfg.databases.length ≠ 0)

theorem parseMycatHash_ok (l : List Int) (s d : List Str) (idx : List Int) (t : IntMap)
    (h : parseMycatHashRuleSliceInfos l s d = .ok (idx, t)) :
    parseHashRuleSliceInfos l s = .ok (idx, t) ∧ ∃ dbs, getRealDatabases d = .ok dbs ∧ dbs.length = idx.length := by
  unfold parseMycatHashRuleSliceInfos at h
  r_cases h : parseHashRuleSliceInfos l s with it hp
  r_cases h : getRealDatabases d with dbs hd
  obtain ⟨hlen, h⟩ := ite_fail_eq_ok.mp h
  cases h
  have sp := parseHash_spec _ _ _ _ hp
  exact ⟨hp, dbs, hd, by rw [sp.2.1, length_consec]; omega⟩

theorem parseGlobal_ok (l : List Int) (s d : List Str) (idx : List Int) (t : IntMap)
    (h : parseGlobalTableRuleSliceInfos l s d = .ok (idx, t)) :
    parseHashRuleSliceInfos l s = .ok (idx, t) ∧
      (d.length ≠ 0 → ∃ dbs, getRealDatabases d = .ok dbs ∧ dbs.length = idx.length) := by
  unfold parseGlobalTableRuleSliceInfos at h
  r_cases h : parseHashRuleSliceInfos l s with it hp
  split at h
  · r_cases h : getRealDatabases d with dbs hd
    obtain ⟨hlen, h⟩ := ite_fail_eq_ok.mp h
    cases h
    have sp := parseHash_spec _ _ _ _ hp
    exact ⟨hp, fun _ => ⟨dbs, hd, by rw [sp.2.1, length_consec]; omega⟩⟩
  · next hd =>
    cases h
    exact ⟨hp, fun hne => absurd hne hd⟩

theorem parseRuleSliceInfos_spec (cfg : Shard) (idx : List Int) (t : IntMap) (sh : ShardFn)
    (h : parseRuleSliceInfos cfg = .ok (idx, t, sh)) :
    SliceInfosOK idx t cfg.slices.length ∧ ShardWF sh idx ∧
      (readsDatabases cfg → ∃ dbs, getRealDatabases cfg.databases = .ok dbs ∧ dbs.length = idx.length) := by
  have nodb : ¬ isMycatShardingRule (rtOf cfg.typ) = true → rtOf cfg.typ ≠ .global → ¬ readsDatabases cfg :=
    fun h1 h2 hr => hr.elim h1 (fun hg => h2 hg.1)
  cases hrt : rtOf cfg.typ <;> rw [hrt] at nodb <;> simp only [parseRuleSliceInfos, hrt] at h
  case hash | mod =>
    r_cases h : parseHashRuleSliceInfos cfg.locations cfg.slices with it hp
    cases h
    have sp := parseHash_spec _ _ _ _ hp
    exact ⟨sp.1, ⟨sp.2.2.1, sp.2.1⟩, fun hr => absurd hr (nodb nofun nofun)⟩
  case range =>
    r_cases h : parseHashRuleSliceInfos cfg.locations cfg.slices with it hp
    r_cases h : parseNumSharding cfg.locations cfg.tableRowLimit with rs hn
    obtain ⟨hlen, h⟩ := ite_fail_eq_ok.mp h
    cases h
    have sp := parseHash_spec _ _ _ _ hp
    refine ⟨sp.1, ?_, fun hr => absurd hr (nodb nofun nofun)⟩
    rw [ShardWF, sp.2.1]; congr 1; omega
  case day =>
    r_cases h : parseDateRuleSliceInfos (parseDayRange false) cfg.dateRange cfg.slices with it hp
    cases h
    exact ⟨parseDate_spec _ (parseDayRange_pairwise false) _ _ _ _ hp, trivial,
      fun hr => absurd hr (nodb nofun nofun)⟩
  case month =>
    r_cases h : parseDateRuleSliceInfos (parseMonthRange false) cfg.dateRange cfg.slices with it hp
    cases h
    exact ⟨parseDate_spec _ (parseMonthRange_pairwise false) _ _ _ _ hp, trivial,
      fun hr => absurd hr (nodb nofun nofun)⟩
  case year =>
    r_cases h : parseDateRuleSliceInfos (parseYearRange false) cfg.dateRange cfg.slices with it hp
    cases h
    exact ⟨parseDate_spec _ (parseYearRange_pairwise false) _ _ _ _ hp, trivial,
      fun hr => absurd hr (nodb nofun nofun)⟩
  case global =>
    r_cases h : parseGlobalTableRuleSliceInfos cfg.locations cfg.slices cfg.databases with it hp
    cases h
    obtain ⟨hp, hd⟩ := parseGlobal_ok _ _ _ _ _ hp
    exact ⟨(parseHash_spec _ _ _ _ hp).1, trivial, fun hr => hr.elim (by rw [hrt]; nofun) (fun hg => hd hg.2)⟩
  case default | linked | unknown => cases h
  -- the Mycat rules: `parseMycatHashRuleSliceInfos`, then the parameters of the sharding function
  all_goals
    r_cases h : parseMycatHashRuleSliceInfos cfg.locations cfg.slices cfg.databases with it hm
    obtain ⟨hp, hd⟩ := parseMycatHash_ok _ _ _ _ _ hm
    have sp := parseHash_spec _ _ _ _ hp
  case mycatMod =>
    cases h
    exact ⟨sp.1, ⟨sp.2.2.1, sp.2.1⟩, fun _ => hd⟩
  case mycatLong =>
    r_cases h : partitionLongInit (mapLen it.2) cfg.partitionCount cfg.partitionLength with seg hseg
    cases h
    have ps := (partitionLongInit_safe _ _ _).2 _ hseg
    exact ⟨sp.1, ⟨ps.1, fun x hx => sp.2.1 ▸ mem_consec.mpr (by have := ps.2 x hx; omega)⟩, fun _ => hd⟩
  case mycatString =>
    r_cases h : partitionLongInit (mapLen it.2) cfg.partitionCount cfg.partitionLength with seg hseg
    r_cases h : parseHashSliceStartEnd cfg.hashSlice with se hse
    cases h
    have ps := (partitionLongInit_safe _ _ _).2 _ hseg
    exact ⟨sp.1, ⟨ps.1, fun x hx => sp.2.1 ▸ mem_consec.mpr (by have := ps.2 x hx; omega)⟩, fun _ => hd⟩
  case mycatMurmur =>
    r_cases h : parseMurmur cfg.seed cfg.virtualBucketTimes with sv hsv
    cases h
    exact ⟨sp.1, sp.2.1, fun _ => hd⟩
  case mycatPadding =>
    r_cases h : parsePaddingMod cfg.padFrom cfg.padLength cfg.modBegin cfg.modEnd (mapLen it.2) with p hpad
    cases h
    have pp := (parsePaddingMod_safe _ _ _ _ _).2 _ hpad
    exact ⟨sp.1, ⟨pp.1 ▸ sp.2.1, pp.2⟩, fun _ => hd⟩

/-! ### parseRule -/

theorem parseRule_of_sliceInfos (cfg : Shard) (idx : List Int) (t : IntMap) (sh : ShardFn)
    (h : parseRuleSliceInfos cfg = .ok (idx, t, sh)) :
    ∃ dbs, parseRule cfg = .ok ⟨cfg.db, toLower cfg.table, toLower cfg.key, cfg.typ, cfg.slices, idx, t, sh, dbs⟩ ∧
      (isMycatShardingRule (rtOf cfg.typ) = true ∨ rtOf cfg.typ = .global → dbs.length = idx.length) := by
  have hdb := (parseRuleSliceInfos_spec cfg idx t sh h).2.2
  unfold parseRule
  rw [h]
  simp only
  split
  · next hmy =>
    obtain ⟨dbs, hd, hl⟩ := hdb (Or.inl hmy)
    exact ⟨dbs, by rw [hd], fun _ => hl⟩
  · next hmy =>
    split
    · next hgl =>
      split
      · next hne =>
        obtain ⟨dbs, hd, hl⟩ := hdb (Or.inr ⟨hgl, hne⟩)
        exact ⟨dbs, by rw [hd], fun _ => hl⟩
      · exact ⟨_, rfl, fun _ => List.length_replicate⟩
    · next hgl => exact ⟨_, rfl, fun hm => hm.elim (absurd · hmy) (absurd · hgl)⟩

theorem parseRule_inv (cfg : Shard) (b : BaseRule) (h : parseRule cfg = .ok b) :
    ∃ idx t sh dbs, parseRuleSliceInfos cfg = .ok (idx, t, sh) ∧
      b = ⟨cfg.db, toLower cfg.table, toLower cfg.key, cfg.typ, cfg.slices, idx, t, sh, dbs⟩ ∧
      (isMycatShardingRule (rtOf cfg.typ) = true ∨ rtOf cfg.typ = .global → dbs.length = idx.length) := by
  cases hsi : parseRuleSliceInfos cfg with
  | fail => simp [parseRule, hsi] at h
  | panic => simp [parseRule, hsi] at h
  | ok r =>
    obtain ⟨idx, t, sh⟩ := r
    obtain ⟨dbs, hb, hl⟩ := parseRule_of_sliceInfos cfg idx t sh hsi
    exact ⟨idx, t, sh, dbs, rfl, R.ok.inj (h.symm.trans hb), hl⟩

theorem parseRule_spec (cfg : Shard) (b : BaseRule) (h : parseRule cfg = .ok b) :
    b.db = cfg.db ∧ b.table = toLower cfg.table ∧ b.ruleType = cfg.typ ∧ b.slices = cfg.slices ∧
    SliceInfosOK b.subTableIndexes b.tableToSlice cfg.slices.length ∧ ShardWF b.shard b.subTableIndexes := by
  obtain ⟨idx, t, sh, dbs, hsi, rfl, _⟩ := parseRule_inv cfg b h
  have sp := parseRuleSliceInfos_spec cfg idx t sh hsi
  exact ⟨rfl, rfl, rfl, rfl, sp.1, sp.2.1⟩

/-- `GetDatabaseNameByTableIndex`: a Mycat or global rule has one physical
    database per listed sub table -/
theorem parseRule_databases (cfg : Shard) (b : BaseRule) (h : parseRule cfg = .ok b)
    (hm : isMycatShardingRule (rtOf cfg.typ) = true ∨ rtOf cfg.typ = .global) :
    b.mycatDatabases.length = b.subTableIndexes.length := by
  obtain ⟨idx, t, sh, dbs, _, rfl, hl⟩ := parseRule_inv cfg b h
  exact hl hm

/-! ### the loops of NewRouter carry a property of every parsed rule to every stored rule -/

theorem routerRulesLoop_all (P : BaseRule → Prop) (names : List Str) :
    ∀ (shards linked : List Shard) (rules : RuleMap) (linked' : List Shard) (rules' : RuleMap),
      (∀ s ∈ shards, s.slices.all (includeSlice names) = true → ∀ b, parseRule s = .ok b →
          P b) →
      (∀ kv ∈ rules, P kv.2.target) →
      routerRulesLoop names shards linked rules = .ok (linked', rules') →
      ∀ kv ∈ rules', P kv.2.target
  | [], linked, rules, linked', rules', _, hr, h => by
    cases h; exact hr
  | s :: rest, linked, rules, linked', rules', hs, hr, h => by
    have hrest : ∀ s' ∈ rest, s'.slices.all (includeSlice names) = true → ∀ b, parseRule s' = .ok b →
        P b := fun s' hs' => hs s' (List.mem_cons_of_mem _ hs')
    unfold routerRulesLoop at h
    obtain ⟨hinc, h⟩ := ite_fail_eq_ok.mp h
    split at h
    · exact routerRulesLoop_all P names rest _ rules linked' rules' hrest hr h
    · r_cases h : parseRule s with rule0 hp
      obtain ⟨_, h⟩ := ite_fail_eq_ok.mp h
      obtain ⟨_, h⟩ := ite_fail_eq_ok.mp h
      refine routerRulesLoop_all P names rest _ _ linked' rules' hrest (List.forall_mem_append.mpr ⟨hr, ?_⟩) h
      exact List.forall_mem_singleton.mpr (hs s List.mem_cons_self (by simpa using hinc) rule0 hp)

theorem createLinkedRule_target (rules : RuleMap) (s : Shard) (rule : Rule) (h : createLinkedRule rules s = .ok rule) :
    ∃ k, (k, Rule.base rule.target) ∈ rules := by
  revert h
  fun_cases createLinkedRule rules s <;> intro h
  case case4 b hl _ => cases h; exact ⟨_, lookup_mem _ _ _ hl⟩  -- the one accepting branch: the parent is a stored base rule
  all_goals cases h

theorem routerLinkedLoop_all (P : BaseRule → Prop) :
    ∀ (linked : List Shard) (rules rules' : RuleMap), (∀ kv ∈ rules, P kv.2.target) →
      routerLinkedLoop linked rules = .ok rules' → ∀ kv ∈ rules', P kv.2.target
  | [], rules, rules', hr, h => by
    cases h; exact hr
  | s :: rest, rules, rules', hr, h => by
    unfold routerLinkedLoop at h
    r_cases h : createLinkedRule rules s with rule hc
    refine routerLinkedLoop_all P rest _ rules' (List.forall_mem_append.mpr ⟨hr, ?_⟩) h
    obtain ⟨k, hk⟩ := createLinkedRule_target rules s rule hc
    exact List.forall_mem_singleton.mpr (hr (k, Rule.base rule.target) hk)

theorem newRouter_all (P : BaseRule → Prop) (n : Namespace) (r : Router)
    (hP : ∀ s ∈ n.shardRules, s.slices.all (includeSlice (sliceNames n)) = true → ∀ b, parseRule s = .ok b →
        P b)
    (h : newRouter n = .ok r) : ∀ kv ∈ r.rules, P kv.2.target := by
  unfold newRouter at h
  obtain ⟨_, h⟩ := ite_fail_eq_ok.mp h
  r_cases h : routerRulesLoop (sliceNames n) n.shardRules [] [] with lr hl
  r_cases h : routerLinkedLoop lr.1 lr.2 with rules' hl2
  cases h
  exact routerLinkedLoop_all P _ _ rules' (routerRulesLoop_all P _ _ [] [] _ _ hP (by simp) hl) hl2

end GaeaVerif.C10
