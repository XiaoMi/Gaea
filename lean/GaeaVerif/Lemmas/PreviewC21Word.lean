import GaeaVerif.Lemmas.PreviewC21Strip
/-
  Helper lemmas for C21: the first word of a text that starts with a keyword,
  its lower case, the look-ups in the keyword tables, `SplitMarginComments` on
  a text that starts with a letter, and from these what `Preview` answers for
  a keyword the tables decide.
-/
namespace GaeaVerif.PreviewC21
open GaeaVerif GaeaVerif.LexC17

theorem letterRanges_head : UnicodeC21.letterRanges = (65, 90, 1) :: (97, 122, 1) :: UnicodeC21.letterRanges.drop 2 := by
  rfl

theorem isLetterU_ascii (r : Nat) (h : (65 ≤ r ∧ r ≤ 90) ∨ (97 ≤ r ∧ r ≤ 122)) : isLetterU r = true := by
  simp only [isLetterU, inRanges]
  rw [letterRanges_head]
  rcases h with h | h
  · simp [h.1, h.2, Nat.mod_one]
  · simp [h.1, h.2, Nat.mod_one]

theorem isAsciiLetterB_range (b : UInt8) (h : isAsciiLetterB b = true) :
    b.toNat < 0x80 ∧ ((65 ≤ b.toNat ∧ b.toNat ≤ 90) ∨ (97 ≤ b.toNat ∧ b.toNat ≤ 122)) := by
  simp only [isAsciiLetterB, isLetter, Bool.or_eq_true, Bool.and_eq_true, decide_eq_true_eq] at h
  omega

theorem letter_not_wordEnd (b : UInt8) (h : isAsciiLetterB b = true) : isWordEnd b.toNat = false := by
  have := isAsciiLetterB_range b h
  simp only [isWordEnd, isSpace, isIdentChar, isLetter, isDigit, isIdentExtend, Bool.or_eq_false_iff, Bool.and_eq_false_iff,
    Bool.not_eq_false', Bool.or_eq_true, Bool.and_eq_true, decide_eq_false_iff_not, decide_eq_true_eq]
  omega

theorem stops_of_letters (kw : Bytes) (hne : kw ≠ []) (hletters : ∀ b ∈ kw, isAsciiLetterB b = true) : Stops kw := by
  obtain ⟨b, t, hk⟩ := List.exists_cons_of_ne_nil hne
  have hb := isAsciiLetterB_range b (hletters b (by rw [hk]; simp))
  refine ⟨⟨⟨b, t, hk, hb.1, ?_⟩, ?_⟩, fun rest n => ?_⟩
  · simp only [isLeadBlank, isSpace, Bool.or_eq_false_iff, Bool.and_eq_false_iff, decide_eq_false_iff_not]; omega
  · rcases List.eq_nil_or_concat kw with e | ⟨init, x, e⟩
    · exact absurd e hne
    · rw [List.concat_eq_append] at e
      have hx := isAsciiLetterB_range x (hletters x (by rw [e]; simp))
      refine ⟨init, x, e, hx.1, ?_⟩
      simp only [isSpace, Bool.or_eq_false_iff, Bool.and_eq_false_iff, decide_eq_false_iff_not]; omega
  · apply stripLoop_nocomment
    rw [hk, List.cons_append]
    cases t ++ rest with
    | nil => rfl
    | cons c r =>
      simp only [hasCommentPrefix, Bool.or_eq_false_iff, Bool.and_eq_false_iff, decide_eq_false_iff_not]
      omega

/-- What may follow the keyword: nothing, or an ASCII byte that ends a word. -/
def KwStop (rest : Bytes) : Prop :=
  rest = [] ∨ ∃ n t, rest = n :: t ∧ n.toNat < 0x80 ∧ isWordEnd n.toNat = true

theorem KwStop.take {rest : Bytes} (h : KwStop rest) (m : Nat) : KwStop (rest.take m) :=
  HeadSat.of_prefix h (List.take_prefix _ _)

theorem indexFunc_succ_cons (f : Nat → Bool) (n : Nat) (b : UInt8) (t : Bytes) :
    indexFunc f (n + 1) (b :: t) =
      if f (decodeRune (b :: t)).1 = true then some 0
      else (indexFunc f n ((b :: t).drop (decodeRune (b :: t)).2)).map ((decodeRune (b :: t)).2 + ·) := rfl

theorem indexFunc_kw (kw rest : Bytes) (hkw : ∀ b ∈ kw, isAsciiLetterB b = true) (hr : KwStop rest) :
    indexFunc isWordEnd ((kw ++ rest).length + 1) (kw ++ rest) = if rest = [] then none else some kw.length := by
  induction kw with
  | nil =>
    rcases hr with rfl | ⟨n, t, rfl, h1, h2⟩
    · simp [indexFunc]
    · simp [indexFunc, decodeRune_ascii n t h1, h2]
  | cons b t ih =>
    have hb := hkw b (by simp)
    have h80 := (isAsciiLetterB_range b hb).1
    rw [List.cons_append, List.length_cons, indexFunc_succ_cons, decodeRune_ascii b _ h80, letter_not_wordEnd b hb]
    simp only [Bool.false_eq_true, if_false, List.drop_succ_cons, List.drop_zero, List.length_cons]
    rw [ih (fun b' hb' => hkw b' (by simp [hb']))]
    split <;> simp <;> omega

theorem trimLeft_letter (b : UInt8) (t : Bytes) (hb : isAsciiLetterB b = true) (n : Nat) :
    trimLeftFunc (fun r => !isLetterU r) n (b :: t) = b :: t :=
  trimLeft_stop _ _ b _ (isAsciiLetterB_range b hb).1 (by simp [isLetterU_ascii b.toNat (isAsciiLetterB_range b hb).2])

theorem firstWord_kw (kw rest : Bytes) (hne : kw ≠ []) (hkw : ∀ b ∈ kw, isAsciiLetterB b = true) (hr : KwStop rest) :
    firstWord (kw ++ rest) = kw := by
  cases kw with
  | nil => exact absurd rfl hne
  | cons b t =>
    simp only [firstWord]
    rw [List.cons_append, trimLeft_letter b _ (hkw b (by simp)), ← List.cons_append, indexFunc_kw (b :: t) rest hkw hr]
    by_cases hrest : rest = []
    · simp [hrest]
    · simp [hrest]

theorem runes_ascii (l : Bytes) (h : ∀ b ∈ l, b.toNat < 0x80) : ∀ n, l.length ≤ n → runes n l = l.map UInt8.toNat := by
  induction l with
  | nil => intro n _; cases n <;> simp [runes]
  | cons b t ih =>
    intro n hn
    cases n with
    | zero => simp at hn
    | succ n =>
      simp only [runes, decodeRune_ascii b t (h b (by simp)), List.drop_succ_cons, List.drop_zero, List.map_cons]
      rw [ih (fun b' hb' => h b' (by simp [hb'])) n (by simpa using hn)]

theorem lowerRune_letter (b : UInt8) (h : isAsciiLetterB b = true) : lowerRune b.toNat = asciiLower b := by
  have := isAsciiLetterB_range b h
  simp only [lowerRune, asciiLower]
  split
  · rfl
  · rw [if_neg (by omega), if_neg (by omega)]

theorem toLower_kw (kw : Bytes) (hkw : ∀ b ∈ kw, isAsciiLetterB b = true) : toLower kw = kw.map asciiLower := by
  simp only [toLower]
  rw [runes_ascii kw (fun b hb => (isAsciiLetterB_range b (hkw b hb)).1) _ (Nat.le_refl _), List.map_map]
  exact List.map_congr_left fun b hb => lowerRune_letter b (hkw b hb)

theorem toLower_two (a b : UInt8) (t : Bytes) (ha : a.toNat < 0x80) (hb : b.toNat < 0x80) :
    ∃ r, toLower (a :: b :: t) = lowerRune a.toNat :: lowerRune b.toNat :: r := by
  simp only [toLower, List.length_cons, runes, decodeRune_ascii a _ ha, decodeRune_ascii b _ hb, List.drop_succ_cons,
    List.drop_zero, List.map_cons]
  exact ⟨_, rfl⟩

theorem toLower_short (s : Bytes) (h : s.length ≤ 1) : (toLower s).length ≤ 1 := by
  cases s with
  | nil => simp [toLower, runes]
  | cons a t =>
    have : t = [] := List.length_eq_zero_iff.mp (by simp only [List.length_cons] at h; omega)
    subst this
    simp [toLower, runes]

theorem lookup_none (tbl : List (List Nat × Nat)) (w : List Nat) (h : ∀ e ∈ tbl, (e.1 == w) = false) :
    lookup tbl w = none := by
  simp only [lookup, Option.map_eq_none_iff, List.find?_eq_none]
  intro e he
  simp [h e he]

/-- Every key of `tbl` has two code points or more, and none starts with `x`, `y`. -/
def missTwo (tbl : List (List Nat × Nat)) (x y : Nat) : Bool :=
  tbl.all fun e => match e.1 with
    | a :: b :: _ => !(a == x && b == y)
    | _ => false

theorem lookup_missTwo (tbl : List (List Nat × Nat)) (x y : Nat) (t : List Nat) (h : missTwo tbl x y = true) :
    lookup tbl (x :: y :: t) = none := by
  apply lookup_none
  intro e he
  simp only [missTwo, List.all_eq_true] at h
  have := h e he
  cases hk : e.1 with
  | nil => simp
  | cons a r =>
    cases r with
    | nil => simp
    | cons b r' =>
      rw [hk] at this
      simp only [Bool.not_eq_true', Bool.and_eq_false_iff, beq_eq_false_iff_ne, ne_eq] at this
      simp only [beq_eq_false_iff_ne, ne_eq, List.cons.injEq, not_and]
      intro e1 e2
      rcases this with h | h
      · exact absurd e1 h
      · exact absurd e2 h

theorem lookup_short (tbl : List (List Nat × Nat)) (w : List Nat) (hw : w.length ≤ 1)
    (h : tbl.all (fun e => decide (2 ≤ e.1.length)) = true) : lookup tbl w = none := by
  apply lookup_none
  intro e he
  simp only [List.all_eq_true, decide_eq_true_eq] at h
  have := h e he
  simp only [beq_eq_false_iff_ne, ne_eq]
  intro e1; rw [e1] at this; omega

abbrev StartsLetter (x : Bytes) : Prop := HeadSat (fun b => isAsciiLetterB b = true) x

theorem leadingCommentEnd_letter (x : Bytes) (h : StartsLetter x) : leadingCommentEnd x = 0 := by
  rcases h with rfl | ⟨b, t, rfl, hb⟩
  · simp [leadingCommentEnd, leadingCommentEndLoop]
  · have hl := isAsciiLetterB_range b hb
    have hns : isNonSpace b.toNat = true := by
      simp only [isNonSpace, isSpace, Bool.not_eq_true', Bool.or_eq_false_iff, Bool.and_eq_false_iff, decide_eq_false_iff_not]
      omega
    have hidx : indexFunc isNonSpace ((b :: t).length + 1) (b :: t) = some 0 := by
      rw [indexFunc_succ_cons, decodeRune_ascii b t hl.1, if_pos hns]
    have hne : (b :: t).take 2 ≠ cSlashStar := by
      cases t with
      | nil => simp [cSlashStar]
      | cons c t' =>
        simp only [List.take_succ_cons, List.take_zero, cSlashStar, ne_eq, List.cons.injEq, and_true, not_and]
        intro e; rw [e] at hl; exact absurd hl.2 (by decide)
    simp only [leadingCommentEnd, List.length_cons, leadingCommentEndLoop, Nat.zero_lt_succ, if_true, List.drop_zero]
    rw [show t.length + 1 + 1 = (b :: t).length + 1 by simp, hidx]
    simp only [Nat.add_zero, List.drop_zero]
    rw [if_pos (Or.inr hne)]
    simp

theorem splitMarginQuery_prefix (x : Bytes) (h : StartsLetter x) : ∃ m, splitMarginQuery x = x.take m := by
  simp only [splitMarginQuery]
  have hy : StartsLetter (x.take (trailingCommentStart x)) := h.of_prefix (List.take_prefix _ _)
  rw [leadingCommentEnd_letter _ hy, List.drop_zero]
  rcases hy with hy | ⟨b, t, hy, hb⟩
  · rw [hy]; exact ⟨0, by simp [trimFunc, trimLeftFunc, trimRightFunc]⟩
  · have hl := isAsciiLetterB_range b hb
    have hf : (fun c => isSpace c || decide (c = 0x3B)) b.toNat = false := by
      simp only [isSpace, Bool.or_eq_false_iff, Bool.and_eq_false_iff, decide_eq_false_iff_not]
      omega
    simp only [trimFunc]
    rw [hy, trimLeft_stop _ _ b t hl.1 hf]
    obtain ⟨m, hm⟩ := trimRight_is_take (fun c => isSpace c || decide (c = 0x3B)) (b :: t).length (b :: t)
    rw [hm, ← hy, List.take_take]
    exact ⟨_, rfl⟩

/-- The kind `Preview` answers for a text whose first word is keyword `k`,
    when that can be told from the tables alone: the first switch has `k`, or
    it misses it, no key of the second switch starts with its first two
    letters, and the third switch has `k`. -/
def kwKind (T : Tables) (k : List Nat) : Option Nat :=
  match lookup T.sw1 k with
  | some kind => some kind
  | none =>
    match k with
    | x :: y :: _ => if missTwo T.sw2 x y then lookup T.sw3 k else none
    | _ => none

theorem previewTrimmed_kw (T : Tables) (hsw2 : T.sw2.all (fun e => decide (2 ≤ e.1.length)) = true) (kw rest : Bytes)
    (kind : Nat) (hne : kw ≠ []) (hletters : ∀ b ∈ kw, isAsciiLetterB b = true)
    (hstop : KwStop rest) (hk : kwKind T (kw.map asciiLower) = some kind) :
    previewTrimmed T (kw ++ rest) = kind := by
  obtain ⟨b, t, hkw⟩ := List.exists_cons_of_ne_nil hne
  have hb := isAsciiLetterB_range b (hletters b (by rw [hkw]; simp))
  have hpre : isPrefixB cSlashStarBang (kw ++ rest) = false := by
    rw [hkw]
    simp only [isPrefixB, cSlashStarBang, List.cons_append, List.length_cons, List.length_nil, List.take_succ_cons,
      beq_eq_false_iff_ne, ne_eq, List.cons.injEq, not_and]
    intro e; rw [e] at hb; exact absurd hb.2 (by decide)
  have hlw : toLower (firstWord (kw ++ rest)) = kw.map asciiLower := by
    rw [firstWord_kw kw rest hne hletters hstop, toLower_kw kw hletters]
  simp only [previewTrimmed, hpre, Bool.false_eq_true, if_false, hlw]
  simp only [kwKind] at hk
  cases h1 : lookup T.sw1 (kw.map asciiLower) with
  | some kind' => rw [h1] at hk; simp only [Option.some.injEq] at hk; exact hk
  | none =>
    rw [h1] at hk
    -- the second switch: the statement without margin comments is a prefix of the text
    have hsw : lookup T.sw2 (toLower (splitMarginQuery (kw ++ rest))) = none ∧
        lookup T.sw3 (kw.map asciiLower) = some kind := by
      obtain ⟨m, hm⟩ := splitMarginQuery_prefix (kw ++ rest) (Or.inr ⟨b, t ++ rest, by rw [hkw]; rfl, hletters b (by rw [hkw]; simp)⟩)
      rw [hm]
      cases t with
      | nil => rw [hkw] at hk; simp at hk
      | cons c t' =>
        have hc := isAsciiLetterB_range c (hletters c (by rw [hkw]; simp))
        rw [hkw] at hk
        simp only [List.map_cons] at hk
        split at hk
        · rename_i hmiss
          refine ⟨?_, by rw [hkw]; exact hk⟩
          by_cases hm2 : 2 ≤ m
          · obtain ⟨m', rfl⟩ : ∃ m', m = m' + 2 := ⟨m - 2, by omega⟩
            rw [hkw]
            simp only [List.cons_append, List.take_succ_cons]
            obtain ⟨r, hr⟩ := toLower_two b c (List.take m' (t' ++ rest)) hb.1 hc.1
            rw [hr, lowerRune_letter b (hletters b (by rw [hkw]; simp)), lowerRune_letter c (hletters c (by rw [hkw]; simp))]
            exact lookup_missTwo _ _ _ _ hmiss
          · exact lookup_short _ _ (toLower_short _ (by simp only [List.length_take]; omega)) hsw2
        · exact absurd hk (by simp)
    simp only [hsw.1, hsw.2]

end GaeaVerif.PreviewC21
