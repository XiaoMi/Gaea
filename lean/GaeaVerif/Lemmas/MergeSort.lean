import GaeaVerif.Lemmas.MergeOrder
/-
  C02 helper lemmas: `cmpValue` / `ResultsetSorter.Less` against the SQL order;
  `SortWithoutColumnName` as a stable sort by the ORDER BY key.
-/
namespace GaeaVerif.Merge

theorem cmpValue_int (a b : Int) (v : Int) (h : cmpValue (.int a) (.int b) = .ok v) :
    (v < 0 ↔ ltVal (.int a) (.int b) = true) ∧ (v > 0 ↔ ltVal (.int b) (.int a) = true) := by
  simp only [cmpValue, R.ok.injEq] at h
  subst h
  simp only [ltVal, leVal]
  by_cases h1 : a < b
  · simp [h1]; omega
  · by_cases h2 : a > b
    · simp [h1, h2] <;> omega
    · simp [h1, h2] <;> omega

theorem cmpValue_str (a b : List UInt8) (v : Int) (h : cmpValue (.str a) (.str b) = .ok v) :
    (v < 0 ↔ ltVal (.str a) (.str b) = true) ∧ (v > 0 ↔ ltVal (.str b) (.str a) = true) := by
  simp only [cmpValue, R.ok.injEq] at h
  subst h
  simp only [ltVal, leVal]
  by_cases e : a = b
  · subst e; simp [bytesLe_refl]
  · by_cases h1 : bytesLe a b = true
    · have h2 : bytesLe b a = false := Bool.eq_false_iff.mpr fun hb => e (bytesLe_antisymm a b h1 hb)
      simp [e, h1, h2]
    · have h2 : bytesLe b a = true := (bytesLe_total a b).resolve_left h1
      simp [e, h1, h2]

theorem cmpValue_spec (x y : Val) (v : Int) (h : cmpValue x y = .ok v) :
    (v < 0 ↔ ltVal x y = true) ∧ (v > 0 ↔ ltVal y x = true) := by
  cases x <;> cases y <;>
    first
      | exact cmpValue_int _ _ v h
      | exact cmpValue_str _ _ v h
      | (simp only [cmpValue, R.ok.injEq, reduceCtorEq] at h; subst h; simp [ltVal, leVal, Val.rank])
      | (simp only [cmpValue, reduceCtorEq] at h)

/-- the ORDER BY key of a merged row: the values at the sort columns -/
def keyAt (cols : List Int) (r : Row) : Row := cols.map fun c => r.getD c.toNat .null

def InRange (cols : List Int) (r : Row) : Prop := ∀ c ∈ cols, 0 ≤ c ∧ c < r.length

theorem cmpValue_ne_fail (x y : Val) : cmpValue x y ≠ .fail := by
  cases x <;> cases y <;> simp [cmpValue]

/-- one step of `Less`, uniform in the direction -/
theorem lessStep_spec (w : Int) (X Y : Val) (rest : R Bool) (restKey : Bool)
    (hw : (w < 0 ↔ ltVal X Y = true) ∧ (w > 0 ↔ ltVal Y X = true))
    (hrest : rest.isPanic = false → rest = .ok (!restKey))
    (hp : (if w < 0 then R.ok true else if w > 0 then R.ok false else rest).isPanic = false) :
    (if w < 0 then R.ok true else if w > 0 then R.ok false else rest) = .ok (!lexAsc Y X restKey) := by
  rw [lexAsc_eq_ite]
  by_cases h1 : w < 0
  · have hx : ltVal X Y = true := hw.1.mp h1
    simp [h1, hx, ltVal_asymm _ _ hx]
  · by_cases h2 : w > 0
    · simp [h1, h2, hw.2.mp h2]
    · have hx : ltVal X Y = false := Bool.eq_false_iff.mpr fun hh => h1 (hw.1.mpr hh)
      have hy : ltVal Y X = false := Bool.eq_false_iff.mpr fun hh => h2 (hw.2.mpr hh)
      simp only [h1, h2, if_false, hx, hy, Bool.false_eq_true] at hp ⊢
      exact hrest hp

theorem less_spec : ∀ (cols : List Int) (dirs : List Bool) (a b : Row), cols.length = dirs.length →
    InRange cols a → InRange cols b → (less (cols.zip dirs) a b).isPanic = false →
    less (cols.zip dirs) a b = .ok (!leKey dirs (keyAt cols b) (keyAt cols a))
  | [], [], _, _, _, _, _, _ => by simp [less, leKey]
  | [], _ :: _, _, _, h, _, _, _ => by simp at h
  | _ :: _, [], _, _, h, _, _, _ => by simp at h
  | c :: cols, d :: dirs, a, b, hl, ha, hb, hp => by
    have hca := ha c (by simp)
    have hcb := hb c (by simp)
    have ih := less_spec cols dirs a b (by simpa using hl) (fun x hx => ha x (by simp [hx]))
      (fun x hx => hb x (by simp [hx]))
    simp only [List.zip_cons_cons, less] at hp ⊢
    have hr : ¬ (c < 0 ∨ c ≥ a.length ∨ c ≥ b.length) := by omega
    rw [if_neg hr] at hp ⊢
    rw [leKey_cons]
    simp only [keyAt, List.map_cons, List.headD_cons, List.tail_cons]
    generalize a.getD c.toNat .null = x at hp ⊢
    generalize b.getD c.toNat .null = y at hp ⊢
    cases hc : cmpValue x y with
    | fail => exact absurd hc (cmpValue_ne_fail x y)
    | panic => simp [hc, R.isPanic] at hp
    | ok v =>
      simp only [hc] at hp ⊢
      have hs := cmpValue_spec x y v hc
      cases d
      · simp only [Bool.false_eq_true, if_false] at hp ⊢
        exact lessStep_spec v x y _ _ hs ih hp
      · simp only [if_true] at hp ⊢
        exact lessStep_spec (-v) y x _ _ ⟨by rw [← hs.2]; omega, by rw [← hs.1]; omega⟩ ih hp

theorem less_never_fails : ∀ (ks : List (Int × Bool)) (a b : Row), less ks a b ≠ .fail
  | [], _, _ => by simp [less]
  | (c, d) :: ks, a, b => by
    simp only [less]
    split
    · simp
    · generalize a.getD c.toNat .null = x
      generalize b.getD c.toNat .null = y
      cases hc : cmpValue x y with
      | fail => exact absurd hc (cmpValue_ne_fail x y)
      | panic => simp
      | ok v =>
        simp only
        generalize (if d = true then -v else v) = w
        by_cases h1 : w < 0
        · simp [h1]
        · by_cases h2 : w > 0
          · simp [h1, h2]
          · simp only [h1, h2, if_false]; exact less_never_fails ks a b

theorem sortCmp_spec (cols : List Int) (dirs : List Bool) (a b : Row) (hl : cols.length = dirs.length)
    (ha : InRange cols a) (hb : InRange cols b)
    (hp : a ≠ b → (less (cols.zip dirs) b a).isPanic = false) :
    (!lessB (cols.zip dirs) b a) = leKey dirs (keyAt cols a) (keyAt cols b) := by
  by_cases hpan : (less (cols.zip dirs) b a).isPanic = true
  · have e : a = b := by
      cases hab : decide (a = b)
      · have := hp (by simpa using hab); simp [this] at hpan
      · simpa using hab
    subst e
    have : lessB (cols.zip dirs) a a = false := by
      simp only [lessB]
      cases hh : less (cols.zip dirs) a a <;> simp_all [R.isPanic]
    simp [this, leKey_refl']
  · have hs := less_spec cols dirs b a hl hb ha (by simpa using hpan)
    simp only [lessB, hs]
    cases leKey dirs (keyAt cols a) (keyAt cols b) <;> rfl

theorem badPairs_false : ∀ (ks : List (Int × Bool)) (rows : List Row), badPairs ks rows = false →
    ∀ a ∈ rows, ∀ b ∈ rows, a ≠ b → (less ks a b).isPanic = false
  | _, [], _, _, h, _, _, _ => by simp at h
  | ks, r :: rows, hb, a, ha, b, hb', hne => by
    simp only [badPairs, Bool.or_eq_false_iff, List.any_eq_false, Bool.or_eq_true, not_or,
      Bool.not_eq_true] at hb
    rcases List.mem_cons.mp ha with e1 | ha2
    · rcases List.mem_cons.mp hb' with e2 | hb2
      · exact absurd (e1.trans e2.symm) hne
      · rw [e1]; exact (hb.1 b hb2).1
    · rcases List.mem_cons.mp hb' with e2 | hb2
      · rw [e2]; exact (hb.1 a ha2).2
      · exact badPairs_false ks rows hb.2 a ha2 b hb2 hne

/-- **`SortWithoutColumnName`** returns (when no comparison panics) the rows
    stably sorted by their ORDER BY keys. -/
theorem sortRows_spec (cols : List Int) (dirs : List Bool) (rows out : List Row) (hl : cols.length = dirs.length)
    (hr : ∀ r ∈ rows, InRange cols r) (h : sortRows (cols.zip dirs) rows = .ok out) :
    out = rows.mergeSort fun a b => leKey dirs (keyAt cols a) (keyAt cols b) := by
  simp only [sortRows] at h
  split at h
  · cases h
  · rename_i hbad
    rw [R.ok.injEq] at h
    subst h
    have := List.map_mergeSort (f := id) (r := fun a b => !lessB (cols.zip dirs) b a)
      (s := fun a b => leKey dirs (keyAt cols a) (keyAt cols b)) (l := rows) (by
        intro a ha b hb
        exact sortCmp_spec cols dirs a b hl (hr a ha) (hr b hb)
          (fun hne => badPairs_false _ rows (by simpa using hbad) b hb a ha (fun e => hne e.symm)))
    simpa using this

end GaeaVerif.Merge
