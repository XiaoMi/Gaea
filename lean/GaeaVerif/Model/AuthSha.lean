import GaeaVerif.Model.Go
/-
  Executable SHA-1 and SHA-256 (FIPS 180-4) over byte lists, core Lean only.
  Used by the C30 driver where the theorems of Props/C30.lean have the hash
  functions as parameters; validated against Go's crypto/sha1 and crypto/sha256
  by the correspondence check (`(sha1 …)`/`(sha256 …)` cases of `gvh run C30`,
  message lengths around every padding boundary).
-/
namespace GaeaVerif.AuthSha
open GaeaVerif

def be32 (w : UInt32) : Bytes :=
  [(w >>> 24).toUInt8, (w >>> 16).toUInt8, (w >>> 8).toUInt8, w.toUInt8]

/-- 8-byte big-endian encoding of `n` (mod 2^64). -/
def be64 (n : Nat) : Bytes :=
  (List.range 8).map fun i => UInt8.ofNat ((n >>> (8 * (7 - i))) % 256)

def word (a b c d : UInt8) : UInt32 :=
  (a.toUInt32 <<< 24) ||| (b.toUInt32 <<< 16) ||| (c.toUInt32 <<< 8) ||| d.toUInt32

def words : Bytes → List UInt32
  | a :: b :: c :: d :: rest => word a b c d :: words rest
  | _ => []

def rotl (x : UInt32) (n : UInt32) : UInt32 := (x <<< n) ||| (x >>> (32 - n))
def rotr (x : UInt32) (n : UInt32) : UInt32 := (x >>> n) ||| (x <<< (32 - n))

/-- Message padding: 0x80, zeros up to 56 mod 64, 64-bit big-endian bit length. -/
def pad (msg : Bytes) : Bytes :=
  let l := msg.length
  msg ++ [0x80] ++ List.replicate ((119 - l % 64) % 64) 0 ++ be64 (8 * l)

def blocks : Nat → Bytes → List Bytes
  | 0, _ => []
  | n + 1, bs => bs.take 64 :: blocks n (bs.drop 64)

/-! ### SHA-1 -/

structure S1 where
  (a b c d e : UInt32)

def sha1Schedule (blk : Bytes) : Array UInt32 :=
  (List.range 64).foldl (fun (w : Array UInt32) _ =>
    let i := w.size
    w.push (rotl (w.getD (i - 3) 0 ^^^ w.getD (i - 8) 0 ^^^ w.getD (i - 14) 0 ^^^ w.getD (i - 16) 0) 1))
    (words blk).toArray

def sha1Round (w : Array UInt32) (s : S1) (i : Nat) : S1 :=
  let (f, k) : UInt32 × UInt32 :=
    if i < 20 then ((s.b &&& s.c) ||| ((~~~ s.b) &&& s.d), 0x5A827999)
    else if i < 40 then (s.b ^^^ s.c ^^^ s.d, 0x6ED9EBA1)
    else if i < 60 then ((s.b &&& s.c) ||| (s.b &&& s.d) ||| (s.c &&& s.d), 0x8F1BBCDC)
    else (s.b ^^^ s.c ^^^ s.d, 0xCA62C1D6)
  let t := rotl s.a 5 + f + s.e + k + w.getD i 0
  { a := t, b := s.a, c := rotl s.b 30, d := s.c, e := s.d }

def sha1Block (h : S1) (blk : Bytes) : S1 :=
  let w := sha1Schedule blk
  let s := (List.range 80).foldl (sha1Round w) h
  { a := h.a + s.a, b := h.b + s.b, c := h.c + s.c, d := h.d + s.d, e := h.e + s.e }

def sha1Init : S1 :=
  { a := 0x67452301, b := 0xEFCDAB89, c := 0x98BADCFE, d := 0x10325476, e := 0xC3D2E1F0 }

def sha1Out (s : S1) : Bytes := be32 s.a ++ be32 s.b ++ be32 s.c ++ be32 s.d ++ be32 s.e

/-- SHA-1 digest (20 bytes). -/
def sha1 (msg : Bytes) : Bytes :=
  let p := pad msg
  sha1Out ((blocks (p.length / 64) p).foldl sha1Block sha1Init)

/-! ### SHA-256 -/

def k256 : Array UInt32 := #[
  0x428a2f98, 0x71374491, 0xb5c0fbcf, 0xe9b5dba5, 0x3956c25b, 0x59f111f1, 0x923f82a4, 0xab1c5ed5,
  0xd807aa98, 0x12835b01, 0x243185be, 0x550c7dc3, 0x72be5d74, 0x80deb1fe, 0x9bdc06a7, 0xc19bf174,
  0xe49b69c1, 0xefbe4786, 0x0fc19dc6, 0x240ca1cc, 0x2de92c6f, 0x4a7484aa, 0x5cb0a9dc, 0x76f988da,
  0x983e5152, 0xa831c66d, 0xb00327c8, 0xbf597fc7, 0xc6e00bf3, 0xd5a79147, 0x06ca6351, 0x14292967,
  0x27b70a85, 0x2e1b2138, 0x4d2c6dfc, 0x53380d13, 0x650a7354, 0x766a0abb, 0x81c2c92e, 0x92722c85,
  0xa2bfe8a1, 0xa81a664b, 0xc24b8b70, 0xc76c51a3, 0xd192e819, 0xd6990624, 0xf40e3585, 0x106aa070,
  0x19a4c116, 0x1e376c08, 0x2748774c, 0x34b0bcb5, 0x391c0cb3, 0x4ed8aa4a, 0x5b9cca4f, 0x682e6ff3,
  0x748f82ee, 0x78a5636f, 0x84c87814, 0x8cc70208, 0x90befffa, 0xa4506ceb, 0xbef9a3f7, 0xc67178f2]

structure S256 where
  (a b c d e f g h : UInt32)

def sha256Schedule (blk : Bytes) : Array UInt32 :=
  (List.range 48).foldl (fun (w : Array UInt32) _ =>
    let i := w.size
    let w15 := w.getD (i - 15) 0
    let w2 := w.getD (i - 2) 0
    let s0 := rotr w15 7 ^^^ rotr w15 18 ^^^ (w15 >>> 3)
    let s1 := rotr w2 17 ^^^ rotr w2 19 ^^^ (w2 >>> 10)
    w.push (w.getD (i - 16) 0 + s0 + w.getD (i - 7) 0 + s1))
    (words blk).toArray

def sha256Round (w : Array UInt32) (s : S256) (i : Nat) : S256 :=
  let s1 := rotr s.e 6 ^^^ rotr s.e 11 ^^^ rotr s.e 25
  let ch := (s.e &&& s.f) ^^^ ((~~~ s.e) &&& s.g)
  let t1 := s.h + s1 + ch + k256.getD i 0 + w.getD i 0
  let s0 := rotr s.a 2 ^^^ rotr s.a 13 ^^^ rotr s.a 22
  let maj := (s.a &&& s.b) ^^^ (s.a &&& s.c) ^^^ (s.b &&& s.c)
  let t2 := s0 + maj
  { a := t1 + t2, b := s.a, c := s.b, d := s.c, e := s.d + t1, f := s.e, g := s.f, h := s.g }

def sha256Block (h : S256) (blk : Bytes) : S256 :=
  let w := sha256Schedule blk
  let s := (List.range 64).foldl (sha256Round w) h
  { a := h.a + s.a, b := h.b + s.b, c := h.c + s.c, d := h.d + s.d,
    e := h.e + s.e, f := h.f + s.f, g := h.g + s.g, h := h.h + s.h }

def sha256Init : S256 :=
  { a := 0x6a09e667, b := 0xbb67ae85, c := 0x3c6ef372, d := 0xa54ff53a,
    e := 0x510e527f, f := 0x9b05688c, g := 0x1f83d9ab, h := 0x5be0cd19 }

def sha256Out (s : S256) : Bytes :=
  be32 s.a ++ be32 s.b ++ be32 s.c ++ be32 s.d ++ be32 s.e ++ be32 s.f ++ be32 s.g ++ be32 s.h

/-- SHA-256 digest (32 bytes). -/
def sha256 (msg : Bytes) : Bytes :=
  let p := pad msg
  sha256Out ((blocks (p.length / 64) p).foldl sha256Block sha256Init)

theorem be32_length (w : UInt32) : (be32 w).length = 4 := rfl

theorem sha1_length (msg : Bytes) : (sha1 msg).length = 20 := by
  simp only [sha1, sha1Out, List.length_append, be32_length]

theorem sha256_length (msg : Bytes) : (sha256 msg).length = 32 := by
  simp only [sha256, sha256Out, List.length_append, be32_length]

end GaeaVerif.AuthSha
