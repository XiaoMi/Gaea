/-
  Shared vocabulary for models of Go code: byte strings, an outcome type with
  an explicit `panic` (the model never silently totalises an out-of-range
  index or slice), Go's index and slice expressions on `[]byte`, little-endian
  integers and `int(u)` of a `uint64`; below the definitions, the lemmas that
  say what they do.  Core Lean only.
-/
namespace GaeaVerif

abbrev Bytes := List UInt8

/-- Outcome of a modelled Go function: a value, a reported failure, or a
    run-time panic. -/
inductive R (α : Type) where
  | ok (a : α)
  | fail
  | panic
  deriving Repr, BEq, DecidableEq

namespace R

@[inline] def bind {α β : Type} (x : R α) (f : α → R β) : R β :=
  match x with
  | ok a => f a
  | fail => fail
  | panic => panic

instance : Monad R where
  pure := ok
  bind := bind

@[simp] theorem bind_ok {α β : Type} (a : α) (f : α → R β) : (ok a >>= f) = f a := rfl
@[simp] theorem bind_fail {α β : Type} (f : α → R β) : ((fail : R α) >>= f) = fail := rfl
@[simp] theorem bind_panic {α β : Type} (f : α → R β) : ((panic : R α) >>= f) = panic := rfl
@[simp] theorem pure_eq {α : Type} (a : α) : (pure a : R α) = ok a := rfl

def isPanic {α : Type} : R α → Bool
  | panic => true
  | _ => false

theorem bind_eq_ok {α β : Type} {x : R α} {f : α → R β} {b : β} (h : (x >>= f) = .ok b) :
    ∃ a, x = .ok a ∧ f a = .ok b := by
  cases x with
  | ok a => exact ⟨a, rfl, h⟩
  | fail => cases h
  | panic => cases h

theorem bind_ne_panic {α β : Type} {x : R α} {f : α → R β} (hx : x ≠ .panic) (hf : ∀ a, f a ≠ .panic) :
    (x >>= f) ≠ .panic := by
  cases x with
  | ok a => exact hf a
  | fail => exact nofun
  | panic => exact absurd rfl hx

theorem ok_or_fail {α : Type} {x : R α} (hx : x ≠ .panic) : (∃ a, x = .ok a) ∨ x = .fail := by
  cases x with
  | ok a => exact Or.inl ⟨a, rfl⟩
  | fail => exact Or.inr rfl
  | panic => exact absurd rfl hx

end R

/-- Go's `d[i]` on a byte slice: panics outside `[0, len)`. -/
def goIdx (d : Bytes) (i : Int) : R UInt8 :=
  if 0 ≤ i ∧ i < d.length then .ok (d.getD i.toNat 0) else .panic

/-- Go's `d[lo:hi]` on a byte slice (capacity = length): panics unless
    `0 ≤ lo ≤ hi ≤ len`. -/
def goSlice (d : Bytes) (lo hi : Int) : R Bytes :=
  if 0 ≤ lo ∧ lo ≤ hi ∧ hi ≤ d.length then .ok ((d.drop lo.toNat).take (hi - lo).toNat) else .panic

/-- `int(u)` for a `uint64` value `u < 2^64` on a 64-bit platform. -/
def u64ToInt (u : Nat) : Int := if u < 2 ^ 63 then (u : Int) else (u : Int) - 2 ^ 64

/-- Little-endian value of a byte list. -/
def leNat : Bytes → Nat
  | [] => 0
  | b :: bs => b.toNat + 256 * leNat bs

/-- The `n` low bytes of `i`, little-endian (`byte(i)`, `byte(i>>8)`, …). -/
def leBytes (i : Nat) : Nat → Bytes
  | 0 => []
  | n + 1 => UInt8.ofNat (i % 256) :: leBytes (i / 256) n

/-! ### `goIdx` -/

theorem goIdx_of_bounds (d : Bytes) (i : Int) (h : 0 ≤ i ∧ i < d.length) : goIdx d i = .ok (d.getD i.toNat 0) :=
  if_pos h

theorem goIdx_nat (d : Bytes) (i : Nat) :
    goIdx d (i : Int) = if i < d.length then .ok (d.getD i 0) else .panic := by
  unfold goIdx
  by_cases h : i < d.length
  · simp [h]
  · simp [h]

theorem goIdx_ne_fail (d : Bytes) (i : Int) : goIdx d i ≠ .fail := by
  unfold goIdx; split <;> simp

theorem goIdx_append (pre l suf : Bytes) (k : Nat) (hk : k < l.length) :
    goIdx (pre ++ l ++ suf) ((pre.length : Int) + k) = .ok (l.getD k 0) := by
  unfold goIdx
  have h1 : (0 : Int) ≤ (pre.length : Int) + k := by omega
  have h2 : (pre.length : Int) + k < ((pre ++ l ++ suf).length : Int) := by
    simp only [List.length_append]; omega
  rw [if_pos ⟨h1, h2⟩]
  have : ((pre.length : Int) + k).toNat = pre.length + k := by omega
  rw [this]
  simp [List.getD_eq_getElem?_getD, List.getElem?_append_left, List.getElem?_append_right, hk]

theorem goIdx_append_int (pre l suf : Bytes) (k : Int) (hk : 0 ≤ k ∧ k < l.length) :
    goIdx (pre ++ l ++ suf) ((pre.length : Int) + k) = .ok (l.getD k.toNat 0) := by
  have := goIdx_append pre l suf k.toNat (by omega)
  rwa [Int.toNat_of_nonneg hk.1] at this

/-! ### `goSlice` -/

theorem goSlice_ok (d : Bytes) (lo hi : Int) (h : 0 ≤ lo ∧ lo ≤ hi ∧ hi ≤ d.length) :
    goSlice d lo hi = .ok ((d.drop lo.toNat).take (hi.toNat - lo.toNat)) := by
  unfold goSlice; rw [if_pos h]
  have : (hi - lo).toNat = hi.toNat - lo.toNat := by omega
  rw [this]

theorem goSlice_length {d s : Bytes} {lo hi : Int} (h : goSlice d lo hi = .ok s) : (s.length : Int) = hi - lo := by
  unfold goSlice at h
  split at h
  · cases h
    simp only [List.length_take, List.length_drop]
    omega
  · cases h

theorem goSlice_some (d : Bytes) (lo hi : Int) (h : 0 ≤ lo ∧ lo ≤ hi ∧ hi ≤ d.length) :
    ∃ s, goSlice d lo hi = .ok s ∧ (s.length : Int) = hi - lo :=
  ⟨_, goSlice_ok d lo hi h, goSlice_length (goSlice_ok d lo hi h)⟩

theorem goSlice_nat (d : Bytes) (lo hi : Nat) (h1 : lo ≤ hi) (h2 : hi ≤ d.length) :
    goSlice d (lo : Int) (hi : Int) = .ok ((d.drop lo).take (hi - lo)) := by
  rw [goSlice_ok d lo hi (by omega)]
  rfl

theorem goSlice_take (d : Bytes) (n : Nat) (h : n ≤ d.length) : goSlice d 0 n = .ok (d.take n) :=
  goSlice_nat d 0 n (Nat.zero_le n) h

theorem goSlice_drop (d : Bytes) (n : Nat) (h : n ≤ d.length) : goSlice d n d.length = .ok (d.drop n) := by
  rw [goSlice_nat d n d.length h (Nat.le_refl _), List.take_of_length_le (Nat.le_of_eq List.length_drop)]

theorem goSlice_append (pre l suf : Bytes) :
    goSlice (pre ++ l ++ suf) pre.length ((pre.length : Int) + l.length) = .ok l := by
  unfold goSlice
  have h : (0 : Int) ≤ pre.length ∧ (pre.length : Int) ≤ (pre.length : Int) + l.length ∧
      (pre.length : Int) + l.length ≤ ((pre ++ l ++ suf).length : Int) := by
    simp only [List.length_append]; omega
  rw [if_pos h]
  have : ((pre.length : Int) + l.length - pre.length).toNat = l.length := by omega
  rw [this]
  simp [List.append_assoc]

/-! ### `u64ToInt` -/

theorem u64ToInt_of_lt {u : Nat} (h : u < 2 ^ 63) : u64ToInt u = (u : Int) := if_pos h

/-! ### `leNat` and `leBytes` -/

theorem leBytes_length (i n : Nat) : (leBytes i n).length = n := by
  induction n generalizing i with
  | zero => rfl
  | succ n ih => simp [leBytes, ih]

theorem leBytes_take (n m w : Nat) (h : w ≤ m) : (leBytes n m).take w = leBytes n w := by
  induction w generalizing n m with
  | zero => simp [leBytes]
  | succ w ih =>
    cases m with
    | zero => omega
    | succ m => simp [leBytes, ih _ m (by omega)]

theorem leNat_leBytes_mod (w n : Nat) : leNat (leBytes n w) = n % 256 ^ w := by
  induction w generalizing n with
  | zero => simp [leBytes, leNat, Nat.mod_one]
  | succ w ih =>
    simp only [leBytes, leNat, ih]
    rw [UInt8.toNat_ofNat_of_lt' (Nat.mod_lt _ (by decide)), Nat.pow_succ, Nat.mul_comm (256 ^ w) 256, Nat.mod_mul]

theorem leNat_leBytes (n i : Nat) (h : i < 256 ^ n) : leNat (leBytes i n) = i := by
  rw [leNat_leBytes_mod, Nat.mod_eq_of_lt h]

theorem leNat_lt (bs : Bytes) : leNat bs < 256 ^ bs.length := by
  induction bs with
  | nil => simp [leNat]
  | cons b bs ih =>
    simp only [leNat, List.length_cons, Nat.pow_succ]
    have := b.toNat_lt
    omega

theorem leBytes_leNat (bs : Bytes) : leBytes (leNat bs) bs.length = bs := by
  induction bs with
  | nil => rfl
  | cons b bs ih =>
    simp only [leNat, List.length_cons, leBytes]
    have hb := b.toNat_lt
    have h1 : (b.toNat + 256 * leNat bs) % 256 = b.toNat := by omega
    have h2 : (b.toNat + 256 * leNat bs) / 256 = leNat bs := by omega
    rw [h1, h2, ih, UInt8.ofNat_toNat]

end GaeaVerif
