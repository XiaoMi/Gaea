import GaeaVerif.Model.Go
import GaeaVerif.Model.LenEnc
import GaeaVerif.Model.StmtLex
import GaeaVerif.Model.StmtGoFloat
/-
  Model of the parameter binding and statement rewriting of
  /repo/proxy/server/executor_stmt.go (C15, C16):
    bindStmtArgs, util.ItoString (util/util.go), escapeSQL, Stmt.GetRewriteSQL,
    mysql.FormatBinaryDate / FormatBinaryDateTime / FormatBinaryTime
    (mysql/encoding.go).
  Positions are Go `int`s (`Int`); every index and slice expression goes
  through `goIdx` / `goSlice`, so a missing guard is a reachable `panic`.
  Core Lean only.
-/
namespace GaeaVerif.StmtBind
open GaeaVerif GaeaVerif.StmtLex

/-- Error kinds of the prepared-statement commands (the harness maps Go errors
    to these by type / code / message prefix). -/
inductive E where
  | malformed        -- mysql.ErrMalformPacket
  | unknownStmt      -- ErrUnknownStmtHandler
  | unsupportedFlag  -- "unsupported flag %d"
  | badLenenc        -- "ReadLenEncStringAsBytes in bindStmtArgs failed"
  | unknownType      -- "Stmt Unknown FieldType %d"
  | badTemporal      -- "invalid date/datetime/time packet length %d"
  | wrongArguments   -- ErrWrongArguments (stmt_send_longdata)
  | longDataType     -- "invalid param long data type %T"
  | unterminated     -- CalcParams: "fatal situation"
  | badFloat         -- "Stmt invalid float parameter value %v"
  deriving Repr, BEq, DecidableEq

def E.name : E → String
  | .malformed => "malformed"
  | .unknownStmt => "unknown-stmt"
  | .unsupportedFlag => "unsupported-flag"
  | .badLenenc => "bad-lenenc"
  | .unknownType => "unknown-type"
  | .badTemporal => "bad-temporal"
  | .wrongArguments => "wrong-arguments"
  | .longDataType => "long-data-type"
  | .unterminated => "unterminated"
  | .badFloat => "bad-float"

/-- Outcome of a modelled function that can return an error or panic. -/
inductive O (α : Type) where
  | ok (a : α)
  | err (e : E)
  | panic
  deriving Repr, BEq, DecidableEq

namespace O
@[inline] def bind {α β : Type} (x : O α) (f : α → O β) : O β :=
  match x with
  | ok a => f a
  | err e => err e
  | panic => panic
instance : Monad O where
  pure := ok
  bind := bind
@[simp] theorem bind_ok {α β : Type} (a : α) (f : α → O β) : (ok a >>= f) = f a := rfl
@[simp] theorem bind_err {α β : Type} (e : E) (f : α → O β) : ((err e : O α) >>= f) = err e := rfl
@[simp] theorem bind_panic {α β : Type} (f : α → O β) : ((panic : O α) >>= f) = panic := rfl
@[simp] theorem pure_eq {α : Type} (a : α) : (pure a : O α) = ok a := rfl

theorem bind_eq_ok {α β : Type} {x : O α} {f : α → O β} {b : β} (h : (x >>= f) = ok b) :
    ∃ a, x = ok a ∧ f a = ok b := by
  cases x with
  | ok a => exact ⟨a, rfl, h⟩
  | err e => cases h
  | panic => cases h

theorem ok_bind {α β : Type} (a : α) (f : α → O β) : (ok a).bind f = f a := rfl

theorem bind_assoc {α β γ : Type} (x : O α) (f : α → O β) (g : β → O γ) :
    (x.bind f).bind g = x.bind fun a => (f a).bind g := by cases x <;> rfl
end O

/-- A Go outcome whose `fail` means the error `e`. -/
def ofR {α : Type} (e : E) : R α → O α
  | .ok a => .ok a
  | .fail => .err e
  | .panic => .panic

theorem ofR_eq_ok {α : Type} {e : E} {r : R α} {a : α} (h : ofR e r = .ok a) : r = .ok a := by
  cases r <;> cases h; rfl

/-- A bound argument: the dynamic value stored in `Stmt.args[i]`. -/
inductive Arg where
  | null                                   -- nil
  | int (v : Int)                          -- int8 … int64, uint8 … uint64
  | float (dbl : Bool) (bits : Nat)        -- float32 / float64, by their IEEE bits
  | bytes (b : Bytes)                      -- []byte
  deriving Repr, BEq, DecidableEq

/-- `fmt.Sprintf("%v", f)` for a float given by its bits (`Model/StmtGoFloat.lean`). -/
def fmtFloat (dbl : Bool) (bits : Nat) : Bytes := StmtGoFloat.fmtV dbl bits

def asciiBytes (s : String) : Bytes := s.toUTF8.toList

/-- Decimal digits with explicit fuel (any fuel ≥ `n` is enough). -/
def natDigitsF : Nat → Nat → Bytes
  | 0, n => [UInt8.ofNat (48 + n % 10)]
  | f + 1, n => if n < 10 then [UInt8.ofNat (48 + n)] else natDigitsF f (n / 10) ++ [UInt8.ofNat (48 + n % 10)]

/-- Decimal digits of a natural number, most significant first (`strconv`'s
    decimal formatting). -/
def natDigits (n : Nat) : Bytes := natDigitsF n n

/-- `fmt.Sprintf("%v", i)` for an integer. -/
def fmtInt (v : Int) : Bytes :=
  if v < 0 then 0x2d :: natDigits v.natAbs else natDigits v.natAbs

/-- `%0<w>d` for a non-negative integer. -/
def padNat (w : Nat) (n : Nat) : Bytes :=
  let d := natDigits n
  List.replicate (w - d.length) 0x30 ++ d

/-- `util.ItoString`: (quote?, text). -/
def itoString : Arg → Bool × Bytes
  | .null => (false, [0x4e, 0x55, 0x4c, 0x4c])   -- NULL
  | .bytes b => (true, b)
  | .int v => (false, fmtInt v)
  | .float d bits => (false, fmtFloat d bits)

/-- `escapeSQL(sql, noBackslashEscapes)`: a quote is doubled; a backslash is
    doubled unless the session's sql_mode contains NO_BACKSLASH_ESCAPES. -/
def escapeSQL (nbe : Bool) : Bytes → Bytes
  | [] => []
  | c :: rest =>
    if c = cSQuote then cSQuote :: c :: escapeSQL nbe rest
    else if c = cBackslash ∧ ¬ nbe then cBackslash :: c :: escapeSQL nbe rest
    else c :: escapeSQL nbe rest

/-- The text one argument is rendered to in `GetRewriteSQL`. -/
def renderArg (nbe : Bool) (a : Arg) : Bytes :=
  let r := itoString a
  if r.1 then cSQuote :: escapeSQL nbe r.2 ++ [cSQuote] else r.2

/-- Go's `l[i]` on a slice of arguments. -/
def argIdx (args : List Arg) (i : Nat) : O Arg :=
  match args[i]? with
  | some a => .ok a
  | none => .panic

/-- Go's `l[i] = v`. -/
def argSet (args : List Arg) (i : Nat) (v : Arg) : O (List Arg) :=
  if i < args.length then .ok (args.set i v) else .panic

/-- `Stmt.GetRewriteSQL`: the items written to the buffer, a `?` item replaced
    by the rendering of the next argument. -/
def rewriteLoop (nbe : Bool) (args : List Arg) : List Bytes → Nat → O Bytes
  | [], _ => .ok []
  | item :: items, index =>
    if item = [cQMark] then do
      let a ← argIdx args index
      let rest ← rewriteLoop nbe args items (index + 1)
      .ok (renderArg nbe a ++ rest)
    else do
      let rest ← rewriteLoop nbe args items index
      .ok (item ++ rest)

def getRewriteSQL (nbe : Bool) (sqlItems : List Bytes) (args : List Arg) : O Bytes :=
  rewriteLoop nbe args sqlItems 0

/-! ### temporal values -/

def cDashB : UInt8 := 0x2d
def cColon : UInt8 := 0x3a
def cSpace : UInt8 := 0x20
def cDot : UInt8 := 0x2e

/-- `%04d-%02d-%02d` of `binary.LittleEndian.Uint16(data[:2]), data[2], data[3]`. -/
def fmtYMD (data : Bytes) : R Bytes := do
  let y ← goSlice data 0 2
  let m ← goIdx data 2
  let d ← goIdx data 3
  .ok (padNat 4 (leNat y) ++ [cDashB] ++ padNat 2 m.toNat ++ [cDashB] ++ padNat 2 d.toNat)

/-- `FormatBinaryDate(n, data)` -/
def formatBinaryDate (n : Nat) (data : Bytes) : O Bytes :=
  if n = 0 then .ok (asciiBytes "0000-00-00")
  else if n = 4 ∨ n = 7 then ofR .badTemporal (fmtYMD data)
  else if n = 10 then .ok data
  else .err .badTemporal

/-- `%02d:%02d:%02d` of data[i], data[i+1], data[i+2] -/
def fmtHMS (data : Bytes) (i : Int) : R Bytes := do
  let h ← goIdx data i
  let m ← goIdx data (i + 1)
  let s ← goIdx data (i + 2)
  .ok (padNat 2 h.toNat ++ [cColon] ++ padNat 2 m.toNat ++ [cColon] ++ padNat 2 s.toNat)

/-- `FormatBinaryDateTime(n, data)` -/
def formatBinaryDateTime (n : Nat) (data : Bytes) : O Bytes :=
  if n = 0 then .ok (asciiBytes "0000-00-00 00:00:00")
  else if n = 4 then ofR .badTemporal do
    let ymd ← fmtYMD data
    .ok (ymd ++ asciiBytes " 00:00:00")
  else if n = 7 then ofR .badTemporal do
    let ymd ← fmtYMD data
    let hms ← fmtHMS data 4
    .ok (ymd ++ [cSpace] ++ hms)
  else if n = 11 then ofR .badTemporal do
    let ymd ← fmtYMD data
    let hms ← fmtHMS data 4
    let us ← goSlice data 7 11
    .ok (ymd ++ [cSpace] ++ hms ++ [cDot] ++ padNat 6 (leNat us))
  else if n = 19 ∨ n = 26 then .ok data
  else .err .badTemporal

/-- `FormatBinaryTime(n, data)` -/
def formatBinaryTime (n : Nat) (data : Bytes) : O Bytes :=
  if n = 0 then .ok (asciiBytes "00:00:00")
  else
    match goIdx data 0 with
    | .panic => .panic
    | .fail => .panic
    | .ok d0 =>
      if n = 1 ∧ d0 = 0 then .ok (asciiBytes "00:00:00")
      else
        let sign : Bytes := if d0 = 1 then [cDashB] else []
        if n = 8 ∨ n = 12 then ofR .badTemporal do
          let d1 ← goIdx data 1
          let d5 ← goIdx data 5
          let d6 ← goIdx data 6
          let d7 ← goIdx data 7
          -- uint16(data[1])*24 + uint16(data[5])
          let hours := (d1.toNat * 24 + d5.toNat) % 65536
          let base := sign ++ padNat 2 hours ++ [cColon] ++ padNat 2 d6.toNat ++ [cColon] ++ padNat 2 d7.toNat
          if n = 8 then .ok base
          else do
            let us ← goSlice data 8 12
            .ok (base ++ [cDot] ++ padNat 6 (leNat us))
        else .err .badTemporal

/-! ### bindStmtArgs -/

/-- Two's-complement reading of an `n`-byte little-endian value. -/
def signedLE (b : Bytes) : Int :=
  let u := leNat b
  if u < 2 ^ (8 * b.length - 1) then (u : Int) else (u : Int) - 2 ^ (8 * b.length)

/-- Fixed-width integer parameter of `w` bytes. -/
def bindInt (paramValues : Bytes) (pos : Int) (w : Nat) (isUnsigned : Bool) : O (Arg × Int) :=
  if (paramValues.length : Int) < pos + w then .err .malformed
  else ofR .malformed do
    let b ← goSlice paramValues pos (pos + w)
    .ok (if isUnsigned then .int (leNat b) else .int (signedLE b), pos + w)

/-- Date / time / datetime parameter: a length byte and that many bytes. -/
def bindTemporal (fmt : Nat → Bytes → O Bytes) (paramValues : Bytes) (pos : Int) : O (Arg × Int) :=
  if (paramValues.length : Int) < pos + 1 then .err .malformed
  else do
    let nb ← ofR .malformed (goIdx paramValues pos)
    let n := nb.toNat
    let pos := pos + 1
    if (paramValues.length : Int) < pos + n then .err .malformed
    else do
      let d ← ofR .malformed (goSlice paramValues pos (pos + n))
      let t ← fmt n d
      .ok (.bytes t, pos + n)

/-- The bits of `float64(f)` for the finite float32 `f` with these bits
    (`none` for NaN and ±Inf). -/
def f32to64 (bits : Nat) : Option Nat :=
  let sign := bits / 2 ^ 31 % 2
  let e := bits / 2 ^ 23 % 256
  let m := bits % 2 ^ 23
  if e = 255 then none
  else if e = 0 then
    if m = 0 then some (sign * 2 ^ 63)
    else
      -- subnormal float32: m × 2^-149, normal as a float64
      let k := Nat.log2 m                       -- m = 2^k + r, k ≤ 22
      let frac := (m - 2 ^ k) * 2 ^ (52 - k)
      some (sign * 2 ^ 63 + (k + 1023 - 149) * 2 ^ 52 + frac)
  else some (sign * 2 ^ 63 + (e + 1023 - 127) * 2 ^ 52 + m * 2 ^ 29)

def isStringType (tp : UInt8) : Bool :=
  tp == 0 || tp == 0xf6 || tp == 15 || tp == 16 || tp == 0xf7 || tp == 0xf8 || tp == 0xf9 ||
  tp == 0xfa || tp == 0xfb || tp == 0xfc || tp == 0xfd || tp == 0xfe || tp == 0xff || tp == 0xf5

/-- The `switch tp` of `bindStmtArgs` for one parameter that is neither NULL in
    the bitmap nor already bound: the decoded argument and the new position. -/
def bindOne (tp : UInt8) (isUnsigned : Bool) (paramValues : Bytes) (pos : Int) : O (Arg × Int) :=
  if tp = 6 then .ok (.null, pos)                                   -- TypeNull
  else if tp = 1 then bindInt paramValues pos 1 isUnsigned          -- TypeTiny
  else if tp = 2 ∨ tp = 13 then bindInt paramValues pos 2 isUnsigned -- TypeShort, TypeYear
  else if tp = 9 ∨ tp = 3 then bindInt paramValues pos 4 isUnsigned  -- TypeInt24, TypeLong
  else if tp = 8 then bindInt paramValues pos 8 isUnsigned           -- TypeLonglong
  else if tp = 4 then                                                -- TypeFloat
    if (paramValues.length : Int) < pos + 4 then .err .malformed
    else do
      let b ← ofR .malformed (goSlice paramValues pos (pos + 4))
      -- float64(math.Float32frombits(…)); NaN and ±Inf are rejected
      match f32to64 (leNat b) with
      | some bits => .ok (.float true bits, pos + 4)
      | none => .err .badFloat
  else if tp = 5 then                                                -- TypeDouble
    if (paramValues.length : Int) < pos + 8 then .err .malformed
    else do
      let b ← ofR .malformed (goSlice paramValues pos (pos + 8))
      if leNat b / 2 ^ 52 % 2048 = 2047 then .err .badFloat
      else .ok (.float true (leNat b), pos + 8)
  else if tp = 10 ∨ tp = 14 then bindTemporal formatBinaryDate paramValues pos      -- TypeDate, TypeNewDate
  else if tp = 11 then bindTemporal formatBinaryTime paramValues pos                -- TypeDuration
  else if tp = 7 ∨ tp = 12 then bindTemporal formatBinaryDateTime paramValues pos   -- TypeTimestamp, TypeDatetime
  else if isStringType tp then
    if (paramValues.length : Int) < pos + 1 then .err .malformed
    else do
      let (v, p, isNull) ← ofR .badLenenc (LenEnc.readLenEncStringAsBytes paramValues pos)
      .ok (if isNull then .null else .bytes v, p)
  else .err .unknownType

/-- The `for i := 0; i < s.paramCount; i++` loop of `bindStmtArgs`, `k`
    iterations remaining, working on the statement's own `args` slice. -/
def bindLoop (nullBitmap paramTypes paramValues : Bytes) : Nat → Nat → Int → List Arg → O (List Arg)
  | 0, _, _, args => .ok args
  | k + 1, i, pos, args => do
    let nb ← ofR .malformed (goIdx nullBitmap ((i / 8 : Nat) : Int))
    if nb.toNat / 2 ^ (i % 8) % 2 = 1 then do
      let args ← argSet args i .null
      bindLoop nullBitmap paramTypes paramValues k (i + 1) pos args
    else if 2 * i + 1 ≥ paramTypes.length then .err .malformed
    else do
      let tp ← ofR .malformed (goIdx paramTypes ((2 * i : Nat) : Int))
      let fl ← ofR .malformed (goIdx paramTypes ((2 * i + 1 : Nat) : Int))
      let isUnsigned := fl.toNat / 128 % 2 = 1
      let cur ← argIdx args i
      if cur ≠ .null then
        -- already holds a value (long data): not present in the packet
        bindLoop nullBitmap paramTypes paramValues k (i + 1) pos args
      else do
        let (v, pos) ← bindOne tp isUnsigned paramValues pos
        let args ← argSet args i v
        bindLoop nullBitmap paramTypes paramValues k (i + 1) pos args

/-- `bindStmtArgs(s, nullBitmap, paramTypes, paramValues)`: the arguments of the
    statement afterwards. -/
def bindStmtArgs (paramCount : Nat) (args : List Arg) (nullBitmap paramTypes paramValues : Bytes) : O (List Arg) :=
  bindLoop nullBitmap paramTypes paramValues paramCount 0 0 args

end GaeaVerif.StmtBind
