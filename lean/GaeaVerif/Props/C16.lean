import GaeaVerif.Model.StmtSession
/-
  C16 — Prepared statements are isolated and never reuse stale parameters.

  Theorems about `Model/StmtSession.lean` (the prepared-statement commands of a
  session, one step per command; tied to the real `SessionExecutor` by
  `gvh run C16`).  All of them hold for every state reachable by any command
  history (`inv_reachable`), i.e. for all histories and interleavings of
  commands over any number of statements, with well-formed and malformed
  packets:

    inv_step, inv_run, inv_reachable   between commands every argument slot of every open
                              statement is empty or holds long data, ids are never reused
    unknown_id_fails          execute / send-long-data / reset on an id that is not open fail
                              and change nothing
    close_removes, closed_stays_unknown   a closed id is unknown, for ever
    isolation, isolation_open a command changes no statement but the one it addresses
    args_clean_after_exec     after any execution attempt that found its statement — accepted,
                              rejected at any point, or panicking — all its slots are empty
    long_data_since           over any stretch of commands without execute/reset/close of a
                              statement, its slots hold exactly the chunks sent for it
    bindLoop_eq_spec, bind_eq_spec, exec_uses_own_values
                              the in-place binding loop (which skips "already bound" slots of
                              the very slice it writes) computes the reference semantics
                              `specArgs`: NULL bit / long data / the value at this packet's
                              own position
    exec_after_any_attempt    a failed execution leaves no bound value behind
-/
namespace GaeaVerif.C16
open GaeaVerif GaeaVerif.StmtBind GaeaVerif.StmtSession

theorem lookup_erase_self (m : List (Nat × Stmt)) (id : Nat) : lookup (erase m id) id = none := by
  induction m with
  | nil => rfl
  | cons p rest ih =>
    obtain ⟨k, s⟩ := p
    simp only [erase]
    split
    · exact ih
    · rename_i h; simp only [lookup, if_neg h]; exact ih

theorem lookup_erase_ne (m : List (Nat × Stmt)) (id id' : Nat) (h : id' ≠ id) :
    lookup (erase m id) id' = lookup m id' := by
  induction m with
  | nil => rfl
  | cons p rest ih =>
    obtain ⟨k, s⟩ := p
    simp only [erase]
    split
    · rename_i hk; subst hk
      simp only [lookup, if_neg (Ne.symm h)]; exact ih
    · simp only [lookup]; split
      · rfl
      · exact ih

theorem lookup_insert_self (m : List (Nat × Stmt)) (id : Nat) (s : Stmt) :
    lookup (insert m id s) id = some s := by
  simp [StmtSession.insert, lookup]

theorem lookup_insert_ne (m : List (Nat × Stmt)) (id id' : Nat) (s : Stmt) (h : id' ≠ id) :
    lookup (insert m id s) id' = lookup m id' := by
  simp only [StmtSession.insert, lookup, if_neg (Ne.symm h)]
  exact lookup_erase_ne m id id' h

/-! ### the invariant between commands -/

/-- Between commands an argument slot holds nothing or accumulated long data
    (never a value decoded from an execute packet). -/
def ArgOK : Arg → Prop
  | .null => True
  | .bytes _ => True
  | _ => False

def StmtOK (s : Stmt) : Prop := s.args.length = s.paramCount ∧ ∀ a ∈ s.args, ArgOK a

/-- Every open statement has an id that was issued (ids are never reused), an
    argument slot per parameter, and only long data in the slots. -/
def Inv (st : State) : Prop := ∀ id s, lookup st.stmts id = some s → id < st.stmtID ∧ StmtOK s

theorem stmtOK_mk (sql : Bytes) (n : Nat) (items : List Bytes) (types : Bytes) :
    StmtOK ⟨sql, n, items, types, nulls n⟩ := by
  refine ⟨by simp [nulls], ?_⟩
  intro a ha
  simp [nulls] at ha
  rw [ha.2]; trivial

theorem inv_insert (st : State) (id n : Nat) (b : Bool) (s : Stmt) (hinv : Inv st) (hid : id < n)
    (hn : st.stmtID ≤ n) (hs : StmtOK s) : Inv ⟨insert st.stmts id s, n, b⟩ := by
  intro id' s' h
  by_cases e : id' = id
  · subst e
    rw [lookup_insert_self] at h
    cases h; exact ⟨hid, hs⟩
  · rw [lookup_insert_ne _ _ _ _ e] at h
    exact ⟨Nat.lt_of_lt_of_le (hinv id' s' h).1 hn, (hinv id' s' h).2⟩

theorem stmtOK_set (s : Stmt) (i : Nat) (b : Bytes) (hs : StmtOK s) :
    StmtOK { s with args := s.args.set i (.bytes b) } := by
  refine ⟨by simpa using hs.1, ?_⟩
  intro a ha
  rcases List.mem_or_eq_of_mem_set ha with h | h
  · exact hs.2 a h
  · rw [h]; trivial

/-- The statement a command addresses (`none`: the packet is too short to name one,
    or the command is a prepare). -/
def target : Op → Option Nat
  | .prepare _ => none
  | .execute d => if d.length < 9 then none else some (stmtIdOf d)
  | .sendLongData d => if d.length < 6 then none else some (stmtIdOf d)
  | .reset d => if d.length < 4 then none else some (stmtIdOf d)
  | .close d => if d.length < 4 then none else some (stmtIdOf d)
  | .setMode _ => none

theorem step_cases (st : State) (op : Op) :
    (step st op).1 = st ∨
    (∃ id s s', target op = some id ∧ lookup st.stmts id = some s ∧ (StmtOK s → StmtOK s') ∧
      (step st op).1 = { st with stmts := insert st.stmts id s' }) ∨
    (∃ sql s', op = .prepare sql ∧ StmtOK s' ∧
      (step st op).1 = { st with stmts := insert st.stmts st.stmtID s', stmtID := st.stmtID + 1 }) ∨
    (∃ id, target op = some id ∧ (step st op).1 = { st with stmts := erase st.stmts id }) ∨
    (∃ b, (step st op).1 = { st with nbe := b }) := by
  cases op with
  | prepare sql =>
    simp only [step, handleStmtPrepare]
    cases StmtCalcParams.calcParams (trimRightSemi sql) with
    | panic => exact .inl rfl
    | fail => exact .inl rfl
    | ok r => exact .inr (.inr (.inl ⟨sql, _, rfl, stmtOK_mk _ _ _ _, rfl⟩))
  | execute d =>
    simp only [step, handleStmtExecute, target]
    by_cases h9 : d.length < 9
    · rw [if_pos h9]; exact .inl rfl
    · rw [if_neg h9, if_neg h9]
      cases hl : lookup st.stmts (stmtIdOf d) with
      | none => exact .inl rfl
      | some s => exact .inr (.inl ⟨_, s, _, rfl, hl, fun _ => stmtOK_mk _ _ _ _, rfl⟩)
  | sendLongData d =>
    simp only [step, handleStmtSendLongData, target]
    by_cases h6 : d.length < 6
    · rw [if_pos h6]; exact .inl rfl
    · rw [if_neg h6, if_neg h6]
      cases hl : lookup st.stmts (stmtIdOf d) with
      | none => exact .inl rfl
      | some s =>
        simp only []
        by_cases hp : leNat ((d.drop 4).take 2) ≥ s.paramCount % 65536
        · rw [if_pos hp]; exact .inl rfl
        · rw [if_neg hp]
          cases s.args[leNat ((d.drop 4).take 2)]? with
          | none => exact .inl rfl
          | some a =>
            cases a with
            | null => exact .inr (.inl ⟨_, s, _, rfl, hl, stmtOK_set s _ _, rfl⟩)
            | bytes b => exact .inr (.inl ⟨_, s, _, rfl, hl, stmtOK_set s _ _, rfl⟩)
            | _ => exact .inl rfl
  | reset d =>
    simp only [step, handleStmtReset, target]
    by_cases h4 : d.length < 4
    · rw [if_pos h4]; exact .inl rfl
    · rw [if_neg h4, if_neg h4]
      cases hl : lookup st.stmts (stmtIdOf d) with
      | none => exact .inl rfl
      | some s => exact .inr (.inl ⟨_, s, _, rfl, hl, fun _ => stmtOK_mk _ _ _ _, rfl⟩)
  | close d =>
    simp only [step, handleStmtClose, target]
    by_cases h4 : d.length < 4
    · rw [if_pos h4]; exact .inl rfl
    · rw [if_neg h4, if_neg h4]; exact .inr (.inr (.inr (.inl ⟨_, rfl, rfl⟩)))
  | setMode nbe => exact .inr (.inr (.inr (.inr ⟨nbe, rfl⟩)))

/-- **Invariant.**  Every command preserves `Inv`. -/
theorem inv_step (st : State) (op : Op) (hinv : Inv st) : Inv (step st op).1 := by
  rcases step_cases st op with h | ⟨id, s, s', _, hl, hok, h⟩ | ⟨_, s', _, hok, h⟩ | ⟨id, _, h⟩ | ⟨b, h⟩ <;> rw [h]
  · exact hinv
  · exact inv_insert st id _ _ s' hinv (hinv id s hl).1 (Nat.le_refl _) (hok (hinv id s hl).2)
  · exact inv_insert st _ _ _ s' hinv (Nat.lt_succ_self _) (Nat.le_succ _) hok
  · intro id' s' h
    by_cases e : id' = id
    · subst e; simp [lookup_erase_self] at h
    · rw [lookup_erase_ne _ _ _ e] at h; exact hinv id' s' h
  · exact hinv

theorem run_append_state (st : State) (ops : List Op) (op : Op) :
    (run st (ops ++ [op])).1 = (step (run st ops).1 op).1 := by
  induction ops generalizing st with
  | nil => simp [run]
  | cons o os ih => simp [run, ih]

theorem inv_run (st : State) (ops : List Op) (hinv : Inv st) : Inv (run st ops).1 := by
  induction ops generalizing st with
  | nil => exact hinv
  | cons o os ih => simp only [run]; exact ih _ (inv_step st o hinv)

/-! ### unknown and closed statement ids -/

/-- **Unknown ids fail.**  Execute, send-long-data and reset on an id that is
    not open (never issued, or closed) return an error and change nothing. -/
theorem unknown_id_fails (st : State) (op : Op) (id : Nat) (ht : target op = some id)
    (hnone : lookup st.stmts id = none) (hop : ∀ d, op ≠ .close d) :
    step st op = (st, .err .unknownStmt) := by
  cases op with
  | prepare sql => simp [target] at ht
  | execute d =>
    simp only [target] at ht
    split at ht
    · simp at ht
    · rename_i h9; cases ht
      simp [step, handleStmtExecute, h9, hnone]
  | sendLongData d =>
    simp only [target] at ht
    split at ht
    · simp at ht
    · rename_i h; cases ht
      simp [step, handleStmtSendLongData, h, hnone]
  | reset d =>
    simp only [target] at ht
    split at ht
    · simp at ht
    · rename_i h; cases ht
      simp [step, handleStmtReset, h, hnone]
  | close d => exact absurd rfl (hop d)
  | setMode nbe => simp [target] at ht

/-- Closing makes the id unknown. -/
theorem close_removes (st : State) (d : Bytes) (h : ¬ d.length < 4) :
    lookup (step st (.close d)).1.stmts (stmtIdOf d) = none := by
  simp [step, handleStmtClose, h, lookup_erase_self]

/-- **Isolation.**  A command changes no statement other than the one it
    addresses; a prepare changes no statement other than the new one. -/
theorem isolation (st : State) (op : Op) (id' : Nat) (ht : target op ≠ some id')
    (hp : ∀ sql, op = .prepare sql → id' ≠ st.stmtID) :
    lookup (step st op).1.stmts id' = lookup st.stmts id' := by
  rcases step_cases st op with h | ⟨id, _, _, hid, _, _, h⟩ | ⟨sql, _, rfl, _, h⟩ | ⟨id, hid, h⟩ | ⟨_, h⟩ <;> rw [h]
  · exact lookup_insert_ne _ _ _ _ (fun e => ht (e ▸ hid))
  · exact lookup_insert_ne _ _ _ _ (hp sql rfl)
  · exact lookup_erase_ne _ _ _ (fun e => ht (e ▸ hid))

theorem stmtID_le_step (st : State) (op : Op) : st.stmtID ≤ (step st op).1.stmtID := by
  rcases step_cases st op with h | ⟨_, _, _, _, _, _, h⟩ | ⟨_, _, _, _, h⟩ | ⟨_, _, h⟩ | ⟨_, h⟩ <;> rw [h]
  · exact Nat.le_refl _
  · exact Nat.le_refl _
  · exact Nat.le_succ _  -- a prepare issues the next id
  · exact Nat.le_refl _
  · exact Nat.le_refl _

/-- An id that was issued and is not open stays unknown for ever (ids are not reused). -/
theorem closed_stays_unknown (st : State) (id : Nat) (hid : id < st.stmtID)
    (hnone : lookup st.stmts id = none) (ops : List Op) :
    lookup (run st ops).1.stmts id = none ∧ id < (run st ops).1.stmtID := by
  induction ops generalizing st with
  | nil => exact ⟨hnone, hid⟩
  | cons op ops ih =>
    refine ih (step st op).1 (Nat.lt_of_lt_of_le hid (stmtID_le_step st op)) ?_
    by_cases ht : target op = some id
    · -- a command that addresses `id` closes it, or fails and changes nothing
      by_cases hc : ∃ d, op = .close d
      · obtain ⟨d, rfl⟩ := hc
        simp only [target] at ht
        split at ht <;> cases ht
        exact close_removes st d ‹_›
      · rw [unknown_id_fails st op id ht hnone (fun d e => hc ⟨d, e⟩)]; exact hnone
    · rw [isolation st op id ht (fun _ _ => Nat.ne_of_lt hid)]; exact hnone

/-- With the invariant: no command changes an open statement it does not address
    (a prepare never lands on an open id). -/
theorem isolation_open (st : State) (hinv : Inv st) (op : Op) (id' : Nat) (s' : Stmt)
    (hl : lookup st.stmts id' = some s') (ht : target op ≠ some id') :
    lookup (step st op).1.stmts id' = some s' := by
  rw [isolation st op id' ht]
  · exact hl
  · intro sql _; exact Nat.ne_of_lt (hinv id' s' hl).1

/-- **No stale parameters.**  After an execution attempt that found its
    statement — successful, rejected (malformed packet, unknown type, cursor
    flag …) or even panicking — the statement is the same template with every
    argument slot empty. -/
theorem args_clean_after_exec (st : State) (d : Bytes) (s : Stmt) (h9 : ¬ d.length < 9)
    (hl : lookup st.stmts (stmtIdOf d) = some s) :
    ∃ types, lookup (step st (.execute d)).1.stmts (stmtIdOf d) =
      some { s with paramTypes := types, args := nulls s.paramCount } := by
  simp only [step, handleStmtExecute, if_neg h9, hl]
  exact ⟨_, lookup_insert_self _ _ _⟩

/-! ### long data since the previous execution attempt -/

/-- `binary.LittleEndian.Uint16(data[4:6])` -/
def paramIdOf (d : Bytes) : Nat := leNat ((d.drop 4).take 2)

/-- A slot after one more accepted chunk. -/
def addChunk (args : List Arg) (i : Nat) (chunk : Bytes) : List Arg :=
  match args[i]? with
  | some .null => args.set i (.bytes chunk)
  | some (.bytes b) => args.set i (.bytes (b ++ chunk))
  | _ => args

/-- The long data a statement `id` with `n` parameters has accumulated over a
    stretch of commands: the chunks of the well-formed send-long-data commands
    addressed to it, per parameter, in order. -/
def collect (id n : Nat) : List Arg → List Op → List Arg
  | args, [] => args
  | args, .sendLongData d :: ops =>
    if ¬ d.length < 6 ∧ stmtIdOf d = id ∧ ¬ paramIdOf d ≥ n % 65536 then
      collect id n (addChunk args (paramIdOf d) (d.drop 6)) ops
    else collect id n args ops
  | args, _ :: ops => collect id n args ops

theorem step_sendLongData (st : State) (d : Bytes) (s : Stmt) (h6 : ¬ d.length < 6)
    (hl : lookup st.stmts (stmtIdOf d) = some s) (hs : StmtOK s) :
    (step st (.sendLongData d)).1 =
      if paramIdOf d ≥ s.paramCount % 65536 then st
      else
        let s' := { s with args := addChunk s.args (paramIdOf d) (d.drop 6) }
        { st with stmts := insert st.stmts (stmtIdOf d) s' } := by
  have hid : leNat ((d.drop 4).take 2) = paramIdOf d := rfl
  by_cases hp : paramIdOf d ≥ s.paramCount % 65536
  · simp only [step, handleStmtSendLongData, if_neg h6, hl, hid, if_pos hp]
  · have hlt : paramIdOf d < s.args.length := by
      rw [hs.1]; have := Nat.mod_le s.paramCount 65536; omega
    have hok := hs.2 _ (List.getElem_mem hlt)
    simp only [step, handleStmtSendLongData, if_neg h6, hl, hid, if_neg hp, addChunk,
      List.getElem?_eq_getElem hlt]
    cases hv : s.args[paramIdOf d] with
    | null => rfl
    | bytes b => rfl
    | int v => rw [hv] at hok; exact hok.elim
    | float a b => rw [hv] at hok; exact hok.elim

/-- **Long data.**  Over any stretch of commands that contains no execute,
    reset or close of statement `id`, whatever else the session does (other
    statements prepared, executed, failed, closed), the slots of `id` hold
    exactly the chunks sent for it in that stretch. -/
theorem long_data_since (ops : List Op) : ∀ (st : State) (id : Nat) (s : Stmt), Inv st →
    lookup st.stmts id = some s →
    (∀ op ∈ ops, target op = some id → ∃ d, op = .sendLongData d) →
    lookup (run st ops).1.stmts id = some { s with args := collect id s.paramCount s.args ops } := by
  induction ops with
  | nil => intro st id s _ hl _; simpa [run, collect] using hl
  | cons op ops ih =>
    intro st id s hinv hl hops
    simp only [run]
    have hinv' := inv_step st op hinv
    have hops' : ∀ op' ∈ ops, target op' = some id → ∃ d, op' = .sendLongData d :=
      fun op' h => hops op' (List.mem_cons_of_mem _ h)
    by_cases ht : target op = some id
    · obtain ⟨d, rfl⟩ := hops _ List.mem_cons_self ht
      simp only [target] at ht
      split at ht <;> cases ht
      rename_i h6
      have hstep := step_sendLongData st d s h6 hl (hinv _ _ hl).2
      by_cases hp : paramIdOf d ≥ s.paramCount % 65536
      · rw [if_pos hp] at hstep
        simp only [collect, h6, hp, not_true_eq_false, and_false, if_false]
        rw [hstep]; exact ih st _ s hinv hl hops'
      · rw [if_neg hp] at hstep
        simp only [collect, h6, hp, not_false_eq_true, and_self, if_true]
        exact ih _ (stmtIdOf d) _ hinv' (by rw [hstep]; exact lookup_insert_self _ _ _) hops'
    · have hl' := isolation_open st hinv op id s hl ht
      have hc : collect id s.paramCount s.args (op :: ops) = collect id s.paramCount s.args ops := by
        cases op with
        | sendLongData d =>
          simp only [collect]
          split
          · rename_i h; exfalso; apply ht; simp [target, h.1, h.2.1]
          · rfl
        | _ => rfl
      rw [hc]
      exact ih _ id s hinv' hl' hops'

/-! ### the values an execution uses -/

/-- Reference semantics of the values of one execution, written without any
    mutable state: parameter `i` is NULL if its bit is set in the packet's NULL
    bitmap; else the long data sent for it, if any (then the packet holds no
    value for it); else the value decoded from the packet at the position that
    follows the values of the earlier parameters *of this packet*.  `long` is
    read, never written. -/
def specArgs (nullBitmap paramTypes paramValues : Bytes) (long : List Arg) : Nat → Nat → Int → O (List Arg)
  | 0, _, _ => .ok []
  | k + 1, i, pos =>
    match goIdx nullBitmap ((i / 8 : Nat) : Int) with
    | .panic => .panic
    | .fail => .panic
    | .ok nb =>
      if nb.toNat / 2 ^ (i % 8) % 2 = 1 then
        (specArgs nullBitmap paramTypes paramValues long k (i + 1) pos).bind fun rest => .ok (.null :: rest)
      else if 2 * i + 1 ≥ paramTypes.length then .err .malformed
      else
        match goIdx paramTypes ((2 * i : Nat) : Int), goIdx paramTypes ((2 * i + 1 : Nat) : Int), long[i]? with
        | .ok tp, .ok fl, some .null =>
          (bindOne tp (fl.toNat / 128 % 2 = 1) paramValues pos).bind fun r =>
            (specArgs nullBitmap paramTypes paramValues long k (i + 1) r.2).bind fun rest => .ok (r.1 :: rest)
        | .ok _, .ok _, some a =>
          (specArgs nullBitmap paramTypes paramValues long k (i + 1) pos).bind fun rest => .ok (a :: rest)
        | _, _, _ => .panic

theorem take_succ_set {α : Type} (l : List α) (i : Nat) (v : α) (h : i < l.length) :
    (l.set i v).take (i + 1) = l.take i ++ [v] := by
  rw [List.take_add_one, List.take_set_of_le (Nat.le_refl _)]; simp [h]

/-- The loop from slot `i` on against `specArgs`, whatever the slots `long` hold: `args` is `long` with the
    slots before `i` already written, and the loop only reads slots it has not written yet. -/
theorem bindLoop_spec (nb types values : Bytes) (long : List Arg) :
    ∀ (k i : Nat) (pos : Int) (args : List Arg), i + k = long.length → args.length = long.length →
      args.drop i = long.drop i →
      bindLoop nb types values k i pos args =
        (specArgs nb types values long k i pos).bind fun rest => .ok (args.take i ++ rest) := by
  intro k
  induction k with
  | zero =>
    intro i pos args hik hlen _
    simp only [bindLoop, specArgs, O.bind]
    have : i = args.length := by omega
    subst this; simp
  | succ k ih =>
    intro i pos args hik hlen hdrop
    have hi : i < long.length := by omega
    have hia : i < args.length := by omega
    have hget : args[i]? = some long[i] := by
      have := congrArg (fun l => l[0]?) hdrop
      simpa [hi] using this
    -- the loop going on with `v` in slot `i`
    have next : ∀ v pos', bindLoop nb types values k (i + 1) pos' (args.set i v) =
        (specArgs nb types values long k (i + 1) pos').bind fun rest => .ok (args.take i ++ v :: rest) := by
      intro v pos'
      rw [ih (i + 1) pos' _ (by omega) (by simpa using hlen)
        (by rw [List.drop_set_of_lt (Nat.lt_succ_self i)]; simpa using congrArg (List.drop 1) hdrop), take_succ_set _ _ _ hia]
      simp only [List.append_assoc, List.singleton_append]
    rw [bindLoop, specArgs]
    cases h1 : goIdx nb ((i / 8 : Nat) : Int) with
    | fail => exact absurd h1 (goIdx_ne_fail _ _)
    | panic => rfl
    | ok b =>
      simp only [ofR, O.bind_ok]
      by_cases hb : b.toNat / 2 ^ (i % 8) % 2 = 1
      · -- NULL in the bitmap
        rw [if_pos hb, if_pos hb]
        simp only [argSet, if_pos hia, O.bind_ok, next, O.bind_assoc, O.ok_bind]
      · rw [if_neg hb, if_neg hb]
        by_cases ht : 2 * i + 1 ≥ types.length
        · rw [if_pos ht, if_pos ht]; rfl
        · rw [if_neg ht, if_neg ht]
          cases h2 : goIdx types ((2 * i : Nat) : Int) with
            | fail => exact absurd h2 (goIdx_ne_fail _ _)
            | panic => rfl
            | ok tp =>
              cases h3 : goIdx types ((2 * i + 1 : Nat) : Int) with
              | fail => exact absurd h3 (goIdx_ne_fail _ _)
              | panic => rfl
              | ok fl =>
                simp only [O.bind_ok, argIdx, hget, List.getElem?_eq_getElem hi]
                -- a slot that holds anything is skipped and keeps what it holds
                have keep : long[i] ≠ .null → bindLoop nb types values k (i + 1) pos args =
                    (specArgs nb types values long k (i + 1) pos).bind fun rest => .ok (args.take i ++ long[i] :: rest) := by
                  intro _
                  obtain ⟨_, hai⟩ := List.getElem?_eq_some_iff.mp hget
                  have := next args[i] pos
                  rwa [List.set_getElem_self, hai] at this
                cases hv : long[i] with
                | null =>
                  simp only [ne_eq, not_true_eq_false, if_false]
                  cases bindOne tp (decide (fl.toNat / 128 % 2 = 1)) values pos with
                  | err e => rfl
                  | panic => rfl
                  | ok r => simp only [argSet, if_pos hia, O.bind_ok, next, O.bind_assoc, O.ok_bind]
                | _ =>
                  rw [hv] at keep
                  simp only [ne_eq, reduceCtorEq, not_false_eq_true, if_true, keep, O.bind_assoc, O.ok_bind]

/-- **The in-place binding loop computes the reference semantics.**  Started on
    slots that hold only long data, `bindStmtArgs` (which writes into the very
    slice it tests for "already holds a value") returns exactly `specArgs` of
    the packet and that long data. -/
theorem bindLoop_eq_spec (nb types values : Bytes) (long : List Arg) (hlong : ∀ a ∈ long, ArgOK a) :
    ∀ (k i : Nat) (pos : Int) (args : List Arg), i + k = long.length → args.length = long.length →
      args.drop i = long.drop i →
      bindLoop nb types values k i pos args =
        (specArgs nb types values long k i pos).bind fun rest => .ok (args.take i ++ rest) :=
  bindLoop_spec nb types values long

/-- `bindStmtArgs` on a statement whose slots hold only long data. -/
theorem bind_eq_spec (s : Stmt) (hs : StmtOK s) (nb types values : Bytes) :
    bindStmtArgs s.paramCount s.args nb types values = specArgs nb types values s.args s.paramCount 0 0 := by
  unfold bindStmtArgs
  rw [bindLoop_spec nb types values s.args s.paramCount 0 0 s.args (by simp [hs.1]) rfl rfl]
  cases specArgs nb types values s.args s.paramCount 0 0 <;> rfl

/-- **Each execution uses only its own values.**  For a statement as `Inv` keeps
    it (`StmtOK`, so in every reachable state), the statement text an execution
    hands to `handleQuery` (or its error) is the template rewritten with
    `specArgs` of this packet and the long data in the slots.  What those slots
    hold is said by `args_clean_after_exec`, `long_data_since` and `isolation`
    (the chunks sent for this statement since its previous execution attempt,
    reset or prepare); no theorem here composes the four. -/
theorem exec_uses_own_values (nbe : Bool) (s : Stmt) (hs : StmtOK s) (d : Bytes) :
    executeBody nbe s d =
      executeBodyWith (fun n long nb types values => specArgs nb types values long n 0 0) nbe s d := by
  simp only [executeBody, executeBodyWith, bind_eq_spec s hs]

theorem exec_out (st : State) (d : Bytes) (h9 : ¬ d.length < 9) :
    (step st (.execute d)).2 =
      match lookup st.stmts (stmtIdOf d) with
      | none => .err .unknownStmt
      | some s =>
        match (executeBody st.nbe s d).1 with
        | .ok sql => .exec sql
        | .err e => .err e
        | .panic => .panic := by
  simp only [step, handleStmtExecute, if_neg h9]
  cases lookup st.stmts (stmtIdOf d) <;> rfl

/-- **A failed execution leaves no bound value behind.**  Whatever the first
    execute packet `d1` was (malformed after some parameters were bound,
    panicking, or fine), the next execution of the same statement behaves as on
    a statement whose slots are all empty. -/
theorem exec_after_any_attempt (st : State) (d1 d2 : Bytes) (s : Stmt) (h1 : ¬ d1.length < 9)
    (h2 : ¬ d2.length < 9) (hid : stmtIdOf d2 = stmtIdOf d1) (hl : lookup st.stmts (stmtIdOf d1) = some s) :
    ∃ types, (step (step st (.execute d1)).1 (.execute d2)).2 =
      match (executeBody st.nbe { s with paramTypes := types, args := nulls s.paramCount } d2).1 with
      | .ok sql => .exec sql
      | .err e => .err e
      | .panic => .panic := by
  obtain ⟨types, h⟩ := args_clean_after_exec st d1 s h1 hl
  refine ⟨types, ?_⟩
  have hn : (step st (.execute d1)).1.nbe = st.nbe := by
    simp only [step, handleStmtExecute, if_neg h1, hl]
  rw [exec_out _ d2 h2, hid, h, hn]

/-- Everything above holds along every command history from a fresh session. -/
theorem inv_reachable (ops : List Op) : Inv (run State.init ops).1 :=
  inv_run _ ops (fun id s h => by simp [State.init, lookup] at h)

/-! ### the statements are not vacuous; the probed defect of the pinned tree -/

/-- `select ?, ?` -/
def tpl : Bytes := [0x73, 0x65, 0x6c, 0x65, 0x63, 0x74, 0x20, 0x3f, 0x2c, 0x20, 0x3f]
/-- execute of statement 0: types LONGLONG, LONGLONG; first value 7, second value cut to one byte -/
def execBad : Bytes := [0,0,0,0, 0, 1,0,0,0, 0, 1, 8,0,8,0, 7,0,0,0,0,0,0,0, 1]
/-- execute of statement 0 with the values 9 and 5 -/
def execGood : Bytes := [0,0,0,0, 0, 1,0,0,0, 0, 1, 8,0,8,0, 9,0,0,0,0,0,0,0, 5,0,0,0,0,0,0,0]
/-- long data "xy" for parameter 0 of statement 0 -/
def longXY : Bytes := [0,0,0,0, 0,0, 0x78, 0x79]
/-- execute of statement 0: types VAR_STRING, LONGLONG, one value 5 (parameter 0 comes as long data) -/
def execLong : Bytes := [0,0,0,0, 0, 1,0,0,0, 0, 1, 0xfd,0,8,0, 5,0,0,0,0,0,0,0]

set_option maxRecDepth 100000 in
/-- The probed history: a failed execution that had bound 7, then (9, 5).  The
    pinned code ran `select 7, 9`; the repaired code runs `select 9, 5`. -/
example : (run State.init [.prepare tpl, .execute execBad, .execute execGood]).2 =
    [.prepared 0 2, .err .malformed,
     .exec [0x73, 0x65, 0x6c, 0x65, 0x63, 0x74, 0x20, 0x39, 0x2c, 0x20, 0x35]] := by decide +kernel

set_option maxRecDepth 100000 in
/-- Long data is used by the next execution, is gone after it, and a closed
    statement is unknown: `select 'xy', 5`, then a malformed packet (no value for
    parameter 0 any more), then unknown. -/
example : (run State.init [.prepare tpl, .sendLongData longXY, .execute execLong, .execute execLong,
      .close [0,0,0,0], .execute execGood]).2 =
    [.prepared 0 2, .done,
     .exec [0x73, 0x65, 0x6c, 0x65, 0x63, 0x74, 0x20, 0x27, 0x78, 0x79, 0x27, 0x2c, 0x20, 0x35],
     .err .malformed, .done, .err .unknownStmt] := by decide +kernel

set_option maxRecDepth 100000 in
/-- `long_data_since`, `args_clean_after_exec`, `isolation_open` have satisfiable hypotheses:
    after `prepare tpl` statement 0 is open, with two empty slots. -/
example : lookup (run State.init [.prepare tpl]).1.stmts 0 =
    some ⟨tpl, 2, [[0x73, 0x65, 0x6c, 0x65, 0x63, 0x74, 0x20], [0x3f], [0x2c, 0x20], [0x3f]], [], [.null, .null]⟩ := by
  decide +kernel

end GaeaVerif.C16
