import GaeaVerif.Lemmas.IPAllowMask
import GaeaVerif.Lemmas.IPAllowSyntax
import GaeaVerif.Model.IPAllowReload
import GaeaVerif.Lemmas.MgrReload
import GaeaVerif.Props.C31
import GaeaVerif.Gen.Consts
/-
  C35 — Only allow-listed client addresses can connect; a client whose address
  is in a listed block connects.

  Theorems about `Model/IPAllow.lean` and `Model/IPAllowReload.lean` (tie to
  /repo: correspondence `gvh run C35`, translator facts `Gen.c35*`).

  The property is read literally (`uniformMatch`: one 128-bit address space,
  `a.b.c.d` = `::ffff:a.b.c.d`, a block = the addresses with its network number).
  `allow_iff` is the decision of the proxy for every address syntax, list of
  entry texts and client byte string; the statements about single entries,
  about the remote address text of a connection, about the reference syntax
  compared with `netip.ParseAddr`, and about the list in force across online
  reloads (on C31's reload machine) follow it.  `*_witness`: by evaluation, the
  behaviour of the tree before a repair or, for `util_parseAllowIps_drops_witness`,
  of code that nothing calls.
-/
namespace GaeaVerif.C35
open GaeaVerif GaeaVerif.IPAllow

/-- **Mask-and-compare is prefix equality.**  For two addresses of `l` bytes and
    a prefix of `n ≤ 8l` bits, the byte-wise comparison under `CIDRMask(n, 8l)`
    (as in `IPNet.Contains`) holds exactly when the two network numbers agree. -/
theorem masked_eq_iff (l : Nat) : ∀ (n : Nat) (a c : Bytes), a.length = l → c.length = l → n ≤ 8 * l →
    (andBytes a (cidrMaskLoop n l) = andBytes c (cidrMaskLoop n l)
      ↔ beNat a / 2 ^ (8 * l - n) = beNat c / 2 ^ (8 * l - n)) := by
  intro n a c ha hc hn
  have := beq_masked l n a c ha hc hn
  rwa [Bool.eq_iff_iff, beq_iff_eq, beq_iff_eq] at this

/-- The `IPInfo` that `ParseIPInfo` builds for an entry with a given meaning. -/
def toInfo (e : Entry) : IPInfo :=
  match e.pfx with
  | none => { isIPNet := false, ip := as16 e.addr, ipNet := { ip := [], mask := [] } }
  | some n =>
    { isIPNet := true, ip := as16 e.addr,
      ipNet := { ip := (ipMask (as16 e.addr) (cidrMaskLoop n e.addr.length)).getD [],
                 mask := cidrMaskLoop n e.addr.length } }

/-- Well-formed meaning: 4 or 16 address bytes, prefix length within the address. -/
def _root_.GaeaVerif.IPAllow.Entry.WF (e : Entry) : Prop :=
  (e.addr.length = 4 ∨ e.addr.length = 16) ∧ ∀ n, e.pfx = some n → n ≤ 8 * e.addr.length

@[elab_as_elim]
theorem wf_cases {P : Entry → Prop} (e : Entry) (h : e.WF)
    (single : ∀ a, a.length = 4 ∨ a.length = 16 → P { addr := a, pfx := none })
    (v4 : ∀ a n, a.length = 4 → n ≤ 32 → P { addr := a, pfx := some n })
    (v6 : ∀ a n, a.length = 16 → n ≤ 128 → P { addr := a, pfx := some n }) : P e := by
  obtain ⟨a, pfx⟩ := e
  obtain ⟨hlen, hpfx⟩ := h
  cases pfx with
  | none => exact single a hlen
  | some n =>
    have hn := hpfx n rfl
    simp only at hn hlen
    rcases hlen with h4 | h16
    · exact v4 a n h4 (by omega)
    · exact v6 a n h16 (by omega)

/-- What is assumed of `netip.ParseAddr`: it returns 4 or 16 bytes. -/
def PAwf (pa : Bytes → Option Addr) : Prop :=
  ∀ s a, pa s = some a → a.bytes.length = 4 ∨ a.bytes.length = 16

theorem toInfo_block (addr : Bytes) (n : Nat) (ha : addr.length = 4 ∨ addr.length = 16) :
    toInfo { addr := addr, pfx := some n } =
      { isIPNet := true, ip := as16 addr,
        ipNet := { ip := andBytes addr (cidrMaskLoop n addr.length), mask := cidrMaskLoop n addr.length } } := by
  have hm := cidrMaskLoop_length n addr.length
  rcases ha with ha | ha <;> rw [ha] at hm ⊢
  · simp [toInfo, as16, ha, ipMask, hm, v4InV6Prefix]
  · simp [toInfo, as16, ha, ipMask, hm]

theorem matchPinned_block_v4 (addr : Bytes) (n : Nat) (c : Bytes) (ha : addr.length = 4) (hn : n ≤ 32) :
    (toInfo { addr := addr, pfx := some n }).matchPinned c = .ok (familyMatch { addr := addr, pfx := some n } c) := by
  have hm := cidrMaskLoop_length n 4
  have hX := masked_length n addr ha
  rw [toInfo_block addr n (.inl ha), ha]
  simp only [IPInfo.matchPinned, if_true, familyMatch, ha]
  rw [contains_masked _ addr n 4 c (nnm_v4 _ _ hX hm) ha (by omega)]
  cases h4 : to4 c with
  | none => simp [(to4_none h4).1]
  | some c4 => simp [(to4_some h4).1]

theorem matchPinned_block_v6 (addr : Bytes) (n : Nat) (c : Bytes) (ha : addr.length = 16) (hn : n ≤ 128) :
    (toInfo { addr := addr, pfx := some n }).matchPinned c = .ok (familyMatch { addr := addr, pfx := some n } c) := by
  have hm := cidrMaskLoop_length n 16
  have hX := masked_length n addr ha
  have h4 : ¬ addr.length = 4 := by omega
  rw [toInfo_block addr n (.inr ha), ha]
  simp only [IPInfo.matchPinned, if_true, familyMatch, h4, if_false]
  by_cases hp : addr.take 12 = v4InV6Prefix ∧ 96 ≤ n
  · -- an IPv4-mapped block: `networkNumberAndMask` keeps the last four bytes of address and mask
    have hd : (addr.drop 12).length = 4 := by rw [List.length_drop, ha]
    have hnm : networkNumberAndMask { ip := andBytes addr (cidrMaskLoop n 16), mask := cidrMaskLoop n 16 } =
        some (andBytes (addr.drop 12) (cidrMaskLoop (n - 96) 4), cidrMaskLoop (n - 96) 4) := by
      rw [nnm_v6_mapped _ _ hX hm ((masked_take12 addr n ha).mpr hp), masked_ge96 addr n ha hp.2,
        List.drop_left' (by rw [List.length_take, ha]; rfl), mask_ge96 n hp.2,
        List.drop_left' (List.length_replicate ..)]
    rw [contains_masked _ _ (n - 96) 4 c hnm hd (by omega)]
    rw [if_pos ⟨(to4_isSome_len16 addr ha).mpr hp.1, hp.2⟩]
    cases h4 : to4 c with
    | none => simp [(to4_none h4).1]
    | some c4 => simp [(to4_some h4).1]
  · rw [contains_masked _ addr n 16 c (nnm_v6_plain _ _ hX hm (mt (masked_take12 addr n ha).mp hp)) ha (by omega)]
    rw [if_neg fun h => hp ⟨(to4_isSome_len16 addr ha).mp h.1, h.2⟩]
    cases h4 : to4 c with
    | none => simp
    | some c4 => simp [(to4_some h4).1]

theorem matchPinned_addr (addr c : Bytes) (ha : addr.length = 4 ∨ addr.length = 16) :
    (toInfo { addr := addr, pfx := none }).matchPinned c = .ok (familyMatch { addr := addr, pfx := none } c) := by
  simp only [toInfo, IPInfo.matchPinned, familyMatch, Bool.false_eq_true, if_false, ipEqual_len16 _ c (as16_len addr ha)]

theorem matchPinned_eq_familyMatch (e : Entry) (c : Bytes) (h : e.WF) :
    (toInfo e).matchPinned c = .ok (familyMatch e c) :=
  wf_cases e h (matchPinned_addr · c) (matchPinned_block_v4 · · c) (matchPinned_block_v6 · · c)

theorem parseCIDR_eq (pa : Bytes → Option Addr) (hpa : PAwf pa) (t : Bytes) :
    parseCIDR pa t = (denoteCIDR pa t).map (fun e => ((toInfo e).ip, (toInfo e).ipNet)) := by
  unfold parseCIDR denoteCIDR
  cases hc : cutSlash t with
  | none => rfl
  | some am =>
    obtain ⟨a, m⟩ := am
    simp only
    cases hp : pa a with
    | none => rfl
    | some ad =>
      have hlen := hpa a ad hp
      simp only
      by_cases hz : ad.zone = true
      · simp [hz]
      · simp only [hz, Bool.false_eq_true, if_false]
        rcases hd : dtoi m with ⟨n, i, ok⟩
        simp only
        by_cases hcond : (!ok || decide (i ≠ m.length) || decide (n > 8 * ad.bytes.length)) = true
        · rw [if_pos hcond, if_pos hcond]; rfl
        · rw [if_neg hcond, if_neg hcond]
          have hn : n ≤ 8 * ad.bytes.length := by
            simp only [Bool.or_eq_true, decide_eq_true_eq, not_or] at hcond
            omega
          rw [cidrMask_ok n _ hlen hn]
          simp [toInfo]

theorem denoteCIDR_some {pa : Bytes → Option Addr} {t : Bytes} {e : Entry} (h : denoteCIDR pa t = some e) :
    ∃ a m ad, cutSlash t = some (a, m) ∧ pa a = some ad ∧ ad.zone = false ∧
      (dtoi m).2.2 = true ∧ (dtoi m).2.1 = m.length ∧ (dtoi m).1 ≤ 8 * ad.bytes.length ∧
      e = { addr := ad.bytes, pfx := some (dtoi m).1 } := by
  unfold denoteCIDR at h
  cases hc : cutSlash t with
  | none => rw [hc] at h; cases h
  | some am =>
    obtain ⟨a, m⟩ := am
    rw [hc] at h
    simp only at h
    cases hp : pa a with
    | none => rw [hp] at h; cases h
    | some ad =>
      rw [hp] at h
      simp only [Option.ite_none_left_eq_some, Bool.or_eq_true, Bool.not_eq_true', decide_eq_true_eq, not_or,
        Bool.not_eq_false, Bool.not_eq_true, Nat.not_lt, Decidable.not_not, Option.some.injEq] at h
      exact ⟨a, m, ad, rfl, hp, h.1, h.2.1.1.1, h.2.1.1.2, h.2.1.2, h.2.2.symm⟩

theorem parseIPInfo_eq (pa : Bytes → Option Addr) (hpa : PAwf pa) (t : Bytes) :
    parseIPInfo pa t = (denote pa t).map toInfo := by
  unfold parseIPInfo denote
  rw [parseCIDR_eq pa hpa t]
  cases hc : denoteCIDR pa t with
  | some e =>
    obtain ⟨_, _, _, _, _, _, _, _, _, rfl⟩ := denoteCIDR_some hc
    rfl
  | none =>
    simp only [Option.map_none]
    unfold parseIP
    cases hp : pa t with
    | none => rfl
    | some ad =>
      by_cases hz : ad.zone = true
      · simp [hz]
      · simp [hz, toInfo]

theorem denote_wf (pa : Bytes → Option Addr) (hpa : PAwf pa) (t : Bytes) (e : Entry)
    (h : denote pa t = some e) : e.WF := by
  unfold denote at h
  cases hc : denoteCIDR pa t with
  | some e' =>
    rw [hc] at h
    cases h
    obtain ⟨_, _, ad, _, hp, _, _, _, hn, rfl⟩ := denoteCIDR_some hc
    exact ⟨hpa _ _ hp, fun n hn' => by cases hn'; exact hn⟩
  | none =>
    rw [hc] at h
    cases hp : pa t with
    | none => rw [hp] at h; cases h
    | some ad =>
      rw [hp] at h
      obtain ⟨_, h⟩ := Option.ite_none_left_eq_some.mp h
      cases h
      exact ⟨hpa _ _ hp, fun n hn => by cases hn⟩

theorem listed_wf (pa : Bytes → Option Addr) (hpa : PAwf pa) :
    ∀ (l : List Bytes) (es : List Entry), listed pa l = some es → ∀ e ∈ es, e.WF := by
  intro l
  induction l with
  | nil => intro es h; simp [listed] at h; subst h; simp
  | cons s rest ih =>
    intro es h
    unfold listed at h
    split at h
    · exact ih es h
    · split at h
      · rename_i e es' hd hl
        simp only [Option.some.injEq] at h
        subst h
        intro x hx
        simp only [List.mem_cons] at hx
        cases hx with
        | inl hx => subst hx; exact denote_wf pa hpa _ _ hd
        | inr hx => exact ih es' hl x hx
      · simp at h

theorem listed_eq_none_iff (pa : Bytes → Option Addr) (l : List Bytes) :
    listed pa l = none ↔ ∃ t ∈ l, (trimSpace t).length ≠ 0 ∧ denote pa (trimSpace t) = none := by
  induction l with
  | nil => simp [listed]
  | cons s rest ih =>
    simp only [List.mem_cons, exists_eq_or_imp]
    unfold listed
    by_cases hb : (trimSpace s).length = 0
    · rw [if_pos hb, ih]
      exact ⟨Or.inr, fun h => h.resolve_left fun h' => h'.1 hb⟩
    · rw [if_neg hb, ← ih]
      cases hd : denote pa (trimSpace s) with
      | none => exact ⟨fun _ => Or.inl ⟨hb, rfl⟩, fun _ => rfl⟩
      | some e =>
        cases listed pa rest with
        | none => exact ⟨fun _ => Or.inr rfl, fun _ => rfl⟩
        | some es => exact ⟨nofun, fun h => by rcases h with ⟨_, h⟩ | h <;> cases h⟩

/-- **`parseAllowIps` builds exactly the listed entries**: surrounding white
    space is ignored, blank entries are skipped, a meaningless entry makes the
    namespace unloadable. -/
theorem parseAllowIps_eq (pa : Bytes → Option Addr) (hpa : PAwf pa) (l : List Bytes) :
    parseAllowIps pa l = match listed pa l with
      | some es => .ok (es.map toInfo)
      | none => .fail := by
  induction l with
  | nil => simp [parseAllowIps, listed]
  | cons s rest ih =>
    unfold parseAllowIps listed
    by_cases hb : (trimSpace s).length = 0
    · simp only [hb, if_true]; exact ih
    · simp only [hb, if_false]
      rw [parseIPInfo_eq pa hpa, ih]
      cases hd : denote pa (trimSpace s) with
      | none => simp
      | some e =>
        cases hl : listed pa rest with
        | none => simp
        | some es => simp

theorem netNum_mapped (x : Bytes) (k : Nat) (hx : x.length = 4) (hk : k ≤ 32) :
    netNum 128 (k + 96) (v4InV6Prefix ++ x) = beNat v4InV6Prefix * 2 ^ k + netNum 32 k x :=
  netNum_split v4InV6Prefix x k hx hk

theorem len_ok_false (c : Bytes) (h : ¬ (c.length = 4 ∨ c.length = 16)) :
    (c.length == 4 || c.length == 16) = false := by
  rw [beq_false_of_ne fun h4 => h (Or.inl h4), beq_false_of_ne fun h16 => h (Or.inr h16)]; rfl

theorem uniformMatch_bad_len (e : Entry) (c : Bytes) (h : ¬ (c.length = 4 ∨ c.length = 16)) :
    uniformMatch e c = false := by
  rw [uniformMatch, len_ok_false c h, Bool.false_and]

/-- Is the entry an IPv4 block (dotted quad, or IPv4-mapped with 96 bits or more)? -/
def v4Block (e : Entry) : Bool :=
  e.addr.length == 4 ||
    ((to4 e.addr).isSome && match e.pfx with
      | some n => decide (n ≥ 96)
      | none => true)

/-- Entry and client are of one family (always so for a single address). -/
def sameFamily (e : Entry) (c : Bytes) : Prop := e.pfx = none ∨ v4Block e = (to4 c).isSome

theorem familyMatch_iff (e : Entry) (c : Bytes) (h : e.WF) :
    familyMatch e c = true ↔ uniformMatch e c = true ∧ sameFamily e c := by
  refine wf_cases e h (fun a _ => ?_) (fun a n h4 hn => ?_) (fun a n h16 hn => ?_)
  · simp [familyMatch, uniformMatch, sameFamily]
  · simp only [sameFamily, v4Block, reduceCtorEq, false_or, familyMatch, uniformMatch]
    cases hc : to4 c with
    | none => simp [h4]
    | some c4 =>
      simp only [h4, if_true, as16_len4 a h4, (to4_some hc).2.1, (to4_some hc).2.2, Bool.true_and,
        netNum_common_prefix _ _ _ n h4 (to4_some hc).1 hn]
      simp
  · simp only [sameFamily, v4Block, reduceCtorEq, false_or, familyMatch, uniformMatch, as16_len16 a h16, h16]
    by_cases hm : (to4 a).isSome = true ∧ n ≥ 96
    · rw [if_pos hm]
      cases hc : to4 c with
      | none => simp [hm.1, hm.2]
      | some c4 =>
        have hp := (to4_isSome_len16 a h16).mp hm.1
        have hd : (a.drop 12).length = 4 := by rw [List.length_drop, h16]
        have := netNum_common_prefix v4InV6Prefix (a.drop 12) c4 (n - 96) hd (to4_some hc).1 (by omega)
        rw [← hp, List.take_append_drop, show n - 96 + 96 = n by omega, hp] at this
        simp [hm.1, hm.2, (to4_some hc).2.1, (to4_some hc).2.2, this]
    · rw [if_neg hm]
      have hv : ((to4 a).isSome && decide (n ≥ 96)) = false := by simpa using hm
      cases hc : to4 c with
      | none =>
        have hc4 : (c.length == 4) = false := beq_false_of_ne (to4_none hc).1
        simp [hv, hc4, (to4_none hc).2]
      | some c4 => simp [hv]

theorem containsMapped_block (addr : Bytes) (n : Nat) (c : Bytes)
    (hlen : addr.length = 4 ∨ addr.length = 16) (hn : n ≤ 8 * addr.length) :
    (toInfo { addr := addr, pfx := some n }).containsMapped c =
      .ok ((to4 c).isSome && addr.length == 16 && uniformMatch { addr := addr, pfx := some n } c) := by
  unfold IPInfo.containsMapped
  cases hc : to4 c with
  | none => rfl
  | some c4 =>
    have hp : (v4InV6Prefix ++ c4).length = 16 := by rw [List.length_append, (to4_some hc).1]; rfl
    rcases hlen with h4 | h16
    · have hX := masked_length n addr h4
      simp [toInfo_block addr n (.inl h4), hX, h4]
    · have hm := cidrMaskLoop_length n 16
      have hX := masked_length n addr h16
      simp only [toInfo_block addr n (.inr h16), hX, hm, ne_eq, not_true_eq_false, or_self, if_false, h16,
        beq_self_eq_true, Bool.true_and, Option.isSome_some, uniformMatch, (to4_some hc).2.2,
        if_neg (show ¬ (16 : Nat) = 4 by omega), as16_len16 addr h16, (to4_some hc).2.1]
      rw [containsLoop_eq _ _ _ (by omega) (by omega), andBytes_idem, beq_masked 16 n addr _ h16 hp (by omega)]

theorem v4Block_as16 (e : Entry) (h : e.WF) (hv : v4Block e = true) :
    (as16 e.addr).take 12 = v4InV6Prefix ∧
      ∀ n, e.pfx = some n → 96 ≤ (if e.addr.length = 4 then n + 96 else n) := by
  obtain ⟨addr, pfx⟩ := e
  rcases h.1 with h4 | h16
  · exact ⟨by rw [as16_len4 addr h4]; exact List.take_left' rfl, fun n _ => by simp only [h4, if_true]; omega⟩
  · have hne : ¬ addr.length = 4 := by simp only at h16; omega
    simp only [v4Block, h16, Nat.reduceBEq, Bool.false_or, Bool.and_eq_true] at hv
    refine ⟨by rw [as16_len16 addr h16]; exact (to4_isSome_len16 addr h16).mp hv.1, fun n hn => ?_⟩
    simp only at hn; subst hn
    simpa [hne] using hv.2

theorem uniformMatch_v4Block_v6client (e : Entry) (c : Bytes) (h : e.WF)
    (hv : v4Block e = true) (hc : to4 c = none) : uniformMatch e c = false := by
  obtain ⟨hA, hn96⟩ := v4Block_as16 e h hv
  have hA16 := as16_len e.addr h.1
  by_cases hc16 : c.length = 16
  · have hcp : c.take 12 ≠ v4InV6Prefix := fun hh => by
      have := (to4_isSome_len16 c hc16).mpr hh; rw [hc] at this; cases this
    simp only [uniformMatch, (to4_none hc).2, Bool.and_eq_false_iff]
    refine Or.inr ?_
    cases hp : e.pfx with
    | none => exact beq_false_of_ne fun heq => hcp (by rw [← heq]; exact hA)
    | some n =>
      refine beq_false_of_ne fun heq => hcp ?_
      rw [← netNum_ge96_prefix _ c _ hA16 hc16 (hn96 n hp) ?_ heq, hA]
      have := h.2 n hp
      rcases h.1 with h4 | h16
      · rw [if_pos h4]; omega
      · rw [if_neg (by omega)]; omega
  · exact uniformMatch_bad_len e c fun h => h.elim (to4_none hc).1 hc16

/-- **The repaired `IPInfo.Match` decides the literal reading** (`uniformMatch`:
    one 128-bit address space, `a.b.c.d` = `::ffff:a.b.c.d`) for every
    well-formed entry and every client byte string, without panic. -/
theorem match_eq_uniformMatch (e : Entry) (c : Bytes) (h : e.WF) :
    (toInfo e).match c = .ok (uniformMatch e c) := by
  have hp := matchPinned_eq_familyMatch e c h
  have hf := familyMatch_iff e c h
  obtain ⟨addr, pfx⟩ := e
  cases pfx with
  | none =>
    have : familyMatch { addr := addr, pfx := none } c = uniformMatch { addr := addr, pfx := none } c := by
      rw [Bool.eq_iff_iff, hf]; exact and_iff_left (Or.inl rfl)
    rw [← this, ← hp]
    rfl
  | some n =>
    -- `Contains` finds the client iff the block holds it and both are of one family; a block that holds a
    -- client of the other family is written in IPv6 form and the client is IPv4: `containsMapped` finds it
    have hm : (toInfo { addr := addr, pfx := some n }).match c
        = match (toInfo { addr := addr, pfx := some n }).matchPinned c with
          | .ok true => .ok true
          | .ok false => (toInfo { addr := addr, pfx := some n }).containsMapped c
          | .fail => .fail
          | .panic => .panic := rfl
    rw [hm, hp, containsMapped_block addr n c h.1 (h.2 n rfl)]
    cases hfm : familyMatch { addr := addr, pfx := some n } c with
    | true => rw [(hf.mp hfm).1]
    | false =>
      cases hu : uniformMatch { addr := addr, pfx := some n } c with
      | false => simp
      | true =>
        have hns : ¬ sameFamily { addr := addr, pfx := some n } c := fun hs => by
          rw [hf.mpr ⟨hu, hs⟩] at hfm; cases hfm
        cases hc : to4 c with
        | none =>
          have hv : v4Block { addr := addr, pfx := some n } = true := by
            cases hv : v4Block { addr := addr, pfx := some n } with
            | true => rfl
            | false => exact absurd (Or.inr (by rw [hv, hc]; rfl)) hns
          rw [uniformMatch_v4Block_v6client _ c h hv hc] at hu; cases hu
        | some c4 =>
          have h16 : addr.length = 16 := h.1.resolve_left fun h4 => hns (Or.inr (by simp [v4Block, h4, hc]))
          simp [h16]

theorem matchAny_eq (c : Bytes) : ∀ (es : List Entry), (∀ e ∈ es, e.WF) →
    matchAny (es.map toInfo) c = .ok (es.any (fun e => uniformMatch e c)) := by
  intro es
  induction es with
  | nil => intro _; simp [matchAny]
  | cons e es ih =>
    intro h
    have he := h e (by simp)
    have hes := ih (fun x hx => h x (by simp [hx]))
    simp only [List.map_cons, matchAny, match_eq_uniformMatch e c he, List.any_cons]
    cases hf : uniformMatch e c with
    | true => simp
    | false => simp [hes]

/-- **C35, the decision taken by the proxy.**  For every address syntax, every
    list of entry texts and every client byte string (nil and odd lengths
    included): the namespace is unloadable iff some entry is meaningless;
    otherwise the client is admitted iff no entry is listed or one listed entry
    holds it in the literal reading (`uniformMatch`: one 128-bit address space,
    `a.b.c.d` = `::ffff:a.b.c.d`).  The check never panics. -/
theorem allow_iff (pa : Bytes → Option Addr) (hpa : PAwf pa) (l : List Bytes) (c : Bytes) :
    (parseAllowIps pa l >>= fun infos => isClientIPAllowed infos c)
      = match listed pa l with
        | none => .fail
        | some es => .ok (es.isEmpty || es.any (fun e => uniformMatch e c)) := by
  rw [parseAllowIps_eq pa hpa l]
  cases hl : listed pa l with
  | none => rfl
  | some es =>
    simp only [R.bind_ok, isClientIPAllowed]
    cases es with
    | nil => simp
    | cons e es' =>
      have hw := listed_wf pa hpa l _ hl
      rw [if_neg (by simp), matchAny_eq c _ hw]
      simp

theorem admitted_iff_listed (pa : Bytes → Option Addr) (hpa : PAwf pa) (l : List Bytes) (es : List Entry) (c : Bytes)
    (hl : listed pa l = some es) :
    (parseAllowIps pa l >>= fun infos => isClientIPAllowed infos c) = .ok true
      ↔ (es = [] ∨ ∃ e ∈ es, uniformMatch e c = true) := by
  rw [allow_iff pa hpa l c, hl]
  simp only [R.ok.injEq, Bool.or_eq_true, List.isEmpty_iff, List.any_eq_true]

/-- **IPv4 = IPv4-mapped.**  Whatever the allow-list holds (even `IPInfo`s that
    no parser would produce), an IPv4 client is treated identically whether
    presented as 4 bytes or as the 16-byte IPv4-mapped address. -/
theorem mapped_equiv (infos : List IPInfo) (a : Bytes) (h : a.length = 4) :
    isClientIPAllowed infos (v4InV6Prefix ++ a) = isClientIPAllowed infos a := by
  unfold isClientIPAllowed
  split
  · rfl
  · have hm : ∀ i : IPInfo, i.match (v4InV6Prefix ++ a) = i.match a := by
      intro i
      unfold IPInfo.match IPInfo.containsMapped contains
      rw [show to4 (v4InV6Prefix ++ a) = some a by simp [to4, h, v4InV6Prefix], to4_len4 a h, ipEqual_mapped _ _ h]
      rfl
    rename_i hne
    clear hne
    induction infos with
    | nil => rfl
    | cons i is ih => simp only [matchAny, hm, ih]

/-- **Only allow-listed client addresses can connect** (literal reading, full
    strength): if the proxy admits a client then the list is loadable and
    either holds no entry or holds an entry whose address equals the client's
    or whose block contains it, IPv4 and IPv4-mapped addresses being one. -/
theorem only_listed_clients_connect (pa : Bytes → Option Addr) (hpa : PAwf pa) (l : List Bytes) (c : Bytes)
    (h : (parseAllowIps pa l >>= fun infos => isClientIPAllowed infos c) = .ok true) :
    ∃ es, listed pa l = some es ∧ (es = [] ∨ ∃ e ∈ es, uniformMatch e c = true) := by
  cases hl : listed pa l with
  | none => rw [allow_iff pa hpa l c, hl] at h; simp at h
  | some es => exact ⟨es, rfl, (admitted_iff_listed pa hpa l es c hl).mp h⟩

/-- **A client whose address is in a listed block connects** (the converse, full
    strength since 6a1b6f4, the `fix:` commit that compares an IPv4 client with a block
    written in IPv6 form in the 16-byte form): for a loadable list, a client
    that equals a listed address or lies in a listed block — in the literal
    reading, whatever the families of entry and client — is admitted. -/
theorem listed_clients_connect (pa : Bytes → Option Addr) (hpa : PAwf pa) (l : List Bytes)
    (es : List Entry) (c : Bytes) (hl : listed pa l = some es)
    (h : es = [] ∨ ∃ e ∈ es, uniformMatch e c = true) :
    (parseAllowIps pa l >>= fun infos => isClientIPAllowed infos c) = .ok true :=
  (admitted_iff_listed pa hpa l es c hl).mpr h

/-- Entry and client of one family: a special case of `listed_clients_connect`. -/
theorem listed_clients_connect_same_family (pa : Bytes → Option Addr) (hpa : PAwf pa) (l : List Bytes)
    (es : List Entry) (c : Bytes) (hl : listed pa l = some es)
    (h : es = [] ∨ ∃ e ∈ es, uniformMatch e c = true ∧ sameFamily e c) :
    (parseAllowIps pa l >>= fun infos => isClientIPAllowed infos c) = .ok true := by
  apply listed_clients_connect pa hpa l es c hl
  cases h with
  | inl h0 => exact Or.inl h0
  | inr h1 =>
    obtain ⟨e, he, hu, _⟩ := h1
    exact Or.inr ⟨e, he, hu⟩

/-- **An IPv6 client never matches an IPv4 block** (the repair cannot
    over-allow): a 16-byte client outside `::ffff:0:0/96` is admitted only by
    an entry written in IPv6 form that is not an IPv4-mapped block of 96 bits
    or more (or by an empty list). -/
theorem v6_client_not_in_v4_block (pa : Bytes → Option Addr) (hpa : PAwf pa) (l : List Bytes)
    (es : List Entry) (c : Bytes) (hl : listed pa l = some es) (hne : es ≠ []) (hc : to4 c = none)
    (hv : ∀ e ∈ es, v4Block e = true) :
    (parseAllowIps pa l >>= fun infos => isClientIPAllowed infos c) = .ok false := by
  rw [allow_iff pa hpa l c, hl]
  have hw := listed_wf pa hpa l es hl
  have : es.any (fun e => uniformMatch e c) = false := by
    rw [List.any_eq_false]
    intro e he
    rw [uniformMatch_v4Block_v6client e c (hw e he) (hv e he) hc]
    exact Bool.false_ne_true
  cases es with
  | nil => exact absurd rfl hne
  | cons e es' => simp only [List.isEmpty_cons, Bool.false_or, this]

/-- The text `::ffff:1.2.3.4/0`. -/
def wBlock : Bytes :=
  [0x3a, 0x3a, 0x66, 0x66, 0x66, 0x66, 0x3a, 0x31, 0x2e, 0x32, 0x2e, 0x33, 0x2e, 0x34, 0x2f, 0x30]

/-- `Namespace.IsClientIPAllowed` with the `Match` of the tree before 6a1b6f4
    (`Contains` alone), for the pinned witness. -/
def isClientIPAllowedPinned (allowips : List IPInfo) (clientIP : Bytes) : R Bool :=
  if allowips.length = 0 then .ok true
  else .ok (allowips.any fun i => i.matchPinned clientIP == .ok true)

/-- **Pinned witness of the repaired finding** `ipv4-client-in-short-ipv6-block-rejected`.
    The allow-list `["::ffff:1.2.3.4/0"]` denotes a block that contains every
    address, 1.2.3.4 included (`uniformMatch`).  Before 6a1b6f4 the proxy
    refused the client 1.2.3.4 in either presentation (`Contains` compares
    addresses of one family only); the repaired `Match` admits it. -/
theorem short_ipv6_block_rejects_ipv4_witness :
    listed netipParseAddr [wBlock] = some [{ addr := v4InV6Prefix ++ [1, 2, 3, 4], pfx := some 0 }]
    ∧ uniformMatch { addr := v4InV6Prefix ++ [1, 2, 3, 4], pfx := some 0 } [1, 2, 3, 4] = true
    ∧ (parseAllowIps netipParseAddr [wBlock] >>= fun infos => isClientIPAllowedPinned infos [1, 2, 3, 4]) = .ok false
    ∧ (parseAllowIps netipParseAddr [wBlock] >>= fun infos =>
        isClientIPAllowedPinned infos (v4InV6Prefix ++ [1, 2, 3, 4])) = .ok false
    ∧ (parseAllowIps netipParseAddr [wBlock] >>= fun infos => isClientIPAllowed infos [1, 2, 3, 4]) = .ok true
    ∧ (parseAllowIps netipParseAddr [wBlock] >>= fun infos =>
        isClientIPAllowed infos (v4InV6Prefix ++ [1, 2, 3, 4])) = .ok true := by
  decide +kernel

/-- The texts ` 10.1.2.3/8`, `` (blank), `::1`, `::ffff:192.168.0.0/112`. -/
def exList : List Bytes :=
  [[0x20, 0x31, 0x30, 0x2e, 0x31, 0x2e, 0x32, 0x2e, 0x33, 0x2f, 0x38], [],
   [0x3a, 0x3a, 0x31],
   [0x3a, 0x3a, 0x66, 0x66, 0x66, 0x66, 0x3a, 0x31, 0x39, 0x32, 0x2e, 0x31, 0x36, 0x38, 0x2e, 0x30, 0x2e, 0x30,
    0x2f, 0x31, 0x31, 0x32]]

set_option maxRecDepth 100000 in
/-- Non-vacuity: a loadable list with a blank entry, white space, an IPv4 block,
    an IPv6 address and an IPv4-mapped block; clients inside and outside. -/
example :
    listed netipParseAddr exList = some
      [{ addr := [10, 1, 2, 3], pfx := some 8 },
       { addr := [0, 0, 0, 0, 0, 0, 0, 0, 0, 0, 0, 0, 0, 0, 0, 1], pfx := none },
       { addr := v4InV6Prefix ++ [192, 168, 0, 0], pfx := some 112 }]
    ∧ (parseAllowIps netipParseAddr exList >>= fun i => isClientIPAllowed i [10, 255, 0, 1]) = .ok true
    ∧ (parseAllowIps netipParseAddr exList >>= fun i => isClientIPAllowed i [11, 0, 0, 1]) = .ok false
    ∧ (parseAllowIps netipParseAddr exList >>= fun i => isClientIPAllowed i (v4InV6Prefix ++ [192, 168, 9, 9])) = .ok true
    ∧ (parseAllowIps netipParseAddr exList >>= fun i => isClientIPAllowed i [192, 169, 0, 0]) = .ok false
    ∧ (parseAllowIps netipParseAddr exList >>= fun i => isClientIPAllowed i []) = .ok false
    ∧ sameFamily { addr := [10, 1, 2, 3], pfx := some 8 } [10, 255, 0, 1]
    ∧ ({ addr := [10, 1, 2, 3], pfx := some 8 } : Entry).WF := by
  refine ⟨by decide, by decide, by decide, by decide, by decide, by decide, ?_, ?_⟩
  · right; decide
  · exact ⟨Or.inl rfl, by intro n h; simp at h; subst h; decide⟩

/-- Non-vacuity of the prefix lemma: `/20` on 4 bytes. -/
example : andBytes [10, 1, 0x2f, 3] (cidrMaskLoop 20 4) = andBytes [10, 1, 0x20, 0xff] (cidrMaskLoop 20 4)
    ∧ beNat [10, 1, 0x2f, 3] / 2 ^ (8 * 4 - 20) = beNat [10, 1, 0x20, 0xff] / 2 ^ (8 * 4 - 20) := by decide

/-- **`A/32` and `A/128` are the single address `A`.** -/
theorem full_prefix_is_single_address (e : Entry) (c : Bytes) (h : e.WF)
    (hp : e.pfx = some (8 * e.addr.length)) :
    uniformMatch e c = uniformMatch { e with pfx := none } c := by
  by_cases hc : c.length = 4 ∨ c.length = 16
  · obtain ⟨addr, pfx⟩ := e
    simp only at hp
    subst hp
    have hn : (if addr.length = 4 then 8 * addr.length + 96 else 8 * addr.length) = 128 := by
      rcases h.1 with h4 | h16 <;> simp_all
    -- with all 128 bits in the prefix the network number is the address itself
    simp only [uniformMatch, hn, netNum, Nat.sub_self, Nat.pow_zero, Nat.div_one]
    congr 1
    rw [Bool.eq_iff_iff, beq_iff_eq, beq_iff_eq]
    exact ⟨beNat_inj _ _ (by rw [as16_len addr h.1, as16_len c hc]), congrArg beNat⟩
  · rw [uniformMatch_bad_len _ c hc, uniformMatch_bad_len _ c hc]

/-- **`::/0` (any block of 0 bits written in IPv6 form) holds every client
    address**, IPv4 ones included (that is the repaired finding). -/
theorem prefix_zero_v6_admits_every_address (addr c : Bytes) (ha : addr.length = 16) :
    uniformMatch { addr := addr, pfx := some 0 } c = (c.length == 4 || c.length == 16) := by
  by_cases hc : c.length = 4 ∨ c.length = 16
  · -- both 128-bit numbers are below `2^128`, their network numbers of 0 bits are 0
    have h1 := beNat_lt (as16 addr)
    have h2 := beNat_lt (as16 c)
    rw [as16_len addr (Or.inr ha)] at h1
    rw [as16_len c hc] at h2
    simp only [uniformMatch, if_neg (show ¬ addr.length = 4 by omega), netNum, Nat.sub_zero,
      Nat.div_eq_of_lt (show beNat (as16 addr) < 2 ^ 128 from h1), Nat.div_eq_of_lt (show beNat (as16 c) < 2 ^ 128 from h2),
      beq_self_eq_true, Bool.and_true]
  · rw [uniformMatch_bad_len _ c hc, len_ok_false c hc]

/-- **`0.0.0.0/0` (any dotted-quad block of 0 bits) holds exactly the IPv4 and
    IPv4-mapped clients**, and no IPv6 client. -/
theorem prefix_zero_v4_admits_exactly_v4 (addr c : Bytes) (ha : addr.length = 4) :
    uniformMatch { addr := addr, pfx := some 0 } c = (to4 c).isSome := by
  have hwf : ({ addr := addr, pfx := some 0 } : Entry).WF := ⟨Or.inl ha, by intro n hn; simp at hn; omega⟩
  cases hc : to4 c with
  | none =>
    exact uniformMatch_v4Block_v6client _ c hwf (by simp [v4Block, ha]) hc
  | some c4 =>
    have hc4 := (to4_some hc).1
    simp only [uniformMatch, (to4_some hc).2.2, Bool.true_and, ha, if_true, as16_len4 addr ha,
      (to4_some hc).2.1, Option.isSome_some]
    -- the network number of 0 bits of the last four bytes is 0, whatever they are
    have h1 := netNum32_lt addr 0 ha (by omega)
    have h2 := netNum32_lt c4 0 hc4 (by omega)
    rw [netNum_common_prefix _ _ _ 0 ha hc4 (by omega), Nat.lt_one_iff.mp h1, Nat.lt_one_iff.mp h2]
    rfl

/-- **An entry that does not parse refuses the whole list** (the namespace is
    not created / the reload is rejected): `parseAllowIps` fails exactly when
    some non-blank entry is meaningless. -/
theorem unparsable_entry_refuses_list (pa : Bytes → Option Addr) (hpa : PAwf pa) (l : List Bytes) :
    parseAllowIps pa l = .fail ↔ ∃ t ∈ l, (trimSpace t).length ≠ 0 ∧ denote pa (trimSpace t) = none := by
  rw [parseAllowIps_eq pa hpa l, ← listed_eq_none_iff]
  cases listed pa l <;> simp

/-- **No entry is silently dropped**: a loaded list has one `IPInfo` per
    non-blank entry text. -/
theorem no_entry_dropped (pa : Bytes → Option Addr) (l : List Bytes) (infos : List IPInfo)
    (h : parseAllowIps pa l = .ok infos) :
    infos.length = (l.filter fun t => (trimSpace t).length ≠ 0).length := by
  induction l generalizing infos with
  | nil => simp [parseAllowIps] at h; subst h; rfl
  | cons s rest ih =>
    unfold parseAllowIps at h
    by_cases hb : (trimSpace s).length = 0
    · simp only [hb, if_true] at h
      have hb' : trimSpace s = [] := List.length_eq_zero_iff.mp hb
      simp [hb', ih infos h]
    · simp only [hb, if_false] at h
      cases hp : parseIPInfo pa (trimSpace s) with
      | none => rw [hp] at h; simp at h
      | some info =>
        rw [hp] at h
        cases hr : parseAllowIps pa rest with
        | ok l' =>
          rw [hr] at h
          simp only [R.ok.injEq] at h
          subst h
          have hb' : ¬ trimSpace s = [] := fun h0 => hb (by rw [h0]; rfl)
          simp [hb', ih l' hr]
        | fail => rw [hr] at h; simp at h
        | panic => rw [hr] at h; simp at h

/-- **A list with a non-blank entry never becomes the open list**: whatever the
    entries are, if the namespace loads then the client is admitted only by a
    matching entry — the "no entry = everyone" branch is not taken. -/
theorem nonblank_list_never_open (pa : Bytes → Option Addr) (l : List Bytes) (infos : List IPInfo) (c : Bytes)
    (h : parseAllowIps pa l = .ok infos) (hne : ∃ t ∈ l, (trimSpace t).length ≠ 0) :
    infos ≠ [] ∧ isClientIPAllowed infos c = matchAny infos c := by
  have hlen := no_entry_dropped pa l infos h
  obtain ⟨t, ht, hb⟩ := hne
  have : 0 < (l.filter fun t => (trimSpace t).length ≠ 0).length :=
    List.length_pos_of_mem (List.mem_filter.mpr ⟨ht, by simpa using hb⟩)
  have hpos : infos.length ≠ 0 := by omega
  refine ⟨by intro h0; subst h0; simp at hpos, ?_⟩
  simp [isClientIPAllowed, hpos]

/-- **An octet with a leading zero makes the dotted quad unparsable**
    (`010.0.0.1`, `192.168.001.1`): it is neither read as octal nor as decimal. -/
theorem leading_zero_octet_rejected (s p : Bytes) (hp : p ∈ splitOn 0x2e s) (hl : p.length > 1)
    (h0 : p.head? = some 0x30) : parseIPv4Fields s = none := by
  unfold parseIPv4Fields
  have hn : none ∈ (splitOn 0x2e s).map v4Field :=
    List.mem_map.mpr ⟨p, hp, by
      cases h : v4Field p with
      | none => rfl
      | some v => exact absurd ⟨hl, h0⟩ (v4Field_decimal p v h).2.2.1⟩
  split
  · rename_i a b c d heq
    rw [heq] at hn
    simp at hn
  · rfl

/-- The dotted quads the reference syntax accepts are exactly four decimal
    fields as above, and the address bytes are their values. -/
theorem parseIPv4Fields_decimal (s b : Bytes) (h : parseIPv4Fields s = some b) :
    ∃ p1 p2 p3 p4, splitOn 0x2e s = [p1, p2, p3, p4]
      ∧ b.map UInt8.toNat = [decVal p1, decVal p2, decVal p3, decVal p4]
      ∧ ∀ p ∈ [p1, p2, p3, p4], p ≠ [] ∧ p.all isDigit = true ∧ ¬ (p.length > 1 ∧ p.head? = some 0x30) := by
  unfold parseIPv4Fields at h
  split at h
  · rename_i a b' c d heq
    simp only [Option.some.injEq] at h
    subst h
    generalize splitOn 0x2e s = l at heq
    -- four results of the map: four pieces
    obtain ⟨p1, l, rfl, e1, heq⟩ := List.map_eq_cons_iff.mp heq
    obtain ⟨p2, l, rfl, e2, heq⟩ := List.map_eq_cons_iff.mp heq
    obtain ⟨p3, l, rfl, e3, heq⟩ := List.map_eq_cons_iff.mp heq
    obtain ⟨p4, l, rfl, e4, heq⟩ := List.map_eq_cons_iff.mp heq
    cases List.map_eq_nil_iff.mp heq
    have d1 := v4Field_decimal p1 a e1
    have d2 := v4Field_decimal p2 b' e2
    have d3 := v4Field_decimal p3 c e3
    have d4 := v4Field_decimal p4 d e4
    refine ⟨p1, p2, p3, p4, rfl, ?_, ?_⟩
    · simp [d1.2.2.2.2.2, d2.2.2.2.2.2, d3.2.2.2.2.2, d4.2.2.2.2.2]
    · intro p hp
      simp only [List.mem_cons, List.not_mem_nil, or_false] at hp
      rcases hp with rfl | rfl | rfl | rfl
      · exact ⟨d1.1, d1.2.1, d1.2.2.1⟩
      · exact ⟨d2.1, d2.2.1, d2.2.2.1⟩
      · exact ⟨d3.1, d3.2.1, d3.2.2.1⟩
      · exact ⟨d4.1, d4.2.1, d4.2.2.1⟩
  · simp at h

/-- `010.0.0.1`, `192.168.001.1`, `::ffff:010.1.1.1`, `010.0.0.1/8` -/
def exOctal1 : Bytes := [0x30, 0x31, 0x30, 0x2e, 0x30, 0x2e, 0x30, 0x2e, 0x31]
def exOctal2 : Bytes := [0x31, 0x39, 0x32, 0x2e, 0x31, 0x36, 0x38, 0x2e, 0x30, 0x30, 0x31, 0x2e, 0x31]
def exOctal3 : Bytes := [0x3a, 0x3a, 0x66, 0x66, 0x66, 0x66, 0x3a, 0x30, 0x31, 0x30, 0x2e, 0x31, 0x2e, 0x31, 0x2e, 0x31]
def exOctal4 : Bytes := [0x30, 0x31, 0x30, 0x2e, 0x30, 0x2e, 0x30, 0x2e, 0x31, 0x2f, 0x38]
/-- `10.0.0.1` -/
def exTen : Bytes := [0x31, 0x30, 0x2e, 0x30, 0x2e, 0x30, 0x2e, 0x31]

set_option maxRecDepth 100000 in
/-- A list holding an entry with a leading-zero octet is refused as a whole —
    also next to valid entries, also in the IPv4-mapped and the block form —
    so neither 8.0.0.1 nor 10.0.0.1 is admitted on its account. -/
example :
    listed netipParseAddr [exOctal1] = none ∧ listed netipParseAddr [exTen, exOctal2] = none
    ∧ listed netipParseAddr [exOctal3] = none ∧ listed netipParseAddr [exOctal4] = none
    ∧ parseAllowIps netipParseAddr [exTen, exOctal1] = .fail
    ∧ (listed netipParseAddr [exTen]).isSome = true := by decide +kernel

theorem indexOf_not_mem (c : UInt8) : ∀ (a : Bytes), c ∉ a → indexOf c a = none := by
  intro a
  induction a with
  | nil => intro _; rfl
  | cons x xs ih =>
    intro h
    simp only [List.mem_cons, not_or] at h
    have hx : ¬ x = c := fun e => h.1 e.symm
    simp [indexOf, hx, ih h.2]

theorem indexOf_append (c : UInt8) : ∀ (a b : Bytes), c ∉ a →
    indexOf c (a ++ c :: b) = some a.length := by
  intro a
  induction a with
  | nil => intro b _; simp [indexOf]
  | cons x xs ih =>
    intro b h
    simp only [List.mem_cons, not_or] at h
    have hx : ¬ x = c := fun e => h.1 e.symm
    simp [indexOf, hx, ih b h.2]

theorem lastIndexOf_append (c : UInt8) (a b : Bytes) (h : c ∉ b) :
    lastIndexOf c (a ++ c :: b) = some a.length := by
  unfold lastIndexOf
  have e : (a ++ c :: b).reverse = b.reverse ++ c :: a.reverse := by simp
  rw [e, indexOf_append c b.reverse a.reverse (by simpa using h)]
  simp only [Option.map_some, List.length_reverse, List.length_append, List.length_cons, Option.some.injEq]
  omega

/-- `[host]:port`: the last colon follows the only `]`. -/
theorem splitHost_bracketed (host port : Bytes) (hh1 : 0x5b ∉ host) (hh2 : 0x5d ∉ host)
    (hp1 : 0x3a ∉ port) (hp2 : 0x5b ∉ port) (hp3 : 0x5d ∉ port) :
    splitHost (0x5b :: (host ++ 0x5d :: 0x3a :: port)) = some host := by
  have h1 := lastIndexOf_append 0x3a (0x5b :: host ++ [0x5d]) port hp1
  have h2 := indexOf_append 0x5d (0x5b :: host) (0x3a :: port) (by simp [hh2])
  simp only [List.cons_append, List.append_assoc, List.nil_append, List.length_cons, List.length_append,
    List.length_nil] at h1 h2
  simp [splitHost, h1, h2, hh1, hp2, hp3]

theorem splitHost_plain (host port : Bytes) (hh0 : 0x3a ∉ host) (hh1 : 0x5b ∉ host) (hh2 : 0x5d ∉ host)
    (hp1 : 0x3a ∉ port) (hp2 : 0x5b ∉ port) (hp3 : 0x5d ∉ port) :
    splitHost (host ++ 0x3a :: port) = some host := by
  have hh : (host ++ 0x3a :: port).head? ≠ some 0x5b := by
    cases host with
    | nil => simp
    | cons x xs => simp only [List.mem_cons, not_or] at hh1; simpa [eq_comm] using hh1.1
  unfold splitHost
  rw [lastIndexOf_append 0x3a host port hp1]
  simp only [hh, if_false, List.take_left']
  simp [hh0, hh1, hh2, hp2, hp3]

/-- **The proxy recovers exactly the host the connection wrote.**  The text of
    a TCP remote address is `JoinHostPort(host, port)` (`host` = the IP's text,
    `%zone` appended); for every host without brackets and every port without
    colon or brackets `net.SplitHostPort` as modelled gives that host back. -/
theorem splitHost_joinHostPort (host port : Bytes) (hh1 : 0x5b ∉ host) (hh2 : 0x5d ∉ host)
    (hp1 : 0x3a ∉ port) (hp2 : 0x5b ∉ port) (hp3 : 0x5d ∉ port) :
    splitHost (joinHostPort host port) = some host := by
  unfold joinHostPort
  by_cases hc : host.contains 0x3a = true
  · rw [if_pos hc, List.append_assoc, List.append_assoc]
    exact splitHost_bracketed host port hh1 hh2 hp1 hp2 hp3
  · rw [if_neg hc, List.append_assoc]
    exact splitHost_plain host port (by simpa using hc) hh1 hh2 hp1 hp2 hp3

/-- The client address `Session.IsAllowConnect` derives from the text of
    `RemoteAddr()`: host of `SplitHostPort` (empty on error), zone dropped,
    `net.ParseIP` (nil on failure). -/
def clientOf (pa : Bytes → Option Addr) (remote : Bytes) : Bytes :=
  let host := (splitHost remote).getD []
  let host := match indexOf 0x25 host with
    | some i => host.take i
    | none => host
  (parseIP pa host).getD []

theorem isAllowConnect_eq (pa : Bytes → Option Addr) (infos : List IPInfo) (remote : Bytes) :
    isAllowConnect pa infos remote = isClientIPAllowed infos (clientOf pa remote) := rfl

/-- The host text with its zone cut off. -/
def stripZone (host : Bytes) : Bytes :=
  match indexOf 0x25 host with
  | some i => host.take i
  | none => host

/-- **TCP clients** (`host:port`, `[v6]:port`, `[v6%zone]:port`): the client
    address is the parsed host, whatever the port and the zone. -/
theorem clientOf_tcp (pa : Bytes → Option Addr) (host port : Bytes) (hh1 : 0x5b ∉ host) (hh2 : 0x5d ∉ host)
    (hp1 : 0x3a ∉ port) (hp2 : 0x5b ∉ port) (hp3 : 0x5d ∉ port) :
    clientOf pa (joinHostPort host port) = (parseIP pa (stripZone host)).getD [] := by
  simp only [clientOf, splitHost_joinHostPort host port hh1 hh2 hp1 hp2 hp3, Option.getD_some, stripZone]

theorem conn_port_irrelevant (pa : Bytes → Option Addr) (infos : List IPInfo) (host p q : Bytes)
    (hh1 : 0x5b ∉ host) (hh2 : 0x5d ∉ host)
    (hp : 0x3a ∉ p ∧ 0x5b ∉ p ∧ 0x5d ∉ p) (hq : 0x3a ∉ q ∧ 0x5b ∉ q ∧ 0x5d ∉ q) :
    isAllowConnect pa infos (joinHostPort host p) = isAllowConnect pa infos (joinHostPort host q) := by
  rw [isAllowConnect_eq, isAllowConnect_eq, clientOf_tcp pa host p hh1 hh2 hp.1 hp.2.1 hp.2.2,
    clientOf_tcp pa host q hh1 hh2 hq.1 hq.2.1 hq.2.2]

/-- Unix sockets (`@`, a path, the empty text: `SplitHostPort` refuses them): the client is the nil IP. -/
theorem clientOf_no_hostport (pa : Bytes → Option Addr) (hpa0 : pa [] = none) (remote : Bytes)
    (h : splitHost remote = none) : clientOf pa remote = [] := by
  simp [clientOf, h, indexOf, parseIP, hpa0]

theorem nil_client_only_open_list (pa : Bytes → Option Addr) (hpa : PAwf pa) (l : List Bytes)
    (es : List Entry) (hl : listed pa l = some es) :
    (parseAllowIps pa l >>= fun infos => isClientIPAllowed infos []) = .ok es.isEmpty := by
  rw [allow_iff pa hpa l [], hl]
  have : es.any (fun e => uniformMatch e []) = false := by
    rw [List.any_eq_false]; intro e _; simp [uniformMatch]
  simp [this]

/-- **A unix-socket client is refused by every non-empty allow-list** (and, as
    every client, admitted by the empty one). -/
theorem no_address_client_refused (pa : Bytes → Option Addr) (hpa : PAwf pa) (hpa0 : pa [] = none)
    (l : List Bytes) (es : List Entry) (hl : listed pa l = some es) (remote : Bytes)
    (h : splitHost remote = none) :
    (parseAllowIps pa l >>= fun infos => isAllowConnect pa infos remote) = .ok es.isEmpty := by
  have : (fun infos => isAllowConnect pa infos remote) = fun infos => isClientIPAllowed infos [] := by
    funext infos; rw [isAllowConnect_eq, clientOf_no_hostport pa hpa0 remote h]
  rw [this]
  exact nil_client_only_open_list pa hpa l es hl

/-- The texts `@` (what an accepted unix-socket connection reports), the empty
    text, `/tmp/mysql.sock`: no host, no port. -/
example : splitHost [0x40] = none ∧ splitHost [] = none
    ∧ splitHost [0x2f, 0x74, 0x6d, 0x70, 0x2f, 0x6d, 0x79, 0x73, 0x71, 0x6c, 0x2e, 0x73, 0x6f, 0x63, 0x6b] = none ∧ netipParseAddr [] = none := by decide

/-- `127.0.0.1:44006` -/
def exRemote4 : Bytes := [0x31, 0x32, 0x37, 0x2e, 0x30, 0x2e, 0x30, 0x2e, 0x31, 0x3a, 0x34, 0x34, 0x30, 0x30, 0x36]
/-- `[::1]:54968` -/
def exRemote6 : Bytes := [0x5b, 0x3a, 0x3a, 0x31, 0x5d, 0x3a, 0x35, 0x34, 0x39, 0x36, 0x38]
/-- `[fe80::1%eth0]:3306` -/
def exRemoteZone : Bytes := [0x5b, 0x66, 0x65, 0x38, 0x30, 0x3a, 0x3a, 0x31, 0x25, 0x65, 0x74, 0x68, 0x30, 0x5d, 0x3a, 0x33, 0x33, 0x30, 0x36]
/-- `fe80::1%eth0` and `3306` -/
def exHostZone : Bytes := [0x66, 0x65, 0x38, 0x30, 0x3a, 0x3a, 0x31, 0x25, 0x65, 0x74, 0x68, 0x30]
def exPort : Bytes := [0x33, 0x33, 0x30, 0x36]

set_option maxRecDepth 100000 in
/-- Remote address texts as the kernel reports them (tcp4, tcp6, a scoped
    link-local peer) and the client addresses the proxy derives. -/
example :
    clientOf netipParseAddr exRemote4 = v4InV6Prefix ++ [127, 0, 0, 1]
    ∧ clientOf netipParseAddr exRemote6 = [0, 0, 0, 0, 0, 0, 0, 0, 0, 0, 0, 0, 0, 0, 0, 1]
    ∧ clientOf netipParseAddr exRemoteZone = [0xfe, 0x80, 0, 0, 0, 0, 0, 0, 0, 0, 0, 0, 0, 0, 0, 1]
    ∧ joinHostPort exHostZone exPort = exRemoteZone
    ∧ 0x5b ∉ exHostZone ∧ 0x5d ∉ exHostZone ∧ 0x3a ∉ exPort ∧ 0x5b ∉ exPort ∧ 0x5d ∉ exPort := by
  decide +kernel

theorem parseIPv4Fields_chars (s b : Bytes) (h : parseIPv4Fields s = some b) (c : UInt8) (hc : c ∈ s) :
    c = 0x2e ∨ isDigit c = true := by
  obtain ⟨p1, p2, p3, p4, hs, _, hall⟩ := parseIPv4Fields_decimal s b h
  by_cases hd : c = 0x2e
  · exact Or.inl hd
  · have hm : c ∈ (splitOn 0x2e s).flatten := by
      rw [splitOn_eq, Split.flatten_split]; exact List.mem_filter.mpr ⟨hc, by simpa using hd⟩
    obtain ⟨p, hp, hcp⟩ := List.mem_flatten.mp hm
    exact Or.inr (List.all_eq_true.mp (hall p (hs ▸ hp)).2.1 c hcp)

theorem netipParseAddr_wf : PAwf netipParseAddr := by
  intro s a h
  rcases netipParseAddr_some h with ⟨b, hb, rfl⟩ | h6
  · obtain ⟨_, _, _, _, _, hv, _⟩ := parseIPv4Fields_decimal s b hb
    exact Or.inl (by simpa using congrArg List.length hv)
  · exact Or.inr (parseIPv6_some s a h6).1

/-- `allow_iff` for the syntax that the check compares with `netip.ParseAddr`. -/
theorem allow_iff_netip (l : List Bytes) (c : Bytes) :
    (parseAllowIps netipParseAddr l >>= fun infos => isClientIPAllowed infos c)
      = match listed netipParseAddr l with
        | none => .fail
        | some es => .ok (es.isEmpty || es.any (fun e => uniformMatch e c)) :=
  allow_iff netipParseAddr netipParseAddr_wf l c

theorem netipParseAddr_zone (s : Bytes) (a : Addr) (h : netipParseAddr s = some a) :
    a.zone = s.contains 0x25 := by
  rcases netipParseAddr_some h with ⟨b, hb, rfl⟩ | h6
  · -- a dotted quad holds dots and digits only
    have : (0x25 : UInt8) ∉ s := fun hm => by
      rcases parseIPv4Fields_chars s b hb 0x25 hm with h1 | h1 <;> exact absurd h1 (by decide)
    simpa using this
  · exact (parseIPv6_some s a h6).2

/-- **A list entry with a zone identifier is refused** (`fe80::1%eth0`,
    `fe80::%eth0/10`, also a `%` in the prefix length): the allow-list has no
    zones; the zone of a *client* address is dropped instead (`clientOf`). -/
theorem zoned_entry_refused (t : Bytes) (h : (0x25 : UInt8) ∈ t) : denote netipParseAddr t = none := by
  have hz : ∀ a ad, netipParseAddr a = some ad → ad.zone = false → (0x25 : UInt8) ∉ a := fun a ad hp hz hm => by
    rw [netipParseAddr_zone a ad hp, List.contains_iff_mem.mpr hm] at hz
    cases hz
  unfold denote
  cases hc : denoteCIDR netipParseAddr t with
  | some e =>
    -- `t` is `a/m`; the `%` is not in the address `a`, nor is it `/`, nor one of the digits `m`
    obtain ⟨a, m, ad, hcut, hp, hzone, hok, hlen, _, _⟩ := denoteCIDR_some hc
    rw [cutSlash_some hcut, List.mem_append, List.mem_cons] at h
    rcases h with h | h | h
    · exact absurd h (hz a ad hp hzone)
    · cases h
    · exact absurd (dtoi_all_digits hok hlen _ h) (by decide)
  | none =>
    cases hp : netipParseAddr t with
    | none => rfl
    | some ad =>
      have : ad.zone = true := by rw [netipParseAddr_zone t ad hp]; exact List.contains_iff_mem.mpr h
      simp only [this, if_true]

/-- `fe80::1%eth0`, `fe80::%eth0/10` -/
def exZone1 : Bytes := [0x66, 0x65, 0x38, 0x30, 0x3a, 0x3a, 0x31, 0x25, 0x65, 0x74, 0x68, 0x30]
def exZone2 : Bytes := [0x66, 0x65, 0x38, 0x30, 0x3a, 0x3a, 0x25, 0x65, 0x74, 0x68, 0x30, 0x2f, 0x31, 0x30]
example : (0x25 : UInt8) ∈ exZone1 ∧ (0x25 : UInt8) ∈ exZone2
    ∧ netipParseAddr exZone1 = some { bytes := [0xfe, 0x80, 0, 0, 0, 0, 0, 0, 0, 0, 0, 0, 0, 0, 0, 1], zone := true } := by
  decide

/-- **No client crashes the proxy by the kind of its connection**, and a client
    with valid credentials gets the OK packet exactly when `IsAllowConnect`
    admits its remote address — over TCP and over a unix socket alike. -/
theorem onConn_admits_iff (pa : Bytes → Option Addr) (infos : List IPInfo) (kind : ConnKind) (remote : Bytes) :
    onConn pa infos kind remote ≠ .ok .crash ∧
    (onConn pa infos kind remote = .ok .ok ↔ isAllowConnect pa infos remote = .ok true) ∧
    (onConn pa infos kind remote = .ok .denied ↔ isAllowConnect pa infos remote = .ok false) := by
  unfold onConn
  cases h : isAllowConnect pa infos remote with
  | ok b => cases b <;> simp
  | fail => simp
  | panic => simp

/-- **Pinned witness of the repaired defect.**  Before 80a0ec2, a client
    arriving over a unix socket (proto_type=unix) made `newSession` panic on
    `co.(*net.TCPConn)` before `onConn` had installed its recover: the process
    ended, whatever the allow-list.  The repaired handler treats the client as
    one without an address: admitted by the empty list only. -/
theorem unix_client_crashed_pinned_witness :
    onConnPinned netipParseAddr [] .unix [0x40] = .ok .crash
    ∧ onConn netipParseAddr [] .unix [0x40] = .ok .ok
    ∧ (parseAllowIps netipParseAddr [exTen] >>= fun infos => onConn netipParseAddr infos .unix [0x40]) = .ok .denied := by
  decide

section HexCase

theorem lowerHex_eq_zero (c : UInt8) : (lowerHex c = 0x30) = (c = 0x30) :=
  lowerHex_cases c (fun _ h => by rw [h]) (by decide)

/-- **An entry means the same whatever the case of its hex digits**:
    `2001:DB8::/32` is `2001:db8::/32`, `::FFFF:1.2.3.4` is `::ffff:1.2.3.4`. -/
theorem entry_hex_case_irrelevant (t : Bytes) :
    denote netipParseAddr (lowerAll t) = denote netipParseAddr t := by
  have hc : denoteCIDR netipParseAddr (lowerAll t) = denoteCIDR netipParseAddr t := by
    unfold denoteCIDR
    rw [cutSlash_lower]
    cases cutSlash t with
    | none => rfl
    | some p =>
      obtain ⟨a, m⟩ := p
      simp only [Option.map_some, netipParseAddr_lower, dtoi_lower, List.length_map]
  unfold denote
  rw [hc, netipParseAddr_lower]

/-- `2001:DB8::AbCd/32` and `2001:db8::abcd/32` -/
def exUpper : Bytes :=
  [0x32, 0x30, 0x30, 0x31, 0x3a, 0x44, 0x42, 0x38, 0x3a, 0x3a, 0x41, 0x62, 0x43, 0x64, 0x2f, 0x33, 0x32]
def exLower : Bytes :=
  [0x32, 0x30, 0x30, 0x31, 0x3a, 0x64, 0x62, 0x38, 0x3a, 0x3a, 0x61, 0x62, 0x63, 0x64, 0x2f, 0x33, 0x32]

set_option maxRecDepth 100000 in
example : lowerAll exUpper = exLower
    ∧ denote netipParseAddr exUpper
      = some { addr := [0x20, 0x01, 0x0d, 0xb8, 0, 0, 0, 0, 0, 0, 0, 0, 0, 0, 0xab, 0xcd], pfx := some 32 } := by
  decide +kernel

end HexCase

section Reload
open GaeaVerif.MgrReload GaeaVerif.IPAllowReload

/-! ### reload: the list in force while the configuration changes

  `Model/IPAllowReload.lean` puts the allow-list on top of the reload machine
  of `Model/MgrReload.lean` (`Lemmas/MgrReload.lean`: `Rel`, `step_refines`, `prepare_ready`, `Ready.commit`;
  of C31's results, `prepare_keeps_view` and `reader_sees_complete_generation`).  Structural facts of the source the
  composition relies on, extracted on every run: -/

/-- `allowips` of a namespace object is assigned once, in `NewNamespace`: the
    list a connecting client is judged by is immutable. -/
theorem allowips_written_once :
    Gen.c35AllowipsWriters = 1 ∧ Gen.c35AllowipsWriterIsNewNamespace = true := by decide

/-- `Session.Handshake` refuses the client with an error when
    `IsAllowConnect()` is false, before it writes the OK packet. -/
theorem handshake_checks_allow_list : Gen.c35HandshakeChecksAllowList = true := by decide

/-- util's own `parseAllowIps` (which drops entries that do not parse) is
    called by nothing. -/
theorem util_parseAllowIps_unused : Gen.c35UtilParseAllowIpsCallers = 0 := by decide

theorem parseAllowIps_ne_panic (pa : Bytes → Option Addr) (hpa : PAwf pa) (l : List Bytes) :
    parseAllowIps pa l ≠ .panic := by
  rw [parseAllowIps_eq pa hpa l]
  cases listed pa l <;> simp

/-- `NewNamespace` rejects a configuration exactly when an entry of its
    `allowed_ip` is meaningless. -/
theorem buildable_iff (pa : Bytes → Option Addr) (hpa : PAwf pa) (cfg : Cfg) (v : Nat) :
    buildable pa cfg v = false ↔
      ∃ t ∈ cfg v, (trimSpace t).length ≠ 0 ∧ denote pa (trimSpace t) = none := by
  rw [← unparsable_entry_refuses_list pa hpa (cfg v)]
  unfold buildable
  have := parseAllowIps_ne_panic pa hpa (cfg v)
  cases h : parseAllowIps pa (cfg v) with
  | ok _ => simp
  | fail => simp
  | panic => exact absurd h this

/-- What the property asks for when version `a` is in force (`none`: the
    namespace does not exist — nobody connects). -/
def specDecision (pa : Bytes → Option Addr) (cfg : Cfg) (a : Option Nat) (remote : Bytes) : R Bool :=
  match a with
  | none => .ok false
  | some v => parseAllowIps pa (cfg v) >>= fun infos => isAllowConnect pa infos remote

theorem connect_eq_spec (pa : Bytes → Option Addr) (cfg : Cfg) {m : Manager} {s : Spec} (h : C31.Rel m s)
    (remote : Bytes) : connect pa cfg m remote = specDecision pa cfg (s.active 0) remote := by
  unfold connect specDecision
  rw [(C31.view_eq_active h 0).1]
  cases s.active 0 <;> rfl

/-- The reference run: configuration operations answer what the manager
    answers and move the abstract state of C31 (`Spec.step`: a successful
    prepare records the version, a successful commit activates the version last
    prepared, a delete removes the namespace, a failed operation changes
    nothing); every connecting client gets `specDecision` of the version in force. -/
def refRun (pa : Bytes → Option Addr) (cfg : Cfg) (m : Manager) (s : Spec) : List IPAllowReload.Op → List Ans
  | [] => []
  | op :: rest =>
    match op.mgr pa cfg with
    | some o =>
      let r := MgrReload.step m o
      .out r.2 :: refRun pa cfg r.1 (s.step o r.2) rest
    | none =>
      match op with
      | .conn remote => .dec (specDecision pa cfg (s.active 0) remote) :: refRun pa cfg m s rest
      | _ => .dec .panic :: refRun pa cfg m s rest

theorem run_eq_refRun (pa : Bytes → Option Addr) (cfg : Cfg) {m : Manager} {s : Spec} (h : C31.Rel m s)
    (ops : List IPAllowReload.Op) : IPAllowReload.run pa cfg m ops = refRun pa cfg m s ops := by
  induction ops generalizing m s with
  | nil => rfl
  | cons op rest ih =>
    cases op with
    | prepare v =>
      simp only [IPAllowReload.run, IPAllowReload.step, refRun, IPAllowReload.Op.mgr]
      rw [ih (C31.step_refines h (.prepare 0 v (buildable pa cfg v))).1]
    | commit =>
      simp only [IPAllowReload.run, IPAllowReload.step, refRun, IPAllowReload.Op.mgr]
      rw [ih (C31.step_refines h (.commit 0)).1]
    | delete =>
      simp only [IPAllowReload.run, IPAllowReload.step, refRun, IPAllowReload.Op.mgr]
      rw [ih (C31.step_refines h (.delete 0)).1]
    | conn remote =>
      simp only [IPAllowReload.run, IPAllowReload.step, refRun, IPAllowReload.Op.mgr]
      rw [connect_eq_spec pa cfg h remote, ih h]

/-- **C35 across reloads, every history.**  On a proxy started with any list,
    after any sequence of prepares (of loadable and of unparsable lists),
    commits, deletes and connecting clients, every client is judged by the list
    of the configuration last committed — never by a list that was only
    prepared, never by a list that failed to parse, and by nothing at all once
    the namespace is deleted. -/
theorem reload_history_conn (pa : Bytes → Option Addr) (cfg : Cfg) (ops : List IPAllowReload.Op) :
    IPAllowReload.run pa cfg (start pa cfg) ops
      = refRun pa cfg (start pa cfg) (Spec.init (if buildable pa cfg 0 then [(0, 0)] else [])) ops :=
  run_eq_refRun pa cfg (C31.rel_init _) ops

/-- **A replacement list that does not parse is refused and changes nothing**:
    the prepare answers the build error and the manager is the one before —
    in particular the namespace does not become open. -/
theorem unparsable_prepare_changes_nothing (pa : Bytes → Option Addr) (cfg : Cfg) {m : Manager} {s : Spec}
    (h : C31.Rel m s) (v : Nat) (hb : buildable pa cfg v = false) :
    IPAllowReload.step pa cfg m (.prepare v) = (m, .out .errBuild) := by
  simp only [IPAllowReload.step, MgrReload.step, hb, C31.prepare_unbuildable h]

/-- A commit after it still has nothing to commit (unless something else was
    prepared before): the clients keep being judged by the old list. -/
theorem unparsable_prepare_keeps_decisions (pa : Bytes → Option Addr) (cfg : Cfg) {m : Manager} {s : Spec}
    (h : C31.Rel m s) (v : Nat) (hb : buildable pa cfg v = false) (remote : Bytes) :
    connect pa cfg (IPAllowReload.step pa cfg m (.prepare v)).1 remote = connect pa cfg m remote := by
  rw [unparsable_prepare_changes_nothing pa cfg h v hb]

/-- **Prepare + commit puts exactly the new list in force.** -/
theorem commit_puts_prepared_list_in_force (pa : Bytes → Option Addr) (cfg : Cfg) {m : Manager} {s : Spec}
    (h : C31.Rel m s) (v : Nat) (hb : buildable pa cfg v = true) (remote : Bytes) :
    let m1 := (IPAllowReload.step pa cfg m (.prepare v)).1
    (IPAllowReload.step pa cfg m1 .commit).2 = .out .ok ∧
    connect pa cfg m1 remote = connect pa cfg m remote ∧
    connect pa cfg (IPAllowReload.step pa cfg m1 .commit).1 remote
      = (parseAllowIps pa (cfg v) >>= fun infos => isAllowConnect pa infos remote) := by
  have hc := (C31.prepare_ready h 0 v).commit
  simp only [IPAllowReload.step, hb, MgrReload.step]
  refine ⟨by rw [hc.1], ?_, ?_⟩
  · simp only [connect, (C31.prepare_keeps_view h 0 v true 0).1]
  · simp only [connect, hc.2.1]

/-- **Clients connecting while a configuration operation runs** (between any
    two of its stores, from any reachable state) are judged by the list in
    force before the operation or by the one in force after it — whole lists,
    never a mixture, never the empty list of a half-built namespace. -/
theorem conn_during_reload_old_or_new (pa : Bytes → Option Addr) (cfg : Cfg) {m : Manager} {s : Spec}
    (h : C31.Rel m s) (op : MgrReload.Op) (remote : Bytes) :
    ∀ m' ∈ (trace m op).1,
      connect pa cfg m' remote = connect pa cfg m remote ∨
      connect pa cfg m' remote = connect pa cfg (MgrReload.step m op).1 remote := by
  intro m' hm'
  rcases (C31.reader_sees_complete_generation h op m' hm').2 with h1 | h1
  · left; simp only [connect, h1 0]
  · right; simp only [connect, h1 0]

/-- A client both lists agree on gets that answer throughout the reload. -/
theorem conn_during_reload_agreed (pa : Bytes → Option Addr) (cfg : Cfg) {m : Manager} {s : Spec}
    (h : C31.Rel m s) (op : MgrReload.Op) (remote : Bytes) (d : R Bool)
    (hold : connect pa cfg m remote = d) (hnew : connect pa cfg (MgrReload.step m op).1 remote = d) :
    ∀ m' ∈ (trace m op).1, connect pa cfg m' remote = d := by
  intro m' hm'
  rcases conn_during_reload_old_or_new pa cfg h op remote m' hm' with h1 | h1
  · rw [h1, hold]
  · rw [h1, hnew]

/-- `10.0.0.0/8`, `010.0.0.1`, `9.9.9.9:1` -/
def exTenBlock : Bytes := [0x31, 0x30, 0x2e, 0x30, 0x2e, 0x30, 0x2e, 0x30, 0x2f, 0x38]
def exBadEntry : Bytes := exOctal1
def exOutsider : Bytes := [0x39, 0x2e, 0x39, 0x2e, 0x39, 0x2e, 0x39, 0x3a, 0x31]
/-- Version 0 = `["10.0.0.0/8"]`, version 1 = `["010.0.0.1"]` (does not parse),
    version 2 = `[]` (open). -/
def exCfg : Cfg := fun v => if v = 0 then [exTenBlock] else if v = 1 then [exBadEntry] else []

set_option maxRecDepth 100000 in
/-- Non-vacuity: the outsider 9.9.9.9 is refused, stays refused after the
    attempt to load the unparsable list and the commit that follows it, is
    admitted once the empty list is committed, and refused after the delete. -/
example :
    IPAllowReload.run netipParseAddr exCfg (start netipParseAddr exCfg)
      [.conn exOutsider, .prepare 1, .commit, .conn exOutsider, .prepare 2, .conn exOutsider, .commit,
       .conn exOutsider, .delete, .conn exOutsider]
    = [.dec (.ok false), .out .errBuild, .out .errNotPrepared, .dec (.ok false), .out .ok, .dec (.ok false),
       .out .ok, .dec (.ok true), .out .ok, .dec (.ok false)] := by decide +kernel

/-- `x` and `10.0.0.0/8,x` -/
def exUtil1 : Bytes := [0x78]
def exUtil2 : Bytes := exTenBlock ++ [0x2c, 0x78]

/-- **Witness (dead code).**  util's comma-separated `parseAllowIps` drops an
    entry that does not parse: the non-empty text `x` yields the empty list,
    which `IsClientIPAllowed` reads as "everyone".  The loader of the proxy
    (`parseAllowIps` of proxy/server) refuses the same entries; the util
    function has no caller (`util_parseAllowIps_unused`). -/
theorem util_parseAllowIps_drops_witness :
    utilParseAllowIps netipParseAddr exUtil1 = []
    ∧ isClientIPAllowed (utilParseAllowIps netipParseAddr exUtil1) [9, 9, 9, 9] = .ok true
    ∧ (utilParseAllowIps netipParseAddr exUtil2).length = 1
    ∧ parseAllowIps netipParseAddr [exUtil1] = .fail
    ∧ parseAllowIps netipParseAddr [exTenBlock, exUtil1] = .fail := by decide +kernel

end Reload

end GaeaVerif.C35
