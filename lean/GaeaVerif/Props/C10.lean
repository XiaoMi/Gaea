import GaeaVerif.Lemmas.C10Load
import GaeaVerif.Lemmas.C10Place
import GaeaVerif.Gen.Consts
/-
  C10 — Accepted configurations load and give an unambiguous routing table.

  "Every namespace configuration that the control plane's validation accepts
   can be loaded by a proxy, and in the loaded routing table each physical
   table of a sharded or global table is listed once and belongs to exactly
   one slice; the sharding function of a hash, mod, range or mycat rule only
   names listed tables."

  Theorems about `Model/C10Config.lean` (the model of Namespace.Verify,
  router.NewRouter and the FindForKey functions after the repairs listed in
  known/C10.json; the tie to /repo is the correspondence check `gvh run C10`).
-/
namespace GaeaVerif.C10
open GaeaVerif

/-! ### constants regenerated from /repo on every run (harness/extract/c10.go) -/

/-- `PartitionLength` (both copies), the mask `andValue = PartitionLength - 1`
    (the model takes keys modulo `partitionLength`), the padding-mod constants
    and the rule-type names of the source are the ones the model uses. -/
theorem constants_tie :
    Gen.c10ModelsPartitionLength = (partitionLength : Int) ∧ Gen.c10RouterPartitionLength = (partitionLength : Int) ∧
    Gen.c10RouterAndValueIsPartitionLengthMinus1 = true ∧ partitionLength = 1024 ∧
    Gen.c10ModelsPaddingModLeftEnd = 0 ∧ Gen.c10RouterPaddingModLeftEnd = 0 ∧
    Gen.c10ModelsPaddingModRightEnd = 1 ∧ Gen.c10RouterPaddingModRightEnd = 1 ∧
    Gen.c10ModelsPaddingModDefaultMod = 2 ∧ Gen.c10RouterPaddingModDefaultMod = 2 ∧
    Gen.c10TypeDefault = tDefault ∧ Gen.c10TypeGlobal = tGlobal ∧ Gen.c10TypeLinked = tLinked ∧
    Gen.c10TypeMod = tMod ∧ Gen.c10TypeHash = tHash ∧ Gen.c10TypeRange = tRange ∧ Gen.c10TypeYear = tYear ∧
    Gen.c10TypeMonth = tMonth ∧ Gen.c10TypeDay = tDay ∧ Gen.c10TypeMycatMod = tMycatMod ∧
    Gen.c10TypeMycatLong = tMycatLong ∧ Gen.c10TypeMycatString = tMycatString ∧
    Gen.c10TypeMycatMurmur = tMycatMurmur ∧ Gen.c10TypeMycatPadding = tMycatPadding := by decide +kernel

/-! ### validation itself never panics -/

/-- `Namespace.Verify` never panics, whatever the slices, default slice and
    shard rules are (before 0d18265 `partition_count: "3,-1"` made it panic, and
    before accbf50 so did `locations: [-1]` on a range rule). -/
theorem verify_never_panics (n : Namespace) : verify n ≠ .panic := (verify_safe n).1

/-- the statement is about a model in which panics are possible outcomes: the
    router's own parser does panic on a month range that Verify refuses -/
example : parseDateRuleSliceInfos (parseMonthRange false)
    [['2','0','1','5','0','1'], ['2','0','1','5','2','5','-','2','0','1','6','0','1']] [['a'], ['b']] = .panic := by
  decide +kernel

/-! ### accepted configurations load -/

/-- Every namespace accepted by `Namespace.Verify` is loaded by `NewRouter`:
    it returns a router, neither an error nor a panic. -/
theorem verify_implies_load (n : Namespace) (h : verify n = .ok ()) : ∃ r, newRouter n = .ok r :=
  (verify_safe n).2 () h

/-! ### the loaded routing table is unambiguous -/

/-- what C10 says of one stored rule (`names`: the slices of the namespace) -/
structure RuleUnambiguous (names : List Str) (b : BaseRule) : Prop where
  /-- the sub tables are listed in strictly ascending order: each one once -/
  ascending : b.subTableIndexes.Pairwise (· < ·)
  /-- `tableToSlice` is defined exactly on the listed sub tables -/
  defined : ∀ i, i ∈ b.subTableIndexes ↔ (mapGet b.tableToSlice i).isSome
  /-- … with a slice index that `GetSlice` resolves (every rule type; for global
      rules this needed fix c29cd53) -/
  slice : ∀ i v, mapGet b.tableToSlice i = some v → 0 ≤ v ∧ v < b.slices.length
  /-- … to a slice of the namespace -/
  known : ∀ s ∈ b.slices, s ∈ names
  /-- a Mycat or global rule names one physical database per listed sub table
      (`GetDatabaseNameByTableIndex` is defined on every listed index) -/
  databases : isMycatShardingRule (rtOf b.ruleType) = true ∨ rtOf b.ruleType = .global →
    b.mycatDatabases.length = b.subTableIndexes.length

theorem parsed_rule_unambiguous (names : List Str) (s : Shard) (hs : s.slices.all (includeSlice names) = true)
    (b : BaseRule) (hb : parseRule s = .ok b) : RuleUnambiguous names b := by
  have sp := parseRule_spec s b hb
  obtain ⟨hasc, hkeys, hrange⟩ := sp.2.2.2.2.1
  refine ⟨hasc, ?_, ?_, ?_, ?_⟩
  · intro i
    rw [mapGet_isSome_iff, hkeys]
  · intro i v hv
    rw [sp.2.2.2.1]
    exact hrange (i, v) (mapGet_mem _ _ _ hv)
  · intro x hx
    rw [sp.2.2.2.1] at hx
    exact mem_of_includeSlice (List.all_eq_true.mp hs x hx)
  · intro hm
    rw [sp.2.2.1] at hm
    exact parseRule_databases s b hb hm

/-- In the router built by `NewRouter`, every stored rule (the rule a linked
    rule links to, for a linked rule) lists each sub table exactly once, maps
    exactly the listed sub tables to a slice, and that slice is one of the
    namespace's slices. -/
theorem routing_table_unambiguous (n : Namespace) (r : Router) (h : newRouter n = .ok r)
    (k : Str × Str) (rule : Rule) (hk : r.get k = some rule) :
    RuleUnambiguous (sliceNames n) rule.target := by
  have hall := newRouter_all (RuleUnambiguous (sliceNames n)) n r
    (fun s _ hs b hb => parsed_rule_unambiguous (sliceNames n) s hs b hb) h
  exact hall (k, rule) (lookup_mem _ _ _ hk)

/-! ### the sharding function only names listed tables -/

/-- For every rule of a loaded router whose type is hash, mod, range,
    mycat_mod, mycat_long, mycat_string, mycat_murmur or mycat_padding_mod, and
    for every key (an int64, a uint64 or a string), `FindTableIndex` does not
    panic and an index it returns is one of the rule's listed sub tables.  The
    murmur hash is arbitrary (`bucketOf`, `keyHash`).  `hlen` is Go's bound on
    the length of a slice.  (mycat_mod takes `|key| mod count` on the full
    integer, fix 722beea: no key is left out.) -/
theorem shard_fn_in_range (n : Namespace) (r : Router) (h : newRouter n = .ok r)
    (k : Str × Str) (rule : Rule) (hk : r.get k = some rule)
    (hprobed : rule.target.shard.probed = true)
    (hlen : (rule.target.subTableIndexes.length : Int) ≤ 2 ^ 63)
    (bucketOf : Nat → Nat → Int) (keyHash : Str → Int) (key : Key) (hkey : key.WF) :
    findForKey bucketOf keyHash rule.target.shard key ≠ .panic ∧
    ∀ i, findForKey bucketOf keyHash rule.target.shard key = .ok i → i ∈ rule.target.subTableIndexes := by
  have hall := newRouter_all (fun b => ShardWF b.shard b.subTableIndexes) n r
    (by
      intro s _ _ b hb
      exact (parseRule_spec s b hb).2.2.2.2.2) h
  have hwf := hall (k, rule) (lookup_mem _ _ _ hk)
  exact findForKey_spec bucketOf keyHash _ _ hwf hlen key hprobed

/-- mycat_mod, spelled out: for every key — every int64, MinInt64 included,
    every uint64, every string — `FindTableIndex` of a loaded mycat_mod rule
    does not panic, and an index it returns is listed. -/
theorem mycatMod_in_range (n : Namespace) (r : Router) (h : newRouter n = .ok r)
    (k : Str × Str) (rule : Rule) (hk : r.get k = some rule)
    (m : Int) (hm : rule.target.shard = .mycatMod m)
    (hlen : (rule.target.subTableIndexes.length : Int) ≤ 2 ^ 63)
    (key : Key) (hkey : key.WF) :
    findForKey (fun _ _ => 0) (fun _ => 0) rule.target.shard key ≠ .panic ∧
    ∀ i, findForKey (fun _ _ => 0) (fun _ => 0) rule.target.shard key = .ok i → i ∈ rule.target.subTableIndexes :=
  shard_fn_in_range n r h k rule hk (by rw [hm]; rfl) hlen _ _ key hkey

/-- … and what a mycat_mod rule of `m > 0` tables returns: `|key| mod m` of the
    key read as an integer of any size; a key that is not a decimal integer is
    rejected (the recovered KeyError). -/
theorem mycatMod_value (m : Int) (key : Key) (hm : 0 < m) :
    findForKey (fun _ _ => 0) (fun _ => 0) (.mycatMod m) key =
      match parseBigDec (getString key) with
      | some v => .ok ((v.natAbs : Int) % m)
      | none => .fail := by
  simp only [findForKey]
  cases parseBigDec (getString key) with
  | none => rfl
  | some v => simp only; rw [if_neg (by omega)]

/-! ### concrete configurations: the hypotheses are satisfiable, and the witnesses of the repaired defects -/

section Examples

def exS0 : Str := ['s', '0']
def exS1 : Str := ['s', '1']
def exDb : Str := ['d', 'b']
def exSlice (name : Str) : Slice := ⟨name, ['r', 'o', 'o', 't'], ['m'], [], 4, 8⟩
def exBlank (table typ : Str) : Shard :=
  ⟨exDb, table, [], typ, ['I', 'D'], [], [], [], 0, [], [], [], [], [], [], [], [], [], []⟩

/-- a namespace with a hash rule `T1` (3 sub tables on two slices), a linked
    rule naming its parent `t1`, a range rule, a global rule on both slices, a
    mycat_mod rule on three databases and a date_year rule -/
def exNamespace : Namespace :=
  ⟨[exSlice exS0, exSlice exS1], exS0,
   [{ exBlank ['T', '1'] tHash with locations := [2, 1], slices := [exS0, exS1] },
    { exBlank ['c'] tLinked with parentTable := ['t', '1'] },
    { exBlank ['r'] tRange with locations := [1, 2], slices := [exS1, exS0], tableRowLimit := 100 },
    { exBlank ['g'] tGlobal with locations := [1, 1], slices := [exS0, exS1] },
    { exBlank ['m'] tMycatMod with locations := [1, 2], slices := [exS0, exS1], databases := [['a'], ['b'], ['c']] },
    { exBlank ['y'] tYear with slices := [exS0, exS1], dateRange := [['2','0','1','5','-','2','0','1','7'], ['2','0','1','8']] }]⟩

/-- the router the model builds for it -/
def exRouter : Router :=
  match newRouter exNamespace with
  | .ok r => r
  | _ => ⟨[], []⟩

set_option maxRecDepth 100000 in
/-- `verify_implies_load`: the hypothesis holds of a non-trivial namespace … -/
example : verify exNamespace = .ok () := by decide +kernel

/-- … and `routing_table_unambiguous`, `shard_fn_in_range`: so do theirs -/
theorem exRouter_loaded : newRouter exNamespace = .ok exRouter := by decide +kernel

set_option maxRecDepth 100000 in
example : (exRouter.get (exDb, ['t', '1'])).map (fun rule => (rule.target.subTableIndexes, rule.target.shard.probed)) =
    some ([0, 1, 2], true) := by decide +kernel

set_option maxRecDepth 100000 in
example : (exRouter.get (exDb, ['c'])).map (fun rule => rule.target.table) = some ['t', '1'] := by decide +kernel

set_option maxRecDepth 100000 in
example : findForKey (fun _ _ => 0) (fun _ => 0) (.hash 3) (.str ['a', 'b', 'c']) = .ok 0 ∧
    findForKey (fun _ _ => 0) (fun _ => 0) (.mod 3) (.int minInt64) = .ok 2 := by decide +kernel

example : (Key.int minInt64).WF ∧ (Key.uint (2 ^ 63)).WF ∧ (Key.str ['x']).WF := by
  refine ⟨?_, ?_, trivial⟩
  · unfold Key.WF minInt64 maxInt64; omega
  · unfold Key.WF; omega

set_option maxRecDepth 100000 in
/-- a global rule is among the rules `routing_table_unambiguous` speaks about -/
example : (exRouter.get (exDb, ['g'])).map (fun rule => (rtOf rule.target.ruleType, rule.target.slices)) =
    some (.global, [exS0, exS1]) := by decide +kernel

set_option maxRecDepth 100000 in
/-- `mycatMod_in_range`: a loaded mycat_mod rule; MinInt64 as int64, 2^63 as
    uint64 and a 30-digit string are placed in listed tables -/
example : (exRouter.get (exDb, ['m'])).map (fun rule => rule.target.shard) = some (.mycatMod 3) ∧
    findForKey (fun _ _ => 0) (fun _ => 0) (.mycatMod 3) (.int minInt64) = .ok 2 ∧
    findForKey (fun _ _ => 0) (fun _ => 0) (.mycatMod 3) (.uint (2 ^ 63)) = .ok 2 ∧
    findForKey (fun _ _ => 0) (fun _ => 0) (.mycatMod 3) (.str "-100000000000000000000000000001".toList) = .ok 2 ∧
    findForKey (fun _ _ => 0) (fun _ => 0) (.mycatMod 3) (.str ['1', '_', '0']) = .fail := by decide +kernel

/-- A global rule that lists the slices s1, s0, s0 in a namespace with the two
    slices s0, s1 (the defect repaired by c29cd53, known/C10.json). -/
def wNamespace : Namespace :=
  ⟨[exSlice exS0, exSlice exS1], exS0,
   [{ exBlank ['g'] tGlobal with locations := [1, 1, 1], slices := [exS1, exS0, exS0] }]⟩

def wRouter : Router :=
  match newRouter wNamespace with
  | .ok r => r
  | _ => ⟨[], []⟩

/-- what `NewRouter` did to a global rule before c29cd53:
    `if rule.ruleType == GlobalTableRuleType { rule.slices = sliceNames }` -/
def pinnedUseNamespaceSlices (names : List Str) (rule : BaseRule) : BaseRule :=
  if rtOf rule.ruleType = .global then { rule with slices := names } else rule

/-- The namespace is accepted and loaded.  With the repaired `NewRouter` its
    global rule keeps the three configured slices, so slice index 2 of sub
    table 2 resolves (to s0); the pinned code replaced the slice list by the
    namespace's two slices and `GetSlice(2)` panicked. -/
theorem pinned_global_slice_index_witness :
    verify wNamespace = .ok () ∧ newRouter wNamespace = .ok wRouter ∧
    (wRouter.get (exDb, ['g'])).map
      (fun rule => (mapGet rule.target.tableToSlice 2, rule.target.slices,
        (pinnedUseNamespaceSlices (sliceNames wNamespace) rule.target).slices.length)) =
      some (some 2, [exS1, exS0, exS0], 2) := by decide +kernel

/-- mycat_mod on three databases -/
def mNamespace : Namespace :=
  ⟨[exSlice exS0, exSlice exS1], exS0,
   [{ exBlank ['m'] tMycatMod with locations := [1, 2], slices := [exS0, exS1], databases := [['a'], ['b'], ['c']] }]⟩

def mRouter : Router :=
  match newRouter mNamespace with
  | .ok r => r
  | _ => ⟨[], []⟩

/-- what `MycatPartitionModShard.FindForKey` computed before 722beea:
    `int(hack.Abs(NumValue(key)) % int64(m.ShardNum))` -/
def pinnedMycatModFind (n : Int) (key : Key) : R Int :=
  match numValue key with
  | .ok v => if n = 0 then .panic else .ok (goMod (hackAbs v) n)
  | .fail => .fail
  | .panic => .panic

/-- The defect repaired by 722beea: the namespace is accepted and
    loaded, its mycat_mod rule lists the tables 0, 1, 2; the pinned code computed
    `hack.Abs(MinInt64) % 3 = -2`, a table that is not listed; the repaired code
    places MinInt64 in table 2 = 2^63 mod 3. -/
theorem pinned_mycatMod_negative_index_witness :
    verify mNamespace = .ok () ∧ newRouter mNamespace = .ok mRouter ∧
    (mRouter.get (exDb, ['m'])).map
      (fun rule => (rule.target.subTableIndexes,
        findForKey (fun _ _ => 0) (fun _ => 0) rule.target.shard (.int minInt64))) =
      some ([0, 1, 2], .ok 2) ∧
    pinnedMycatModFind 3 (.int minInt64) = .ok (-2) := by decide +kernel

end Examples

end GaeaVerif.C10
