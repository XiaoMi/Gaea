import GaeaVerif.Lemmas.C13Rows
import GaeaVerif.Lemmas.C13ColDef
import GaeaVerif.Model.BinRowBig
import GaeaVerif.Gen.Consts
/-
  C13 — Prepared-statement results carry the same values as the backend's
  text results.

  Model: `Model/BinRow.lean` (`RowData.ParseText`, `BuildBinaryResultset`,
  `integerFitsColumn`, `AppendBinaryValue`, `splitTextDate(time)`,
  `stringToMysqlTime`, `mysqlTimeToBinaryResult`, with the library functions
  they call).  Reference semantics: `Spec/BinProto.lean`
  (`denoteText`: the value a text cell denotes; `decodeBinRow`: an independent
  decoder of the binary row format).  Helper lemmas: `Lemmas/C13*.lean`.
  The tie to /repo/mysql is the correspondence check `gvh run C13` and the
  constants of `Gen/Consts.lean`.

  Rendering of the English property.  "Every row the backend returns in the text
  protocol" = `encodeTextRow cells` for any list of cells (NULL or a byte
  string), shorter than 2^62 bytes.  "Every value of that type" = the cells on
  which `denoteText` is defined (integers in the range of the column's width and
  signedness; `[-]digits[.digits]` decimals of any length; any byte string for
  string/blob/bit/enum/set/json columns; `YYYY-MM-DD` with month ≤ 12 and
  day ≤ 31, zero and partial dates included; `YYYY-MM-DD HH:MM:SS[.f{1,6}]`;
  `[-]H…:MM:SS[.f{1,6}]` up to 838 hours; floats: whatever text the opaque
  `parseFloat` accepts).  "Decodes to the same value or the proxy reports an
  error" = if the model returns `ok out` then the spec decoder reads `out`
  completely and yields, column by column, the denoted values (`sameRow`:
  decimals compared as numbers, everything else literally); the model's other
  outcome is `err kind`, never a panic (`no_panic`).

  Beyond the values of the type.  `readText`
  widens `denoteText` to every text that still reads as a number or a date (an
  integer of any magnitude, any two-digit month and day): `C13_row_exact`,
  `C13_resultset_exact`.  `serverRow` is the domain on which the proxy must
  deliver the value, not merely refrain from sending another one:
  `C13_row_delivered`, `C13_resultset_delivered`.  The column definitions
  (`Model/ColDef.lean`: `FieldData.Parse`, `writeColumnDefinition`, the whole
  COM_STMT_EXECUTE result `stmtResult`): `C13_coldef_forwarded`,
  `C13_stmt_result_correct`, `C13_stmt_result_delivered`.  Byte strings of any
  length: `big_cell_row`.  One open finding with its witness:
  `date_garbage_zero_witness`.

  Floats (assumption `FloatOpsOk`): IEEE arithmetic is not modelled; the three
  functions of `FloatOps` are parameters, so for FLOAT/DOUBLE columns the
  theorems say that the binary row carries exactly `toF32 (parseFloat text)` /
  `parseFloat text`, whatever these functions are, provided they return 32/64
  bit patterns.
-/
namespace GaeaVerif.C13
open GaeaVerif GaeaVerif.BinRow GaeaVerif.BinProto GaeaVerif.LenEnc GaeaVerif.ColDef

/-! ### tie to the source: constants and call structure (regenerated on every run) -/

/-- The column type numbers and the UNSIGNED flag the model and the spec are
    written against are those of /repo/mysql/type.go. -/
theorem type_codes_match :
    [Gen.c13TypeDecimal, Gen.c13TypeTiny, Gen.c13TypeShort, Gen.c13TypeLong, Gen.c13TypeFloat, Gen.c13TypeDouble,
     Gen.c13TypeNull, Gen.c13TypeTimestamp, Gen.c13TypeLonglong, Gen.c13TypeInt24, Gen.c13TypeDate,
     Gen.c13TypeDuration, Gen.c13TypeDatetime, Gen.c13TypeYear, Gen.c13TypeNewDate, Gen.c13TypeVarchar,
     Gen.c13TypeBit, Gen.c13TypeJSON, Gen.c13TypeNewDecimal, Gen.c13TypeEnum, Gen.c13TypeSet,
     Gen.c13TypeTinyBlob, Gen.c13TypeMediumBlob, Gen.c13TypeLongBlob, Gen.c13TypeBlob, Gen.c13TypeVarString,
     Gen.c13TypeString, Gen.c13TypeGeometry, Gen.c13UnsignedFlag]
    = [TypeDecimal, TypeTiny, TypeShort, TypeLong, TypeFloat, TypeDouble, TypeNull, TypeTimestamp, TypeLonglong,
       TypeInt24, TypeDate, TypeDuration, TypeDatetime, TypeYear, TypeNewDate, TypeVarchar, TypeBit, TypeJSON,
       TypeNewDecimal, TypeEnum, TypeSet, TypeTinyBlob, TypeMediumBlob, TypeLongBlob, TypeBlob, TypeVarString,
       TypeString, TypeGeometry, UnsignedFlag] := by decide

/-- Both writers of a COM_STMT_EXECUTE result (`Session.writeResponse`,
    `ClientConn.writeOKResultStream`) convert the result with
    `BuildBinaryResultSet` when the response is binary. -/
theorem binary_writers_convert :
    Gen.c13WriteResponseBuildsBinary = true ∧ Gen.c13ResultStreamBuildsBinary = true := by decide

/-- The tables of the encoder model are those of the source: the column types
    the append phase of `AppendBinaryValue` sends as length-encoded strings and
    the ones it appends as they are; `BuildBinaryResultset` guards
    `AppendBinaryValue` by `integerFitsColumn`; `writeColumnDefinition` writes,
    after the 0x0c byte, character set (2), column length (4), type (1), flags
    (2), decimals (1) and two zero bytes — the layout of `ColDef.writeColumnDefinition`
    and of the spec's `columnDefTail`. -/
theorem encoder_tables_match :
    (List.range 256).all (fun ty => isLenEncFieldType ty == Gen.c13LenEncAppendTypes.contains ty) = true
    ∧ (List.range 256).all (fun ty => isRawFieldType ty == Gen.c13RawAppendTypes.contains ty) = true
    ∧ Gen.c13BuildChecksIntegerRange = true
    ∧ Gen.c13ColumnDefFixedPart
        = [("Charset", 2), ("ColumnLength", 4), ("Type", 1), ("Flag", 2), ("Decimal", 1), ("0", 2)] := by
  exact ⟨by decide +kernel, by decide +kernel, by decide, by decide⟩

/-! ### the null bitmap -/

/-- **Null bitmap.** A binary row is `0x00`, a bitmap of `(n + 7 + 2) / 8` bytes
    and the payload; bit `i + 2` of the bitmap is set iff column `i` is NULL —
    for any number of columns. -/
theorem bitmap_correct (ops : FloatOps) (fields : List Field) (vals : List GoVal) (out : Bytes)
    (h : buildBinaryRow ops fields vals = .ok out) :
    ∃ (bm payload : Bytes), out = 0 :: (bm ++ payload) ∧ bm.length = (fields.length + 7 + 2) / 8
      ∧ ∀ i, nullBit bm i = decide (vals[i]? = some GoVal.nil) := by
  obtain ⟨bm, enc, h1, h2, _, _, h5⟩ := buildBinaryRow_shape ops fields vals out h
  exact ⟨bm, enc, h1, h2, h5⟩

example : buildBinaryRow ⟨fun _ => none, fun _ => 0, fun _ => []⟩
    [⟨TypeTiny, 0⟩, ⟨TypeLong, 0⟩, ⟨TypeTiny, 0⟩, ⟨TypeTiny, 0⟩, ⟨TypeTiny, 0⟩, ⟨TypeTiny, 0⟩, ⟨TypeTiny, 0⟩]
    [.nil, .i64 7, .nil, .nil, .nil, .nil, .nil] = .ok [0, 0xf4, 0x01, 7, 0, 0, 0] := by decide +kernel

/-! ### one column, per type family -/

/-- **Integers** of every width and signedness (TINY, SHORT, YEAR, LONG, INT24,
    LONGLONG): a text integer in the range of the column type is sent as the
    little-endian bytes the decoder reads back as the same integer. -/
theorem enc_dec_int (ops : FloatOps) (ty flag w : Nat) (cell : Bytes) (x : Int) (v : GoVal) (b rest : Bytes)
    (hwid : intWidth ty = some w) (hx : intText cell = some x)
    (hr : inIntRange w (Field.isUnsigned ⟨ty, flag⟩) x = true)
    (hpt : parseTextValue ops ⟨ty, flag⟩ cell = .ok v)
    (habv : appendBinaryValue ops ty v = .ok b) :
    decodeValue ⟨ty, flag⟩ (b ++ rest) = some (.int x, rest) :=
  int_col ops ty flag w cell x v b rest hwid hx hr hpt habv

example : intWidth TypeLonglong = some 8 ∧ intText [45, 49] = some (-1) ∧ inIntRange 8 false (-1) = true
    ∧ parseTextValue ⟨fun _ => none, fun _ => 0, fun _ => []⟩ ⟨TypeLonglong, 0⟩ [45, 49] = .ok (.i64 (-1))
    ∧ appendBinaryValue ⟨fun _ => none, fun _ => 0, fun _ => []⟩ TypeLonglong (.i64 (-1))
        = .ok [255, 255, 255, 255, 255, 255, 255, 255] := by decide +kernel

/-- **Decimals**: what `decimal.NewFromString` + `Decimal.String()` produce for
    a `[-]digits[.digits]` text of any length reads back as the same number. -/
theorem enc_dec_decimal (cell : Bytes) (u : Int) (sc : Nat) (v e : Int)
    (hd : decimalText cell = some (u, sc)) (hn : newFromString cell = some (v, e)) :
    ∃ u' sc', decimalText (decimalString v e) = some (u', sc') ∧ u' * 10 ^ sc = u * 10 ^ sc' :=
  (decimal_cell_roundtrip cell u sc v e hd hn).1

example : decimalText [45, 48, 48, 55, 46, 53, 48] = some (-750, 2)
    ∧ newFromString [45, 48, 48, 55, 46, 53, 48] = some (-750, -2)
    ∧ decimalString (-750) (-2) = [45, 55, 46, 53] := by decide +kernel

/-- **Strings, blobs, BIT, ENUM, SET, JSON, GEOMETRY**: sent as a length-encoded
    string holding exactly the cell's bytes. -/
theorem enc_dec_bytes (ops : FloatOps) (ty flag : Nat) (cell : Bytes) (v : GoVal) (b rest : Bytes)
    (hty : isBytesType ty = true) (hlen : cell.length < 2 ^ 64)
    (hpt : parseTextValue ops ⟨ty, flag⟩ cell = .ok v)
    (habv : appendBinaryValue ops ty v = .ok b) :
    decodeValue ⟨ty, flag⟩ (b ++ rest) = some (.bytes cell, rest) :=
  bytes_col ops ty flag cell v b rest hty hlen hpt habv

example : isBytesType TypeEnum = true
    ∧ parseTextValue ⟨fun _ => none, fun _ => 0, fun _ => []⟩ ⟨TypeEnum, 0⟩ [97] = .ok (.bytes [97])
    ∧ appendBinaryValue ⟨fun _ => none, fun _ => 0, fun _ => []⟩ TypeEnum (.bytes [97]) = .ok [1, 97] := by decide +kernel

/-- **DATE / NEWDATE**: every `YYYY-MM-DD` (month ≤ 12, day ≤ 31; zero and
    partial dates and dates outside the calendar included) is sent as that date. -/
theorem enc_dec_date (cell rest : Bytes) (dv : Val) (h : dateText cell = some dv) :
    decodeDate (dateBytes cell ++ rest) = some (dv, rest) :=
  decodeDate_dateBytes cell rest dv (dateText_sub cell dv h)

example : dateText [50, 48, 50, 48, 45, 48, 48, 45, 48, 48] = some (.dt 2020 0 0 0 0 0 0)
    ∧ dateBytes [50, 48, 50, 48, 45, 48, 48, 45, 48, 48] = [4, 228, 7, 0, 0] := by decide +kernel

/-- **DATETIME / TIMESTAMP** with 0–6 fractional digits: sent as that instant,
    or refused. -/
theorem enc_dec_datetime (cell rest b : Bytes) (dv : Val) (h : datetimeText cell = some dv)
    (hb : datetimeBytes cell = .ok b) : decodeDate (b ++ rest) = some (dv, rest) := by
  obtain ⟨b', hb', hdec⟩ := decodeDate_datetimeBytes cell dv (datetimeText_sub cell dv h)
  cases hb'.symm.trans hb
  exact hdec rest

/-- **TIME**, negative and beyond 24 h, with 0–6 fractional digits: sent as the
    same signed duration, or refused. -/
theorem enc_dec_time (cell rest b : Bytes) (dv : Val) (h : timeText cell = some dv)
    (hb : durationBytes cell = .ok b) : decodeTime (b ++ rest) = some (dv, rest) := by
  obtain ⟨b', hb', hdec⟩ := decodeTime_durationBytes cell dv h
  cases hb'.symm.trans hb
  exact hdec rest

example : timeText [45, 56, 51, 56, 58, 53, 57, 58, 53, 57, 46, 53] = some (.time (-3020399500000))
    ∧ durationBytes [45, 56, 51, 56, 58, 53, 57, 58, 53, 57, 46, 53]
        = .ok [12, 1, 34, 0, 0, 0, 22, 59, 59, 32, 161, 7, 0] := by decide +kernel

/-- **FLOAT** (under `FloatOpsOk`): the row carries `toF32 (parseFloat text)`. -/
theorem enc_dec_float (ops : FloatOps) (hops : FloatOpsOk ops) (flag : Nat) (cell : Bytes) (d : Val) (v : GoVal)
    (b rest : Bytes)
    (hden : (ops.parseFloat cell).map (fun b => Val.f32 (ops.toF32 b)) = some d)
    (hpt : parseTextValue ops ⟨TypeFloat, flag⟩ cell = .ok v)
    (habv : appendBinaryValue ops TypeFloat v = .ok b) :
    decodeValue ⟨TypeFloat, flag⟩ (b ++ rest) = some (d, rest) :=
  float_col ops hops flag cell d v b rest hden hpt habv

/-- **DOUBLE** (under `FloatOpsOk`): the row carries `parseFloat text`. -/
theorem enc_dec_double (ops : FloatOps) (hops : FloatOpsOk ops) (flag : Nat) (cell : Bytes) (d : Val) (v : GoVal)
    (b rest : Bytes)
    (hden : (ops.parseFloat cell).map Val.f64 = some d)
    (hpt : parseTextValue ops ⟨TypeDouble, flag⟩ cell = .ok v)
    (habv : appendBinaryValue ops TypeDouble v = .ok b) :
    decodeValue ⟨TypeDouble, flag⟩ (b ++ rest) = some (d, rest) :=
  double_col ops hops flag cell d v b rest hden hpt habv

/-- **Any column.** A non-NULL cell that is a value of its column's type (any
    type code, any flag word), converted by `ParseText` and encoded by
    `AppendBinaryValue`, is decoded to the same value, and the decoder stops
    exactly at the end of the encoding (so later columns are not shifted). -/
theorem C13_col_correct (ops : FloatOps) (hops : FloatOpsOk ops) (f : Field) (cell : Bytes) (d : Val) (v : GoVal)
    (b rest : Bytes) (hlen : cell.length < 2 ^ 62)
    (hden : denoteText ops f (some cell) = some d)
    (hpt : parseTextValue ops f cell = .ok v)
    (habv : appendBinaryValue ops f.typ v = .ok b) :
    ∃ v', decodeValue f (b ++ rest) = some (v', rest) ∧ Val.same v' d = true :=
  col_exact ops hops f cell d v b rest hlen (denote_sub_read ops f (some cell) d hden) hpt
    (denote_fits ops f cell d v hden hpt) habv

/-! ### rows and resultsets: what the text says

  The statements about rows are made for every text that still reads as a
  number or a date (`readText`: the values of the column's type, and beyond
  them an integer of any magnitude, a date or datetime with any two-digit month
  and day): whatever the proxy sends for such a row decodes to what the text
  says — an integer the column's width cannot carry is refused
  (`integerFitsColumn`), never sent as its low bytes. -/

def exOps : FloatOps := { parseFloat := fun _ => none, toF32 := fun _ => 0, formatFloat := fun _ => [] }

/-- **Integers of any magnitude.** A text integer that `ParseText` accepts and
    that passes the range check of `BuildBinaryResultset` is sent as the bytes
    the decoder reads back as the same integer; no hypothesis on its range. -/
theorem enc_dec_int_checked (ops : FloatOps) (ty flag w : Nat) (cell : Bytes) (x : Int) (v : GoVal) (b rest : Bytes)
    (hwid : intWidth ty = some w) (hx : intText cell = some x)
    (hpt : parseTextValue ops ⟨ty, flag⟩ cell = .ok v)
    (hfit : integerFitsColumn ⟨ty, flag⟩ v = true)
    (habv : appendBinaryValue ops ty v = .ok b) :
    decodeValue ⟨ty, flag⟩ (b ++ rest) = some (.int x, rest) :=
  int_col ops ty flag w cell x v b rest hwid hx (inIntRange_of_fits ops ty flag w cell x v hwid hx hpt hfit) hpt habv

/-- TINYINT UNSIGNED 200 travels as 0xc8 and is read back as 200; a signed
    TINYINT column refuses it. -/
example : parseTextValue exOps ⟨TypeTiny, 32⟩ [50, 48, 48] = .ok (.u64 200)
    ∧ integerFitsColumn ⟨TypeTiny, 32⟩ (.u64 200) = true
    ∧ appendBinaryValue exOps TypeTiny (.u64 200) = .ok [200]
    ∧ decodeValue ⟨TypeTiny, 32⟩ [200] = some (.int 200, [])
    ∧ parseTextValue exOps ⟨TypeTiny, 0⟩ [50, 48, 48] = .ok (.i64 200)
    ∧ integerFitsColumn ⟨TypeTiny, 0⟩ (.i64 200) = false := by decide +kernel

/-- **C13, one row, wide reading.** If the proxy produces a binary row for a
    text row every cell of which reads as something (`readRow`), that row
    decodes completely and to what the text says in every column. -/
theorem C13_row_exact (ops : FloatOps) (hops : FloatOpsOk ops) (fields : List Field)
    (cells : List (Option Bytes)) (ds : List Val) (out : Bytes)
    (hlen : (encodeTextRow cells).length < 2 ^ 62)
    (hden : readRow ops fields cells = some ds)
    (hout : rowToBinary ops fields (encodeTextRow cells) = .ok out) :
    ∃ vs, decodeBinRow fields out = some vs ∧ sameRow vs ds = true := by
  unfold rowToBinary at hout
  rw [parseText_encode ops fields cells (by omega)] at hout
  cases hc : convertCells ops fields cells with
  | err e => simp [hc] at hout
  | ok vals =>
    simp only [hc] at hout
    obtain ⟨bm, enc, hshape, hbl, hvl, henc, hbits⟩ := buildBinaryRow_shape ops fields vals out hout
    obtain ⟨vs, hdec, hsame⟩ := decodeCols_exact ops hops fields cells vals enc ds [] hc henc hden
      (fun v hv => by have := cell_len_le cells v hv; omega)
    refine ⟨vs, ?_, hsame⟩
    subst hshape
    unfold decodeBinRow
    simp only
    rw [takeN_append' bm enc _ hbl.symm]
    have hn : (List.range fields.length).map (nullBit bm) = nullFlags vals := by
      rw [← hvl, ← range_nullFlags]
      apply List.map_congr_left
      intro i _; exact hbits i
    simp only [hn]
    rw [List.append_nil] at hdec
    rw [hdec]

/-- 300 in a TINYINT column, 2020-13-45 in a DATE column: the first row is
    refused, the second is sent as it is spelt. -/
example : readRow exOps [⟨TypeTiny, 0⟩] [some [51, 48, 48]] = some [.int 300]
    ∧ rowToBinary exOps [⟨TypeTiny, 0⟩] (encodeTextRow [some [51, 48, 48]]) = .err .intRange := by decide +kernel

set_option maxRecDepth 4000 in
example : readRow exOps [⟨TypeDate, 0⟩] [some [50, 48, 50, 48, 45, 49, 51, 45, 52, 53]] = some [.dt 2020 13 45 0 0 0 0]
    ∧ rowToBinary exOps [⟨TypeDate, 0⟩] (encodeTextRow [some [50, 48, 50, 48, 45, 49, 51, 45, 52, 53]])
        = .ok [0, 0, 4, 228, 7, 13, 45] := by decide +kernel

/-- **C13, a whole resultset, wide reading.** -/
theorem C13_resultset_exact (ops : FloatOps) (hops : FloatOpsOk ops) (fields : List Field)
    (rows : List (List (Option Bytes))) (outs : List Bytes)
    (hout : rowsToBinary ops fields (rows.map encodeTextRow) = .ok outs) :
    List.Forall₂ (fun cells out => ∀ ds, (encodeTextRow cells).length < 2 ^ 62 →
        readRow ops fields cells = some ds →
        ∃ vs, decodeBinRow fields out = some vs ∧ sameRow vs ds = true) rows outs :=
  resultset_rows ops fields _
    (fun cells out h ds hlen hden => C13_row_exact ops hops fields cells ds out hlen hden h) rows outs hout

/-! ### rows and resultsets: the values of the column types -/

/-- The wide reading extends the values of the type: `C13_row_correct` below is
    the restriction of `C13_row_exact` to `denoteRow`. -/
theorem denote_le_read (ops : FloatOps) (fields : List Field) (cells : List (Option Bytes)) (ds : List Val)
    (h : denoteRow ops fields cells = some ds) : readRow ops fields cells = some ds := by
  induction fields generalizing cells ds with
  | nil => cases cells <;> simp [denoteRow, readRow] at h ⊢; exact h
  | cons f fs ih =>
    cases cells with
    | nil => simp [denoteRow] at h
    | cons c cs =>
      simp only [denoteRow] at h
      cases hd : denoteText ops f c with
      | none => simp [hd] at h
      | some d =>
        cases hds : denoteRow ops fs cs with
        | none => simp [hd, hds] at h
        | some ds' =>
          simp only [hd, hds, Option.some.injEq] at h
          subst h
          simp [readRow, denote_sub_read ops f c d hd, ih cs ds' hds]

/-- **C13, one row.** For every column list and every text-protocol row whose
    cells are values of their columns' types (NULL allowed anywhere): if the
    proxy produces a binary row at all, that row decodes — per the binary
    protocol, completely, with nothing left over — to the same value in every
    column. -/
theorem C13_row_correct (ops : FloatOps) (hops : FloatOpsOk ops) (fields : List Field)
    (cells : List (Option Bytes)) (ds : List Val) (out : Bytes)
    (hlen : (encodeTextRow cells).length < 2 ^ 62)
    (hden : denoteRow ops fields cells = some ds)
    (hout : rowToBinary ops fields (encodeTextRow cells) = .ok out) :
    ∃ vs, decodeBinRow fields out = some vs ∧ sameRow vs ds = true :=
  C13_row_exact ops hops fields cells ds out hlen (denote_le_read ops fields cells ds hden) hout

/-- A row mixing the type families other than floats (`exOps` parses none), with
    a NULL in the ENUM column, a partial date, a negative time beyond 24 h, the
    largest unsigned BIGINT and a SET. -/
def exFields : List Field :=
  [⟨TypeTiny, 0⟩, ⟨TypeNewDecimal, 0⟩, ⟨TypeEnum, 0⟩, ⟨TypeDate, 0⟩, ⟨TypeDuration, 0⟩, ⟨TypeLonglong, 32⟩,
   ⟨TypeDatetime, 0⟩, ⟨TypeSet, 256⟩]
def exCells : List (Option Bytes) :=
  [some [45, 49, 50, 56],                                               -- -128
   some [48, 49, 46, 53, 48],                                           -- 01.50
   none,
   some [50, 48, 50, 48, 45, 48, 48, 45, 48, 48],                       -- 2020-00-00
   some [45, 56, 51, 56, 58, 53, 57, 58, 53, 57, 46, 53],               -- -838:59:59.5
   some [49, 56, 52, 52, 54, 55, 52, 52, 48, 55, 51, 55, 48, 57, 53, 53, 49, 54, 49, 53],  -- 2^64-1
   some [50, 48, 50, 52, 45, 49, 50, 45, 50, 51, 32, 49, 48, 58, 50, 48, 58, 51, 48, 46, 49, 50, 51],
   some [97, 44, 98]]                                                   -- a,b

example : FloatOpsOk exOps := ⟨fun _ => by simp [exOps], fun _ _ h => by simp [exOps] at h⟩

example : (encodeTextRow exCells).length < 2 ^ 62
    ∧ denoteRow exOps exFields exCells = some [.int (-128), .dec 150 2, .null, .dt 2020 0 0 0 0 0 0,
        .time (-3020399500000), .int 18446744073709551615, .dt 2024 12 23 10 20 30 123000, .bytes [97, 44, 98]]
    ∧ rowToBinary exOps exFields (encodeTextRow exCells) = .ok
        [0, 16, 0, 128, 3, 49, 46, 53, 4, 228, 7, 0, 0, 12, 1, 34, 0, 0, 0, 22, 59, 59, 32, 161, 7, 0,
         255, 255, 255, 255, 255, 255, 255, 255, 11, 232, 7, 12, 23, 10, 20, 30, 120, 224, 1, 0, 3, 97, 44, 98] := by
  decide +kernel

/-- **C13, a whole resultset.** If the proxy builds binary rows for the text
    rows of a resultset, there is one binary row per text row, in order, and
    every text row all of whose cells are values of their columns' types is
    carried by a binary row that decodes to the same values. -/
theorem C13_resultset_correct (ops : FloatOps) (hops : FloatOpsOk ops) (fields : List Field)
    (rows : List (List (Option Bytes))) (outs : List Bytes)
    (hout : rowsToBinary ops fields (rows.map encodeTextRow) = .ok outs) :
    List.Forall₂ (fun cells out => ∀ ds, (encodeTextRow cells).length < 2 ^ 62 →
        denoteRow ops fields cells = some ds →
        ∃ vs, decodeBinRow fields out = some vs ∧ sameRow vs ds = true) rows outs :=
  resultset_rows ops fields _
    (fun cells out h ds hlen hden => C13_row_correct ops hops fields cells ds out hlen hden h) rows outs hout

/-! ### errors, never panics -/

/-- **No panic.** On every input (any bytes as a row, any columns) the
    conversion returns binary rows or an error kind; no index or slice
    expression of `ParseText`/`BuildBinaryResultset` can go out of range. -/
theorem no_panic (ops : FloatOps) (fields : List Field) (rows : List Bytes) :
    rowsToBinary ops fields rows ≠ .err .panic := by
  intro h
  obtain ⟨r, -, hr⟩ := rowsToBinary_err ops fields rows _ h
  exact rowToBinary_no_panic ops fields r hr

/-! ### delivery: values a server sends are not answered with an error -/

/-- **C13, delivery of one row.** For every column list and every row of values
    of the columns' types in a server's spelling (`serverRow`: every type code
    the binary protocol has an encoding for — all integer widths and
    signednesses, FLOAT/DOUBLE texts the float parser accepts, both DECIMAL
    codes, all string/blob/BIT/ENUM/SET/JSON/GEOMETRY codes, DATE, DATETIME and
    TIMESTAMP including zero, partial and out-of-calendar dates with 0–6
    fractional digits, TIME to ±838 h) with cells shorter than 2 GiB, the proxy
    does produce a binary row, and it decodes to the same values. -/
theorem C13_row_delivered (ops : FloatOps) (hops : FloatOpsOk ops) (fields : List Field)
    (cells : List (Option Bytes))
    (hs : serverRow ops fields cells = true) (hcell : ∀ v, some v ∈ cells → v.length < 2 ^ 31)
    (hlen : (encodeTextRow cells).length < 2 ^ 62) :
    ∃ out ds vs, rowToBinary ops fields (encodeTextRow cells) = .ok out ∧ denoteRow ops fields cells = some ds
      ∧ decodeBinRow fields out = some vs ∧ sameRow vs ds = true := by
  obtain ⟨out, hout⟩ := row_total ops fields cells hs hcell (by omega)
  obtain ⟨ds, hds⟩ := serverRow_denote ops fields cells hs
  obtain ⟨vs, hdec, hsame⟩ := C13_row_correct ops hops fields cells ds out hlen hds hout
  exact ⟨out, ds, vs, hout, hds, hdec, hsame⟩

/-- "0000-00-00 00:00:00.000000" -/
def exZeroDatetime6 : Bytes :=
  [48, 48, 48, 48, 45, 48, 48, 45, 48, 48, 32, 48, 48, 58, 48, 48, 58, 48, 48, 46, 48, 48, 48, 48, 48, 48]
/-- "2020-01-00 10:00:00" -/
def exZeroDayDatetime : Bytes :=
  [50, 48, 50, 48, 45, 48, 49, 45, 48, 48, 32, 49, 48, 58, 48, 48, 58, 48, 48]

/-- The zero DATETIME(6) value, a datetime with a zero day, a GEOMETRY value: server values, delivered. -/
example : serverRow exOps [⟨TypeDatetime, 0⟩] [some exZeroDatetime6] = true
    ∧ rowToBinary exOps [⟨TypeDatetime, 0⟩] (encodeTextRow [some exZeroDatetime6]) = .ok [0, 0, 0] := by decide +kernel

example : serverRow exOps [⟨TypeDatetime, 128⟩] [some exZeroDayDatetime] = true
    ∧ rowToBinary exOps [⟨TypeDatetime, 128⟩] (encodeTextRow [some exZeroDayDatetime])
        = .ok [0, 0, 11, 228, 7, 1, 0, 10, 0, 0, 0, 0, 0, 0] := by decide +kernel

example : serverRow exOps [⟨TypeGeometry, 128⟩] [some [0, 0, 0, 0, 1, 1]] = true
    ∧ rowToBinary exOps [⟨TypeGeometry, 128⟩] (encodeTextRow [some [0, 0, 0, 0, 1, 1]])
        = .ok [0, 0, 6, 0, 0, 0, 0, 1, 1] := by decide +kernel

/-- **C13, delivery of a resultset.** -/
theorem C13_resultset_delivered (ops : FloatOps) (fields : List Field) (rows : List (List (Option Bytes)))
    (h : ∀ cells ∈ rows, serverRow ops fields cells = true ∧ (∀ v, some v ∈ cells → v.length < 2 ^ 31)
      ∧ (encodeTextRow cells).length < 2 ^ 62) :
    ∃ outs, rowsToBinary ops fields (rows.map encodeTextRow) = .ok outs := by
  apply rowsToBinary_of_rows
  intro r hr
  obtain ⟨cells, hc, e⟩ := List.mem_map.1 hr
  subst e
  obtain ⟨h1, h2, h3⟩ := h cells hc
  exact row_total ops fields cells h1 h2 (by omega)

/-! ### byte strings of every size class -/

/-- **A byte-string cell of any length** (TEXT/BLOB/VARCHAR/CHAR/BIT/ENUM/SET/
    JSON/GEOMETRY, up to 2^62 bytes: all four size classes of the
    length-encoded codec, NUL and non-UTF-8 bytes included) followed by the
    sentinel INT 7 becomes: header, null bitmap, the cell's length prefix, the
    cell, the sentinel.  The driver answers `big` requests (cells of 16 MiB,
    which it cannot push through the list-based model) from this theorem and
    `pattern_hash`. -/
theorem big_cell_row (ops : FloatOps) (ty flag : Nat) (cell : Bytes) (hty : isBytesType ty = true)
    (hlen : cell.length < 2 ^ 62) :
    rowToBinary ops [⟨ty, flag⟩, ⟨TypeLong, 0⟩] (encodeTextRow [some cell, some [55]])
      = .ok (bigRowHead cell.length ++ cell ++ bigRowTail) := by
  obtain ⟨hw, ⟨v, hp, ha⟩, -⟩ := bytes_type ops ty flag cell [] hty
  have hv := parseTextValue_ne_nil ops _ cell v hp
  have hfit := integerFitsColumn_nonint ty flag v hw
  have hrow : (encodeTextRow [some cell, some [55]]).length < 2 ^ 63 := by
    have := (lenEncIntSize_bounds cell.length).2
    simp [encodeTextRow, appendLenEncStringBytes_length, show lenEncIntSize 1 = 1 from rfl]
    omega
  have h7 : convertCells ops [⟨TypeLong, 0⟩] [some [55]] = .ok [.i64 7] := rfl
  have he7 : encodeVals ops [⟨TypeLong, 0⟩] [.i64 7] = .ok [7, 0, 0, 0] := rfl
  unfold rowToBinary
  rw [parseText_encode ops _ _ hrow, convertCells_cons_some hp h7]
  show buildBinaryRow ops _ [v, .i64 7] = _
  rw [buildBinaryRow_eq ops _ _ rfl, encodeVals_cons hv hfit ha he7]
  simp [nullBitmap, markNulls, hv, bigRowHead, bigRowTail, appendLenEncStringBytes]

theorem patFoldFrom_eq (f : UInt64 → UInt8 → UInt64) (k i : Nat) (h : UInt64) :
    patFoldFrom f k i h = ((List.range' i k).map patByte).foldl f h := by
  induction k generalizing i h with
  | zero => rfl
  | succ k ih => rw [patFoldFrom, ih, List.range'_succ, List.map_cons, List.foldl_cons]

/-- The hash the driver computes by a loop is the hash of the pattern cell. -/
theorem pattern_hash (n : Nat) : patHash n = hashBytes (patCell n) ∧ (patCell n).length = n :=
  ⟨by unfold patHash hashBytes patCell; rw [patFoldFrom_eq, List.range_eq_range'], by simp [patCell]⟩

example : rowToBinary exOps [⟨TypeBlob, 0⟩, ⟨TypeLong, 0⟩] (encodeTextRow [some (patCell 3), some [55]])
    = .ok [0, 0, 3, 3, 10, 17, 7, 0, 0, 0] := by decide +kernel

/-! ### the open finding: a DATE cell that is no date -/

/-- **Witness (known/C13.json, class `non-date-sent-as-zero-date`).** A DATE
    cell that is not of the form `YYYY-MM-DD` is neither refused nor read: the
    client is sent the zero date 0000-00-00.  (`TestAppendBinaryValue` of
    /repo/mysql asserts this behaviour — "string with TypeDate invalid" — so it is
    listed, not repaired.) -/
theorem date_garbage_zero_witness :
    readText exOps ⟨TypeDate, 0⟩ (some [105, 110, 118, 97, 108, 105, 100]) = none
    ∧ rowToBinary exOps [⟨TypeDate, 0⟩] (encodeTextRow [some [105, 110, 118, 97, 108, 105, 100]]) = .ok [0, 0, 0]
    ∧ decodeBinRow [⟨TypeDate, 0⟩] [0, 0, 0] = some [.dt 0 0 0 0 0 0 0] := by decide +kernel

/-! ### the column definitions sent with the rows -/

/-- **Column definitions are forwarded unchanged.** For every column definition
    `c` (any schema/table/column names, character set, display length, type
    code, flag word, decimals) in the packet a server sends for it:
    `FieldData.Parse` succeeds; the type and flags the row conversion then uses
    are those of `c`; and `writeColumnDefinition` sends the client the very
    packet of `c` with the catalog "def" — which the spec's reader reads as
    `c`.  So the client decodes the rows by the same type, UNSIGNED flag,
    character set and decimals as the backend declared. -/
theorem C13_coldef_forwarded (c : ColumnDef) (h : c.wf) :
    ∃ f, fieldParse (encodeColumnDef c) = .ok f ∧ f.toField = c.toField
      ∧ writeColumnDefinition f = .ok (encodeColumnDef { c with catalog := defCatalog })
      ∧ decodeColumnDef (encodeColumnDef { c with catalog := defCatalog }) = some { c with catalog := defCatalog } :=
  ⟨fieldOf c, fieldParse_encode c h, fieldOf_toField c, write_fieldOf c,
    decode_encode_coldef _ (wf_defCatalog c h)⟩

def exColumn : ColumnDef :=
  { catalog := defCatalog, schema := [100, 98], table := [116], orgTable := [116], name := [118], orgName := [118],
    charset := 63, columnLength := 3, typ := TypeTiny, flags := 32, decimals := 0 }

example : exColumn.wf := by simp [ColumnDef.wf, exColumn, defCatalog, TypeTiny]

example : encodeColumnDef exColumn
      = [3, 100, 101, 102, 2, 100, 98, 1, 116, 1, 116, 1, 118, 1, 118, 12, 63, 0, 3, 0, 0, 0, 1, 32, 0, 0, 0, 0]
    ∧ fieldParse (encodeColumnDef exColumn) = .ok (fieldOf exColumn)
    ∧ writeColumnDefinition (fieldOf exColumn) = .ok (encodeColumnDef exColumn) := by decide +kernel

/-- **C13, a whole COM_STMT_EXECUTE result.** The backend sends the column
    definitions `cds` and text rows; if the proxy answers with a result, the
    client receives the definitions unchanged (catalog "def") and one binary row
    per text row, in order, each of which — decoded by the types and flags of
    the definitions the client received — yields what the text row says in
    every column. -/
theorem C13_stmt_result_correct (ops : FloatOps) (hops : FloatOpsOk ops) (cds : List ColumnDef)
    (hwf : ∀ c ∈ cds, c.wf) (rows : List (List (Option Bytes))) (outDefs outs : List Bytes)
    (h : stmtResult ops (cds.map encodeColumnDef) (rows.map encodeTextRow) = .ok (outDefs, outs)) :
    outDefs.map decodeColumnDef = cds.map (fun c => some { c with catalog := defCatalog })
    ∧ List.Forall₂ (fun cells out => ∀ ds, (encodeTextRow cells).length < 2 ^ 62 →
        readRow ops (cds.map ColumnDef.toField) cells = some ds →
        ∃ vs, decodeBinRow (cds.map ColumnDef.toField) out = some vs ∧ sameRow vs ds = true) rows outs := by
  rw [stmtResult_shape ops cds hwf] at h
  cases hr : rowsToBinary ops (cds.map ColumnDef.toField) (rows.map encodeTextRow) with
  | err e => rw [hr] at h; cases h
  | ok bins =>
    rw [hr] at h
    cases h
    refine ⟨?_, C13_resultset_exact ops hops _ rows _ hr⟩
    -- the composition is written as a λ first: unified as it stands, `decodeColumnDef` gets unfolded
    rw [List.map_map, Function.comp_def]
    exact List.map_congr_left fun c hc => decode_encode_coldef _ (wf_defCatalog c (hwf c hc))

/-- **C13, delivery of a COM_STMT_EXECUTE result.** Well-formed definitions
    and rows of server values: the proxy answers with the result. -/
theorem C13_stmt_result_delivered (ops : FloatOps) (cds : List ColumnDef) (hwf : ∀ c ∈ cds, c.wf)
    (rows : List (List (Option Bytes)))
    (h : ∀ cells ∈ rows, serverRow ops (cds.map ColumnDef.toField) cells = true
      ∧ (∀ v, some v ∈ cells → v.length < 2 ^ 31) ∧ (encodeTextRow cells).length < 2 ^ 62) :
    ∃ outs, stmtResult ops (cds.map encodeColumnDef) (rows.map encodeTextRow)
      = .ok (cds.map (fun c => encodeColumnDef { c with catalog := defCatalog }), outs) := by
  obtain ⟨outs, ho⟩ := C13_resultset_delivered ops (cds.map ColumnDef.toField) rows h
  exact ⟨outs, by rw [stmtResult_shape ops cds hwf, ho]⟩

/-- **No panic on a whole result.** For column definitions as a server sends
    them and any bytes as rows, the answer is a result or an error kind. -/
theorem stmt_result_no_panic (ops : FloatOps) (cds : List ColumnDef) (hwf : ∀ c ∈ cds, c.wf) (rows : List Bytes) :
    stmtResult ops (cds.map encodeColumnDef) rows ≠ .err .panic := by
  rw [stmtResult_shape ops cds hwf]
  have := no_panic ops (cds.map ColumnDef.toField) rows
  cases h : rowsToBinary ops (cds.map ColumnDef.toField) rows with
  | err e => rw [h] at this; simpa using this
  | ok bins => simp

end GaeaVerif.C13
