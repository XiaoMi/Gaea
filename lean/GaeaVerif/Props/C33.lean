import GaeaVerif.Model.NsStore
import GaeaVerif.Lemmas.IPAllowSplit
/-
  C33 — Stored configurations round-trip exactly and stay inside the storage area.
  Theorems about `Model/NsStore.lean` (tie to /repo: correspondence `gvh run C33`).
-/
namespace GaeaVerif.C33
open GaeaVerif GaeaVerif.NsStore

/-! ### padding -/

theorem pkcs5UnPadding_eq (d : Bytes) :
    pkcs5UnPadding d =
      if d.length < (d.getLast?.getD 0).toNat then .fail
      else .ok (d.take (d.length - (d.getLast?.getD 0).toNat)) := by
  unfold pkcs5UnPadding
  by_cases h0 : d = []
  · subst h0; rfl
  · have hpos : 0 < d.length := List.length_pos_iff.mpr h0
    have e : (d.length : Int) - 1 = ((d.length - 1 : Nat) : Int) := (Int.ofNat_sub hpos).symm
    simp only
    rw [if_neg (Int.not_le.mpr (Int.natCast_pos.mpr hpos)), e, goIdx_nat, if_pos (Nat.sub_lt hpos Nat.one_pos),
      R.bind_ok, List.getD_eq_getElem?_getD, ← List.getLast?_eq_getElem?]
    generalize (d.getLast?.getD 0).toNat = k
    by_cases hk : d.length < k
    · rw [if_pos hk, if_pos (Int.ofNat_lt.mpr hk)]
    · rw [if_neg hk, if_neg (mt Int.ofNat_lt.mp hk), ← Int.ofNat_sub (Nat.le_of_not_lt hk)]
      exact goSlice_take d _ (Nat.sub_le _ _)

/-- **Padding comes off again**: for every byte string and every block size a
    cipher can have (1 … 255), `pkcs5UnPadding (pkcs5Padding data)` is `data`;
    the padded length is a positive multiple of the block size. -/
theorem pad_unpad (data : Bytes) (bs : Nat) (h1 : 1 ≤ bs) (h2 : bs ≤ 255) :
    ∃ p, pkcs5Padding data bs = .ok p ∧ p.length % bs = 0 ∧ 0 < p.length ∧ pkcs5UnPadding p = .ok data := by
  have hmod : data.length % bs < bs := Nat.mod_lt _ h1
  have hpos : 0 < bs - data.length % bs := Nat.sub_pos_of_lt hmod
  have hlt : bs - data.length % bs < 256 := Nat.lt_of_le_of_lt (Nat.sub_le _ _) (Nat.lt_succ_of_le h2)
  refine ⟨_, if_neg (Nat.ne_of_gt h1), ?_, ?_, ?_⟩
  · -- `len + (bs - len % bs) = (len - len % bs) + bs`
    rw [List.length_append, List.length_replicate, ← Nat.add_sub_assoc (Nat.le_of_lt hmod), Nat.add_comm,
      Nat.add_sub_assoc (Nat.mod_le _ _), Nat.add_mod_left]
    exact Nat.sub_mod_eq_zero_of_mod_eq (Nat.mod_mod _ _).symm
  · rw [List.length_append, List.length_replicate]
    exact Nat.lt_of_lt_of_le hpos (Nat.le_add_left _ _)
  · generalize bs - data.length % bs = pad at hpos hlt ⊢
    have hlast : (data ++ List.replicate pad (UInt8.ofNat pad)).getLast? = some (UInt8.ofNat pad) := by
      rw [List.getLast?_append, List.getLast?_replicate, if_neg (Nat.ne_of_gt hpos)]; rfl
    rw [pkcs5UnPadding_eq, hlast, List.length_append, List.length_replicate, Option.getD_some,
      UInt8.toNat_ofNat_of_lt' hlt, if_neg (Nat.not_lt.mpr (Nat.le_add_left _ _)), Nat.add_sub_cancel,
      List.take_left]

/-- **Unpadding is total**: for every byte string it returns an error or a
    prefix of its input; it never panics. -/
theorem unpad_total (d : Bytes) :
    pkcs5UnPadding d = .fail ∨ ∃ r t, pkcs5UnPadding d = .ok r ∧ d = r ++ t := by
  rw [pkcs5UnPadding_eq]
  split
  · exact Or.inl rfl
  · exact Or.inr ⟨_, _, rfl, (List.take_append_drop _ d).symm⟩

/-! ### ECB -/

def Blocks (bs : Nat) (l : List Bytes) : Prop := ∀ b ∈ l, b.length = bs

theorem Blocks.length_flatten {bs : Nat} {l : List Bytes} (h : Blocks bs l) : l.flatten.length = l.length * bs := by
  induction l with
  | nil => simp
  | cons b l ih =>
    rw [List.flatten_cons, List.length_append, h b List.mem_cons_self, ih fun x hx => h x (List.mem_cons_of_mem _ hx),
      List.length_cons, Nat.succ_mul, Nat.add_comm]

theorem Blocks.length_le {bs : Nat} {l : List Bytes} (h : Blocks bs l) (hbs : 0 < bs) : l.length ≤ l.flatten.length :=
  h.length_flatten ▸ Nat.le_mul_of_pos_right _ hbs

theorem exists_blocks (bs : Nat) : ∀ (k : Nat) (src : Bytes), src.length = k * bs →
    ∃ l, Blocks bs l ∧ l.flatten = src := by
  intro k
  induction k with
  | zero =>
    intro src hl
    exact ⟨[], nofun, (List.length_eq_zero_iff.mp (hl.trans (Nat.zero_mul _))).symm⟩
  | succ k ih =>
    intro src hl
    have hge : bs ≤ src.length := hl ▸ Nat.le_mul_of_pos_left _ (Nat.succ_pos k)
    obtain ⟨l, hb, hf⟩ := ih (src.drop bs) (by rw [List.length_drop, hl, Nat.succ_mul, Nat.add_sub_cancel])
    refine ⟨src.take bs :: l, ?_, by rw [List.flatten_cons, hf, List.take_append_drop]⟩
    intro b hb'
    cases hb' with
    | head => exact List.length_take_of_le hge
    | tail _ hm => exact hb b hm

theorem cryptLoop_blocks (f : Bytes → Bytes) (bs : Nat) (hbs : 0 < bs) :
    ∀ (l : List Bytes) (fuel : Nat), Blocks bs l → l.length ≤ fuel →
      cryptLoop f bs fuel l.flatten = .ok (l.map f).flatten := by
  intro l
  induction l with
  | nil => intro fuel _ _; cases fuel <;> rfl
  | cons b l ih =>
    intro fuel hb hf
    cases fuel with
    | zero => cases hf
    | succ fuel =>
      have hbl : b.length = bs := hb b List.mem_cons_self
      have hge : bs ≤ (b ++ l.flatten).length := by rw [List.length_append, hbl]; exact Nat.le_add_right _ _
      rw [List.flatten_cons, cryptLoop, if_neg (Nat.ne_of_gt (Nat.lt_of_lt_of_le hbs hge)),
        goSlice_take _ bs hge, goSlice_drop _ bs hge, List.take_left' hbl, List.drop_left' hbl,
        R.bind_ok, R.bind_ok, ih fuel (fun x hx => hb x (List.mem_cons_of_mem _ hx)) (Nat.le_of_succ_le_succ hf)]
      rfl

/-- **ECB round trip**: for every block size, every pair of block functions
    with `D (E b) = b` and `|E b| = |b|` on whole blocks, and every input of
    whole blocks, decrypting the encryption gives the input back. -/
theorem ecb_roundtrip (e d : Bytes → Bytes) (bs : Nat) (hbs : 0 < bs)
    (hlen : ∀ b : Bytes, b.length = bs → (e b).length = bs)
    (hinv : ∀ b : Bytes, b.length = bs → d (e b) = b) :
    ∀ (k : Nat) (src : Bytes) (fuel fuel' : Nat), src.length = k * bs → src.length ≤ fuel → src.length ≤ fuel' →
      ∃ out, cryptLoop e bs fuel src = .ok out ∧ out.length = src.length ∧ cryptLoop d bs fuel' out = .ok src := by
  intro k src fuel fuel' hl hf hf'
  obtain ⟨l, hb, rfl⟩ := exists_blocks bs k src hl
  have hb' : Blocks bs (l.map e) := by
    intro b hm
    obtain ⟨a, ha, rfl⟩ := List.mem_map.mp hm
    exact hlen a (hb a ha)
  have hlen' : (l.map e).flatten.length = l.flatten.length := by
    rw [hb'.length_flatten, hb.length_flatten, List.length_map]
  refine ⟨_, cryptLoop_blocks e bs hbs l fuel hb (Nat.le_trans (hb.length_le hbs) hf), hlen', ?_⟩
  have hback : (l.map e).map d = l := by
    rw [List.map_map]
    exact (List.map_congr_left fun a ha => hinv a (hb a ha)).trans (List.map_id l)
  rw [cryptLoop_blocks d bs hbs _ fuel' hb' (Nat.le_trans (hb'.length_le hbs) (hlen' ▸ hf')), hback]

theorem cryptBlocks_ne_panic (f : Bytes → Bytes) (bs : Nat) (hbs : 0 < bs) (src : Bytes) :
    cryptBlocks f bs src.length src ≠ .panic := by
  unfold cryptBlocks
  rw [if_neg (Nat.ne_of_gt hbs), if_neg (Nat.lt_irrefl _)]
  split
  · exact nofun
  · rename_i hmod
    obtain ⟨l, hb, rfl⟩ :=
      exists_blocks bs _ src (Nat.div_mul_cancel (Nat.dvd_of_mod_eq_zero (Decidable.not_not.mp hmod))).symm
    rw [cryptLoop_blocks f bs hbs l _ hb (hb.length_le hbs)]
    exact nofun

/-- What is assumed of `aes.NewCipher(key)` when it succeeds: a block size a
    padding byte can express and a pair of inverse block functions. -/
structure GoodBlock (b : Block) : Prop where
  size_pos : 1 ≤ b.blockSize
  size_le : b.blockSize ≤ 255
  enc_len : ∀ x : Bytes, x.length = b.blockSize → (b.encrypt x).length = b.blockSize
  dec_enc : ∀ x : Bytes, x.length = b.blockSize → b.decrypt (b.encrypt x) = x

/-- **`DecryptECB (EncryptECB data) = data`** for every key the cipher accepts
    and every byte string; the ciphertext is not empty. -/
theorem ecb_encrypt_decrypt (nc : Bytes → Option Block) (key data : Bytes) (blk : Block)
    (hk : nc key = some blk) (hg : GoodBlock blk) :
    ∃ c, encryptECB nc key data = .ok c ∧ c ≠ [] ∧ decryptECB nc key c = .ok data := by
  obtain ⟨p, hp, hmod, hpos, hun⟩ := pad_unpad data blk.blockSize hg.size_pos hg.size_le
  have hbs0 : ¬ (blk.blockSize = 0) := Nat.ne_of_gt hg.size_pos
  obtain ⟨c, hc, hcl, hback⟩ := ecb_roundtrip blk.encrypt blk.decrypt blk.blockSize hg.size_pos hg.enc_len hg.dec_enc
    _ p p.length p.length (Nat.div_mul_cancel (Nat.dvd_of_mod_eq_zero hmod)).symm (Nat.le_refl _) (Nat.le_refl _)
  refine ⟨c, ?_, ?_, ?_⟩
  · simp only [encryptECB, hk, hp, R.bind_ok, cryptBlocks, hbs0, if_false, hmod, ne_eq, not_true_eq_false,
      Nat.lt_irrefl, hc]
  · intro h; subst h; exact Nat.ne_of_gt hpos hcl.symm
  · simp only [decryptECB, hk, cryptBlocks, hbs0, if_false, hcl, hmod, ne_eq, not_true_eq_false, Nat.lt_irrefl,
      hback, R.bind_ok, hun]

/-- **Decrypting arbitrary data never crashes**: for every key, every byte
    string (any length, any content) and every cipher with a positive block
    size, `DecryptECB` returns an error or some bytes, never a panic. -/
theorem decryptECB_total (nc : Bytes → Option Block) (key data : Bytes)
    (hsize : ∀ blk, nc key = some blk → 0 < blk.blockSize) :
    decryptECB nc key data ≠ .panic := by
  unfold decryptECB
  cases hk : nc key with
  | none => exact nofun
  | some blk =>
    refine R.bind_ne_panic (cryptBlocks_ne_panic _ _ (hsize blk hk) data) fun d => ?_
    rcases unpad_total d with h | ⟨r, _, h, _⟩ <;> rw [h] <;> exact nofun

/-! ### encrypt / decrypt of one field -/

/-- What is assumed of `base64.StdEncoding`: decoding an encoding gives the
    bytes back; the encoding of a non-empty string is not empty and has no
    white space at either end (its alphabet has none). -/
structure GoodB64 (b : Base64) : Prop where
  dec_enc : ∀ x : Bytes, b.decodeString (b.encodeToString x) = x
  nonempty : ∀ x : Bytes, x ≠ [] → b.encodeToString x ≠ []
  no_space : ∀ x : Bytes, IPAllow.trimSpace (b.encodeToString x) = b.encodeToString x

/-- `E` always succeeds with a non-empty text free of surrounding white space,
    and `D` takes that text back. -/
def Inverse (E D : Bytes → R Bytes) : Prop :=
  ∀ x : Bytes, ∃ y : Bytes, E x = .ok y ∧ y ≠ [] ∧ IPAllow.trimSpace y = y ∧ D y = .ok x

/-- **`decrypt (encrypt data) = data`** for every byte string (user names and
    passwords with arbitrary bytes) and every key the cipher accepts. -/
theorem encrypt_decrypt (nc : Bytes → Option Block) (b64 : Base64) (key : Bytes) (blk : Block)
    (hk : nc key = some blk) (hg : GoodBlock blk) (hb : GoodB64 b64) :
    Inverse (encrypt nc b64 key) (decrypt nc b64 key) := by
  intro data
  obtain ⟨c, hc, hne, hback⟩ := ecb_encrypt_decrypt nc key data blk hk hg
  refine ⟨b64.encodeToString c, ?_, hb.nonempty c hne, hb.no_space c, ?_⟩
  · simp [encrypt, hc]
  · simp [decrypt, hb.dec_enc, hback]

/-- The text `E` produces (total form of `E` under `Inverse`). -/
def encT (E : Bytes → R Bytes) (x : Bytes) : Bytes :=
  match E x with
  | .ok y => y
  | _ => []

theorem encT_spec {E D : Bytes → R Bytes} (h : Inverse E D) (x : Bytes) :
    E x = .ok (encT E x) ∧ encT E x ≠ [] ∧ IPAllow.trimSpace (encT E x) = encT E x ∧ D (encT E x) = .ok x := by
  obtain ⟨y, h1, h2, h3, h4⟩ := h x
  have : encT E x = y := by simp [encT, h1]
  rw [this]; exact ⟨h1, h2, h3, h4⟩

theorem encT_inj {E D : Bytes → R Bytes} (h : Inverse E D) (x x' : Bytes) (e : encT E x = encT E x') : x = x' := by
  have h1 := (encT_spec h x).2.2.2
  have h2 := (encT_spec h x').2.2.2
  rw [e, h2] at h1
  exact (R.ok.inj h1).symm

/-- The encrypted form of a credential pair. -/
def encCred (E : Bytes → R Bytes) (c : Cred) : Cred :=
  { userName := encT E c.userName, password := encT E c.password }

/-- The encrypted form of a namespace, as `Namespace.Encrypt` builds it. -/
def encNs {ρ : Type} (E : Bytes → R Bytes) (n1 : Namespace ρ) : Namespace ρ :=
  { n1 with isEncrypt := true, users := n1.users.map (encCred E), slices := n1.slices.map (encCred E) }

theorem cryptCreds_enc {E D : Bytes → R Bytes} (h : Inverse E D) (cs : List Cred) :
    cryptCreds E cs = .ok (cs.map (encCred E)) := by
  induction cs with
  | nil => rfl
  | cons c cs ih =>
    simp [cryptCreds, (encT_spec h c.userName).1, (encT_spec h c.password).1, ih, encCred]

theorem cryptCreds_dec {E D : Bytes → R Bytes} (h : Inverse E D) (cs : List Cred) :
    cryptCreds D (cs.map (encCred E)) = .ok cs := by
  induction cs with
  | nil => rfl
  | cons c cs ih =>
    simp [cryptCreds, encCred, (encT_spec h c.userName).2.2.2, (encT_spec h c.password).2.2.2, ih]

theorem encrypt_eq_encNs {ρ : Type} {nc : Bytes → Option Block} {b64 : Base64} {key : Bytes}
    (h : Inverse (encrypt nc b64 key) (decrypt nc b64 key)) (n : Namespace ρ) :
    n.encrypt nc b64 key = .ok (encNs (encrypt nc b64 key) n) := by
  simp [Namespace.encrypt, cryptCreds_enc h, encNs]

theorem decrypt_encNs {ρ : Type} {nc : Bytes → Option Block} {b64 : Base64} {key : Bytes}
    (h : Inverse (encrypt nc b64 key) (decrypt nc b64 key)) (n : Namespace ρ) :
    (encNs (encrypt nc b64 key) n).decrypt nc b64 key = .ok { n with isEncrypt := true } := by
  simp [Namespace.decrypt, cryptCreds_dec h, encNs]

/-- **`Namespace.Decrypt (Namespace.Encrypt n) = n`** up to the `is_encrypt`
    marker, for every namespace: any number of users and slices, names and
    passwords arbitrary bytes. -/
theorem namespace_crypt_roundtrip {ρ : Type} (nc : Bytes → Option Block) (b64 : Base64) (key : Bytes) (blk : Block)
    (hk : nc key = some blk) (hg : GoodBlock blk) (hb : GoodB64 b64) (n : Namespace ρ) :
    ∃ e, n.encrypt nc b64 key = .ok e ∧ e.isEncrypt = true
      ∧ e.decrypt nc b64 key = .ok { n with isEncrypt := true } :=
  have h := encrypt_decrypt nc b64 key blk hk hg hb
  ⟨_, encrypt_eq_encNs h n, rfl, decrypt_encNs h n⟩

/-- A namespace that is not marked encrypted is loaded as it is. -/
theorem decrypt_plain {ρ : Type} (nc : Bytes → Option Block) (b64 : Base64) (key : Bytes) (n : Namespace ρ)
    (h : n.isEncrypt = false) : n.decrypt nc b64 key = .ok n := by
  simp [Namespace.decrypt, h]

theorem cryptCreds_ne_panic (f : Bytes → R Bytes) (hf : ∀ x, f x ≠ .panic) (cs : List Cred) :
    cryptCreds f cs ≠ .panic := by
  induction cs with
  | nil => exact nofun
  | cons c cs ih =>
    exact R.bind_ne_panic (hf _) fun _ => R.bind_ne_panic (hf _) fun _ => R.bind_ne_panic ih fun _ => nofun

/-- **Loading malformed data or with a wrong key never crashes**: for every
    stored namespace (arbitrary texts in the credential fields), every key and
    every cipher, `Namespace.Decrypt` fails or yields data. -/
theorem namespace_decrypt_total {ρ : Type} (nc : Bytes → Option Block) (b64 : Base64) (key : Bytes)
    (hsize : ∀ blk, nc key = some blk → 0 < blk.blockSize) (n : Namespace ρ) :
    n.decrypt nc b64 key ≠ .panic := by
  have hc := cryptCreds_ne_panic (decrypt nc b64 key) fun x => decryptECB_total nc key _ hsize
  unfold Namespace.decrypt
  split
  · exact nofun
  · exact R.bind_ne_panic (hc _) fun _ => R.bind_ne_panic (hc _) fun _ => nofun

/-! ### validation of the stored (encrypted) form -/

def names (l : List Cred) : List Bytes := l.map (·.userName)

/-- A credential pair that `User.verify` leaves alone. -/
def CleanCred (c : Cred) : Prop :=
  c.userName ≠ [] ∧ c.password ≠ [] ∧ IPAllow.trimSpace c.userName = c.userName
    ∧ IPAllow.trimSpace c.password = c.password

theorem verifyUsersFrom_cons (prev : List Cred) (u : Cred) (rest us : List Cred) :
    verifyUsersFrom prev (u :: rest) = some us ↔
      u.userName ≠ [] ∧ u.password ≠ [] ∧ (trimCred u).userName ∉ names prev ∧
        ∃ us', verifyUsersFrom (prev ++ [trimCred u]) rest = some us' ∧ us = trimCred u :: us' := by
  have hany : prev.any (fun p => p.userName == (trimCred u).userName) = true ↔ (trimCred u).userName ∈ names prev := by
    simp only [names, List.any_eq_true, List.mem_map, beq_iff_eq]
  rw [verifyUsersFrom]
  by_cases h1 : u.userName = []
  · rw [if_pos h1]; exact ⟨nofun, fun h => absurd h1 h.1⟩
  by_cases h2 : u.password = []
  · rw [if_neg h1, if_pos h2]; exact ⟨nofun, fun h => absurd h2 h.2.1⟩
  by_cases h3 : (trimCred u).userName ∈ names prev
  · rw [if_neg h1, if_neg h2, if_pos (hany.mpr h3)]; exact ⟨nofun, fun h => absurd h3 h.2.2.1⟩
  · rw [if_neg h1, if_neg h2, if_neg (mt hany.mp h3), Option.map_eq_some_iff]
    exact ⟨fun ⟨us', h, e⟩ => ⟨h1, h2, h3, us', h, e.symm⟩, fun ⟨_, _, _, us', h, e⟩ => ⟨us', h, e.symm⟩⟩

theorem verifyUsersFrom_nodup : ∀ (l prev us : List Cred), (names prev).Nodup →
    verifyUsersFrom prev l = some us → (names (prev ++ us)).Nodup := by
  intro l
  induction l with
  | nil =>
    intro prev us hp h
    cases h
    rwa [List.append_nil]
  | cons u rest ih =>
    intro prev us hp h
    obtain ⟨_, _, hnot, us', hr, rfl⟩ := (verifyUsersFrom_cons prev u rest us).mp h
    have hp' : (names (prev ++ [trimCred u])).Nodup := by
      rw [names, List.map_append, List.nodup_append]
      refine ⟨hp, List.pairwise_singleton _ _, fun a ha b hb e => ?_⟩
      subst e
      cases List.mem_singleton.mp hb
      exact hnot ha
    rw [List.append_cons]
    exact ih _ _ hp' hr

theorem verifyUsersFrom_clean : ∀ (l prev : List Cred), (∀ c ∈ l, CleanCred c) → (names (prev ++ l)).Nodup →
    verifyUsersFrom prev l = some l := by
  intro l
  induction l with
  | nil => intro prev _ _; rfl
  | cons c rest ih =>
    intro prev hc hn
    obtain ⟨h1, h2, h3, h4⟩ := hc c List.mem_cons_self
    have hce : trimCred c = c := by rw [trimCred, h3, h4]
    rw [verifyUsersFrom_cons, hce]
    rw [List.append_cons] at hn
    refine ⟨h1, h2, fun hm => ?_, rest, ih _ (fun x hx => hc x (List.mem_cons_of_mem _ hx)) hn, rfl⟩
    rw [names, List.map_append, List.map_append, List.nodup_append] at hn
    exact (List.nodup_append.mp hn.1).2.2 _ hm _ (List.mem_singleton.mpr rfl) rfl

theorem names_enc (E : Bytes → R Bytes) (l : List Cred) :
    names (l.map (encCred E)) = (names l).map (encT E) := by
  simp [names, encCred, List.map_map, Function.comp_def]

theorem verify_eq_ok {ρ : Type} (verifyRest : Bytes → ρ → Option ρ) (n n1 : Namespace ρ) :
    n.verify verifyRest = .ok n1 ↔
      n.name ≠ [] ∧ ∃ us r, verifyUsers n.users = some us ∧ verifySlices n.slices = true
        ∧ verifyRest n.name n.rest = some r ∧ n1 = { n with users := us, rest := r } := by
  unfold Namespace.verify
  by_cases hn : n.name = []
  · rw [if_pos hn]; exact ⟨nofun, fun h => absurd hn h.1⟩
  rw [if_neg hn]
  cases verifyUsers n.users with
  | none => exact ⟨nofun, fun ⟨_, _, _, h, _⟩ => nomatch h⟩
  | some us =>
    cases verifySlices n.slices with
    | false => exact ⟨nofun, fun ⟨_, _, _, _, h, _⟩ => nomatch h⟩
    | true =>
      cases verifyRest n.name n.rest with
      | none => exact ⟨nofun, fun ⟨_, _, _, _, _, h, _⟩ => nomatch h⟩
      | some r =>
        exact ⟨fun h => ⟨hn, us, r, rfl, rfl, rfl, (R.ok.inj h).symm⟩,
          fun ⟨_, _, _, h1, _, h3, e⟩ => by cases h1; cases h3; rw [e]; rfl⟩

theorem verifyUsers_some {us us' : List Cred} (h : verifyUsers us = some us') : us' ≠ [] ∧ (names us').Nodup := by
  unfold verifyUsers at h
  cases us with
  | nil => cases h
  | cons a l =>
    rw [List.isEmpty_cons, if_neg Bool.false_ne_true] at h
    refine ⟨?_, by simpa using verifyUsersFrom_nodup _ [] us' List.nodup_nil h⟩
    obtain ⟨_, _, _, _, _, rfl⟩ := (verifyUsersFrom_cons _ _ _ _).mp h
    exact List.cons_ne_nil _ _

theorem verifyUsers_clean {l : List Cred} (hne : l ≠ []) (hc : ∀ c ∈ l, CleanCred c) (hn : (names l).Nodup) :
    verifyUsers l = some l := by
  rw [verifyUsers, if_neg (mt List.isEmpty_iff.mp hne)]
  exact verifyUsersFrom_clean l [] hc hn

theorem verifySlices_iff (ss : List Cred) : verifySlices ss = true ↔ ss ≠ [] ∧ ∀ s ∈ ss, s.userName ≠ [] := by
  simp [verifySlices]

theorem cleanCred_enc {E D : Bytes → R Bytes} (h : Inverse E D) (c : Cred) : CleanCred (encCred E c) :=
  have s1 := encT_spec h c.userName
  have s2 := encT_spec h c.password
  ⟨s1.2.1, s2.2.1, s1.2.2.1, s2.2.2.1⟩

/-- **The stored form is valid**: if `Verify` accepted a namespace (result
    `n1`), it accepts the encrypted `n1` too and changes nothing in it, so
    what is written to the coordinator can be loaded. -/
theorem verify_encrypted {ρ : Type} (verifyRest : Bytes → ρ → Option ρ)
    (hidem : ∀ nm r r', verifyRest nm r = some r' → verifyRest nm r' = some r')
    (E D : Bytes → R Bytes) (h : Inverse E D) (n n1 : Namespace ρ) (hv : n.verify verifyRest = .ok n1) :
    (encNs E n1).verify verifyRest = .ok (encNs E n1) := by
  obtain ⟨hname, us, r, hus, hsl, hr, rfl⟩ := (verify_eq_ok verifyRest n n1).mp hv
  obtain ⟨hne, hnd⟩ := verifyUsers_some hus
  have hsne := ((verifySlices_iff _).mp hsl).1
  refine (verify_eq_ok verifyRest _ _).mpr
    ⟨hname, us.map (encCred E), r, verifyUsers_clean ?_ ?_ ?_, (verifySlices_iff _).mpr ⟨?_, ?_⟩, hidem _ _ _ hr, rfl⟩
  · exact mt List.map_eq_nil_iff.mp hne
  · exact List.forall_mem_map.mpr fun a _ => cleanCred_enc h a
  · -- encryption is injective, so the names stay pairwise different
    show (names (us.map (encCred E))).Nodup
    rw [names_enc]
    exact hnd.map _ fun _ _ hab e => hab (encT_inj h _ _ e)
  · exact mt List.map_eq_nil_iff.mp hsne
  · exact List.forall_mem_map.mpr fun a _ => (cleanCred_enc h a).1

/-- What is assumed of `encoding/json` on namespaces: decoding an encoding
    gives the value back. -/
def GoodCodec {ρ ω : Type} (c : Codec ρ ω) : Prop := ∀ x, c.decode (c.encode x) = some x

theorem read_update {ρ ω : Type} (codec : Codec ρ ω) (c : Client ω) (pfx : Bytes) (p : Namespace ρ) :
    Client.read (updateNamespace codec c pfx p) (namespacePath pfx p.name) = some (codec.encode p) := by
  simp [Client.read, updateNamespace]

/-- **C33, round trip through the store.**  For every namespace `n` that the
    control plane's validation accepts (normalised to `n1`), every key the
    cipher accepts, every storage prefix and whatever the coordinator already
    holds: encrypting `n1`, writing it with `UpdateNamespace` and reading it
    with `LoadNamespace` (decode, validate, decrypt) yields `n1` exactly — all
    fields, user names and passwords with arbitrary bytes — with only the
    `is_encrypt` marker set. -/
theorem store_roundtrip {ρ ω : Type} (codec : Codec ρ ω) (hcodec : GoodCodec codec)
    (verifyRest : Bytes → ρ → Option ρ)
    (hidem : ∀ nm r r', verifyRest nm r = some r' → verifyRest nm r' = some r')
    (nc : Bytes → Option Block) (b64 : Base64) (key : Bytes) (blk : Block)
    (hk : nc key = some blk) (hg : GoodBlock blk) (hb : GoodB64 b64)
    (c : Client ω) (pfx : Bytes) (n n1 : Namespace ρ) (hv : n.verify verifyRest = .ok n1) :
    ∃ e, n1.encrypt nc b64 key = .ok e ∧
      loadNamespace codec verifyRest nc b64 (updateNamespace codec c pfx e) pfx key n.name
        = .ok { n1 with isEncrypt := true } := by
  have h := encrypt_decrypt nc b64 key blk hk hg hb
  have hname : (encNs (encrypt nc b64 key) n1).name = n.name := by
    obtain ⟨_, _, _, _, _, _, rfl⟩ := (verify_eq_ok verifyRest n n1).mp hv
    rfl
  refine ⟨_, encrypt_eq_encNs h n1, ?_⟩
  rw [loadNamespace, ← hname, read_update]
  simp only [hcodec _]
  rw [verify_encrypted verifyRest hidem _ _ h n n1 hv]
  exact decrypt_encNs h n1

/-- The proxy's local copy: what `LoadOriginNamespace` returns for a stored
    namespace (decoded and validated, not decrypted) is the stored namespace
    itself, so writing it to the local store and loading from there is the
    same round trip (`store_roundtrip` with the local client as `c`). -/
theorem origin_is_stored {ρ ω : Type} (codec : Codec ρ ω) (hcodec : GoodCodec codec)
    (verifyRest : Bytes → ρ → Option ρ)
    (hidem : ∀ nm r r', verifyRest nm r = some r' → verifyRest nm r' = some r')
    (E D : Bytes → R Bytes) (h : Inverse E D) (n n1 : Namespace ρ) (hv : n.verify verifyRest = .ok n1) :
    (codec.decode (codec.encode (encNs E n1))).map (fun p => p.verify verifyRest) = some (.ok (encNs E n1)) := by
  rw [hcodec _, Option.map_some, verify_encrypted verifyRest hidem E D h n n1 hv]

/-! ### paths: splitting and joining on `/` -/

/-- A real path component: not empty, not `.`, not `..`, no `/` inside. -/
def Real (c : Bytes) : Prop := c ≠ [] ∧ c ≠ dot ∧ c ≠ dotdot ∧ slash ∉ c

theorem splitSlash_eq (p : Bytes) : splitSlash p = Split.split slash p := IPAllow.splitOn_eq slash p

theorem split_join (cs : List Bytes) (hne : cs ≠ []) (h : ∀ c ∈ cs, slash ∉ c) :
    splitSlash (joinSlash cs) = cs := by
  rw [splitSlash_eq]
  induction cs with
  | nil => exact absurd rfl hne
  | cons c rest ih =>
    have hc : ∀ b ∈ c, b ≠ slash := fun b hb e => h c List.mem_cons_self (e ▸ hb)
    cases rest with
    | nil => exact Split.split_no_sep hc
    | cons c2 rest =>
      exact (Split.split_append_sep hc _).trans
        (congrArg (c :: ·) (ih (List.cons_ne_nil _ _) fun x hx => h x (List.mem_cons_of_mem _ hx)))

/-! ### paths: `filepath.Clean` -/

def keep (c : Bytes) : Bool := !decide (c = [] ∨ c = dot)

theorem keep_iff (c : Bytes) : keep c = true ↔ ¬ (c = [] ∨ c = dot) := by
  rw [keep, Bool.not_eq_true', decide_eq_false_iff_not]

theorem cleanStep_skip (r : Bool) (st : Nat × List Bytes) (c : Bytes) (h : c = [] ∨ c = dot) :
    cleanStep r st c = st := by simp [cleanStep, h]

theorem dotdot_not_skip : ¬ (dotdot = [] ∨ dotdot = dot) := by decide

theorem cleanStep_pop (r : Bool) (u : Nat) (t : Bytes) (tl : List Bytes) :
    cleanStep r (u, t :: tl) dotdot = (u, tl) := by simp [cleanStep, dotdot_not_skip]

theorem cleanStep_root (u : Nat) : cleanStep true (u, []) dotdot = (u, []) := by
  simp [cleanStep, dotdot_not_skip]

theorem cleanStep_up (u : Nat) : cleanStep false (u, []) dotdot = (u + 1, []) := by
  simp [cleanStep, dotdot_not_skip]

theorem cleanStep_push (r : Bool) (u : Nat) (stk : List Bytes) (c : Bytes) (h1 : ¬ (c = [] ∨ c = dot))
    (h2 : c ≠ dotdot) : cleanStep r (u, stk) c = (u, c :: stk) := by simp [cleanStep, h1, h2]

theorem fold_no_dotdot (r : Bool) : ∀ (cs : List Bytes) (u : Nat) (stk : List Bytes), (∀ c ∈ cs, c ≠ dotdot) →
    cs.foldl (cleanStep r) (u, stk) = (u, (cs.filter keep).reverse ++ stk) := by
  intro cs
  induction cs with
  | nil => intro u stk _; simp
  | cons c cs ih =>
    intro u stk h
    have hc := h c (by simp)
    have hcs : ∀ x ∈ cs, x ≠ dotdot := fun x hx => h x (by simp [hx])
    by_cases hk : c = [] ∨ c = dot
    · rw [List.foldl_cons, cleanStep_skip r _ c hk, List.filter_cons_of_neg (mt (keep_iff c).mp (not_not_intro hk))]
      exact ih u stk hcs
    · rw [List.foldl_cons, cleanStep_push r u stk c hk hc, List.filter_cons_of_pos ((keep_iff c).mpr hk),
        ih u (c :: stk) hcs, List.reverse_cons, List.append_assoc]
      rfl

/-- What `Clean` maintains of its state: real components only, and no `..` kept under a root. -/
def CleanInv (r : Bool) (st : Nat × List Bytes) : Prop := (∀ c ∈ st.2, Real c) ∧ (r = true → st.1 = 0)

theorem cleanStep_inv (r : Bool) (st : Nat × List Bytes) (c : Bytes) (hc : slash ∉ c) (h : CleanInv r st) :
    CleanInv r (cleanStep r st c) := by
  obtain ⟨u, stk⟩ := st
  by_cases hk : c = [] ∨ c = dot
  · rwa [cleanStep_skip r _ c hk]
  by_cases hd : c = dotdot
  · subst hd
    match stk, r with
    | t :: tl, _ => rw [cleanStep_pop]; exact ⟨fun x hx => h.1 x (List.mem_cons_of_mem _ hx), h.2⟩
    | [], true => rwa [cleanStep_root]
    | [], false => rw [cleanStep_up]; exact ⟨nofun, nofun⟩
  · rw [cleanStep_push r u stk c hk hd]
    exact ⟨List.forall_mem_cons.mpr ⟨⟨fun e => hk (Or.inl e), fun e => hk (Or.inr e), hd, hc⟩, h.1⟩, h.2⟩

/-- **Normal form of `filepath.Clean`**: the result is `render rooted ups reals`
    with real components only, no `..` kept under a root. -/
theorem clean_nf (p : Bytes) :
    ∃ ups reals, (∀ c ∈ reals, Real c) ∧ ((p.head? == some slash) = true → ups = 0)
      ∧ filepathClean p = render (p.head? == some slash) ups reals := by
  by_cases hp : p = []
  · subst hp
    exact ⟨0, [], nofun, fun _ => rfl, rfl⟩
  · have hsplit : ∀ c ∈ splitSlash p, slash ∉ c :=
      splitSlash_eq p ▸ fun c hc hm => Split.ne_sep_of_mem_split slash p c hc slash hm rfl
    have inv : CleanInv (p.head? == some slash) ((splitSlash p).foldl (cleanStep _) (0, [])) :=
      List.foldlRecOn _ _ ⟨nofun, fun _ => rfl⟩ fun st h c hc => cleanStep_inv _ st c (hsplit c hc) h
    refine ⟨_, _, fun c hc => inv.1 c (List.mem_reverse.mp hc), inv.2, ?_⟩
    rw [filepathClean, if_neg hp]

/-! ### paths: the storage area -/

/-- The text `p` has no `..` component; `l` are its components other than the empty ones and `.`. -/
def Plain (p : Bytes) (l : List Bytes) : Prop :=
  (∀ c ∈ splitSlash p, c ≠ dotdot) ∧ (splitSlash p).filter keep = l

theorem Plain.nil : Plain [] [] :=
  ⟨fun c hc => by cases List.mem_singleton.mp hc; decide, by decide⟩

theorem Plain.dot : Plain dot [] :=
  ⟨fun c hc => by cases List.mem_singleton.mp hc; decide, by decide⟩

theorem Plain.append {a b : Bytes} {l m : List Bytes} (ha : Plain a l) (hb : Plain b m) :
    Plain (a ++ slash :: b) (l ++ m) := by
  simp only [Plain, splitSlash_eq] at *
  rw [Split.split_append, List.filter_append, ha.2, hb.2]
  exact ⟨fun c hc => (List.mem_append.mp hc).elim (ha.1 c) (hb.1 c), rfl⟩

theorem Plain.join {l : List Bytes} (h : ∀ c ∈ l, Real c) : Plain (joinSlash l) l := by
  cases l with
  | nil => exact Plain.nil
  | cons a l =>
    unfold Plain
    rw [split_join (a :: l) (List.cons_ne_nil _ _) (fun c hc => (h c hc).2.2.2), List.filter_eq_self]
    exact ⟨fun c hc => (h c hc).2.2.1, fun c hc => (keep_iff c).mpr fun e => e.elim (h c hc).1 (h c hc).2.1⟩

theorem Plain.render (rooted : Bool) {reals : List Bytes} (h : ∀ c ∈ reals, Real c) :
    Plain (render rooted 0 reals) reals := by
  cases rooted with
  | true => exact Plain.nil.append (Plain.join h)
  | false =>
    cases reals with
    | nil => exact Plain.dot
    | cons a l => exact Plain.join h

theorem clean_plain {p : Bytes} {l : List Bytes} (h : Plain p l) (hp : p ≠ []) :
    filepathClean p = render (p.head? == some slash) 0 l := by
  rw [filepathClean, if_neg hp]
  simp only
  rw [fold_no_dotdot _ _ 0 [] h.1, h.2, List.append_nil, List.reverse_reverse]

/-- **Joining under the storage directory.**  For a storage directory
    `/r1/…/rk` of real components and a cleaned path without `..`,
    `filepath.Join(storagePath, cleanPath)` is `/r1/…/rk/c1/…/cm`. -/
theorem join_storage (root reals : List Bytes) (rooted : Bool) (hroot : ∀ c ∈ root, Real c)
    (hreals : ∀ c ∈ reals, Real c) :
    filepathJoin [slash :: joinSlash root, render rooted 0 reals] = slash :: joinSlash (root ++ reals) := by
  have hp : Plain (slash :: (joinSlash root ++ slash :: render rooted 0 reals)) (root ++ reals) :=
    Plain.nil.append ((Plain.join hroot).append (Plain.render rooted hreals))
  exact clean_plain hp (List.cons_ne_nil _ _)

/-- A path that keeps a leading `..` after cleaning is refused by `safeJoinPath`'s traversal test. -/
theorem updir_refused (ups : Nat) (reals : List Bytes) (hu : 0 < ups) :
    render false ups reals = dotdot ∨ (dotdot ++ [slash]).isPrefixOf (render false ups reals) = true := by
  obtain ⟨k, rfl⟩ : ∃ k, ups = k + 1 := ⟨ups - 1, (Nat.sub_add_cancel hu).symm⟩
  rw [render, if_neg Bool.false_ne_true, if_neg fun h => Nat.succ_ne_zero k h.1, List.replicate_succ, List.cons_append]
  cases List.replicate k dotdot ++ reals with
  | nil => exact Or.inl rfl
  | cons a l => exact Or.inr rfl

theorem joinSlash_head (a : Bytes) (l : List Bytes) (ha : Real a) : (joinSlash (a :: l)).head? ≠ some slash := by
  obtain ⟨h1, _, _, h4⟩ := ha
  cases a with
  | nil => exact absurd rfl h1
  | cons x xs =>
    have : (joinSlash ((x :: xs) :: l)).head? = some x := by cases l <;> rfl
    rw [this]
    exact fun e => h4 (Option.some.inj e ▸ List.mem_cons_self)

theorem relRoot_head (p : Bytes) (h : (p.head? == some slash) = true) : (relRoot p).head? ≠ some slash := by
  obtain ⟨ups, reals, hr, hu, hc⟩ := clean_nf p
  unfold relRoot
  simp only
  rw [hc, h]
  have hups := hu h
  subst hups
  split
  · decide
  · rename_i hne
    cases reals with
    | nil => simp [render, joinSlash] at hne
    | cons a l =>
      have : (render true 0 (a :: l)).drop 1 = joinSlash (a :: l) := by simp [render]
      rw [this]
      exact joinSlash_head a l (hr a (by simp))

theorem clean_accepted (q : Bytes) (hqh : (q.head? == some slash) = false)
    (htrav : ¬ (filepathClean q = dotdot ∨ (dotdot ++ [slash]).isPrefixOf (filepathClean q) = true
      ∨ containsSub (slash :: dotdot ++ [slash]) (filepathClean q) = true)) :
    ∃ reals, (∀ c ∈ reals, Real c) ∧ filepathClean q = render false 0 reals := by
  obtain ⟨ups, reals, hr, _, hc⟩ := clean_nf q
  rw [hqh] at hc
  refine ⟨reals, hr, ?_⟩
  by_cases hu : ups = 0
  · subst hu; exact hc
  · exfalso
    apply htrav
    rw [hc]
    cases updir_refused ups reals (by omega) with
    | inl e => exact Or.inl e
    | inr e => exact Or.inr (Or.inl e)

theorem ok_of_ite {c : Prop} [Decidable c] {e : PathErr} {x : PathR} {cp : Bytes}
    (h : (if c then .err e else x) = .ok cp) : ¬ c ∧ x = .ok cp := by
  split at h
  · cases h
  · exact ⟨‹_›, h⟩

theorem safeJoinPath_ok (path cp : Bytes) (h : safeJoinPath path = .ok cp) :
    ∃ reals, (∀ c ∈ reals, Real c) ∧ cp = render false 0 reals := by
  obtain ⟨_, h⟩ := ok_of_ite h
  -- the path handed to `Clean` does not start with `/`
  have hq : ((if (path.head? == some slash) = true then relRoot path else path).head? == some slash) = false := by
    split
    · rename_i ha; simpa using relRoot_head path ha
    · rename_i ha; simpa using ha
  generalize (if (path.head? == some slash) = true then relRoot path else path) = q at h hq
  obtain ⟨htrav, h⟩ := ok_of_ite h
  obtain ⟨_, h⟩ := ok_of_ite h
  obtain ⟨_, h⟩ := ok_of_ite h
  cases h
  exact clean_accepted q hq htrav

/-- **C33, confinement of namespace files.**  For every storage directory
    `/r1/…/rk` (absolute and clean, as `filepath.Abs` returns it), every file
    suffix and every path text — `..`, absolute paths, doubled slashes, unusual
    characters, any length — `FullNamespacePath` returns an error or
    `/r1/…/rk/c1/…/cm<suffix>` with `m ≥ 1` real components (none empty, `.`,
    `..`, none holding `/`): a file strictly below the storage directory. -/
theorem path_confined (root : List Bytes) (hroot : ∀ c ∈ root, Real c) (suffix path s : Bytes)
    (h : fullNamespacePath (slash :: joinSlash root) suffix path = .ok s) :
    ∃ comps, comps ≠ [] ∧ (∀ c ∈ comps, Real c) ∧ s = slash :: joinSlash (root ++ comps) ++ suffix := by
  unfold fullNamespacePath at h
  split at h
  · cases h
  · rename_i rel hrel
    obtain ⟨hnd, h⟩ := ok_of_ite h
    cases h
    obtain ⟨reals, hr, rfl⟩ := safeJoinPath_ok path rel hrel
    exact ⟨reals, fun e => hnd (by rw [e]; rfl), hr, by rw [join_storage root reals false hroot hr]⟩

/-- **C33, confinement of directory listings**: `FullDirPath` returns an error
    or `/r1/…/rk/c1/…/cm` with `m ≥ 0` real components: the storage directory
    or a directory below it. -/
theorem dir_confined (root : List Bytes) (hroot : ∀ c ∈ root, Real c) (path s : Bytes)
    (h : fullDirPath (slash :: joinSlash root) path = .ok s) :
    ∃ comps, (∀ c ∈ comps, Real c) ∧ s = slash :: joinSlash (root ++ comps) := by
  unfold fullDirPath at h
  split at h
  · cases h
  · rename_i rel hrel
    cases h
    obtain ⟨reals, hr, rfl⟩ := safeJoinPath_ok path rel hrel
    exact ⟨reals, hr, join_storage root reals false hroot hr⟩

/-! ### non-vacuity and the repaired defect -/

/-- A block cipher meeting `GoodBlock`: 16-byte blocks, reversal both ways. -/
def revBlock : Block := { blockSize := 16, encrypt := List.reverse, decrypt := List.reverse }

theorem revBlock_good : GoodBlock revBlock :=
  ⟨by decide, by decide, by intro x h; simpa [revBlock] using h, by intro x _; simp [revBlock]⟩

/-- An encoding meeting `GoodB64`: the text between two letters `A`. -/
def wrapB64 : Base64 :=
  { encodeToString := fun x => 0x41 :: x ++ [0x41], decodeString := fun y => (y.drop 1).dropLast }

theorem find_isPrefixOf_none (L : List Bytes) (g : Bytes → Bytes) (c : UInt8) (t : Bytes)
    (h : (L.all fun q => (g q).head?.any (· != c)) = true) :
    L.find? (fun q => (g q).isPrefixOf (c :: t)) = none := by
  rw [List.find?_eq_none]
  intro q hq
  have hq' := List.all_eq_true.mp h q hq
  cases hg : g q with
  | nil => rw [hg] at hq'; cases hq'
  | cons x r =>
    rw [hg, List.head?_cons, Option.any_some, bne_iff_ne] at hq'
    rw [List.isPrefixOf, Bool.and_eq_true, beq_iff_eq]
    exact fun h => hq' h.1

theorem find_prefix_A (t : Bytes) :
    IPAllow.spaceSeqs.find? (fun q => q.isPrefixOf (0x41 :: t)) = none :=
  find_isPrefixOf_none _ id _ t (by decide)

theorem find_suffix_A (t : Bytes) :
    IPAllow.spaceSeqs.find? (fun q => q.reverse.isPrefixOf (0x41 :: t)) = none :=
  find_isPrefixOf_none _ List.reverse _ t (by decide)

theorem trim_wrapped (x : Bytes) : IPAllow.trimSpace (0x41 :: x ++ [0x41]) = 0x41 :: x ++ [0x41] := by
  have hl : IPAllow.trimLeft (0x41 :: x ++ [0x41]) = 0x41 :: x ++ [0x41] := by
    simp only [IPAllow.trimLeft, List.cons_append, List.length_cons]
    rw [IPAllow.trimLeftFuel, find_prefix_A]
  unfold IPAllow.trimSpace
  simp only [hl]
  have hr : (0x41 :: x ++ [0x41]).reverse = 0x41 :: (x.reverse ++ [0x41]) := by simp
  rw [hr]
  simp only [List.cons_append, List.length_cons]
  rw [IPAllow.trimSpace.go, find_suffix_A]
  simp

theorem wrapB64_good : GoodB64 wrapB64 :=
  ⟨by intro x; simp [wrapB64], by intro x _; simp [wrapB64], by intro x; exact trim_wrapped x⟩

/-- A codec meeting `GoodCodec`: the coordinator holds the value itself. -/
def idCodec (ρ : Type) : Codec ρ (Namespace ρ) := { encode := id, decode := some }

theorem idCodec_good (ρ : Type) : GoodCodec (idCodec ρ) := by intro x; rfl

/-- The submitted namespace of the example: two users (one with surrounding
    white space and a byte that is not UTF-8), one slice. -/
def exNs : Namespace Unit :=
  { isEncrypt := false, name := [0x6e, 0x73],
    users := [{ userName := [0x20, 0x61, 0xff], password := [0x70, 0x09] }, { userName := [0x62], password := [0x00] }],
    slices := [{ userName := [0x72, 0x6f, 0x6f, 0x74], password := [] }], rest := () }

/-- What `Verify` makes of it: names and passwords of users trimmed. -/
def exNs1 : Namespace Unit :=
  { exNs with users := [{ userName := [0x61, 0xff], password := [0x70] }, { userName := [0x62], password := [0x00] }] }

theorem exNs_verify : exNs.verify (fun _ r => some r) = .ok exNs1 := by decide +kernel

/-- Non-vacuity of `store_roundtrip`: all hypotheses hold for a concrete
    cipher, encoding, codec, key and namespace; the loaded namespace is the
    validated one with the marker set. -/
example : ∃ e, exNs1.encrypt (fun _ => some revBlock) wrapB64 [1, 2, 3] = .ok e ∧
    loadNamespace (idCodec Unit) (fun _ r => some r) (fun _ => some revBlock) wrapB64
      (updateNamespace (idCodec Unit) [] [0x2f, 0x67] e) [0x2f, 0x67] [1, 2, 3] exNs.name
      = .ok { exNs1 with isEncrypt := true } :=
  store_roundtrip (idCodec Unit) (idCodec_good Unit) (fun _ r => some r) (fun _ _ _ _ => rfl)
    (fun _ => some revBlock) wrapB64 [1, 2, 3] revBlock rfl revBlock_good wrapB64_good [] [0x2f, 0x67] exNs exNs1 exNs_verify

/-- Non-vacuity of `pad_unpad` and `unpad_total`: 5 bytes, block size 8; a
    buffer whose last byte exceeds its length; one whose last byte is 0. -/
example : pkcs5Padding [1, 2, 3, 4, 5] 8 = .ok [1, 2, 3, 4, 5, 3, 3, 3]
    ∧ pkcs5UnPadding [1, 2, 3, 4, 5, 3, 3, 3] = .ok [1, 2, 3, 4, 5]
    ∧ pkcs5UnPadding [1, 2, 9] = .fail
    ∧ pkcs5UnPadding [1, 2, 0] = .ok [1, 2, 0] := by decide +kernel

/-- The texts `/root/store`, `.json`. -/
def exStore : Bytes := [0x2f, 0x72, 0x6f, 0x6f, 0x74, 0x2f, 0x73, 0x74, 0x6f, 0x72, 0x65]
def exJson : Bytes := [0x2e, 0x6a, 0x73, 0x6f, 0x6e]

set_option maxRecDepth 100000 in
/-- Non-vacuity of `path_confined`: `/g/namespace/../../x//y/` stays below the
    storage directory, `../x` and `/g/../..` are refused. -/
example :
    fullNamespacePath exStore exJson
        [0x2f, 0x67, 0x2f, 0x6e, 0x73, 0x2f, 0x2e, 0x2e, 0x2f, 0x2e, 0x2e, 0x2f, 0x78, 0x2f, 0x2f, 0x79, 0x2f]
      = .ok (exStore ++ [0x2f, 0x78, 0x2f, 0x79] ++ exJson)
    ∧ fullNamespacePath exStore exJson [0x2e, 0x2e, 0x2f, 0x78] = .err .traversal
    ∧ fullNamespacePath exStore exJson [0x2f, 0x67, 0x2f, 0x2e, 0x2e, 0x2f, 0x2e, 0x2e] = .err .noFile
    ∧ exStore = slash :: joinSlash [[0x72, 0x6f, 0x6f, 0x74], [0x73, 0x74, 0x6f, 0x72, 0x65]] := by decide +kernel

/-- `FullNamespacePath` before fix 539bc23 (no test for `.`). -/
def fullNamespacePathOld (storagePath fileSuffix path : Bytes) : PathR :=
  match safeJoinPath path with
  | .err e => .err e
  | .ok relPath => .ok (filepathJoin [storagePath, relPath] ++ fileSuffix)

/-- **Witness of the repaired defect.**  Before the fix, the namespace name
    `../..` under the prefix `/g` (path `/g/namespace/../..` = `/`) made the
    local client write `/root/store.json`, beside the storage directory. -/
theorem storage_sibling_witness :
    namespacePath [0x2f, 0x67] [0x2e, 0x2e, 0x2f, 0x2e, 0x2e] = [slash]
    ∧ fullNamespacePathOld exStore exJson [slash] = .ok (exStore ++ exJson)
    ∧ fullNamespacePath exStore exJson [slash] = .err .noFile := by decide +kernel

end GaeaVerif.C33
