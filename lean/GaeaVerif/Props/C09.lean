import GaeaVerif.Model.ShardPlace
import GaeaVerif.Spec.ShardCalendar
import GaeaVerif.Lemmas.ShardStr
import GaeaVerif.Lemmas.ShardDate
/-
  C09 — Range and calendar rules place each key in its configured interval.

  Model: Model/ShardPlace.lean (shard.go, numkey.go, rule.go, after the fixes
  "year rule rejects date strings shorter than four characters", "date rules
  reject a sign in the digit positions", "NumKeyRange.Contains is half-open"
  (e83712b) and "month and day rules reject a timestamp whose year is outside
  0000-9999" (ab7347b)).  Reference: Spec/ShardCalendar.lean.
  The `pinned_…_witness` theorems record what the code did before the last two
  repairs.
  The tie to the Go code is the correspondence check `gvh run C09`.
-/
namespace GaeaVerif.C09
open GaeaVerif GaeaVerif.ShardGo GaeaVerif.ShardPlace GaeaVerif.ShardLemmas

/-! ## range rule -/

/-- The interval of table `i`. -/
def interval (limit : Int) (i : Nat) : Int × Int := ((i : Int) * limit, ((i : Int) + 1) * limit)

theorem mul_mono (a b : Nat) (h : a ≤ b) (limit : Int) (hl : 0 < limit) : (a : Int) * limit ≤ (b : Int) * limit :=
  Int.mul_le_mul_of_nonneg_right (by omega) (Int.le_of_lt hl)

theorem parseNumSharding_eq (locations : List Nat) (limit : Int) (hl : 0 < limit)
    (hb : (total locations : Int) * limit < 2 ^ 63) :
    ParseNumSharding (ints locations) limit =
      .ok ((List.range (total locations)).map (interval limit)) := by
  unfold ParseNumSharding
  rw [sumInts_map]
  simp only
  rw [if_neg (by omega)]
  congr 1
  simp only [Int.toNat_natCast]
  apply List.map_congr_left
  intro i hi
  have hi' : i < total locations := List.mem_range.mp hi
  -- `0 ≤ i·limit ≤ (i+1)·limit ≤ n·limit`: neither product wraps
  have h0 := mul_mono 0 i (by omega) limit hl
  have h1 := mul_mono i (i + 1) (by omega) limit hl
  have h2 := mul_mono (i + 1) (total locations) (by omega) limit hl
  rw [Int.natCast_zero, Int.zero_mul] at h0
  unfold interval
  rw [show (i : Int) + 1 = ((i + 1 : Nat) : Int) from rfl, wrap64_id _ ⟨by omega, by omega⟩,
    wrap64_id _ ⟨by omega, by omega⟩]

theorem contains_interval (limit : Int) (j : Nat) (k : Int) :
    NumKeyRange.Contains (interval limit j) k = true ↔
      (j : Int) * limit ≤ k ∧ k < ((j + 1 : Nat) : Int) * limit := by
  unfold NumKeyRange.Contains interval
  simp

theorem ediv_of_interval (k limit : Int) (j : Nat) (hl : 0 < limit)
    (h : (j : Int) * limit ≤ k ∧ k < ((j + 1 : Nat) : Int) * limit) : k / limit = (j : Int) := by
  have a : (j : Int) ≤ k / limit := (Int.le_ediv_iff_mul_le hl).mpr h.1
  have b : k / limit < ((j + 1 : Nat) : Int) := (Int.ediv_lt_iff_lt_mul hl).mpr h.2
  omega

theorem findRange_spec (limit : Int) (hl : 0 < limit) (m j : Nat) (k : Int) :
    findRange ((List.range' j m).map (interval limit)) (j : Int) k =
      if (j : Int) * limit ≤ k ∧ k < ((j + m : Nat) : Int) * limit then .ok (k / limit)
      else .err .keyOutOfRange := by
  induction m generalizing j with
  | zero =>
    simp only [List.range'_zero, List.map_nil, findRange, Nat.add_zero]
    rw [if_neg (by omega)]
  | succ m ih =>
    -- the bounds `j·limit ≤ (j+1)·limit ≤ (j+m+1)·limit` of the first interval and of the rest
    have h1 := mul_mono j (j + 1) (by omega) limit hl
    have h2 := mul_mono (j + 1) (j + (m + 1)) (by omega) limit hl
    simp only [List.range'_succ, List.map_cons, findRange, contains_interval]
    rw [show (j : Int) + 1 = ((j + 1 : Nat) : Int) from rfl, ih (j + 1),
      show j + 1 + m = j + (m + 1) from by omega]
    by_cases hc : (j : Int) * limit ≤ k ∧ k < ((j + 1 : Nat) : Int) * limit
    · rw [if_pos hc, if_pos ⟨hc.1, by omega⟩, ediv_of_interval k limit j hl hc]
    · rw [if_neg hc]
      simp only [show ((j + 1 : Nat) : Int) * limit ≤ k ↔ (j : Int) * limit ≤ k from by omega]

/-- **C09, range rule (`range_place`).**  For every layout — locations summing to
    `n` tables, `table_row_limit = limit > 0`, `n·limit < 2^63` — building the
    rule succeeds, and every 64-bit key `k` is placed in the table `i` whose
    half-open interval `[i·limit, (i+1)·limit)` contains it, and rejected with
    `ErrKeyOutOfRange` when no interval does.

    This includes the key 2^63-1 in a layout whose last bound is exactly 2^63-1,
    where `NumKeyRange.Contains` read `End == MaxInt64` as an open end before
    e83712b (`pinned_range_maxint64_end_witness`). -/
theorem range_place (locations : List Nat) (limit : Int) (hl : 0 < limit)
    (hb : (total locations : Int) * limit < 2 ^ 63) (k : Int) (_hk : -2 ^ 63 ≤ k ∧ k < 2 ^ 63) :
    ∃ shards, ParseNumSharding (ints locations) limit = .ok shards ∧
      NumRangeShard.FindForKey shards (.int64 k) =
        match CalendarSpec.rangeTable (total locations) limit k with
        | some i => .ok (i : Int)
        | none => .err .keyOutOfRange := by
  refine ⟨_, parseNumSharding_eq locations limit hl hb, ?_⟩
  unfold NumRangeShard.FindForKey NumValue
  simp only
  have h := findRange_spec limit hl (total locations) 0 k
  rw [List.range_eq_range']
  simp only [Int.natCast_zero, Int.zero_mul, Nat.zero_add] at h
  rw [h]
  unfold CalendarSpec.rangeTable
  by_cases hin : 0 ≤ k ∧ k < (total locations : Int) * limit
  · rw [if_pos hin, if_pos ⟨hl, hin.1, hin.2⟩]
    have : 0 ≤ k / limit := Int.ediv_nonneg hin.1 (Int.le_of_lt hl)
    simp only
    congr 1; omega
  · rw [if_neg hin, if_neg (fun h => hin ⟨h.2.1, h.2.2⟩)]

example : (0 : Int) < 1000 ∧ (total [2, 2] : Int) * 1000 < 2 ^ 63 := by decide
example : CalendarSpec.rangeTable (total [2, 2]) 1000 2999 = some 2 := by decide
example : CalendarSpec.rangeTable (total [2, 2]) 1000 4000 = none := by decide

/-- Key types that carry the same number are placed identically; a string is
    read by `strconv.ParseInt`, and a string it rejects is rejected (the
    KeyError panic), never a run-time panic. -/
theorem range_key_carriers (shards : List (Int × Int)) (k : Int) (s : GoStr) :
    NumRangeShard.FindForKey shards (.int k) = NumRangeShard.FindForKey shards (.int64 k) ∧
    NumRangeShard.FindForKey shards (.str (fmtInt k)) =
      (if -2 ^ 63 ≤ k ∧ k < 2 ^ 63 then NumRangeShard.FindForKey shards (.int64 k) else .err .keyPanic) ∧
    (parseInt64 s = none → NumRangeShard.FindForKey shards (.str s) = .err .keyPanic) := by
  have hstr : ∀ t : GoStr, NumValue (.str t) =
      (match parseInt64 t with | some v => Out.ok v | none => .err .keyPanic) := fun _ => rfl
  refine ⟨rfl, ?_, ?_⟩
  · unfold NumRangeShard.FindForKey
    rw [hstr]
    by_cases h : -2 ^ 63 ≤ k ∧ k < 2 ^ 63
    · rw [parseInt64_fmtInt k h, if_pos h]; rfl
    · rw [if_neg h]
      have : parseInt64 (fmtInt k) = none := by
        unfold parseInt64; rw [parseBigDec_fmtInt]; simp only; rw [if_neg h]
      rw [this]
  · intro h; unfold NumRangeShard.FindForKey; rw [hstr, h]

/-- `NumKeyRange.Contains` as it was before e83712b. -/
def pinnedContains (kr : Int × Int) (i : Int) : Bool :=
  kr.1 ≤ i && (kr.2 = MaxNumKey || i < kr.2)

/-- **Regression record of the former finding `range-maxint64-end-open-key-placed`:**
    49 tables of 188232082384791343 rows end at 2^63-1; the key 2^63-1 lies
    outside every half-open interval.  The pinned `Contains` accepted it for the
    last table (48); the repaired code rejects it, as `range_place` demands. -/
theorem pinned_range_maxint64_end_witness :
    (49 : Int) * 188232082384791343 = 2 ^ 63 - 1 ∧
    CalendarSpec.rangeTable 49 188232082384791343 (2 ^ 63 - 1) = none ∧
    pinnedContains (interval 188232082384791343 48) (2 ^ 63 - 1) = true ∧
    (ParseNumSharding [20, 29] 188232082384791343).bind
      (fun shards => NumRangeShard.FindForKey shards (.int64 (2 ^ 63 - 1))) = .err .keyOutOfRange := by
  decide +kernel

/-- the hypotheses of `range_place` hold of that layout and key -/
example : (0 : Int) < 188232082384791343 ∧ (total [20, 29] : Int) * 188232082384791343 < 2 ^ 63 ∧
    (-2 ^ 63 : Int) ≤ 2 ^ 63 - 1 ∧ (2 ^ 63 - 1 : Int) < 2 ^ 63 := by decide +kernel

/-! ## year / month / day rules: keys -/

theorem strSlice_ok (s : GoStr) (lo hi : Nat) (h : lo ≤ hi ∧ hi ≤ s.length) :
    strSlice s lo hi = .ok ((s.drop lo).take (hi - lo)) := by
  unfold strSlice; rw [if_pos h]

/-- The bytes the month rule (`val[:4] + val[5:7]`) and the day rule (`… + val[8:10]`)
    hand to Atoi. -/
def monthDigits (s : GoStr) : GoStr := s.take 4 ++ (s.drop 5).take 2
def dayDigits (s : GoStr) : GoStr := monthDigits s ++ (s.drop 8).take 2

theorem slices_ok (s : GoStr) (h : ¬ s.length < 10) :
    strSlice s 0 4 = .ok (s.take 4) ∧ strSlice s 5 7 = .ok ((s.drop 5).take 2) ∧
    strSlice s 8 10 = .ok ((s.drop 8).take 2) :=
  ⟨strSlice_ok s 0 4 (by omega), strSlice_ok s 5 7 (by omega), strSlice_ok s 8 10 (by omega)⟩

/-! What each rule does with a string key and with a timestamp, the slices resolved. -/

theorem year_of_str (civilOf : Int → Civil) (s : GoStr) :
    DateYearShard.FindForKey civilOf (.str s) =
      if s.length < 4 then .err .invalidDate else
      match atoiDigits (s.take 4) with
      | some n => .ok n
      | none => .err .invalidDate := by
  rw [DateYearShard.FindForKey]
  split
  · rfl
  · rw [strSlice_ok s 0 4 (by omega)]; rfl

theorem month_of_str (civilOf : Int → Civil) (s : GoStr) :
    DateMonthShard.FindForKey civilOf (.str s) =
      if s.length < 10 then .err .invalidDate else
      match atoiDigits (monthDigits s) with
      | some n => .ok n
      | none => .err .invalidDate := by
  rw [DateMonthShard.FindForKey]
  split
  · rfl
  · rename_i h; obtain ⟨h1, h2, _⟩ := slices_ok s h; rw [h1, h2]; rfl

theorem day_of_str (civilOf : Int → Civil) (s : GoStr) :
    DateDayShard.FindForKey civilOf (.str s) =
      if s.length < 10 then .err .invalidDate else
      match atoiDigits (dayDigits s) with
      | some n => .ok n
      | none => .err .invalidDate := by
  rw [DateDayShard.FindForKey]
  split
  · rfl
  · rename_i h; obtain ⟨h1, h2, h3⟩ := slices_ok s h; rw [h1, h2, h3]; rfl

theorem yearMonthOfUnix_eq (civilOf : Int → Civil) (v : Int) :
    yearMonthOfUnix civilOf v =
      if (fmtDate (civilOf v)).length ≠ 10 then .err .invalidDate else
      match parseInt64 (monthDigits (fmtDate (civilOf v))) with
      | some n => .ok n
      | none => .err .invalidDate := by
  unfold yearMonthOfUnix
  generalize fmtDate (civilOf v) = t
  by_cases h : t.length ≠ 10
  · simp only [if_pos h]
  · obtain ⟨h1, h2, _⟩ := slices_ok t (by omega)
    simp only [if_neg h, h1, h2]; rfl

theorem yearMonthDayOfUnix_eq (civilOf : Int → Civil) (v : Int) :
    yearMonthDayOfUnix civilOf v =
      if (fmtDate (civilOf v)).length ≠ 10 then .err .invalidDate else
      match parseInt64 (dayDigits (fmtDate (civilOf v))) with
      | some n => .ok n
      | none => .err .invalidDate := by
  unfold yearMonthDayOfUnix
  generalize fmtDate (civilOf v) = t
  by_cases h : t.length ≠ 10
  · simp only [if_pos h]
  · obtain ⟨h1, h2, h3⟩ := slices_ok t (by omega)
    simp only [if_neg h, h1, h2, h3]; rfl

/-- `'YYYY-MM-DD'` for fields that fit their width. -/
def dateText (y m d : Nat) : GoStr := zeroPad 4 y ++ [45] ++ zeroPad 2 m ++ [45] ++ zeroPad 2 d

theorem dashed_digits (Y M D rest : GoStr) (a b : Nat) (hY : Y.length = 4) (hM : M.length = 2)
    (hD : D.length = 2) :
    let val := Y ++ [a] ++ M ++ [b] ++ D ++ rest
    ¬ val.length < 10 ∧ monthDigits val = Y ++ M ∧ dayDigits val = Y ++ M ++ D := by
  match Y, hY, M, hM, D, hD with
  | [_, _, _, _], _, [_, _], _, [_, _], _ => simp [monthDigits, dayDigits]

theorem field4 {y : Nat} (hy : y ≤ 9999) : Field 4 (zeroPad 4 y) y := .zeroPad (by omega) (by omega)
theorem field2 {m : Nat} (hm : m ≤ 99) : Field 2 (zeroPad 2 m) m := .zeroPad (by omega) (by omega)

/-- The year rule reads the first four bytes only: a `Field 4` there is the table, whatever follows. -/
theorem year_place (civilOf : Int → Civil) {Y : GoStr} {y : Nat} (hY : Field 4 Y y) (rest : GoStr) :
    DateYearShard.FindForKey civilOf (.str (Y ++ rest)) = .ok (y : Int) := by
  have := hY.lt
  rw [year_of_str, if_neg (by rw [List.length_append, hY.len]; omega), hY.take,
    hY.toDigits.atoiDigits (by omega)]

/-- The month and day rules read the fields of `Y?M?D…` by position: neither the separator bytes `a`, `b`
    nor `rest` is looked at.  (The month rule wants the ten bytes to be there, hence `D`.) -/
theorem date_place (civilOf : Int → Civil) {Y M D : GoStr} {y m d : Nat} (hY : Field 4 Y y) (hM : Field 2 M m)
    (hD : Field 2 D d) (a b : Nat) (rest : GoStr) :
    DateMonthShard.FindForKey civilOf (.str (Y ++ [a] ++ M ++ [b] ++ D ++ rest)) = .ok ((y : Int) * 100 + m) ∧
    DateDayShard.FindForKey civilOf (.str (Y ++ [a] ++ M ++ [b] ++ D ++ rest)) =
      .ok ((y : Int) * 10000 + m * 100 + d) := by
  obtain ⟨h0, h1, h2⟩ := dashed_digits Y M D rest a b hY.len hM.len hD.len
  have hym := hY.append hM
  have hymd := hym.append hD
  have := hymd.lt
  rw [month_of_str, day_of_str, if_neg h0, if_neg h0, h1, h2, hym.toDigits.atoiDigits (by omega),
    hymd.toDigits.atoiDigits (by omega)]
  exact ⟨congrArg Out.ok (by omega), congrArg Out.ok (by omega)⟩

/-- **Date strings (`calendar_place`, strings).**  Under the year rule a string
    that starts with a four-digit year `YYYY` — `'YYYY-MM-DD'`,
    `'YYYY-MM-DD hh:mm:ss'`, … — is placed in table `YYYY`. -/
theorem year_string_place (civilOf : Int → Civil) (y : Nat) (hy : y ≤ 9999) (rest : GoStr) :
    DateYearShard.FindForKey civilOf (.str (zeroPad 4 y ++ rest)) = .ok (y : Int) :=
  year_place civilOf (field4 hy) rest

/-- Under the month rule `'YYYY-MM-DD'` followed by anything (a time of day) is
    placed in table `YYYYMM`; under the day rule in table `YYYYMMDD`. -/
theorem month_string_place (civilOf : Int → Civil) (y m d : Nat) (hy : y ≤ 9999) (hm : m ≤ 99) (hd : d ≤ 99)
    (suffix : GoStr) :
    DateMonthShard.FindForKey civilOf (.str (dateText y m d ++ suffix)) = .ok ((y : Int) * 100 + m) :=
  (date_place civilOf (field4 hy) (field2 hm) (field2 hd) 45 45 suffix).1

theorem day_string_place (civilOf : Int → Civil) (y m d : Nat) (hy : y ≤ 9999) (hm : m ≤ 99) (hd : d ≤ 99)
    (suffix : GoStr) :
    DateDayShard.FindForKey civilOf (.str (dateText y m d ++ suffix)) =
      .ok ((y : Int) * 10000 + m * 100 + d) :=
  (date_place civilOf (field4 hy) (field2 hm) (field2 hd) 45 45 suffix).2

theorem fmtDate_eq (c : Civil) (hy : 0 ≤ c.year) : fmtDate c = dateText c.year.toNat c.month c.day := by
  unfold fmtDate dateText; rw [if_neg (by omega)]

/-- ten characters exactly for the years 0000-9999: the test the repaired month and day rules make -/
theorem fmtDate_length_eq (c : Civil) (hy : 0 ≤ c.year ∧ c.year ≤ 9999) (hm : c.month ≤ 99) (hd : c.day ≤ 99) :
    (fmtDate c).length = 10 := by
  rw [fmtDate_eq c hy.1]
  simp [dateText, (field4 (y := c.year.toNat) (by omega)).len, (field2 hm).len, (field2 hd).len]

theorem fmtDate_length_ne (c : Civil) (hy : c.year < 0 ∨ 9999 < c.year) : (fmtDate c).length ≠ 10 := by
  unfold fmtDate
  have h2 := zeroPad_length_ge 2 c.month
  have h2' := zeroPad_length_ge 2 c.day
  rcases hy with hy | hy
  · rw [if_pos hy]
    have h4 := zeroPad_length_ge 4 (-c.year).toNat
    simp; omega
  · rw [if_neg (by omega)]
    have h4 := zeroPad_length_gt 4 c.year.toNat (by omega)
    simp; omega

/-- **Unix timestamps (`calendar_place`, timestamps).**  Whatever the process's
    time zone (`civilOf` is `time.Unix(v,0)` read as a civil date), a timestamp
    whose civil year is 0…9999 is placed at the period number of its date. -/
theorem timestamp_place (civilOf : Int → Civil) (v : Int)
    (hy : 0 ≤ (civilOf v).year ∧ (civilOf v).year ≤ 9999) (hm : (civilOf v).month ≤ 99)
    (hd : (civilOf v).day ≤ 99) :
    DateYearShard.FindForKey civilOf (.int64 v) = .ok (civilOf v).year ∧
    DateMonthShard.FindForKey civilOf (.int64 v) = .ok ((civilOf v).year * 100 + (civilOf v).month) ∧
    DateDayShard.FindForKey civilOf (.int64 v) =
      .ok ((civilOf v).year * 10000 + (civilOf v).month * 100 + (civilOf v).day) := by
  have hyn : (civilOf v).year.toNat ≤ 9999 := by omega
  have fym := (field4 hyn).append (field2 hm)
  have hlen := fmtDate_length_eq (civilOf v) hy hm hd
  have e := fmtDate_eq (civilOf v) hy.1
  obtain ⟨_, h1, h2⟩ := dashed_digits _ _ _ [] 45 45 (field4 hyn).len (field2 hm).len (field2 hd).len
  rw [List.append_nil, ← dateText, ← e] at h1 h2
  refine ⟨rfl, ?_, ?_⟩
  · show yearMonthOfUnix civilOf v = _
    rw [yearMonthOfUnix_eq, if_neg (fun h => h hlen), h1, fym.parseInt64 (by decide)]
    exact congrArg Out.ok (by omega)
  · show yearMonthDayOfUnix civilOf v = _
    rw [yearMonthDayOfUnix_eq, if_neg (fun h => h hlen), h2, (fym.append (field2 hd)).parseInt64 (by decide)]
    exact congrArg Out.ok (by omega)

/-- **Timestamps outside the years 0000-9999 (`timestamp_reject`).**  Whatever
    the time zone, a timestamp whose civil year cannot be written with four
    digits is rejected by the month and day rules with the invalid-date error
    (before ab7347b they sliced the longer text and could place the key in an
    unrelated table: `pinned_timestamp_year_over_9999_witness`).  The year rule
    does not format the date: it returns the year itself. -/
theorem timestamp_reject (civilOf : Int → Civil) (v : Int)
    (hy : (civilOf v).year < 0 ∨ 9999 < (civilOf v).year) :
    DateYearShard.FindForKey civilOf (.int64 v) = .ok (civilOf v).year ∧
    DateMonthShard.FindForKey civilOf (.int64 v) = .err .invalidDate ∧
    DateDayShard.FindForKey civilOf (.int64 v) = .err .invalidDate := by
  have hlen := fmtDate_length_ne (civilOf v) hy
  refine ⟨rfl, ?_, ?_⟩
  · show yearMonthOfUnix civilOf v = _
    rw [yearMonthOfUnix_eq, if_pos hlen]
  · show yearMonthDayOfUnix civilOf v = _
    rw [yearMonthDayOfUnix_eq, if_pos hlen]

/-- The two together: under the month and day rules every timestamp (with a
    calendar month and day) is placed at the period number of its civil date or,
    when that date has no `YYYY-MM-DD` spelling, rejected — nothing else. -/
theorem timestamp_place_or_reject (civilOf : Int → Civil) (v : Int) (hm : (civilOf v).month ≤ 99)
    (hd : (civilOf v).day ≤ 99) :
    let c := civilOf v
    DateMonthShard.FindForKey civilOf (.int64 v) =
      (if 0 ≤ c.year ∧ c.year ≤ 9999 then .ok (c.year * 100 + c.month) else .err .invalidDate) ∧
    DateDayShard.FindForKey civilOf (.int64 v) =
      (if 0 ≤ c.year ∧ c.year ≤ 9999 then .ok (c.year * 10000 + c.month * 100 + c.day)
       else .err .invalidDate) := by
  intro c
  by_cases hy : 0 ≤ (civilOf v).year ∧ (civilOf v).year ≤ 9999
  · have := timestamp_place civilOf v hy hm hd
    simp only [c, if_pos hy]; exact ⟨this.2.1, this.2.2⟩
  · have := timestamp_reject civilOf v (by omega)
    simp only [c, if_neg hy]; exact ⟨this.2.1, this.2.2⟩

/-- `timestamp_reject` is not vacuous: in UTC 38895000000000 lies in the year 1234503 -/
example : (civilOfUnix 0 38895000000000).year = 1234503 := by decide

/-- **C09, calendar rules (`calendar_place`).**  The accepted spellings of one
    instant are placed identically, at the period number of its civil date: for
    every time zone (`civilOf`), every timestamp `v` whose civil date `c` has a
    year 0…9999, the keys `v`, `'YYYY-MM-DD'` of `c` and `'YYYY-MM-DD'` followed by
    any time of day all go to table `c.year` / `c.year·100+c.month` /
    `c.year·10000+c.month·100+c.day`. -/
theorem calendar_place (civilOf : Int → Civil) (v : Int) (timeOfDay : GoStr)
    (hy : 0 ≤ (civilOf v).year ∧ (civilOf v).year ≤ 9999) (hm : (civilOf v).month ≤ 99)
    (hd : (civilOf v).day ≤ 99) :
    let c := civilOf v
    (DateYearShard.FindForKey civilOf (.int64 v) = .ok c.year ∧
     DateYearShard.FindForKey civilOf (.str (fmtDate c)) = .ok c.year ∧
     DateYearShard.FindForKey civilOf (.str (fmtDate c ++ timeOfDay)) = .ok c.year) ∧
    (DateMonthShard.FindForKey civilOf (.int64 v) = .ok (c.year * 100 + c.month) ∧
     DateMonthShard.FindForKey civilOf (.str (fmtDate c)) = .ok (c.year * 100 + c.month) ∧
     DateMonthShard.FindForKey civilOf (.str (fmtDate c ++ timeOfDay)) = .ok (c.year * 100 + c.month)) ∧
    (DateDayShard.FindForKey civilOf (.int64 v) = .ok (c.year * 10000 + c.month * 100 + c.day) ∧
     DateDayShard.FindForKey civilOf (.str (fmtDate c)) = .ok (c.year * 10000 + c.month * 100 + c.day) ∧
     DateDayShard.FindForKey civilOf (.str (fmtDate c ++ timeOfDay)) =
       .ok (c.year * 10000 + c.month * 100 + c.day)) := by
  obtain ⟨t1, t2, t3⟩ := timestamp_place civilOf v hy hm hd
  dsimp only
  generalize civilOf v = c at *
  have hyn : c.year.toNat ≤ 9999 := by omega
  have hyc : ((c.year.toNat : Nat) : Int) = c.year := by omega
  have text : ∀ rest, DateYearShard.FindForKey civilOf (.str (fmtDate c ++ rest)) = .ok c.year ∧
      DateMonthShard.FindForKey civilOf (.str (fmtDate c ++ rest)) = .ok (c.year * 100 + c.month) ∧
      DateDayShard.FindForKey civilOf (.str (fmtDate c ++ rest)) =
        .ok (c.year * 10000 + c.month * 100 + c.day) := by
    intro rest
    have y1 := year_string_place civilOf c.year.toNat hyn
      ([45] ++ zeroPad 2 c.month ++ [45] ++ zeroPad 2 c.day ++ rest)
    have m1 := month_string_place civilOf c.year.toNat c.month c.day hyn hm hd rest
    have d1 := day_string_place civilOf c.year.toNat c.month c.day hyn hm hd rest
    rw [hyc] at y1 m1 d1
    rw [fmtDate_eq c hy.1]
    exact ⟨by simpa [dateText] using y1, m1, d1⟩
  have alone := text []
  rw [List.append_nil] at alone
  have timed := text timeOfDay
  exact ⟨⟨t1, alone.1, timed.1⟩, ⟨t2, alone.2.1, timed.2.1⟩, ⟨t3, alone.2.2, timed.2.2⟩⟩

/-- Hypotheses are satisfiable: 2016-02-29 in UTC+8 (`civilOfUnix 28800`), one second before March. -/
example : civilOfUnix 28800 1456761599 = { year := 2016, month := 2, day := 29 } := by decide
example : fmtDate { year := 2016, month := 2, day := 29 } = ascii "2016-02-29" := by decide +kernel

/-! ## malformed keys: rejected, never a run-time panic -/

theorem guarded_ne_panic {c : Prop} {_ : Decidable c} {o : Option Int} :
    (if c then Out.err .invalidDate else
      match o with
      | some n => Out.ok n
      | none => .err .invalidDate) ≠ .panic := by
  split
  · nofun
  · cases o <;> nofun

/-- **No key makes a date rule panic** (the pinned year rule sliced `val[:4]`
    of a shorter string: fixed): every key type, every string of every length,
    every timestamp in every time zone yields a table index or an error. -/
theorem date_keys_never_panic (civilOf : Int → Civil) (key : Key) :
    DateYearShard.FindForKey civilOf key ≠ .panic ∧
    DateMonthShard.FindForKey civilOf key ≠ .panic ∧
    DateDayShard.FindForKey civilOf key ≠ .panic := by
  -- `generalize`: with the formatted date in sight the unifier would unfold the formatting
  have hym : ∀ v, yearMonthOfUnix civilOf v ≠ .panic := fun v => by
    rw [yearMonthOfUnix_eq]; generalize fmtDate (civilOf v) = t; exact guarded_ne_panic
  have hymd : ∀ v, yearMonthDayOfUnix civilOf v ≠ .panic := fun v => by
    rw [yearMonthDayOfUnix_eq]; generalize fmtDate (civilOf v) = t; exact guarded_ne_panic
  cases key with
  | int v | int64 v | uint64 v =>
    rw [DateMonthShard.FindForKey, DateDayShard.FindForKey]; exact ⟨nofun, hym _, hymd _⟩
  | str s =>
    rw [year_of_str, month_of_str, day_of_str]
    exact ⟨guarded_ne_panic, guarded_ne_panic, guarded_ne_panic⟩
  | _ => exact ⟨nofun, nofun, nofun⟩

theorem mem_slice (s : GoStr) (lo n p x : Nat) (h1 : lo ≤ p) (h2 : p < lo + n) (hx : s[p]? = some x) :
    x ∈ (s.drop lo).take n := by
  rw [List.mem_iff_getElem?]
  refine ⟨p - lo, ?_⟩
  rw [List.getElem?_take_of_lt (by omega), List.getElem?_drop]
  have : lo + (p - lo) = p := by omega
  rw [this, hx]

theorem mem_monthDigits (s : GoStr) (p x : Nat) (hx : s[p]? = some x) (hp : p < 4 ∨ (5 ≤ p ∧ p < 7)) :
    x ∈ monthDigits s := by
  rcases hp with h | h
  · exact List.mem_append_left _ (mem_slice s 0 4 p x (by omega) (by omega) hx)
  · exact List.mem_append_right _ (mem_slice s 5 2 p x h.1 (by omega) hx)

theorem mem_dayDigits (s : GoStr) (p x : Nat) (hx : s[p]? = some x)
    (hp : p < 4 ∨ (5 ≤ p ∧ p < 7) ∨ (8 ≤ p ∧ p < 10)) : x ∈ dayDigits s := by
  rcases hp with h | h | h
  · exact List.mem_append_left _ (mem_monthDigits s p x hx (.inl h))
  · exact List.mem_append_left _ (mem_monthDigits s p x hx (.inr h))
  · exact List.mem_append_right _ (mem_slice s 8 2 p x h.1 (by omega) hx)

theorem malformed_cases (rule : String) (s : GoStr) (h : CalendarSpec.malformedFor rule s = true) :
    ∃ p ∈ CalendarSpec.readPositions rule, s.length ≤ p ∨ ∃ x, s[p]? = some x ∧ isDigit x = false := by
  unfold CalendarSpec.malformedFor at h
  rw [List.any_eq_true] at h
  obtain ⟨p, hp, hb⟩ := h
  refine ⟨p, hp, ?_⟩
  cases hs : s[p]? with
  | none => left; exact List.getElem?_eq_none_iff.mp hs
  | some x =>
    right; refine ⟨x, rfl, ?_⟩
    rw [hs] at hb
    simp only [CalendarSpec.digit?] at hb
    unfold isDigit
    by_cases hd : 48 ≤ x ∧ x ≤ 57
    · rw [if_pos hd] at hb; simp at hb
    · simp; omega

/-- The `if`: a rule that wants `n` bytes and hands `digits` to `atoiDigits`, the shape of
    `year_of_str`, `month_of_str`, `day_of_str`. -/
theorem reject_malformed (rule : String) (s digits : GoStr) (n : Nat)
    (h : CalendarSpec.malformedFor rule s = true)
    (hread : ∀ p ∈ CalendarSpec.readPositions rule, p < n ∧ ∀ x, s[p]? = some x → x ∈ digits) :
    (if s.length < n then Out.err ErrKind.invalidDate else
      match atoiDigits digits with
      | some v => Out.ok v
      | none => .err .invalidDate) = .err .invalidDate := by
  obtain ⟨p, hp, hc⟩ := malformed_cases rule s h
  obtain ⟨hpn, hmem⟩ := hread p hp
  split
  · rfl
  · rcases hc with hc | ⟨x, hx, hd⟩
    · omega
    · rw [atoiDigits_nondigit _ ⟨x, hmem x hx, hd⟩]

/-- **C09, malformed keys (`calendar_reject`).**  A string too short for the
    fields a rule reads, or with a non-digit (a sign included) in one of them,
    is rejected with the invalid-date error under that rule. -/
theorem calendar_reject (civilOf : Int → Civil) (s : GoStr) :
    (CalendarSpec.malformedFor "date_year" s = true →
      DateYearShard.FindForKey civilOf (.str s) = .err .invalidDate) ∧
    (CalendarSpec.malformedFor "date_month" s = true →
      DateMonthShard.FindForKey civilOf (.str s) = .err .invalidDate) ∧
    (CalendarSpec.malformedFor "date_day" s = true →
      DateDayShard.FindForKey civilOf (.str s) = .err .invalidDate) := by
  refine ⟨?_, ?_, ?_⟩ <;> intro h
  · rw [year_of_str]
    refine reject_malformed _ s _ 4 h fun p hp => ?_
    have h4 := (by decide : ∀ p ∈ CalendarSpec.readPositions "date_year", p < 4) p hp
    exact ⟨h4, fun x hx => mem_slice s 0 4 p x (by omega) (by omega) hx⟩
  · rw [month_of_str]
    refine reject_malformed _ s _ 10 h fun p hp => ?_
    have hp := (by decide : ∀ p ∈ CalendarSpec.readPositions "date_month", p < 4 ∨ (5 ≤ p ∧ p < 7)) p hp
    exact ⟨by omega, fun x hx => mem_monthDigits s p x hx hp⟩
  · rw [day_of_str]
    refine reject_malformed _ s _ 10 h fun p hp => ?_
    have hp := (by decide : ∀ p ∈ CalendarSpec.readPositions "date_day",
      p < 4 ∨ (5 ≤ p ∧ p < 7) ∨ (8 ≤ p ∧ p < 10)) p hp
    exact ⟨by omega, fun x hx => mem_dayDigits s p x hx hp⟩

/-- The strings that made the pinned code fail: "201" (run-time panic under the
    year rule) and "+201-06-01" (placed in year 201 / month 20106) are malformed. -/
example : CalendarSpec.malformedFor "date_year" (ascii "201") = true := by decide +kernel
example : CalendarSpec.malformedFor "date_month" (ascii "+201-06-01") = true := by decide +kernel

/-- The timestamp branches of `getNumYearMonth` as they were before ab7347b
    (no test of the length of the formatted text). -/
def pinnedYearMonthOfUnix (civilOf : Int → Civil) (v : Int) : Out Int :=
  let dateStr := fmtDate (civilOf v)
  match strSlice dateStr 0 4, strSlice dateStr 5 7 with
  | .ok a, .ok b => match parseInt64 (a ++ b) with
    | some n => .ok n
    | none => .err .invalidDate
  | _, _ => .panic

/-- **Regression record of the former finding `timestamp-outside-years-0-9999-placed`:**
    in UTC the timestamp 38895000000000 lies in June of the year 1234503, whose
    `Format("2006-01-02")` text is "1234503-06-27"; the pinned month rule sliced
    "1234" and "03" (digits of the year) out of it and placed the key in table
    123403, the table of March 1234.  The repaired rule rejects it. -/
theorem pinned_timestamp_year_over_9999_witness :
    (civilOfUnix 0 38895000000000).year = 1234503 ∧
    CalendarSpec.dateTimeOfUnix 0 38895000000000 = none ∧
    pinnedYearMonthOfUnix (civilOfUnix 0) 38895000000000 = .ok 123403 ∧
    DateMonthShard.FindForKey (civilOfUnix 0) (.int64 38895000000000) = .err .invalidDate ∧
    DateDayShard.FindForKey (civilOfUnix 0) (.int64 38895000000000) = .err .invalidDate := by
  decide +kernel

/-! ## date_range parsers -/

theorem splitFirst_single (a : GoStr) (h : ∀ b ∈ a, b ≠ 45) : splitFirst 45 a = [a] := by
  unfold splitFirst; rw [cutAt_eq, Split.cut_none h]

theorem splitFirst_pair (a b : GoStr) (h : ∀ x ∈ a, x ≠ 45) : splitFirst 45 (a ++ 45 :: b) = [a, b] := by
  unfold splitFirst; rw [cutAt_eq, Split.cut_some h]

/-- A single year `YYYY` denotes that year. -/
theorem parse_year_single (y : Nat) (hy : y ≤ 9999) : ParseYearRange (zeroPad 4 y) = .ok [(y : Int)] := by
  have f := field4 hy
  unfold ParseYearRange
  rw [splitFirst_single _ f.toDigits.no_minus]
  simp only
  rw [if_neg (by rw [f.len]; simp), f.parseInt64 (by decide)]

theorem year_span_ordered (lo hi : Nat) (h : lo ≤ hi) :
    ((List.range ((hi : Int) - lo + 1).toNat).map fun (i : Nat) => (lo : Int) + i) =
      (List.range (hi - lo + 1)).map fun (i : Nat) => ((lo + i : Nat) : Int) := by
  rw [show ((hi : Int) - lo + 1).toNat = hi - lo + 1 from by omega]
  exact List.map_congr_left fun i _ => by omega

/-- any one width `w`: `ParseYearRange` does not ask for four digits here -/
theorem parseYearRange_span {w : Nat} (hw : w ≤ 18) {a b : GoStr} {x y : Nat} (ha : Field w a x)
    (hb : Field w b y) :
    ParseYearRange (a ++ 45 :: b) =
      .ok ((List.range (max x y - min x y + 1)).map fun (i : Nat) => ((min x y + i : Nat) : Int)) := by
  unfold ParseYearRange
  rw [splitFirst_pair _ _ ha.toDigits.no_minus]
  simp only
  rw [hb.strLt ha]
  by_cases h : y < x
  · have hle := Nat.le_of_lt h
    simp only [h, decide_true, if_true]
    rw [hb.parseInt64 hw, ha.parseInt64 hw]
    simp only
    rw [Nat.max_eq_left hle, Nat.min_eq_right hle, year_span_ordered y x hle]
  · have hle := Nat.le_of_not_lt h
    simp only [h, decide_false, Bool.false_eq_true, if_false]
    rw [ha.parseInt64 hw, hb.parseInt64 hw]
    simp only
    rw [Nat.max_eq_right hle, Nat.min_eq_left hle, year_span_ordered x y hle]

/-- **`date_range` entries, years.**  `YYYY-ZZZZ`, written in either order, denotes every
    year from the smaller to the larger, ascending. -/
theorem parse_year_span (ya yb : Nat) (ha : ya ≤ 9999) (hb : yb ≤ 9999) :
    ParseYearRange (zeroPad 4 ya ++ 45 :: zeroPad 4 yb) =
      .ok ((List.range (max ya yb - min ya yb + 1)).map fun (i : Nat) => ((min ya yb + i : Nat) : Int)) :=
  parseYearRange_span (by decide) (field4 ha) (field4 hb)

/-- Months counted from January of year 0, and the period number `YYYYMM` of the `t`-th month. -/
def monthIndex (y m : Nat) : Nat := y * 12 + (m - 1)
def monthOfIndex (t : Nat) : Int := ((t / 12 : Nat) : Int) * 100 + ((t % 12 + 1 : Nat) : Int)

theorem monthOfIndex_index (y m : Nat) (hm : 1 ≤ m ∧ m ≤ 12) :
    monthOfIndex (monthIndex y m) = (y : Int) * 100 + m := by
  unfold monthOfIndex monthIndex; omega

/-- The loop of `ParseMonthRange` walks consecutive months (at the loop head the
    month may be 13, which it turns into January of the next year). -/
theorem monthLoop_eq (n y m : Nat) (hm : 1 ≤ m ∧ m ≤ 13) :
    monthLoop n (y : Int) (m : Int) = (List.range n).map fun i => monthOfIndex (y * 12 + (m - 1) + i) := by
  induction n generalizing y m with
  | zero => rfl
  | succ n ih =>
    -- the head of the loop turns month 13 into January of the next year: the same index
    obtain ⟨y', m', hm', hidx, hstep⟩ : ∃ y' m' : Nat, (1 ≤ m' ∧ m' ≤ 12) ∧
        y' * 12 + (m' - 1) = y * 12 + (m - 1) ∧
        monthLoop (n + 1) (y : Int) (m : Int) =
          ((y' : Int) * 100 + m') :: monthLoop n y' ((m' + 1 : Nat) : Int) := by
      by_cases h13 : m = 13
      · subst h13
        exact ⟨y + 1, 1, by omega, by omega, by rw [monthLoop, if_pos (by decide)]; rfl⟩
      · exact ⟨y, m, by omega, rfl, by rw [monthLoop, if_neg (by omega)]; rfl⟩
    rw [hstep, ih y' (m' + 1) (by omega), List.range_succ_eq_map, List.map_cons, List.map_map, ← hidx]
    congr 1
    · exact (monthOfIndex_index y' m' hm').symm
    · exact List.map_congr_left fun i _ => congrArg monthOfIndex (by omega)

theorem month_span_ordered (y m y' m' : Nat) (hm : 1 ≤ m ∧ m ≤ 12) (hm' : 1 ≤ m')
    (h : monthIndex y m ≤ monthIndex y' m') :
    monthLoop (((y' : Int) - y) * 12 + m' - m + 1).toNat y m =
      (List.range (monthIndex y' m' - monthIndex y m + 1)).map fun i => monthOfIndex (monthIndex y m + i) := by
  have e : (((y' : Int) - y) * 12 + m' - m + 1).toNat = monthIndex y' m' - monthIndex y m + 1 := by
    unfold monthIndex at h ⊢; omega
  rw [e, monthLoop_eq _ y m (by omega)]; rfl

/-- `YYYYMM` as six digits. -/
def monthText (y m : Nat) : GoStr := zeroPad 4 y ++ zeroPad 2 m

theorem monthField (y m : Nat) (hy : y ≤ 9999) (hm : m ≤ 99) : Field 6 (monthText y m) (y * 100 + m) :=
  (field4 hy).append (field2 hm)

theorem monthText_fields (y m : Nat) (hy : y ≤ 9999) :
    (monthText y m).take 4 = zeroPad 4 y ∧ (monthText y m).drop 4 = zeroPad 2 m :=
  ⟨(field4 hy).take _, (field4 hy).drop _⟩

/-- A single month `YYYYMM` denotes that month. -/
theorem parse_month_single (y m : Nat) (hy : y ≤ 9999) (hm : m ≤ 99) :
    ParseMonthRange (monthText y m) = .ok [(y : Int) * 100 + m] := by
  have f := monthField y m hy hm
  unfold ParseMonthRange
  rw [splitFirst_single _ f.toDigits.no_minus]
  simp only
  rw [if_neg (by rw [f.len]; simp), f.parseInt64 (by decide)]
  simp

/-- **`date_range` entries, months.**  `YYYYMM-ZZZZNN` with real months, written in either
    order, denotes every month from the earlier to the later one — across any
    number of year ends — ascending, by period number. -/
theorem parse_month_span (ya ma yb mb : Nat) (hya : ya ≤ 9999) (hyb : yb ≤ 9999)
    (hma : 1 ≤ ma ∧ ma ≤ 12) (hmb : 1 ≤ mb ∧ mb ≤ 12) :
    ParseMonthRange (monthText ya ma ++ 45 :: monthText yb mb) =
      .ok ((List.range (max (monthIndex ya ma) (monthIndex yb mb) - min (monthIndex ya ma) (monthIndex yb mb) + 1)).map
        fun i => monthOfIndex (min (monthIndex ya ma) (monthIndex yb mb) + i)) := by
  have da := monthField ya ma hya (by omega)
  have db := monthField yb mb hyb (by omega)
  have fa := (field4 hya).parseInt64 (by decide)
  have fb := (field4 hyb).parseInt64 (by decide)
  have ga := (field2 (m := ma) (by omega)).parseInt64 (by decide)
  have gb := (field2 (m := mb) (by omega)).parseInt64 (by decide)
  obtain ⟨hta, hra⟩ := monthText_fields ya ma hya
  obtain ⟨htb, hrb⟩ := monthText_fields yb mb hyb
  unfold ParseMonthRange
  rw [splitFirst_pair _ _ da.toDigits.no_minus]
  simp only
  rw [if_neg (by rw [da.len, db.len]; simp), db.strLt da]
  by_cases h : yb * 100 + mb < ya * 100 + ma
  · have hle : monthIndex yb mb ≤ monthIndex ya ma := by unfold monthIndex; omega
    simp only [h, decide_true, if_true]
    rw [htb, hrb, hta, hra, fb, gb, fa, ga]
    simp only
    rw [Nat.max_eq_left hle, Nat.min_eq_right hle, month_span_ordered yb mb ya ma hmb hma.1 hle]
  · have hle : monthIndex ya ma ≤ monthIndex yb mb := by unfold monthIndex; omega
    simp only [h, decide_false, Bool.false_eq_true, if_false]
    rw [hta, hra, htb, hrb, fa, ga, fb, gb]
    simp only
    rw [Nat.max_eq_right hle, Nat.min_eq_left hle, month_span_ordered ya ma yb mb hma hmb.1 hle]

/-- 201511-201702 crosses two year ends: sixteen months. -/
example : (List.range (monthIndex 2017 2 - monthIndex 2015 11 + 1)).map (fun i => monthOfIndex (monthIndex 2015 11 + i)) =
    [201511, 201512, 201601, 201602, 201603, 201604, 201605, 201606, 201607, 201608, 201609, 201610,
     201611, 201612, 201701, 201702] := by decide +kernel

/-! ## date_range parsers: days -/

theorem daysIn_bounds (y : Int) (m : Nat) : 28 ≤ daysIn y m ∧ daysIn y m ≤ 31 := by
  unfold daysIn; split
  · split <;> omega
  · split <;> omega

theorem valid_iff (c : Civil) :
    c.valid = true ↔ 1 ≤ c.month ∧ c.month ≤ 12 ∧ 1 ≤ c.day ∧ c.day ≤ daysIn c.year c.month := by
  simp [Civil.valid, and_assoc]

theorem valid_fields (c : Civil) (h : c.valid = true) : 1 ≤ c.month ∧ c.month ≤ 12 ∧ 1 ≤ c.day ∧ c.day ≤ 31 := by
  have := (valid_iff c).mp h
  have := daysIn_bounds c.year c.month
  omega

theorem nextDay_cases (c : Civil) :
    (c.day < daysIn c.year c.month ∧ nextDay c = { c with day := c.day + 1 }) ∨
    (¬ c.day < daysIn c.year c.month ∧ c.month < 12 ∧ nextDay c = ⟨c.year, c.month + 1, 1⟩) ∨
    (¬ c.day < daysIn c.year c.month ∧ ¬ c.month < 12 ∧ nextDay c = ⟨c.year + 1, 1, 1⟩) := by
  unfold nextDay
  by_cases h : c.day < daysIn c.year c.month
  · exact .inl ⟨h, if_pos h⟩
  · by_cases h' : c.month < 12
    · exact .inr (.inl ⟨h, h', by rw [if_neg h, if_pos h']⟩)
    · exact .inr (.inr ⟨h, h', by rw [if_neg h, if_neg h']⟩)

theorem nextDay_valid (c : Civil) (h : c.valid = true) : (nextDay c).valid = true := by
  have hc := (valid_iff c).mp h
  rw [valid_iff]
  rcases nextDay_cases c with ⟨hd, e⟩ | ⟨hd, hm, e⟩ | ⟨hd, hm, e⟩ <;> rw [e] <;> simp only
  · omega
  · have := daysIn_bounds c.year (c.month + 1); omega
  · have := daysIn_bounds (c.year + 1) 1; omega

theorem nextDay_year (c : Civil) : c.year ≤ (nextDay c).year ∧ (nextDay c).year ≤ c.year + 1 := by
  rcases nextDay_cases c with ⟨_, e⟩ | ⟨_, _, e⟩ | ⟨_, _, e⟩ <;> rw [e] <;> simp only <;> omega

/-- `YYYYMMDD` as a number. -/
def compactNum (c : Civil) : Int := c.year * 10000 + c.month * 100 + c.day

theorem fmtDateCompact_eq (c : Civil) (hy : 0 ≤ c.year) :
    fmtDateCompact c = zeroPad 4 c.year.toNat ++ zeroPad 2 c.month ++ zeroPad 2 c.day := by
  unfold fmtDateCompact; rw [if_neg (by omega)]

theorem compactNum_cast (c : Civil) (hy : 0 ≤ c.year) :
    (((c.year.toNat * 100 + c.month) * 100 + c.day : Nat) : Int) = compactNum c := by
  unfold compactNum; omega

theorem compactField (c : Civil) (hv : c.valid = true) (hy : 0 ≤ c.year ∧ c.year ≤ 9999) :
    Field 8 (fmtDateCompact c) ((c.year.toNat * 100 + c.month) * 100 + c.day) := by
  obtain ⟨_, hm, _, hd⟩ := valid_fields c hv
  rw [fmtDateCompact_eq c hy.1]
  exact ((field4 (y := c.year.toNat) (by omega)).append (field2 (m := c.month) (by omega))).append
    (field2 (m := c.day) (by omega))

/-- Beyond the year 9999 the text has more than eight digits; Atoi still reads it back. -/
theorem compact_value (c : Civil) (hy : 0 ≤ c.year ∧ c.year < 10 ^ 12) (hm : c.month ≤ 99) (hd : c.day ≤ 99) :
    parseInt64 (fmtDateCompact c) = some (compactNum c) := by
  have h := ((Digits.zeroPad 4 c.year.toNat).append (Digits.zeroPad 2 c.month)).append (Digits.zeroPad 2 c.day)
  rw [(field2 hm).len, (field2 hd).len] at h
  rw [fmtDateCompact_eq c hy.1, h.parseInt64 (by omega)]
  exact congrArg some (by unfold compactNum; omega)

/-- The fields `time.Parse("20060102", …)` cuts out of eight bytes. -/
theorem compact_fields (Y M D : GoStr) (hY : Y.length = 4) (hM : M.length = 2) (hD : D.length = 2) :
    (Y ++ M ++ D).take 4 = Y ∧ ((Y ++ M ++ D).drop 4).take 2 = M ∧ (Y ++ M ++ D).drop 6 = D := by
  match Y, hY, M, hM, D, hD with
  | [_, _, _, _], _, [_, _], _, [_, _], _ => simp

theorem timeParse_compact (c : Civil) (hv : c.valid = true) (hy : 0 ≤ c.year ∧ c.year ≤ 9999) :
    timeParseCompact (fmtDateCompact c) = some c := by
  obtain ⟨_, hm, _, hd⟩ := valid_fields c hv
  have f := compactField c hv hy
  unfold timeParseCompact
  rw [if_pos ⟨f.len, List.all_eq_true.mpr f.digit⟩, fmtDateCompact_eq c hy.1]
  obtain ⟨f1, f2, f3⟩ := compact_fields _ _ _ (field4 (y := c.year.toNat) (by omega)).len
    (field2 (m := c.month) (by omega)).len (field2 (m := c.day) (by omega)).len
  simp only [f1, f2, f3, zeroPad_val]
  rw [show ((c.year.toNat : Nat) : Int) = c.year from by omega, if_pos hv]

/-! ## the calendar behind `ParseDayRange` -/

def yearLen (y : Int) : Nat := if isLeap y then 366 else 365

theorem isLeap_iff (y : Nat) : isLeap (y : Int) = true ↔ 4 ∣ y ∧ (¬ 100 ∣ y ∨ 400 ∣ y) := by
  simp [isLeap]; omega

/-- `⌈(y+1)/k⌉` is `⌈y/k⌉`, plus one exactly when `k` divides `y`. -/
theorem ceil_succ (y k j : Nat) (hk : k = j + 1) :
    (y + 1 + j) / k = (y + j) / k + if k ∣ y then 1 else 0 := by
  subst hk
  rw [Nat.add_right_comm, Nat.succ_div, Nat.add_assoc y j 1]
  simp only [Nat.dvd_add_left (Nat.dvd_refl (j + 1))]

theorem daysBeforeYear_succ (y : Nat) : daysBeforeYear (y + 1) = daysBeforeYear y + yearLen (y : Int) := by
  have b1 : (y + 99) / 100 ≤ (y + 3) / 4 := by omega
  have leap := isLeap_iff y
  unfold daysBeforeYear yearLen
  rw [ceil_succ y 4 3 rfl, ceil_succ y 100 99 rfl, ceil_succ y 400 399 rfl]
  -- what is left is linear in the three quotients once the divisibilities are settled
  generalize (y + 3) / 4 = A at *
  generalize (y + 99) / 100 = B at *
  generalize (y + 399) / 400 = C at *
  by_cases h400 : 400 ∣ y
  · have h100 : 100 ∣ y := Nat.dvd_trans (by decide) h400
    have h4 : 4 ∣ y := Nat.dvd_trans (by decide) h400
    rw [if_pos h4, if_pos h100, if_pos h400, if_pos (leap.mpr ⟨h4, .inr h400⟩)]
    clear h4 h100 h400; omega
  · by_cases h100 : 100 ∣ y
    · have h4 : 4 ∣ y := Nat.dvd_trans (by decide) h100
      rw [if_pos h4, if_pos h100, if_neg h400, if_neg (fun h => (leap.mp h).2.elim (· h100) h400)]
      clear h4 h100 h400; omega
    · by_cases h4 : 4 ∣ y
      · rw [if_pos h4, if_neg h100, if_neg h400, if_pos (leap.mpr ⟨h4, .inl h100⟩)]
        clear h4 h100 h400; omega
      · rw [if_neg h4, if_neg h100, if_neg h400, if_neg (fun h => h4 (leap.mp h).1)]
        clear h4 h100 h400; omega

theorem daysBeforeMonth_succ (y : Int) (m : Nat) (hm : 1 ≤ m) :
    daysBeforeMonth y (m + 1) = daysBeforeMonth y m + daysIn y m := by
  unfold daysBeforeMonth
  have e : m + 1 - 1 = (m - 1) + 1 := by omega
  rw [e, List.range_succ, List.map_append, List.foldl_append]
  simp only [List.map_cons, List.map_nil, List.foldl_cons, List.foldl_nil]
  have : m - 1 + 1 = m := by omega
  rw [this]

theorem daysBeforeMonth_one (y : Int) : daysBeforeMonth y 1 = 0 := rfl

theorem daysBeforeMonth_13 (y : Int) : daysBeforeMonth y 13 = yearLen y := by
  unfold daysBeforeMonth yearLen daysIn
  generalize isLeap y = leap
  cases leap <;> rfl

/-- **The day after has the next day number**, through month ends, leap days
    and year ends. -/
theorem dayNumber_nextDay (c : Civil) (hv : c.valid = true) (hy : 0 ≤ c.year) :
    dayNumber (nextDay c) = dayNumber c + 1 := by
  have hc := (valid_iff c).mp hv
  rcases nextDay_cases c with ⟨hd, e⟩ | ⟨hd, hm, e⟩ | ⟨hd, hm, e⟩ <;> rw [e] <;> unfold dayNumber <;>
    simp only
  · omega
  · rw [daysBeforeMonth_succ c.year c.month hc.1]; omega
  · -- the last day of the year
    have hm12 : c.month = 12 := by omega
    have hs := daysBeforeMonth_succ c.year 12 (by omega)
    rw [daysBeforeMonth_13] at hs
    rw [hm12] at hc hd ⊢
    rw [show (c.year + 1).toNat = c.year.toNat + 1 from by omega, daysBeforeYear_succ,
      show ((c.year.toNat : Nat) : Int) = c.year from by omega, daysBeforeMonth_one]
    omega

theorem civil_eq_of_compact (c c' : Civil) (hv : c.valid = true) (hv' : c'.valid = true)
    (h : compactNum c = compactNum c') : c = c' := by
  have hc := valid_fields c hv
  have hc' := valid_fields c' hv'
  obtain ⟨y, m, d⟩ := c
  obtain ⟨y', m', d'⟩ := c'
  simp only [compactNum] at h hc hc'
  obtain ⟨rfl, rfl, rfl⟩ : y = y' ∧ m = m' ∧ d = d' := by omega
  rfl

/-! `nextDay` is the successor on real dates: it moves forward and skips none.  With
    `dayNumber_nextDay` this is all the order of day numbers rests on. -/

theorem nextDay_lt (c : Civil) (hc : c.valid = true) : compactNum c < compactNum (nextDay c) := by
  have vc := valid_fields c hc
  unfold compactNum
  rcases nextDay_cases c with ⟨hd, e⟩ | ⟨hd, hm, e⟩ | ⟨hd, hm, e⟩ <;> rw [e] <;> simp only <;> omega

theorem nextDay_least (c x : Civil) (hc : c.valid = true) (hx : x.valid = true)
    (h : compactNum c < compactNum x) : compactNum (nextDay c) ≤ compactNum x := by
  have vc := (valid_iff c).mp hc
  have vx := (valid_iff x).mp hx
  have bc := daysIn_bounds c.year c.month
  have bx := daysIn_bounds x.year x.month
  -- a later date of the same month lies within it, so after its last day comes another month
  have hs : x.year = c.year → x.month = c.month → x.day ≤ daysIn c.year c.month := fun h1 h2 => by
    rw [← h1, ← h2]; exact vx.2.2.2
  unfold compactNum at h ⊢
  rcases nextDay_cases c with ⟨hd, e⟩ | ⟨hd, hm, e⟩ | ⟨hd, hm, e⟩ <;> rw [e] <;> simp only <;> omega

/-- A later real date is reached by counting days forward (induction on the distance of the
    two `YYYYMMDD` numbers), so it has the larger day number. -/
theorem dayNumber_lt (c c' : Civil) (hv : c.valid = true) (hv' : c'.valid = true) (hy : 0 ≤ c.year)
    (hlt : compactNum c < compactNum c') : dayNumber c < dayNumber c' := by
  generalize hg : (compactNum c' - compactNum c).toNat = g
  induction g using Nat.strongRecOn generalizing c with
  | _ g ih =>
    have hn := dayNumber_nextDay c hv hy
    have hv1 := nextDay_valid c hv
    rcases Int.lt_or_eq_of_le (nextDay_least c c' hv hv' hlt) with h | h
    · have := ih _ (by have := nextDay_lt c hv; omega) (nextDay c) hv1 (by have := nextDay_year c; omega) h rfl
      omega
    · rw [← civil_eq_of_compact _ _ hv1 hv' h]; omega

theorem compact_lt_iff (c c' : Civil) (hv : c.valid = true) (hv' : c'.valid = true) (hy : 0 ≤ c.year)
    (hy' : 0 ≤ c'.year) : compactNum c < compactNum c' ↔ dayNumber c < dayNumber c' := by
  refine ⟨dayNumber_lt c c' hv hv' hy, fun h => ?_⟩
  rcases Int.lt_trichotomy (compactNum c) (compactNum c') with hlt | heq | hgt
  · exact hlt
  · rw [civil_eq_of_compact c c' hv hv' heq] at h; omega
  · have := dayNumber_lt c' c hv' hv hy' hgt; omega

theorem dayNumber_inj (c c' : Civil) (hv : c.valid = true) (hv' : c'.valid = true) (hy : 0 ≤ c.year)
    (hy' : 0 ≤ c'.year) (h : dayNumber c = dayNumber c') : c = c' := by
  have h1 := compact_lt_iff c c' hv hv' hy hy'
  have h2 := compact_lt_iff c' c hv' hv hy' hy
  exact civil_eq_of_compact c c' hv hv' (by omega)

theorem compact_le_iff (c c' : Civil) (hv : c.valid = true) (hv' : c'.valid = true) (hy : 0 ≤ c.year)
    (hy' : 0 ≤ c'.year) : compactNum c ≤ compactNum c' ↔ dayNumber c ≤ dayNumber c' := by
  rw [← Int.not_lt, ← Nat.not_lt, compact_lt_iff c' c hv' hv hy' hy]

def daysLater (c : Civil) : Nat → Civil
  | 0 => c
  | k + 1 => daysLater (nextDay c) k

theorem daysLater_props (c : Civil) (hv : c.valid = true) (hy : 0 ≤ c.year) (k : Nat) :
    (daysLater c k).valid = true ∧ 0 ≤ (daysLater c k).year ∧ (daysLater c k).year ≤ c.year + k ∧
    dayNumber (daysLater c k) = dayNumber c + k := by
  induction k generalizing c with
  | zero => exact ⟨hv, hy, by show c.year ≤ _; omega, rfl⟩
  | succ k ih =>
    have h1 := nextDay_valid c hv
    have h2 := nextDay_year c
    have h3 := dayNumber_nextDay c hv hy
    obtain ⟨a, b, u, d⟩ := ih (nextDay c) h1 (by omega)
    exact ⟨a, b, by show (daysLater (nextDay c) k).year ≤ _; omega,
      by show dayNumber (daysLater (nextDay c) k) = _; rw [d, h3]; omega⟩

theorem dayList_eq (c : Civil) (n : Nat) : dayList c n = (List.range n).map (daysLater c) := by
  induction n generalizing c with
  | zero => rfl
  | succ n ih => rw [dayList, ih, List.range_succ_eq_map, List.map_cons, List.map_map]; rfl

theorem foldr_all_ok (l : List Civil) (h : ∀ c ∈ l, parseInt64 (fmtDateCompact c) = some (compactNum c)) :
    l.foldr (fun c acc => match parseInt64 (fmtDateCompact c), acc with
      | some n, .ok l => .ok (n :: l)
      | none, .ok _ => .err .config
      | _, e => e) (Out.ok []) = .ok (l.map compactNum) := by
  induction l with
  | nil => rfl
  | cons c cs ih =>
    simp only [List.foldr_cons, List.map_cons]
    rw [ih (fun x hx => h x (by simp [hx])), h c (by simp)]

/-- The days `ParseDayRange` walks through stay below the year 10^12: Atoi reads each back. -/
theorem dayList_compact (lo : Civil) (hv : lo.valid = true) (hy : 0 ≤ lo.year ∧ lo.year ≤ 9999) (n : Nat)
    (hn : n ≤ 106752) : ∀ c ∈ dayList lo n, parseInt64 (fmtDateCompact c) = some (compactNum c) := by
  intro c hc
  rw [dayList_eq] at hc
  obtain ⟨k, hk, rfl⟩ := List.mem_map.mp hc
  have hk := List.mem_range.mp hk
  obtain ⟨hcv, hc1, hc2, _⟩ := daysLater_props lo hv hy.1 k
  obtain ⟨_, hm, _, hd⟩ := valid_fields _ hcv
  exact compact_value _ ⟨by omega, by omega⟩ (by omega) (by omega)

/-- A single day `YYYYMMDD` denotes that day. -/
theorem parse_day_single (c : Civil) (hv : c.valid = true) (hy : 0 ≤ c.year ∧ c.year ≤ 9999) :
    ParseDayRange (fmtDateCompact c) = .ok [compactNum c] := by
  have f := compactField c hv hy
  unfold ParseDayRange
  rw [splitFirst_single _ f.toDigits.no_minus]
  simp only
  rw [if_neg (by rw [f.len]; simp), f.parseInt64 (by decide), compactNum_cast c hy.1]

/-- **`date_range` entries, days.**  `YYYYMMDD-ZZZZNNEE` with real dates, written in
    either order, denotes the earlier date and the days that follow it one by
    one (`nextDay`: month ends, leap days and year ends included), as many as
    there are days between the two dates — but at most 106752, because
    `end.Sub(begin)` saturates at the largest `time.Duration` (`daysCount`). -/
theorem parse_day_span (a b : Civil) (hva : a.valid = true) (hvb : b.valid = true)
    (hya : 0 ≤ a.year ∧ a.year ≤ 9999) (hyb : 0 ≤ b.year ∧ b.year ≤ 9999) :
    ParseDayRange (fmtDateCompact a ++ 45 :: fmtDateCompact b) =
      .ok ((dayList (if compactNum b < compactNum a then b else a)
        (daysCount (if compactNum b < compactNum a then b else a)
                   (if compactNum b < compactNum a then a else b) + 1)).map compactNum) := by
  have da := compactField a hva hya
  have db := compactField b hvb hyb
  have hlt : decide ((b.year.toNat * 100 + b.month) * 100 + b.day <
      (a.year.toNat * 100 + a.month) * 100 + a.day) = decide (compactNum b < compactNum a) :=
    decide_eq_decide.mpr (by rw [← compactNum_cast a hya.1, ← compactNum_cast b hyb.1, Int.ofNat_lt])
  unfold ParseDayRange
  rw [splitFirst_pair _ _ da.toDigits.no_minus]
  simp only
  rw [if_neg (by rw [da.len, db.len]; simp), db.strLt da, hlt]
  by_cases h : compactNum b < compactNum a
  · simp only [h, decide_true, if_true]
    rw [timeParse_compact b hvb hyb, timeParse_compact a hva hya]
    exact foldr_all_ok _ (dayList_compact b hvb hyb _ (by unfold daysCount; omega))
  · simp only [h, decide_false, Bool.false_eq_true, if_false]
    rw [timeParse_compact a hva hya, timeParse_compact b hvb hyb]
    exact foldr_all_ok _ (dayList_compact a hva hya _ (by unfold daysCount; omega))

/-- **`date_range` entries, days: the list is exactly the span.**  For real dates
    `lo ≤ hi` of non-negative years the list
    `dayList lo (dayNumber hi - dayNumber lo + 1)` that `ParseDayRange` produces
    (`parse_day_span`; spans of at most 106751 days) contains a date iff it is a
    real date between `lo` and `hi`, and lists the dates in ascending order. -/
theorem day_span_exact (lo hi : Civil) (hvl : lo.valid = true) (hvh : hi.valid = true)
    (hyl : 0 ≤ lo.year) (hyh : 0 ≤ hi.year) (hle : compactNum lo ≤ compactNum hi) :
    (∀ x, x ∈ dayList lo (dayNumber hi - dayNumber lo + 1) ↔
      (x.valid = true ∧ 0 ≤ x.year ∧ compactNum lo ≤ compactNum x ∧ compactNum x ≤ compactNum hi)) ∧
    ((dayList lo (dayNumber hi - dayNumber lo + 1)).map compactNum).Pairwise (· < ·) := by
  have hdn := (compact_le_iff lo hi hvl hvh hyl hyh).mp hle
  rw [dayList_eq]
  refine ⟨fun x => ?_, ?_⟩
  · simp only [List.mem_map, List.mem_range]
    constructor
    · rintro ⟨k, hk, rfl⟩
      obtain ⟨a, b, _, d⟩ := daysLater_props lo hvl hyl k
      exact ⟨a, b, (compact_le_iff lo _ hvl a hyl b).mpr (by omega),
        (compact_le_iff _ hi a hvh b hyh).mpr (by omega)⟩
    · rintro ⟨a, b, h1, h2⟩
      have d1 := (compact_le_iff lo x hvl a hyl b).mp h1
      have d2 := (compact_le_iff x hi a hvh b hyh).mp h2
      obtain ⟨a', b', _, d'⟩ := daysLater_props lo hvl hyl (dayNumber x - dayNumber lo)
      exact ⟨dayNumber x - dayNumber lo, by omega, dayNumber_inj _ x a' a b' b (by rw [d']; omega)⟩
  · -- later in the list means later in the calendar
    rw [List.map_map, List.pairwise_map]
    refine List.pairwise_lt_range.imp fun {i j} hij => ?_
    obtain ⟨ai, bi, _, di⟩ := daysLater_props lo hvl hyl i
    obtain ⟨aj, bj, _, dj⟩ := daysLater_props lo hvl hyl j
    exact (compact_lt_iff _ _ ai aj bi bj).mpr (by omega)

/-- 2016-02-28 … 2016-03-02 crosses a leap day: four days. -/
example : (dayList ⟨2016, 2, 28⟩ (dayNumber ⟨2016, 3, 2⟩ - dayNumber ⟨2016, 2, 28⟩ + 1)).map compactNum =
    [20160228, 20160229, 20160301, 20160302] := by decide +kernel
/-- 2015-12-30 … 2016-01-02 crosses a year end. -/
example : (dayList ⟨2015, 12, 30⟩ (dayNumber ⟨2016, 1, 2⟩ - dayNumber ⟨2015, 12, 30⟩ + 1)).map compactNum =
    [20151230, 20151231, 20160101, 20160102] := by decide +kernel

/-- Beyond 106751 days `ParseDayRange` stops early (Duration saturation): 0001-01-01 … 0300-01-01
    is 109207 days apart, only the first 106752 are listed. Not exercised by the check's
    generator; recorded in the claims. -/
theorem day_range_truncation_witness :
    dayNumber ⟨300, 1, 1⟩ - dayNumber ⟨1, 1, 1⟩ = 109207 ∧ daysCount ⟨1, 1, 1⟩ ⟨300, 1, 1⟩ = 106751 := by
  decide

/-! ## several date_range entries -/

/-- The entries' period lists are non-empty and strictly ascending across entries,
    given the periods `acc` already collected. -/
def AscChain : List Int → List (List Int) → Prop
  | _, [] => True
  | acc, l :: rest =>
    l ≠ [] ∧ (∀ last first, acc.getLast? = some last → l.head? = some first → last < first) ∧
      AscChain (acc ++ l) rest

/-- Table → slice pairs of the entries, numbered from `k`. -/
def slicePairs : Nat → List (List Int) → TableToSlice
  | _, [] => []
  | k, l :: rest => l.map (fun v => (v, (k : Int))) ++ slicePairs (k + 1) rest

theorem dateSliceStep_ok (parse : GoStr → Out (List Int)) (sub : List Int) (tts : TableToSlice) (k : Nat)
    (e : GoStr) (l : List Int) (hl : parse e = .ok l) (hne : l ≠ [])
    (hasc : ∀ last first, sub.getLast? = some last → l.head? = some first → last < first) :
    dateSliceStep parse (.ok (sub, tts)) (k, e) =
      .ok (sub ++ l, tts ++ l.map (fun v => (v, (k : Int)))) := by
  unfold dateSliceStep
  simp only [hl]
  cases hg : sub.getLast? with
  | none => rfl
  | some last =>
    obtain ⟨first, hf⟩ : ∃ first, l.head? = some first := by
      cases l with
      | nil => exact absurd rfl hne
      | cons a _ => exact ⟨a, rfl⟩
    have := hasc last first hg hf
    simp only [hf]
    rw [if_neg (by omega)]

theorem sliceInfos_fold (parse : GoStr → Out (List Int)) (entries : List GoStr) (lists : List (List Int))
    (hp : entries.map parse = lists.map Out.ok) (k : Nat) (sub : List Int) (tts : TableToSlice)
    (hasc : AscChain sub lists) :
    ((List.range' k entries.length).zip entries).foldl (dateSliceStep parse) (.ok (sub, tts)) =
      .ok (sub ++ lists.flatten, tts ++ slicePairs k lists) := by
  induction entries generalizing lists k sub tts with
  | nil =>
    cases lists with
    | nil => simp [slicePairs]
    | cons l ls => simp at hp
  | cons e es ih =>
    cases lists with
    | nil => simp at hp
    | cons l ls =>
      simp only [List.map_cons, List.cons.injEq] at hp
      simp only [List.length_cons, List.range'_succ, List.zip_cons_cons, List.foldl_cons]
      rw [dateSliceStep_ok parse sub tts k e l hp.1 hasc.1 hasc.2.1, ih ls hp.2 (k + 1) _ _ hasc.2.2]
      simp [slicePairs, List.append_assoc]

/-- **The whole `date_range` configuration.**  When every entry parses
    (to the lists of `parse_year/month/day_span`) and the entries are ascending,
    the rule's sub-table list is the concatenation of the entries' periods and
    every period belongs to the slice of its entry. -/
theorem slice_infos_concat (parse : GoStr → Out (List Int)) (entries : List GoStr) (lists : List (List Int))
    (hp : entries.map parse = lists.map Out.ok) (hasc : AscChain [] lists) :
    parseDateRuleSliceInfos parse entries entries.length = .ok (lists.flatten, slicePairs 0 lists) := by
  unfold parseDateRuleSliceInfos
  rw [if_neg (by simp), List.range_eq_range']
  have := sliceInfos_fold parse entries lists hp 0 [] [] hasc
  simpa using this

example : AscChain [] [[201511, 201512], [201601], [201602, 201603]] := by
  simp [AscChain]

end GaeaVerif.C09
