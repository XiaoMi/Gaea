import GaeaVerif.Model.InsertPlan
import GaeaVerif.Model.InsertStored
import GaeaVerif.Lemmas.InsertStoredLemmas
import GaeaVerif.Lemmas.RouteLists
import GaeaVerif.Lemmas.ShardLayoutLemmas
/-
  C03 — Every inserted row is stored once, where lookups will find it.
  Theorems about `Model/InsertPlan.lean` (+ `Model/ShardLayout.lean`); the tie to
  proxy/plan is `gvh run C03`.
-/
namespace GaeaVerif.C03
open GaeaVerif GaeaVerif.Layout GaeaVerif.Insert

/-- the sharding cell of the row is a literal the planner places (an integer
    or a string literal; on a hash rule not a string MySQL reads as a number
    while the rule hashes its text), and the rule places it in table `i` -/
def PlacedAt (rt : String) (sci : Nat) (row : Row) (i : Int) : Prop :=
  ∃ txt val, row[sci]? = some (.lit txt val (.ok i)) ∧ shardingValueOk head rt val = true

/-- the sharding value of the row can be routed -/
def Routable (rt : String) (sci : Nat) (row : Row) : Prop := ∃ i, PlacedAt rt sci row i

/-! ### `addRow` / `splitRows`: the batch split of `handleInsertValues` -/

theorem addRow_keys (i : Int) (row : Row) (acc : List (Int × List Row)) :
    (addRow i row acc).map (·.1) = if i ∈ acc.map (·.1) then acc.map (·.1) else acc.map (·.1) ++ [i] := by
  induction acc with
  | nil => rfl
  | cons g rest ih =>
    obtain ⟨j, rs⟩ := g
    rw [addRow]
    by_cases hji : j = i
    · rw [if_pos hji, hji]
      exact (if_pos List.mem_cons_self).symm
    · rw [if_neg hji, List.map_cons, ih]
      simp only [List.map_cons, List.mem_cons, Ne.symm hji, false_or]
      split <;> rfl

theorem addRow_perm (i : Int) (row : Row) (acc : List (Int × List Row)) :
    ((addRow i row acc).flatMap (·.2)).Perm (row :: acc.flatMap (·.2)) := by
  induction acc with
  | nil => simp [addRow]
  | cons g rest ih =>
    obtain ⟨j, rs⟩ := g
    rw [addRow]
    split
    · simp [List.perm_middle]
    · simpa using (ih.append_left rs).trans List.perm_middle

theorem addRow_forall {P : Int × List Row → Prop} (i : Int) (row : Row) (acc : List (Int × List Row))
    (hacc : ∀ g ∈ acc, P g) (hnew : P (i, [row])) (hext : ∀ rs, P (i, rs) → P (i, rs ++ [row])) :
    ∀ g ∈ addRow i row acc, P g := by
  induction acc with
  | nil => simpa [addRow] using hnew
  | cons g rest ih =>
    obtain ⟨j, rs⟩ := g
    rw [List.forall_mem_cons] at hacc
    rw [addRow]
    split
    · next hji => subst hji; exact List.forall_mem_cons.mpr ⟨hext rs hacc.1, hacc.2⟩
    · exact List.forall_mem_cons.mpr ⟨hacc.1, ih hacc.2⟩

/-- invariant of the accumulator of `handleInsertValues` -/
structure GroupsOK (rt : String) (sci : Nat) (acc : List (Int × List Row)) : Prop where
  nodup : (acc.map (·.1)).Nodup
  placed : ∀ g ∈ acc, ∀ row ∈ g.2, PlacedAt rt sci row g.1
  nonempty : ∀ g ∈ acc, g.2 ≠ []

theorem addRow_ok (rt : String) (sci : Nat) (i : Int) (row : Row) (acc : List (Int × List Row))
    (hacc : GroupsOK rt sci acc) (hrow : PlacedAt rt sci row i) : GroupsOK rt sci (addRow i row acc) := by
  have h := addRow_forall (P := fun g => g.2 ≠ [] ∧ ∀ r ∈ g.2, PlacedAt rt sci r g.1) i row acc
    (fun g hg => ⟨hacc.nonempty g hg, hacc.placed g hg⟩)
    ⟨List.cons_ne_nil _ _, List.forall_mem_singleton.mpr hrow⟩
    (fun rs h => ⟨List.append_ne_nil_of_right_ne_nil _ (List.cons_ne_nil _ _),
      List.forall_mem_append.mpr ⟨h.2, List.forall_mem_singleton.mpr hrow⟩⟩)
  refine ⟨?_, fun g hg => (h g hg).2, fun g hg => (h g hg).1⟩
  rw [addRow_keys]
  split
  · exact hacc.nodup
  · next hni =>
    exact List.nodup_append.mpr ⟨hacc.nodup, List.pairwise_singleton _ i,
      fun a ha b hb hab => hni (List.mem_singleton.mp hb ▸ hab ▸ ha)⟩

theorem splitRows_inv (rt : String) (sci : Nat) (rows : List Row) (acc groups : List (Int × List Row))
    (hacc : GroupsOK rt sci acc) (h : splitRows head rt sci rows acc = .ok groups) :
    GroupsOK rt sci groups ∧ (groups.flatMap (·.2)).Perm (acc.flatMap (·.2) ++ rows) := by
  fun_induction splitRows head rt sci rows acc with
  | case1 acc => cases h; exact ⟨hacc, by simp⟩
  | case3 row rest acc txt val i hc hok ih =>
    -- the one arm that goes on: a literal the rule places and the planner accepts
    obtain ⟨h1, h2⟩ := ih (addRow_ok rt sci i row acc hacc ⟨txt, val, hc, hok⟩) h
    exact ⟨h1, h2.trans (((addRow_perm i row acc).append_right rest).trans (by simpa using List.perm_middle.symm))⟩
  | case9 _ _ _ _ _ _ _ _ _ hpin => cases hpin  -- an expression cell is skipped only before d687a71
  | _ => cases h

theorem splitRows_partition (rt : String) (sci : Nat) (rows : List Row) (groups : List (Int × List Row))
    (h : splitRows head rt sci rows [] = .ok groups) :
    GroupsOK rt sci groups ∧ (groups.flatMap (·.2)).Perm rows :=
  splitRows_inv rt sci rows [] groups ⟨.nil, nofun, nofun⟩ h

/-! ### From the route result to the per-table statements -/

/-- entry `o` of the plan's SQL map is the statement for table index `i` of the
    rule, carrying exactly `rows`: it is filed under the slice and database of
    table `i`, names the table as the rule names table `i`, and keeps the
    column list. -/
structure Stored (t : TableRule) (s : Stmt) (i : Int) (rows : List Row) (o : Target Out) : Prop where
  target : targetOf t.layout i o.sql = .ok o
  table : restoreTableName t.layout s.schema s.table "" i = .ok [o.sql.table]
  rows : o.sql.rows = rows
  cols : o.sql.cols = s.cols
  /-- REPLACE / IGNORE / priority / ON DUPLICATE KEY UPDATE are those of the statement -/
  flags : o.sql.flags = s.flags
  /-- `i` is one of the tables the rule maps to a slice -/
  known : mapGet t.layout.t2s i ≠ none

theorem stored_of (t : TableRule) (s : Stmt) (rows : List Row) (i : Int) (sql : Out) (o : Target Out)
    (h1 : restoreInsert t s rows i = .ok sql) (h2 : targetOf t.layout i sql = .ok o) : Stored t s i rows o := by
  obtain ⟨slice, db, sql'⟩ := o
  obtain ⟨rfl, hk, _⟩ := targetOf_ok _ _ _ _ h2
  unfold restoreInsert at h1
  split at h1
  · next c cs heq =>
    cases h1
    refine ⟨h2, ?_, rfl, rfl, rfl, hk⟩
    -- without an alias `restoreTableName` yields the chain of the table alone
    unfold restoreTableName at heq ⊢
    split at heq <;> cases heq
    rfl
  all_goals cases h1

theorem multiLoop_stored (t : TableRule) (s : Stmt) (groups : List (Int × List Row)) (out : List (Target Out))
    (h : multiLoop t.layout (restoreInsert t s) (groups.map (·.2)) (groups.map (·.1)) = .ok out) :
    Forall₂ (fun g o => Stored t s g.1 g.2 o) groups out :=
  (multiLoop_spec _ _ _ _ groups out h).imp fun g o ⟨sql, h1, h2⟩ => stored_of t s g.2 g.1 sql o h1 h2

theorem handleInsertStmt_ok {pin : Pin} (t : TableRule) (seq : Option Seq) (s : Stmt) (out : List (Target Out))
    (h : handleInsertStmt pin t seq s = .ok out) :
    precheckInsertStmt pin s = .ok () ∧ ∃ s', handleInsertGlobalSequenceValue seq s = .ok s' ∧
      if t.layout.kind = .global then generateGlobalShardingSQLs t s' = .ok out
      else ∃ sci, lastIndex t.shardCol s'.cols = some sci ∧ handleInsertOnDuplicate t s' = .ok () ∧
        handleInsertValues pin t s' sci = .ok out := by
  revert h
  fun_cases handleInsertStmt pin t seq s <;> intro h
  case case5 hpre s' hseq hk => exact ⟨hpre, s', hseq, by rwa [if_pos hk]⟩  -- global table
  case case10 hpre s' hseq hk sci hsci hdup =>  -- sharded table, every stage passed
    unfold handleInsertColumnNames at hsci
    split at hsci <;> cases hsci
    exact ⟨hpre, s', hseq, by rw [if_neg hk]; exact ⟨sci, ‹_›, hdup, h⟩⟩
  all_goals cases h

theorem handleInsertStmt_sharded {pin : Pin} (t : TableRule) (seq : Option Seq) (s : Stmt) (out : List (Target Out))
    (hk : t.layout.kind ≠ .global) (h : handleInsertStmt pin t seq s = .ok out) :
    ∃ s' sci, precheckInsertStmt pin s = .ok () ∧ handleInsertGlobalSequenceValue seq s = .ok s' ∧
      lastIndex t.shardCol s'.cols = some sci ∧ handleInsertOnDuplicate t s' = .ok () ∧
      handleInsertValues pin t s' sci = .ok out := by
  obtain ⟨hpre, s', hseq, hv⟩ := handleInsertStmt_ok t seq s out h
  rw [if_neg hk] at hv
  obtain ⟨sci, hsci, hdup, hv⟩ := hv
  exact ⟨s', sci, hpre, hseq, hsci, hdup, hv⟩

theorem handleInsertValues_groups (t : TableRule) (s : Stmt) (sci : Nat) (out : List (Target Out))
    (h : handleInsertValues head t s sci = .ok out) :
    ∃ groups : List (Int × List Row), Forall₂ (fun g o => Stored t s g.1 g.2 o) groups out ∧
      GroupsOK t.ruleType sci groups ∧ (groups.flatMap (·.2)).Perm s.rows ∧
      (s.setMode = true → ∃ row i, s.rows = [row] ∧ groups = [(i, [row])] ∧ i ∈ t.layout.idxs) := by
  revert h
  fun_cases handleInsertValues head t s sci <;> intro h
  case case2 hm row hrows txt val i hc hok =>  -- SET form, a literal that is placed
    obtain ⟨hlen, h⟩ := generateMultiShardingSQLs_ok _ _ _ _ _ h
    -- one statement, hence one routed index, which can only be `i`
    obtain ⟨a, ha⟩ := List.length_eq_one_iff.mp hlen.symm
    rw [ha] at h
    have hmem := Route.mem_of_mem_interList _ _ a (ha ▸ List.mem_singleton_self a)
    cases List.mem_singleton.mp hmem.2
    exact ⟨[(i, [row])], multiLoop_stored t s [(i, [row])] out h,
      addRow_ok _ _ i row [] ⟨.nil, nofun, nofun⟩ ⟨txt, val, hc, hok⟩, by rw [hrows]; exact .refl _,
      fun _ => ⟨row, i, hrows, rfl, hmem.1⟩⟩
  case case8 hpin => cases hpin
  case case11 hm groups hg =>  -- VALUES form
    obtain ⟨hok, hperm⟩ := splitRows_partition _ _ _ _ hg
    exact ⟨groups, multiLoop_stored t s groups out (generateMultiShardingSQLs_ok _ _ _ _ _ h).2, hok, hperm,
      fun hs => absurd hs hm⟩
  all_goals cases h

/-- The accepted plan of a sharded table as groups, for both forms: one `Stored` statement per group, `GroupsOK`
    (distinct tables, no empty group, every row placed in the table of its group), the rows of the groups together
    a permutation of the rows after the sequence values; the SET form has the one group of its one row.  The
    theorems on accepted and rejected inserts below are read off this. -/
theorem insert_groups (t : TableRule) (seq : Option Seq) (s : Stmt) (out : List (Target Out))
    (hk : t.layout.kind ≠ .global) (h : handleInsertStmt head t seq s = .ok out) :
    ∃ s' sci, handleInsertGlobalSequenceValue seq s = .ok s' ∧ lastIndex t.shardCol s'.cols = some sci ∧
      ∃ groups : List (Int × List Row), Forall₂ (fun g o => Stored t s' g.1 g.2 o) groups out ∧
        GroupsOK t.ruleType sci groups ∧ (groups.flatMap (·.2)).Perm s'.rows ∧
        (s'.setMode = true → ∃ row i, s'.rows = [row] ∧ groups = [(i, [row])] ∧ i ∈ t.layout.idxs) := by
  obtain ⟨s', sci, _, hseq, hsci, _, hv⟩ := handleInsertStmt_sharded t seq s out hk h
  exact ⟨s', sci, hseq, hsci, handleInsertValues_groups t s' sci out hv⟩

/-- **C03 (VALUES form: every row exactly once, in its own table).** If the
    planner accepts `INSERT/REPLACE … VALUES` on a sharded table, then the
    statements it produces are, one per distinct table index, the statement for
    that physical table (`Stored`), the rows they carry are together a
    permutation of the statement's rows (after the global-sequence values were
    filled in), and every row is carried by the statement of the table its
    sharding literal is placed in by `FindTableIndex`.  In particular every
    row's sharding value was routable. -/
theorem insert_partition (t : TableRule) (seq : Option Seq) (s : Stmt) (out : List (Target Out))
    (hk : t.layout.kind ≠ .global) (h : handleInsertStmt head t seq s = .ok out) :
    ∃ s' sci, handleInsertGlobalSequenceValue seq s = .ok s' ∧ lastIndex t.shardCol s'.cols = some sci ∧
      (s'.setMode = false →
        ∃ groups : List (Int × List Row),
          Forall₂ (fun g o => Stored t s' g.1 g.2 o) groups out ∧
          (groups.flatMap (·.2)).Perm s'.rows ∧
          (groups.map (·.1)).Nodup ∧
          (∀ g ∈ groups, g.2 ≠ [] ∧ ∀ row ∈ g.2, PlacedAt t.ruleType sci row g.1)) := by
  obtain ⟨s', sci, hseq, hsci, groups, hst, hok, hperm, _⟩ := insert_groups t seq s out hk h
  exact ⟨s', sci, hseq, hsci, fun _ =>
    ⟨groups, hst, hperm, hok.nodup, fun g hg => ⟨hok.nonempty g hg, hok.placed g hg⟩⟩⟩

/-- **C03 (SET form).** An accepted `INSERT … SET` on a sharded table produces
    exactly one statement: the one for the table its sharding literal is placed
    in, which is one of the rule's tables. -/
theorem insert_set_once (t : TableRule) (seq : Option Seq) (s : Stmt) (out : List (Target Out))
    (hk : t.layout.kind ≠ .global) (h : handleInsertStmt head t seq s = .ok out) :
    ∃ s' sci, handleInsertGlobalSequenceValue seq s = .ok s' ∧ lastIndex t.shardCol s'.cols = some sci ∧
      (s'.setMode = true →
        ∃ row i o, s'.rows = [row] ∧ out = [o] ∧ PlacedAt t.ruleType sci row i ∧ i ∈ t.layout.idxs ∧ Stored t s' i [row] o) := by
  obtain ⟨s', sci, hseq, hsci, groups, hst, hok, _, hset⟩ := insert_groups t seq s out hk h
  refine ⟨s', sci, hseq, hsci, fun hm => ?_⟩
  obtain ⟨row, i, hrows, rfl, hi⟩ := hset hm
  cases hst with
  | cons hs hrest =>
    cases hrest
    exact ⟨row, i, _, hrows, rfl, hok.placed _ (List.mem_singleton_self _) row (List.mem_singleton_self _), hi, hs⟩

/-- **C03 (rejection).** If, after the global-sequence values were filled in,
    some row's sharding value is not a literal that `FindTableIndex` places
    (NULL, a signed number, arithmetic, a function call, a column, a key the
    rule reports an error or panics for, or a row too short to have one), the
    statement is not accepted: no statement is produced for any table. -/
theorem insert_reject (t : TableRule) (seq : Option Seq) (s s' : Stmt) (sci : Nat)
    (hk : t.layout.kind ≠ .global)
    (hseq : handleInsertGlobalSequenceValue seq s = .ok s') (hsci : lastIndex t.shardCol s'.cols = some sci)
    (hbad : ∃ row ∈ s'.rows, ¬ Routable t.ruleType sci row) :
    ∀ out, handleInsertStmt head t seq s ≠ .ok out := by
  intro out h
  obtain ⟨s'', sci'', hseq', hsci', groups, _, hok, hperm, _⟩ := insert_groups t seq s out hk h
  cases hseq.symm.trans hseq'
  cases hsci.symm.trans hsci'
  obtain ⟨row, hrow, hbad⟩ := hbad
  obtain ⟨g, hg, hr⟩ := List.mem_flatMap.mp (hperm.symm.subset hrow)
  exact hbad ⟨g.1, hok.placed g hg row hr⟩

/-- a statement that does not name the sharding column is rejected -/
theorem insert_reject_no_sharding_column (t : TableRule) (seq : Option Seq) (s s' : Stmt)
    (hk : t.layout.kind ≠ .global)
    (hseq : handleInsertGlobalSequenceValue seq s = .ok s') (hsci : lastIndex t.shardCol s'.cols = none) :
    ∀ out, handleInsertStmt head t seq s ≠ .ok out := by
  intro out h
  obtain ⟨s'', sci, _, hseq', hsci', _⟩ := handleInsertStmt_sharded t seq s out hk h
  cases hseq.symm.trans hseq'
  cases hsci.symm.trans hsci'

theorem precheck_values (s : Stmt) (hm : s.setMode = false) (h : precheckInsertStmt head s = .ok ()) :
    ∀ row ∈ s.rows, s.cols.length = row.length := by
  revert h
  fun_cases precheckInsertStmt head s <;> intro h
  case case2 hset => rw [hm] at hset; cases hset
  case case6 hpin _ _ _ _ => cases hpin
  case case7 hall => exact fun row hr => of_decide_eq_true (List.all_eq_true.mp hall row hr)
  all_goals cases h

/-- a VALUES row with another number of values than the column list has
    (it could not be stored by any backend) makes the statement rejected -/
theorem insert_reject_ragged (t : TableRule) (seq : Option Seq) (s : Stmt)
    (hm : s.setMode = false) (hbad : ∃ row ∈ s.rows, row.length ≠ s.cols.length) :
    ∀ out, handleInsertStmt head t seq s ≠ .ok out := by
  intro out h
  obtain ⟨row, hr, hne⟩ := hbad
  exact hne (precheck_values s hm (handleInsertStmt_ok t seq s out h).1 row hr).symm

/-- **C03 (global tables).** An accepted insert into a global table produces,
    for every table index of the rule in order, exactly one statement: the
    whole statement (all rows), filed under the slice and database of that
    copy. -/
theorem insert_global (t : TableRule) (seq : Option Seq) (s : Stmt) (out : List (Target Out))
    (hk : t.layout.kind = .global) (h : handleInsertStmt head t seq s = .ok out) :
    ∃ s', handleInsertGlobalSequenceValue seq s = .ok s' ∧
      Forall₂ (fun i o => Stored t s' i s'.rows o) t.layout.idxs out := by
  obtain ⟨_, s', hseq, hv⟩ := handleInsertStmt_ok t seq s out h
  rw [if_pos hk] at hv
  exact ⟨s', hseq, (generateShardingSQLs_spec _ _ _ out hv).imp fun i o ⟨sql, h1, h2⟩ =>
    stored_of t s' s'.rows i sql o h1 h2⟩

/-! ### Where lookups will find it (link to the routing model of C01) -/

theorem sorted_singleton_of_mem (l : List Int) (i : Int) (hs : Route.Sorted l) (h : ∀ a, a ∈ l ↔ a = i) : l = [i] := by
  match l, hs with
  | [], _ => exact absurd ((h i).mpr rfl) (by simp)
  | [a], _ => have := (h a).mp (by simp); subst this; rfl
  | a :: b :: rest, hs =>
    have ha := (h a).mp (by simp)
    have hb := (h b).mp (by simp)
    have hab : a < b := by
      have := List.pairwise_cons.mp hs
      exact this.1 b (by simp)
    omega

/-- a point query on a sharding value placed in table `i` is routed to exactly
    table `i` (`Route.routeStmt` is the model `route_sound` of C01 is about).
    `l.wide = false`: the planner asks the rule to place the literal of the
    query (since the repairs of C01 `getShardingCompareValue` routes a literal
    it does not place to every sub table, which contains table `i` as well). -/
theorem point_query_route (rr : Route.Rule) (l : Route.Lit) (i : Int) (hs : Route.Sorted rr.idxs)
    (hin : i ∈ rr.idxs) (hg : rr.isGlobal = false) (hp : l.place = some i) (hw : l.wide = false) :
    Route.routeStmt rr (some (.cmp true false .eq l)) = some [i] := by
  simp only [Route.routeStmt, Route.route, hg, hw, Bool.false_eq_true, ↓reduceIte, Route.findTableIndexes,
    Bool.not_true, hp, Option.map_some]
  congr 1
  apply sorted_singleton_of_mem
  · exact Route.interList_sorted _ _ hs
  · intro a
    rw [Route.interList_mem _ _ hs (by simp [Route.Sorted])]
    simp only [List.mem_singleton]
    constructor
    · exact fun h => h.2
    · intro h; subst h; exact ⟨hin, rfl⟩

theorem insert_placed (t : TableRule) (seq : Option Seq) (s : Stmt) (out : List (Target Out))
    (hk : t.layout.kind ≠ .global) (h : handleInsertStmt head t seq s = .ok out) :
    ∃ s' sci, handleInsertGlobalSequenceValue seq s = .ok s' ∧ lastIndex t.shardCol s'.cols = some sci ∧
      ∀ o ∈ out, ∀ row ∈ o.sql.rows, row ∈ s'.rows ∧
        ∃ i, PlacedAt t.ruleType sci row i ∧ Stored t s' i o.sql.rows o := by
  obtain ⟨s', sci, hseq, hsci, groups, hst, hok, hperm, _⟩ := insert_groups t seq s out hk h
  refine ⟨s', sci, hseq, hsci, fun o ho row hrow => ?_⟩
  obtain ⟨g, hg, hs⟩ := hst.exists_left o ho
  rw [hs.rows] at hrow ⊢
  exact ⟨hperm.subset (List.mem_flatMap.mpr ⟨g, hg, hrow⟩), g.1, hok.placed g hg row hrow, hs⟩

/-- **C03 (where lookups will find it).** For an accepted insert on a sharded
    table whose layout maps only listed tables to slices: every row of every
    produced statement has a sharding literal placed in some table `i`, the
    statement carrying the row is the statement of table `i`, and a point query
    `shardcol = literal` with the same placement, written with a literal the
    planner asks the rule to place (`wide = false`: an integer or a string the
    rule reads, as the inserted literal is), is routed to exactly `[i]`. -/
theorem insert_findable (t : TableRule) (seq : Option Seq) (s : Stmt) (out : List (Target Out))
    (rr : Route.Rule) (hk : t.layout.kind ≠ .global) (h : handleInsertStmt head t seq s = .ok out)
    (hidx : rr.idxs = t.layout.idxs) (hs : Route.Sorted rr.idxs) (hg : rr.isGlobal = false)
    (hlay : ∀ i, mapGet t.layout.t2s i ≠ none → i ∈ t.layout.idxs) :
    ∃ s' sci, handleInsertGlobalSequenceValue seq s = .ok s' ∧ lastIndex t.shardCol s'.cols = some sci ∧
      ∀ o ∈ out, ∀ row ∈ o.sql.rows, ∃ i, PlacedAt t.ruleType sci row i ∧ Stored t s' i o.sql.rows o ∧
        ∀ l : Route.Lit, l.place = some i → l.wide = false →
          Route.routeStmt rr (some (.cmp true false .eq l)) = some [i] := by
  obtain ⟨s', sci, hseq, hsci, hpl⟩ := insert_placed t seq s out hk h
  refine ⟨s', sci, hseq, hsci, fun o ho row hrow => ?_⟩
  obtain ⟨_, i, hp, hst⟩ := hpl o ho row hrow
  exact ⟨i, hp, hst, fun l hl hw => point_query_route rr l i hs (hidx ▸ hlay i hst.known) hg hl hw⟩

/-! ### The global sequence only fills the sequence cells -/

/-- `r'` is `r`, or `r` with its sequence cell (which was `nextval()` or NULL)
    replaced by the integer literal of a sequence value, carrying the placement
    of that value -/
def SeqFilled (q : Seq) (si : Nat) (r r' : Row) : Prop :=
  r' = r ∨ ((r[si]? = some .nextval ∨ r[si]? = some .null) ∧
    ∃ k : Nat, r' = r.set si (.lit (toString (q.start + k)) (.int (q.start + k)) (q.places.getD k .err)))

theorem consRow_ok (row : Row) (x : R (List Row × Nat)) (rows' : List Row) (m : Nat)
    (h : consRow row x = .ok (rows', m)) : ∃ rs, x = .ok (rs, m) ∧ rows' = row :: rs := by
  revert h
  fun_cases consRow row x <;> intro h <;> cases h
  exact ⟨_, rfl, rfl⟩

theorem seqRows_spec (q : Seq) (si : Nat) (rows rows' : List Row) (n m : Nat)
    (h : seqRows q si rows n = .ok (rows', m)) : Forall₂ (SeqFilled q si) rows rows' := by
  fun_induction seqRows q si rows n generalizing rows' with
  | case1 => cases h; exact .nil
  | case4 row rest n c hc hw c' hn ih =>
    obtain ⟨rs, hr, rfl⟩ := consRow_ok _ _ _ _ h
    have hcc : row[si]? = some .nextval ∨ row[si]? = some .null := by
      cases c with
      | nextval => exact Or.inl hc
      | null => exact Or.inr hc
      | _ => cases hw
    refine .cons (Or.inr ⟨hcc, n, ?_⟩) (ih rs hr)
    unfold nextSeq at hn
    split at hn <;> cases hn
    rfl
  | case5 row rest n c hc hw ih =>
    obtain ⟨rs, hr, rfl⟩ := consRow_ok _ _ _ _ h
    exact .cons (Or.inl rfl) (ih rs hr)
  | _ => cases h

/-- **VALUES form with a global sequence**: the rows the planner goes on with
    are the statement's rows (extended by a `nextval()` cell when the sequence
    column is not listed) in the same order, each unchanged except that a
    `nextval()` / NULL sequence cell became a literal. -/
theorem sequence_fills_only_sequence_cells (q : Seq) (s s' : Stmt) (hm : s.setMode = false)
    (h : handleInsertGlobalSequenceValue (some q) s = .ok s') :
    (∃ si, firstIndex q.pk s.cols = some si ∧ s'.cols = s.cols ∧ Forall₂ (SeqFilled q si) s.rows s'.rows) ∨
    (firstIndex q.pk s.cols = none ∧ s'.cols = s.cols ++ [q.pk] ∧
      Forall₂ (SeqFilled q s.cols.length) (s.rows.map (· ++ [Cell.nextval])) s'.rows) := by
  unfold handleInsertGlobalSequenceValue at h
  simp only [hm, Bool.false_eq_true, ↓reduceIte] at h
  cases hf : firstIndex q.pk s.cols with
  | some i =>
    simp only [hf] at h
    split at h <;> cases h
    next rows' m hr => exact Or.inl ⟨i, rfl, rfl, seqRows_spec q i _ _ _ _ hr⟩
  | none =>
    simp only [hf] at h
    split at h <;> cases h
    next rows' m hr => exact Or.inr ⟨rfl, rfl, seqRows_spec q _ _ _ _ _ hr⟩

/-! ### Non-vacuity and the defects of the pinned tree -/

/-- hash rule with four tables on two slices -/
def exRule : TableRule :=
  { layout := { kind := .kingshard, db := "db_ks", slices := ["slice-0", "slice-1"], idxs := [0, 1, 2, 3],
                t2s := [(0, 0), (1, 0), (2, 1), (3, 1)], dbs := [] },
    shardCol := "k", ruleType := "hash" }

/-- `INSERT INTO t (k,a) VALUES (1,10),(6,NULL),(5,2+1)` with keys placed in tables 1, 2, 1 -/
def exStmt : Stmt :=
  { hasSelect := false, setMode := false, cols := ["k", "a"],
    rows := [[.lit "1" (.int 1) (.ok 1), .lit "10" (.int 10) .err], [.lit "6" (.int 6) (.ok 2), .null], [.lit "5" (.int 5) (.ok 1), .expr "2+1"]],
    onDup := [], schema := "", table := "t" }

def exOut1 : Target Out :=
  { slice := "slice-0", db := "db_ks",
    sql := { table := ["t_0001"], cols := ["k", "a"],
             rows := [[.lit "1" (.int 1) (.ok 1), .lit "10" (.int 10) .err], [.lit "5" (.int 5) (.ok 1), .expr "2+1"]] } }

def exOut2 : Target Out :=
  { slice := "slice-1", db := "db_ks",
    sql := { table := ["t_0002"], cols := ["k", "a"], rows := [[.lit "6" (.int 6) (.ok 2), .null]] } }

/-- the hypotheses of `insert_partition` / `insert_findable` are satisfiable: the
    statement is accepted and split over two tables -/
example : handleInsertStmt head exRule none exStmt = .ok [exOut1, exOut2] ∧ exRule.layout.kind ≠ .global := by
  decide +kernel

/-- `insert_set_once` is not vacuous: `INSERT INTO t SET k = 6, a = NULL` goes to table 2 only -/
def exSetStmt : Stmt := { exStmt with setMode := true, rows := [[.lit "6" (.int 6) (.ok 2), .null]] }

example : handleInsertStmt head exRule none exSetStmt = .ok [exOut2] := by
  decide +kernel

/-- `insert_findable`: the remaining hypotheses hold for the example rule (its
    `tableToSlice` has exactly the listed tables, which are ascending) -/
example : (∀ i, mapGet exRule.layout.t2s i ≠ none → i ∈ exRule.layout.idxs) ∧ Route.Sorted exRule.layout.idxs :=
  -- the layout is the one `parseHashRuleSliceInfos` builds for two tables on each of the two slices
  ⟨fun i => (parseHashRuleSliceInfos_keys [2, 2] ["slice-0", "slice-1"] _ _ (by decide) i).mp, by decide⟩

/-- `INSERT INTO t (k,a) VALUES (1,1),(-5,2),(2+1,3)`: the probed statement -/
def exExprStmt : Stmt :=
  { exStmt with rows := [[.lit "1" (.int 1) (.ok 1), .lit "1" (.int 1) .err], [.expr "-5", .lit "2" (.int 2) .err], [.expr "2+1", .lit "3" (.int 3) .err]] }

/-- the repaired code rejects it (hypotheses of `insert_reject` satisfiable) -/
example : handleInsertStmt head exRule none exExprStmt = .fail ∧
    handleInsertGlobalSequenceValue none exExprStmt = .ok exExprStmt ∧
    lastIndex exRule.shardCol exExprStmt.cols = some 0 ∧ ¬ Routable "hash" 0 [.expr "-5", .lit "2" (.int 2) .err] := by
  refine ⟨by decide +kernel, by decide, by decide, ?_⟩
  rintro ⟨i, txt, val, h, _⟩
  simp at h

/-- what a plan stores where: per produced statement its slice, database,
    table name chain and rows (`none`: the statement was not accepted) -/
structure Seen where
  slice : String
  db : String
  table : Chain
  rows : List Row
  deriving DecidableEq, Repr

def observe : R (List (Target Out)) → Option (List Seen)
  | .ok out => some (out.map fun o => ⟨o.slice, o.db, o.sql.table, o.sql.rows⟩)
  | _ => none

/-- **Defect of the pinned tree (repaired by d687a71)**: before the fix the two
    rows with expression sharding values were silently dropped and the
    statement accepted with the first row only. -/
theorem pinned_drops_expression_rows_witness :
    observe (handleInsertStmt pinned exRule none exExprStmt) =
      some [⟨"slice-0", "db_ks", ["t_0001"], [[.lit "1" (.int 1) (.ok 1), .lit "1" (.int 1) .err]]⟩] ∧ exExprStmt.rows.length = 3 := by
  decide +kernel

/-- with only expression rows the pinned planner accepted the statement with an empty plan -/
theorem pinned_all_expression_rows_empty_plan_witness :
    handleInsertStmt pinned exRule none { exStmt with rows := [[.expr "-5", .null], [.expr "2+1", .null]] } = .ok [] := by
  decide +kernel

/-- hash rule with a single sub table -/
def exOne : TableRule :=
  { layout := { kind := .kingshard, db := "db_ks", slices := ["slice-1"], idxs := [0], t2s := [(0, 0)], dbs := [] },
    shardCol := "k", ruleType := "hash" }

/-- SET form, pinned: an expression sharding value was accepted on a rule with a
    single sub table (on the others it was rejected only by the statement/route
    count check) -/
theorem pinned_set_expression_accepted_witness :
    observe (handleInsertStmt pinned exOne none { exStmt with setMode := true, rows := [[.expr "-5", .lit "3" (.int 3) .err]] }) =
      some [⟨"slice-1", "db_ks", ["t_0000"], [[.expr "-5", .lit "3" (.int 3) .err]]⟩] ∧
    handleInsertStmt head exOne none { exStmt with setMode := true, rows := [[.expr "-5", .lit "3" (.int 3) .err]] } = .fail := by
  decide +kernel

/-- **Defect of the pinned tree (repaired by e8a3dcf)**: a later row shorter than
    the column list made the planner index past its end; a longer one was
    accepted and split off to its own table. -/
theorem pinned_ragged_rows_witness :
    handleInsertStmt pinned exRule none { exStmt with cols := ["a", "k"], rows := [[.null, .lit "1" (.int 1) (.ok 1)], [.null]] } = .panic ∧
    observe (handleInsertStmt pinned exRule none
        { exStmt with cols := ["a", "k"], rows := [[.null, .lit "1" (.int 1) (.ok 1)], [.null, .lit "3" (.int 3) (.ok 3), .null]] }) =
      some [⟨"slice-0", "db_ks", ["t_0001"], [[.null, .lit "1" (.int 1) (.ok 1)]]⟩,
            ⟨"slice-1", "db_ks", ["t_0003"], [[.null, .lit "3" (.int 3) (.ok 3), .null]]⟩] ∧
    handleInsertStmt head exRule none { exStmt with cols := ["a", "k"], rows := [[.null, .lit "1" (.int 1) (.ok 1)], [.null]] } = .fail := by
  decide +kernel

/-- global table with three copies; the sequence column `sid` is not listed -/
def exGlobal : TableRule :=
  { layout := { kind := .global, db := "db_mycat", slices := ["slice-2", "slice-0"], idxs := [0, 1, 2],
                t2s := [(0, 0), (1, 1), (2, 1)], dbs := ["db_mycat_0", "db_mycat_1", "db_mycat_2"] },
    shardCol := "" }

def exSeq : Seq := { pk := "sid", start := 100, failAt := none, places := [] }

/-- `insert_global` and `sequence_fills_only_sequence_cells` are not vacuous:
    every copy gets the row, extended by its sequence value -/
example :
    observe (handleInsertStmt head exGlobal (some exSeq) { exStmt with schema := "db_mycat", rows := [[.lit "1" (.int 1) .err, .null]] }) =
      some [⟨"slice-2", "db_mycat_0", ["db_mycat_0", "t"], [[.lit "1" (.int 1) .err, .null, .lit "100" (.int 100) .err]]⟩,
            ⟨"slice-0", "db_mycat_1", ["db_mycat_1", "t"], [[.lit "1" (.int 1) .err, .null, .lit "100" (.int 100) .err]]⟩,
            ⟨"slice-0", "db_mycat_2", ["db_mycat_2", "t"], [[.lit "1" (.int 1) .err, .null, .lit "100" (.int 100) .err]]⟩] := by
  decide +kernel

/-! ### The table is the one of the value the backend holds

`insert_findable` says: a point query written with the *same literal* is routed
to the table the row is in.  The backend does not keep the literal, it keeps a
value: `'007'` in an integer column is 7, `7` in a string column is `'7'`, and
a later query is written with that value.  `StoredSound rt find`: whatever
literal the planner accepts for a rule of type `rt` whose `FindTableIndex` is
`find`, every other spelling of the stored value (`InsertStored.storedKeys`)
that `find` places at all is placed in the same table. -/

open GaeaVerif.ShardGo GaeaVerif.ShardPlace GaeaVerif.InsertStored GaeaVerif.ShardLemmas

def StoredSound (rt : String) (find : Key → Out Int) : Prop :=
  ∀ val i, LitVal.wf val → shardingValueOk head rt val = true → find (keyOf val) = .ok i →
    ∀ k ∈ storedKeys rt val, ∀ j, find k = .ok j → j = i

/-- `k` is an integer key the parser delivers for the number `n` -/
def NumKey (n : Int) (k : Key) : Prop :=
  (k = .int64 n ∧ -2 ^ 63 ≤ n ∧ n < 2 ^ 63) ∨ (k = .uint64 n.toNat ∧ 0 ≤ n ∧ n < 2 ^ 64)

theorem intKey_some (n : Int) (k : Key) (h : intKey n = some k) : NumKey n k := by
  revert h
  fun_cases intKey n <;> intro h <;> cases h
  · exact Or.inl ⟨rfl, ‹_›⟩
  · exact Or.inr ⟨rfl, by omega, by omega⟩

/-- in one order or the other: an integer key of `n` and a string MySQL reads as `n` -/
theorem storedKeys_spec (rt : String) (val : LitVal) (k : Key) (hwf : LitVal.wf val) (h : k ∈ storedKeys rt val) :
    ∃ n s kn, mysqlInt s = some n ∧ NumKey n kn ∧
      ((keyOf val = kn ∧ k = .str s ∧ s = fmtInt n ∧ 0 ≤ n) ∨ (val = .str s ∧ k = kn)) := by
  unfold storedKeys at h
  split at h
  · cases h
  · cases val with
    | int v =>
      cases List.mem_singleton.mp h
      exact ⟨v, _, .int64 v, mysqlInt_fmtInt v, Or.inl ⟨rfl, by have := hwf.1; omega, hwf.2⟩,
        Or.inl ⟨rfl, rfl, rfl, hwf.1⟩⟩
    | uint v =>
      cases List.mem_singleton.mp h
      have hv : v < 2 ^ 64 := hwf
      exact ⟨v, _, .uint64 v, fmtInt_natCast v ▸ mysqlInt_fmtInt v,
        Or.inr ⟨by rw [Int.toNat_natCast], by omega, by omega⟩,
        Or.inl ⟨rfl, rfl, (fmtInt_natCast v).symm, by omega⟩⟩
    | str s =>
      cases hm : mysqlInt s with
      | none => simp only [hm] at h; cases h
      | some n =>
        simp only [hm] at h
        exact ⟨n, s, k, hm, intKey_some n k (Option.mem_toList.mp h), Or.inr ⟨rfl, rfl⟩⟩
    | other => cases h

/-- it suffices to compare a string MySQL reads as `n` with the integer keys of `n` -/
theorem storedSound_of_pair (rt : String) (find : Key → Out Int)
    (h : ∀ n s kn x y, mysqlInt s = some n → NumKey n kn →
      (s = fmtInt n ∧ 0 ≤ n) ∨ shardingValueOk head rt (.str s) = true →
      find (.str s) = .ok x → find kn = .ok y → y = x) : StoredSound rt find := by
  intro val i hwf hok hfind k hk j hj
  obtain ⟨n, s, kn, hm, hkn, ⟨hv, rfl, hs⟩ | ⟨rfl, rfl⟩⟩ := storedKeys_spec rt val k hwf hk
  · exact (h n s kn j i hm hkn (Or.inl hs) hj (hv ▸ hfind)).symm
  · exact h n s k i j hm hkn (Or.inr hok) hfind hj

theorem numValue_numKey (n : Int) (kn : Key) (hkn : NumKey n kn) (hn : n < 2 ^ 63) : NumValue kn = .ok n := by
  rcases hkn with ⟨rfl, _⟩ | ⟨rfl, h0, _⟩
  · rfl
  · rw [NumValue, u64ToI64, Int.toNat_of_nonneg h0, wrap64_id n ⟨by omega, hn⟩]

/-- **Rules that read the key as a number** (`NumValue`: range, mod, mycat_long,
    mycat_padding_mod, and the rules linked to them): the string literals they
    accept are exactly spellings `strconv.ParseInt` reads, MySQL reads the same
    integer from them, and an integer literal is the number of its digits. -/
theorem viaNum_stored_sound (rt : String) (f : Int → Out Int) : StoredSound rt (viaNum f) := by
  refine storedSound_of_pair rt _ fun n s kn x y hm hkn _ hx hy => ?_
  -- `ParseInt` reads from `s` the number MySQL reads, so `n` is an int64 and both keys give `f n`
  cases hp : parseInt64 s with
  | none => rw [viaNum, NumValue, hp] at hx; cases hx
  | some v =>
    obtain ⟨hb, _, hlt⟩ := parseInt64_some s v hp
    cases hm.symm.trans (mysqlInt_of_parseBigDec s v hb)
    rw [viaNum, NumValue, hp] at hx
    rw [viaNum, numValue_numKey n kn hkn hlt] at hy
    exact Out.ok.inj (hy.symm.trans hx)

theorem getString_numKey (n : Int) (kn : Key) (hkn : NumKey n kn) : GetString kn = .ok (fmtInt n) := by
  rcases hkn with ⟨rfl, _⟩ | ⟨rfl, h0, _⟩
  · rfl
  · rw [GetString, fmtInt_nonneg n h0]

/-- **mycat_mod** reads the key through `GetString` and `big.Int.SetString` -/
theorem viaBig_stored_sound (rt : String) (g : Int → Out Int) :
    StoredSound rt (viaStr fun s => match parseBigDec s with
      | none => .err .keyPanic
      | some n => g n) := by
  refine storedSound_of_pair rt _ fun n s kn x y hm hkn _ hx hy => ?_
  -- `SetString` reads from `s` the number MySQL reads, and `n` from its decimal spelling
  simp only [viaStr, getString_numKey n kn hkn, parseBigDec_fmtInt] at hy
  cases hp : parseBigDec s with
  | none => simp only [viaStr, GetString, hp] at hx; cases hx
  | some v =>
    cases hm.symm.trans (mysqlInt_of_parseBigDec s v hp)
    simp only [viaStr, GetString, hp] at hx
    exact Out.ok.inj (hy.symm.trans hx)

/-- **Rules that hash the text of the key** (`GetString`: mycat_murmur,
    mycat_string).  FULL STATEMENT, NOT TRUE:
      `∀ rt f, StoredSound rt (viaStr f)`
    (`mycat_string_numeric_text_witness` below: `'007'` and 7 are hashed as
    different texts; known finding `mycat-numeric-string-hashed-as-text`).
    Proved: an integer literal is placed where the string of its digits is,
    and so is a string literal that is the decimal spelling of the integer
    MySQL reads from it. -/
theorem viaStr_stored_sound_partial (rt : String) (f : GoStr → Out Int) :
    ∀ val i, LitVal.wf val → (∀ s n, val = .str s → mysqlInt s = some n → s = fmtInt n) →
      viaStr f (keyOf val) = .ok i → ∀ k ∈ storedKeys rt val, ∀ j, viaStr f k = .ok j → j = i := by
  intro val i hwf hcanon hfind k hk j hj
  -- either way one key is the string `fmtInt n` and `GetString` of the other is `fmtInt n`
  obtain ⟨n, s, kn, hm, hkn, ⟨hv, rfl, rfl, _⟩ | ⟨rfl, rfl⟩⟩ := storedKeys_spec rt val k hwf hk
  · rw [hv, viaStr, getString_numKey n kn hkn] at hfind
    exact Out.ok.inj (hj.symm.trans hfind)
  · rw [viaStr, getString_numKey n k hkn, ← hcanon s n rfl hm] at hj
    exact Out.ok.inj (hj.symm.trans hfind)

theorem hashValue_numKey (n : Int) (kn : Key) (hkn : NumKey n kn) (h0 : 0 ≤ n) : HashValue kn = .ok n.toNat := by
  rcases hkn with ⟨rfl, _, _⟩ | ⟨rfl, _⟩
  · rw [HashValue, Int.emod_eq_of_lt h0 (by omega)]
  · rfl

/-- **The kingshard hash rule** after e5ce616: a string key the planner accepts
    is a string of digits `HashValue` reads as the number MySQL reads from it,
    or MySQL does not read an integer from it at all. -/
theorem ksHash_stored_sound (n : Nat) : StoredSound "hash" (HashShard.FindForKey n) := by
  refine storedSound_of_pair _ _ fun m s kn x y hm hkn hside hx hy => ?_
  -- `HashValue` reads `s` as the number `ParseUint` reads, which is the number MySQL reads
  have hu : ∃ u, parseUint64 s = some u := by
    rcases hside with ⟨rfl, h0⟩ | hok
    · exact ⟨_, fmtInt_nonneg m h0 ▸ parseUint64_fmtNat _ (by rcases hkn with ⟨_, _, _⟩ | ⟨_, _, _⟩ <;> omega)⟩
    · have hlook := looksLikeNumber_of_mysqlInt s m hm
      simp only [shardingValueOk, head_hashStr, bne_self_eq_false, Bool.false_or, hashStringOk, hlook,
        Bool.not_true, Bool.or_false] at hok
      exact Option.isSome_iff_exists.mp hok
  obtain ⟨u, hu⟩ := hu
  cases hm.symm.trans (mysqlInt_of_parseUDec s u (parseUint64_some s u hu).1)
  rw [HashShard.FindForKey, hashValue_numKey _ kn hkn (Int.natCast_nonneg u), Int.toNat_natCast] at hy
  rw [HashShard.FindForKey, HashValue, hu] at hx
  exact Out.ok.inj (hy.symm.trans hx)

theorem numRange_is_viaNum (shards : List (Int × Int)) :
    NumRangeShard.FindForKey shards = viaNum (findRange shards 0) := rfl
theorem mycatLong_is_viaNum (segment : List Int) :
    MycatPartitionLongShard.FindForKey segment = viaNum (fun h => arrGet segment (slotOf h)) := rfl
theorem ksMod_is_viaNum (n : Nat) :
    ModShard.FindForKey n = viaNum (fun v => if n = 0 then .panic else .ok (hackAbs (Int.tmod v n))) := rfl
theorem mycatMod_is_viaBig (shardNum : Int) :
    MycatPartitionModShard.FindForKey shardNum = viaStr fun s => match parseBigDec s with
      | none => .err .keyPanic
      | some n => if shardNum = 0 then .panic else .ok ((n.natAbs : Int) % shardNum) := by
  funext key
  unfold MycatPartitionModShard.FindForKey viaStr
  cases GetString key <;> rfl

theorem numRange_stored_sound (rt : String) (shards : List (Int × Int)) :
    StoredSound rt (NumRangeShard.FindForKey shards) := by
  rw [numRange_is_viaNum]; exact viaNum_stored_sound rt _
theorem mycatLong_stored_sound (rt : String) (segment : List Int) :
    StoredSound rt (MycatPartitionLongShard.FindForKey segment) := by
  rw [mycatLong_is_viaNum]; exact viaNum_stored_sound rt _
theorem ksMod_stored_sound (rt : String) (n : Nat) : StoredSound rt (ModShard.FindForKey n) := by
  rw [ksMod_is_viaNum]; exact viaNum_stored_sound rt _
theorem mycatMod_stored_sound (rt : String) (shardNum : Int) :
    StoredSound rt (MycatPartitionModShard.FindForKey shardNum) := by
  rw [mycatMod_is_viaBig]; exact viaBig_stored_sound rt _
/-- calendar rules: the type of the literal is taken as the type of the column -/
theorem date_stored_sound (rt : String) (hd : isDateRule rt = true) (find : Key → Out Int) : StoredSound rt find := by
  intro val i _ _ _ k hk
  simp [storedKeys, hd] at hk

/-! ### Through the planner: every stored row is where its stored value is looked for -/

/-- every literal of the rows that carries a table index is a value the parser
    can deliver, and the index is what the rule's `FindTableIndex` (`find`)
    gives for it -/
def Faithful (find : Key → Out Int) (rows : List Row) : Prop :=
  ∀ row ∈ rows, ∀ txt val i, Cell.lit txt val (.ok i) ∈ row → LitVal.wf val ∧ find (keyOf val) = .ok i

/-- the values of the sequence are integers the parser could deliver and the
    placements it carries are those of `find` -/
def SeqFaithful (find : Key → Out Int) (q : Seq) : Prop :=
  ∀ (k : Nat) i, q.places[k]? = some (.ok i) →
    (0 ≤ q.start + k ∧ q.start + k < 2 ^ 63) ∧ find (.int64 (q.start + k)) = .ok i

/-- **The generated sharding keys are placed by the rule too**: filling in the
    global-sequence values (VALUES form) keeps the rows faithful, so
    `insert_stored_value` speaks about the rows with generated keys as well. -/
theorem sequence_keeps_faithful (find : Key → Out Int) (q : Seq) (s s' : Stmt) (hm : s.setMode = false)
    (h : handleInsertGlobalSequenceValue (some q) s = .ok s') (hq : SeqFaithful find q)
    (hf : Faithful find s.rows) : Faithful find s'.rows := by
  have step : ∀ (si : Nat) (rows0 : List Row), Faithful find rows0 → Forall₂ (SeqFilled q si) rows0 s'.rows →
      Faithful find s'.rows := by
    intro si rows0 hf0 hall row' hrow' txt val i hmem
    obtain ⟨r, hr, hfill⟩ := hall.exists_left row' hrow'
    rcases hfill with he | ⟨_, k, he⟩
    · rw [he] at hmem; exact hf0 r hr txt val i hmem
    · rw [he] at hmem
      rcases List.mem_or_eq_of_mem_set hmem with hin | heq
      · exact hf0 r hr txt val i hin
      · simp only [Cell.lit.injEq] at heq
        obtain ⟨_, hv, hp⟩ := heq
        subst hv
        have hk : q.places[k]? = some (.ok i) := by
          rw [List.getD_eq_getElem?_getD] at hp
          cases hg : q.places[k]? with
          | none => rw [hg] at hp; cases hp
          | some pl => rw [hg] at hp; exact congrArg some hp.symm
        exact hq k i hk
  rcases sequence_fills_only_sequence_cells q s s' hm h with ⟨si, _, _, hall⟩ | ⟨_, _, hall⟩
  · exact step si s.rows hf hall
  · refine step _ _ ?_ hall
    intro row hrow txt val i hmem
    simp only [List.mem_map] at hrow
    obtain ⟨r, hr, he⟩ := hrow
    subst he
    simp only [List.mem_append, List.mem_singleton, reduceCtorEq, or_false] at hmem
    exact hf r hr txt val i hmem

/-- **C03 (the row is stored where its stored value is looked for).** For an
    accepted insert on a sharded table whose rule places keys by `find`, with
    `StoredSound` for the rule's type (proved above for range, mod, hash,
    mycat_mod, mycat_long and the calendar rules; for mycat_murmur /
    mycat_string see `viaStr_stored_sound_partial`): every row of every produced
    statement has a sharding literal which `find` places in table `i`, the
    statement is the statement of table `i`, and every other spelling of the
    value the backend holds for that literal (the digits of an integer literal
    as a string, the integer MySQL reads from a string literal) that `find`
    places at all is placed in table `i` too. -/
theorem insert_stored_value (t : TableRule) (seq : Option Seq) (s : Stmt) (out : List (Target Out))
    (find : Key → Out Int) (hk : t.layout.kind ≠ .global) (h : handleInsertStmt head t seq s = .ok out)
    (hsound : StoredSound t.ruleType find) :
    ∃ s' sci, handleInsertGlobalSequenceValue seq s = .ok s' ∧ lastIndex t.shardCol s'.cols = some sci ∧
      (Faithful find s'.rows →
        ∀ o ∈ out, ∀ row ∈ o.sql.rows, ∃ i txt val, row[sci]? = some (.lit txt val (.ok i)) ∧
          Stored t s' i o.sql.rows o ∧ find (keyOf val) = .ok i ∧
          ∀ k ∈ storedKeys t.ruleType val, ∀ j, find k = .ok j → j = i) := by
  obtain ⟨s', sci, hseq, hsci, hpl⟩ := insert_placed t seq s out hk h
  refine ⟨s', sci, hseq, hsci, fun hfaith o ho row hrow => ?_⟩
  obtain ⟨hmem, i, ⟨txt, val, hc, hok⟩, hst⟩ := hpl o ho row hrow
  obtain ⟨hwf, hfind⟩ := hfaith row hmem txt val i (List.mem_of_getElem? hc)
  exact ⟨i, txt, val, hc, hst, hfind, hsound val i hwf hok hfind⟩

/-! ### Statements the planner cannot place are refused -/

/-- `INSERT … SELECT` (sharded or global table): the rows are not in the
    statement, the proxy cannot split them; refused -/
theorem insert_reject_select (t : TableRule) (seq : Option Seq) (s : Stmt) (hsel : s.hasSelect = true) :
    handleInsertStmt head t seq s = .fail := by
  simp [handleInsertStmt, precheckInsertStmt, hsel]

/-- `INSERT … VALUES` without a column list: the position of the sharding value is not known; refused -/
theorem insert_reject_no_column_list (t : TableRule) (seq : Option Seq) (s : Stmt)
    (hsel : s.setMode = false) (hcols : s.cols = []) : handleInsertStmt head t seq s = .fail := by
  unfold handleInsertStmt precheckInsertStmt
  cases hs : s.hasSelect <;> simp [hsel, hcols]

/-- **ON DUPLICATE KEY UPDATE must not move the row**: an assignment to the
    sharding column (however the column is written: the harness hands over
    `Column.Name.L`, so upper case, back quotes and qualifiers do not matter, and
    whatever the assigned expression is, `VALUES(col)` included) makes the
    statement refused. -/
theorem insert_reject_on_duplicate_sharding_column (t : TableRule) (seq : Option Seq) (s s' : Stmt)
    (hk : t.layout.kind ≠ .global) (hseq : handleInsertGlobalSequenceValue seq s = .ok s')
    (hdup : t.shardCol ∈ s'.onDup) : ∀ out, handleInsertStmt head t seq s ≠ .ok out := by
  intro out h
  obtain ⟨s'', sci, _, hseq', _, hd, _⟩ := handleInsertStmt_sharded t seq s out hk h
  cases hseq.symm.trans hseq'
  rw [handleInsertOnDuplicate, if_pos (List.contains_iff_mem.mpr hdup)] at hd
  cases hd

theorem not_routable_of_lit {rt : String} {sci : Nat} {row : Row} {txt : String} {val : LitVal} {pl : Place}
    (hc : row[sci]? = some (.lit txt val pl)) (hv : shardingValueOk head rt val = false) : ¬ Routable rt sci row := by
  rintro ⟨i, txt', val', hc', hok⟩
  cases hc.symm.trans hc'
  rw [hv] at hok
  cases hok

/-- a hexadecimal, bit, decimal or float literal as sharding value: refused (40aac80) -/
theorem insert_reject_literal_kind (t : TableRule) (seq : Option Seq) (s s' : Stmt) (sci : Nat)
    (hk : t.layout.kind ≠ .global)
    (hseq : handleInsertGlobalSequenceValue seq s = .ok s') (hsci : lastIndex t.shardCol s'.cols = some sci)
    (hbad : ∃ row ∈ s'.rows, ∃ txt pl, row[sci]? = some (.lit txt .other pl)) :
    ∀ out, handleInsertStmt head t seq s ≠ .ok out := by
  obtain ⟨row, hr, txt, pl, hc⟩ := hbad
  exact insert_reject t seq s s' sci hk hseq hsci ⟨row, hr, not_routable_of_lit hc rfl⟩

/-- on a hash rule a string sharding value that MySQL reads as a number while
    `HashValue` would hash its text: refused (e5ce616) -/
theorem insert_reject_hash_numeric_text (t : TableRule) (seq : Option Seq) (s s' : Stmt) (sci : Nat)
    (hk : t.layout.kind ≠ .global) (hrt : t.ruleType = "hash")
    (hseq : handleInsertGlobalSequenceValue seq s = .ok s') (hsci : lastIndex t.shardCol s'.cols = some sci)
    (hbad : ∃ row ∈ s'.rows, ∃ txt str pl, row[sci]? = some (.lit txt (.str str) pl) ∧
      looksLikeNumber str = true ∧ parseUint64 str = none) :
    ∀ out, handleInsertStmt head t seq s ≠ .ok out := by
  obtain ⟨row, hr, txt, str, pl, hc, hl, hu⟩ := hbad
  exact insert_reject t seq s s' sci hk hseq hsci
    ⟨row, hr, not_routable_of_lit hc (by simp [shardingValueOk, hashStringOk, hrt, hl, hu])⟩

/-! ### Non-vacuity of the stored-value theorems and the defects of the pinned tree they concern -/

/-- `'006'` and a string cell: faithful to the hash rule with four tables -/
def exStmt2 : Stmt :=
  { exStmt with rows := [[.lit "1" (.int 1) (.ok 1), .lit "'a'" (.str [97]) (.ok 3)],
                         [.lit "'006'" (.str [48, 48, 54]) (.ok 2), .null]] }

/-- the hypotheses of `insert_stored_value` are satisfiable, with a row whose
    key is written as a string MySQL reads as a number: `'006'` is in the table
    of 6 -/
example : (observe (handleInsertStmt head exRule none exStmt2)).isSome = true ∧ exRule.layout.kind ≠ .global ∧
    Faithful (HashShard.FindForKey 4) exStmt2.rows ∧
    storedKeys "hash" (.str [48, 48, 54]) = [.int64 6] ∧ HashShard.FindForKey 4 (.int64 6) = .ok 2 ∧
    storedKeys "hash" (.int 1) = [.str [49]] ∧ HashShard.FindForKey 4 (.str [49]) = .ok 1 := by
  refine ⟨by decide +kernel, by decide, ?_, by decide +kernel, by decide +kernel, by decide +kernel, by decide +kernel⟩
  intro row hrow txt val i hmem
  simp only [exStmt2, exStmt, List.mem_cons, List.not_mem_nil, or_false] at hrow
  rcases hrow with hrow | hrow <;> subst hrow <;>
    simp only [List.mem_cons, List.not_mem_nil, or_false, Cell.lit.injEq, reduceCtorEq, Place.ok.injEq] at hmem
  · rcases hmem with ⟨_, h2, h3⟩ | ⟨_, h2, h3⟩ <;> subst h2 <;> subst h3 <;> exact ⟨by simp [LitVal.wf], by decide +kernel⟩
  · obtain ⟨_, h2, h3⟩ := hmem
    subst h2; subst h3; exact ⟨by simp [LitVal.wf], by decide +kernel⟩

/-- the sharding key comes from the global sequence: `INSERT INTO t (a) VALUES (1),(2)` with the
    sequence on `k` starting at 6 is stored in tables 2 and 3, where 6 and 7 are looked for -/
def exKeySeq : Seq := { pk := "k", start := 6, failAt := none, places := [.ok 2, .ok 3] }

example : SeqFaithful (HashShard.FindForKey 4) exKeySeq ∧
    observe (handleInsertStmt head exRule (some exKeySeq)
        { exStmt with cols := ["a"], rows := [[.lit "1" (.int 1) (.ok 1)], [.lit "2" (.int 2) (.ok 2)]] }) =
      some [⟨"slice-1", "db_ks", ["t_0002"], [[.lit "1" (.int 1) (.ok 1), .lit "6" (.int 6) (.ok 2)]]⟩,
            ⟨"slice-1", "db_ks", ["t_0003"], [[.lit "2" (.int 2) (.ok 2), .lit "7" (.int 7) (.ok 3)]]⟩] := by
  refine ⟨?_, by decide +kernel⟩
  intro k i h
  match k with
  | 0 => simp [exKeySeq] at h; subst h; exact ⟨by simp [exKeySeq], by decide +kernel⟩
  | 1 => simp [exKeySeq] at h; subst h; exact ⟨by simp [exKeySeq], by decide +kernel⟩
  | n + 2 => simp [exKeySeq] at h

/-- **Defect of the pinned tree (repaired by 40aac80)**: the hexadecimal literal
    `0x10` was placed by the string "x'10'" (table 3 of 4) while the column
    holds 16, which the rule places in table 0; the planner accepted the row
    for table 3.  It is refused now. -/
theorem pinned_literal_placed_by_sql_text_witness :
    HashShard.FindForKey 4 (.str [120, 39, 49, 48, 39]) = .ok 3 ∧ HashShard.FindForKey 4 (.int64 16) = .ok 0 ∧
    observe (handleInsertStmt { lits := true } exRule none
        { exStmt with rows := [[.lit "x'10'" .other (.ok 3), .null]] }) =
      some [⟨"slice-1", "db_ks", ["t_0003"], [[.lit "x'10'" .other (.ok 3), .null]]⟩] ∧
    handleInsertStmt head exRule none { exStmt with rows := [[.lit "x'10'" .other (.ok 3), .null]] } = .fail := by
  decide +kernel

/-- **Defect of the pinned tree (repaired by e5ce616)**: on a hash rule `' 7'`
    was placed by the CRC32 of its text (table 2 of 4); MySQL reads the number
    7 from it, which the rule places in table 3.  It is refused now, while
    `'007'` goes with 7. -/
theorem pinned_hash_numeric_text_witness :
    HashShard.FindForKey 4 (.str [32, 55]) = .ok 2 ∧ storedKeys "hash" (.str [32, 55]) = [.int64 7] ∧
    HashShard.FindForKey 4 (.int64 7) = .ok 3 ∧ HashShard.FindForKey 4 (.str [48, 48, 55]) = .ok 3 ∧
    observe (handleInsertStmt { hashStr := true } exRule none
        { exStmt with rows := [[.lit "' 7'" (.str [32, 55]) (.ok 2), .null]] }) =
      some [⟨"slice-1", "db_ks", ["t_0002"], [[.lit "' 7'" (.str [32, 55]) (.ok 2), .null]]⟩] ∧
    handleInsertStmt head exRule none { exStmt with rows := [[.lit "' 7'" (.str [32, 55]) (.ok 2), .null]] } = .fail ∧
    shardingValueOk head "hash" (.str [48, 48, 55]) = true := by
  decide +kernel

/-- two partitions of 512 slots -/
def exSegment : List Int := List.replicate 512 0 ++ List.replicate 512 1

/-- **Known finding `mycat-numeric-string-hashed-as-text` (not repaired)**:
    mycat_string (here: hash of the whole key, two partitions) and mycat_murmur
    (seed 0, a ring of two nodes) place the string `'007'` and the number 7,
    which an integer column holds for it, in different tables; the planner
    accepts the string. -/
theorem mycat_string_numeric_text_witness :
    MycatPartitionStringShard.FindForKey exSegment 0 0 (.str [48, 48, 55]) = .ok 1 ∧
    MycatPartitionStringShard.FindForKey exSegment 0 0 (.int64 7) = .ok 0 ∧
    MycatPartitionMurmurHashShard.FindForKey 0 [(0, 0), (1000000000, 1)] (.str [48, 48, 55]) = .ok 1 ∧
    MycatPartitionMurmurHashShard.FindForKey 0 [(0, 0), (1000000000, 1)] (.int64 7) = .ok 0 ∧
    storedKeys "mycat_string" (.str [48, 48, 55]) = [.int64 7] ∧
    shardingValueOk head "mycat_string" (.str [48, 48, 55]) = true := by
  decide +kernel

/-- `insert_reject_on_duplicate_sharding_column`, `insert_reject_select`,
    `insert_reject_literal_kind`, `insert_reject_hash_numeric_text`: the
    hypotheses are satisfiable -/
example : handleInsertStmt head exRule none { exStmt with onDup := ["a", "k"] } = .fail ∧
    handleInsertStmt head exRule none { exStmt with hasSelect := true, rows := [] } = .fail ∧
    handleInsertStmt head exRule none { exStmt with cols := [] } = .fail ∧
    looksLikeNumber [32, 55] = true ∧ parseUint64 [32, 55] = none ∧ exRule.ruleType = "hash" := by
  decide +kernel

end GaeaVerif.C03
