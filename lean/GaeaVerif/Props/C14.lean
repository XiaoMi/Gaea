import GaeaVerif.Lemmas.StmtLex
import GaeaVerif.Model.StmtCalcParams
/-
  C14 — Prepared-statement parameters are exactly the SQL grammar's placeholders.

  `StmtCalcParams.calcParams` is the model of `CalcParams`
  (/repo/proxy/server/executor_stmt.go, tied to the code by `gvh run C14`);
  `StmtLex.lex`/`placeholders` is the lexical grammar (tied to /repo's parser by
  the same run).  The proof follows `CalcParams` from a position between two
  lexical elements on (`calcFrom`): over one element it records nothing, or the
  marker (`calc_step`, `calc_param`), so from there it returns what the grammar
  says of the rest of the text (`sim`).  Main theorems (bottom of the file):

    calcParams_eq_spec        for every text: the result of CalcParams is exactly
                              (number, offsets, text cut at) the grammar's placeholders,
                              and an error iff a literal/identifier/comment is unterminated
    calcParams_no_panic       no slice expression of CalcParams can panic
    calcParams_offsets        what the grammar's placeholders are, by `lex_raw`,
                              `lexF_other_ne_qmark`, `paramOffsets_iff` of Lemmas/StmtLex.lean:
                              the text is the concatenation of its lexical elements, every `?`
                              byte lies in a string literal, a quoted identifier, a comment or
                              is a parameter marker, and the offsets are those of the markers
    items_join                the items joined give back the statement text
-/
namespace GaeaVerif.C14
open GaeaVerif GaeaVerif.StmtLex GaeaVerif.StmtCalcParams

def falses (n : Nat) : List Bool := List.replicate n false

theorem falses_succ (n : Nat) : falses (n + 1) = false :: falses n := rfl
theorem falses_zero : falses 0 = [] := rfl

/-- `CalcParams` from index `i` of the loop on (`rest = sql[i:]`). -/
def calcFrom (sql : Bytes) (i : Nat) (rest : Bytes) (s : ScanSt) (a : Acc) : R (Nat × List Nat × List Bytes) := do
  let (s, a) ← loop sql i rest s a
  let items ←
    if a.subBeginIndex ≠ sql.length then do
      let tail ← goSlice sql a.subBeginIndex sql.length
      pure (a.sqlItems ++ [tail])
    else pure a.sqlItems
  if s.bad then .fail else .ok (a.count, a.offsets, items)

theorem calcParams_eq_calcFrom (sql : Bytes) : calcParams sql = calcFrom sql 0 sql ScanSt.init Acc.init := rfl

section
variable (sql : Bytes)

theorem calcFrom_false {s s' : ScanSt} {c : UInt8} {rest : Bytes} (h : scanStep s c rest = (s', false))
    (i : Nat) (a : Acc) : calcFrom sql i (c :: rest) s a = calcFrom sql (i + 1) rest s' a := by
  rw [calcFrom, loop, h]; rfl

theorem calcFrom_skip (st : Scan) (q : UInt8) (v : Bool) (k : Nat) (c : UInt8) (rest : Bytes) (i : Nat) (a : Acc) :
    calcFrom sql i (c :: rest) ⟨st, q, v, k + 1⟩ a = calcFrom sql (i + 1) rest ⟨st, q, v, k⟩ a :=
  calcFrom_false sql (by simp [scanStep]) i a

theorem calcFrom_nil_bad {s : ScanSt} (hs : s.bad = true) (i : Nat) {a : Acc} (ha : a.subBeginIndex ≤ sql.length) :
    calcFrom sql i [] s a = .fail := by
  simp only [calcFrom, loop, bind, R.bind, hs, if_true]
  split
  · rw [goSlice_nat _ _ _ ha (Nat.le_refl _)]; rfl
  · rfl

theorem calcFrom_nil_ok {s : ScanSt} (hs : s.bad = false) (i : Nat) {a : Acc} (ha : a.subBeginIndex ≤ sql.length) :
    calcFrom sql i [] s a = .ok (a.count, a.offsets, a.sqlItems ++ cutItems sql a.subBeginIndex []) := by
  simp only [calcFrom, loop, bind, R.bind, hs, cutItems]
  split
  · rw [goSlice_nat _ _ _ ha (Nat.le_refl _), List.take_of_length_le (by simp)]; rfl
  · simp [pure]

/-- What the scanner does from inside a literal, quoted identifier or block comment, at index
    `i`, against the result `o` of the lexical grammar's scanner for it: if that ends the
    element (`k` bytes for the closing delimiter), nothing was recorded and `CalcParams` goes on
    in state `S` exactly there; if the element is unterminated, `CalcParams` fails. -/
def After (o : Option (Bytes × Bytes)) (k : Nat) (S : ScanSt) (a : Acc) (i : Nat)
    (x : R (Nat × List Nat × List Bytes)) : Prop :=
  match o with
  | some (body, rest) => x = calcFrom sql (i + (body.length + k)) rest S a
  | none => x = .fail

theorem After.cons {o : Option (Bytes × Bytes)} {k : Nat} {S : ScanSt} {a : Acc} {i : Nat}
    {x : R (Nat × List Nat × List Bytes)} (pre : Bytes) (h : After sql o k S a (i + pre.length) x)
    {f : Bytes × Bytes → Bytes × Bytes} (hf : ∀ b r, f (b, r) = (pre ++ b, r)) : After sql (o.map f) k S a i x := by
  cases o with
  | none => exact h
  | some p =>
    obtain ⟨b, r⟩ := p
    simp only [After, Option.map_some, hf, List.length_append] at h ⊢
    rw [h, Nat.add_assoc, Nat.add_assoc]

theorem After.fail {o : Option (Bytes × Bytes)} {k : Nat} {S : ScanSt} {a : Acc} {i : Nat}
    {x : R (Nat × List Nat × List Bytes)} (h : After sql o k S a i x) (ho : o = none) : x = .fail := by
  subst ho; exact h

theorem After.next {o : Option (Bytes × Bytes)} {k : Nat} {S : ScanSt} {a : Acc} {i : Nat}
    {x : R (Nat × List Nat × List Bytes)} (h : After sql o k S a i x) {body rest : Bytes} (ho : o = some (body, rest)) :
    x = calcFrom sql (i + (body.length + k)) rest S a := by
  subst ho; exact h

variable {a : Acc}

theorem calc_string (ha : a.subBeginIndex ≤ sql.length) (q : UInt8) (hq : q = cSQuote ∨ q = cDQuote) (v : Bool)
    (t : Bytes) (i : Nat) :
    After sql (scanStr false q t) 1 ⟨.sql, q, v, 0⟩ a i (calcFrom sql i t ⟨.string, q, v, 0⟩ a) := by
  have hnb : q ≠ cBackslash := by rcases hq with rfl | rfl <;> decide
  have esc : ∀ r, scanStep ⟨.string, q, v, 0⟩ cBackslash r = (⟨.string, q, v, 1⟩, false) := by
    intro r; simp [scanStep]
  have close : ∀ r, scanStep ⟨.string, q, v, 0⟩ q r = (⟨.sql, q, v, 0⟩, false) := by
    intro r; simp [scanStep, hnb]
  have inside : ∀ c r, c ≠ cBackslash → c ≠ q → scanStep ⟨.string, q, v, 0⟩ c r = (⟨.string, q, v, 0⟩, false) := by
    intro c r h1 h2; simp [scanStep, h1, h2]
  have reopen : ∀ r, scanStep ⟨.sql, q, v, 0⟩ q r = (⟨.string, q, v, 0⟩, false) := by
    intro r; rcases hq with rfl | rfl <;> simp [scanStep]
  fun_induction scanStr false q t generalizing i
  case case1 => exact calcFrom_nil_bad sql rfl i ha
  case case2 c hc => obtain ⟨rfl, _⟩ := hc; exact calcFrom_false sql (close []) i a
  case case3 c hc =>
    by_cases h1 : c = cBackslash
    · rw [h1, After, calcFrom_false sql (esc []), calcFrom_nil_bad sql rfl _ ha]
    · rw [After, calcFrom_false sql (inside c [] h1 fun e => hc ⟨e, .inr h1⟩), calcFrom_nil_bad sql rfl _ ha]
  case case4 c d r hc ih =>
    rw [hc.1, calcFrom_false sql (esc _), calcFrom_skip]
    exact (ih (i + 1 + 1)).cons sql [cBackslash, d] fun _ _ => rfl
  case case5 r hc ih =>
    -- a doubled quote: the scanner closes the literal and reopens it at once
    rw [calcFrom_false sql (close _), calcFrom_false sql (reopen _)]
    exact (ih (i + 1 + 1)).cons sql [q, q] fun _ _ => rfl
  case case6 d r hd hc => exact calcFrom_false sql (close _) i a
  case case7 c d r hc hcq ih =>
    rw [calcFrom_false sql (inside c _ (by simpa using hc) hcq)]
    exact (ih (i + 1)).cons sql [c] fun _ _ => rfl

theorem calc_qident (ha : a.subBeginIndex ≤ sql.length) (q : UInt8) (v : Bool) (t : Bytes) (i : Nat) :
    After sql (scanQIdent t) 1 ⟨.sql, q, v, 0⟩ a i (calcFrom sql i t ⟨.quotedIdent, q, v, 0⟩ a) := by
  have close : ∀ r, scanStep ⟨.quotedIdent, q, v, 0⟩ cBQuote r = (⟨.sql, q, v, 0⟩, false) := by
    intro r; simp [scanStep]
  have inside : ∀ c r, c ≠ cBQuote → scanStep ⟨.quotedIdent, q, v, 0⟩ c r = (⟨.quotedIdent, q, v, 0⟩, false) := by
    intro c r h; simp [scanStep, h]
  have reopen : ∀ r, scanStep ⟨.sql, q, v, 0⟩ cBQuote r = (⟨.quotedIdent, q, v, 0⟩, false) := by
    intro r; simp [scanStep, cBQuote, cDQuote, cSQuote]
  fun_induction scanQIdent t generalizing i
  case case1 => exact calcFrom_nil_bad sql rfl i ha
  case case2 => exact calcFrom_false sql (close []) i a
  case case3 c hc => rw [After, calcFrom_false sql (inside c [] hc), calcFrom_nil_bad sql rfl _ ha]
  case case4 r ih =>
    rw [calcFrom_false sql (close _), calcFrom_false sql (reopen _)]
    exact (ih (i + 1 + 1)).cons sql [cBQuote, cBQuote] fun _ _ => rfl
  case case5 d r hd => exact calcFrom_false sql (close _) i a
  case case6 c d r hc ih =>
    rw [calcFrom_false sql (inside c _ hc)]
    exact (ih (i + 1)).cons sql [c] fun _ _ => rfl

theorem calc_block (ha : a.subBeginIndex ≤ sql.length) (q : UInt8) (v : Bool) (t : Bytes) (i : Nat) :
    After sql (scanBlock t) 2 ⟨.sql, q, v, 0⟩ a i (calcFrom sql i t ⟨.blockComment, q, v, 0⟩ a) := by
  have inside : ∀ c r, ¬ (c = cStar ∧ next1Is r cSlash = true) →
      scanStep ⟨.blockComment, q, v, 0⟩ c r = (⟨.blockComment, q, v, 0⟩, false) := by
    intro c r h; simp only [scanStep]; rw [if_neg h]; rfl
  fun_induction scanBlock t generalizing i
  case case1 => exact calcFrom_nil_bad sql rfl i ha
  case case2 c => rw [After, calcFrom_false sql (inside c [] (by simp [next1Is])), calcFrom_nil_bad sql rfl _ ha]
  case case3 c d r hc =>
    obtain ⟨rfl, rfl⟩ := hc
    have : scanStep ⟨.blockComment, q, v, 0⟩ cStar (cSlash :: r) = (⟨.sql, q, v, 1⟩, false) := by
      simp [scanStep, next1Is]
    rw [After, calcFrom_false sql this, calcFrom_skip]; rfl
  case case4 c d r hc ih =>
    rw [calcFrom_false sql (inside c _ (by simpa [next1Is] using hc))]
    exact (ih (i + 1)).cons sql [c] fun _ _ => rfl

/-- An equation and no `After`: a text that ends inside a line comment is accepted by
    `CalcParams` like one that ends in SQL. -/
theorem calc_line (q : UInt8) (v : Bool) (t : Bytes) (i : Nat) :
    calcFrom sql i t ⟨.lineComment, q, v, 0⟩ a =
      calcFrom sql (i + (scanLine t).1.length) (scanLine t).2 ⟨.sql, q, v, 0⟩ a := by
  induction t generalizing i with
  | nil => rfl
  | cons c r ih =>
    rw [scanLine_cons]
    by_cases hc : c = cNewline
    · have : scanStep ⟨.lineComment, q, v, 0⟩ c r = (⟨.sql, q, v, 0⟩, false) := by simp [scanStep, hc]
      rw [if_pos hc, calcFrom_false sql this]; rfl
    · have : scanStep ⟨.lineComment, q, v, 0⟩ c r = (⟨.lineComment, q, v, 0⟩, false) := by
        simp [scanStep, hc]
      rw [if_neg hc, calcFrom_false sql this, ih, List.length_cons, Nat.add_assoc, Nat.add_comm 1]

theorem open_string {c : UInt8} (hq : c = cSQuote ∨ c = cDQuote) (q0 : UInt8) (v : Bool) (rest : Bytes) (i : Nat) :
    calcFrom sql i (c :: rest) ⟨.sql, q0, v, 0⟩ a = calcFrom sql (i + 1) rest ⟨.string, c, v, 0⟩ a :=
  calcFrom_false sql (by rcases hq with rfl | rfl <;> simp [scanStep]) i a

theorem open_qident (q0 : UInt8) (v : Bool) (rest : Bytes) (i : Nat) :
    calcFrom sql i (cBQuote :: rest) ⟨.sql, q0, v, 0⟩ a = calcFrom sql (i + 1) rest ⟨.quotedIdent, q0, v, 0⟩ a :=
  calcFrom_false sql (by simp [scanStep, cBQuote, cDQuote, cSQuote]) i a

theorem open_block (q0 : UInt8) (v : Bool) {r : Bytes} (h5 : r.head? ≠ some cBang) (i : Nat) :
    calcFrom sql i (cSlash :: cStar :: r) ⟨.sql, q0, v, 0⟩ a =
      calcFrom sql (i + 1 + 1) r ⟨.blockComment, q0, v, 0⟩ a := by
  have : next2Is (cStar :: r) cBang = false := by
    cases r with
    | nil => rfl
    | cons d r => simpa [next2Is] using h5
  have s1 : scanStep ⟨.sql, q0, v, 0⟩ cSlash (cStar :: r) = (⟨.blockComment, q0, v, 1⟩, false) := by
    simp [scanStep, next1Is, this, cSlash, cHash, cDash, cBQuote, cDQuote, cSQuote]
  rw [calcFrom_false sql s1, calcFrom_skip]

theorem dashComment_eq (rest : Bytes) : dashComment rest = dashDashSpace rest := by
  unfold dashComment dashDashSpace isSpaceOrControl; rfl

theorem calc_fail (ha : a.subBeginIndex ≤ sql.length) {c : UInt8} {rest : Bytes} (hf : LexFail false c rest)
    (v : Bool) (q0 : UInt8) (i : Nat) :
    calcFrom sql i (c :: rest) ⟨.sql, q0, v, 0⟩ a = .fail := by
  rcases hf with ⟨hq, hs⟩ | ⟨rfl, hs⟩ | ⟨r, rfl, rfl, h5, hs⟩
  · rw [open_string sql hq]; exact (calc_string sql ha c hq v rest _).fail sql hs
  · rw [open_qident]; exact (calc_qident sql ha q0 v rest _).fail sql hs
  · rw [open_block sql q0 v h5]; exact (calc_block sql ha q0 v r _).fail sql hs

/-- Over one element that is no marker nothing is recorded.  `quoteChar` keeps the quote of the last
    literal (`q' = c` after a string, `q0` otherwise); in state `.sql` it is never read, hence `∃ q'`. -/
theorem calc_step (ha : a.subBeginIndex ≤ sql.length) {v : Bool} {c : UInt8} {rest : Bytes} {tok : Tok} {v' : Bool}
    {rest' : Bytes} (hs : LexStep false v c rest tok v' rest') (ht : tok ≠ .param) (q0 : UInt8) (i : Nat) :
    ∃ q', calcFrom sql i (c :: rest) ⟨.sql, q0, v, 0⟩ a = calcFrom sql (i + tok.len) rest' ⟨.sql, q', v', 0⟩ a := by
  have len : ∀ {x : R (Nat × List Nat × List Bytes)} {q' k}, tok.len = k →
      x = calcFrom sql (i + k) rest' ⟨.sql, q', v', 0⟩ a → ∃ q', x = calcFrom sql (i + tok.len) rest' ⟨.sql, q', v', 0⟩ a :=
    fun h e => ⟨_, h ▸ e⟩
  cases hs with
  | @str _ _ body _ hq hsc =>
    have := (calc_string sql ha c hq v rest (i + 1)).next sql hsc
    exact len (k := 1 + (body.length + 1)) (by simp +arith [Tok.len, Tok.raw])
      (by rw [open_string sql hq, this, Nat.add_assoc])
  | @qident _ body _ hsc =>
    have := (calc_qident sql ha q0 v rest (i + 1)).next sql hsc
    exact len (k := 1 + (body.length + 1)) (by simp +arith [Tok.len, Tok.raw])
      (by rw [open_qident, this, Nat.add_assoc])
  | line h1 h2 h3 =>
    have s1 : scanStep ⟨.sql, q0, v, 0⟩ c rest = (⟨.lineComment, q0, v, 0⟩, false) := by
      rcases h3 with rfl | ⟨rfl, hd⟩
      · simp [scanStep, cHash, cBQuote, cDQuote, cSQuote]
      · simp [scanStep, cHash, cDash, cBQuote, cDQuote, cSQuote, ← dashComment_eq, hd]
    exact len (k := 1 + (scanLine rest).1.length) (by simp +arith [Tok.len, Tok.raw])
      (by rw [calcFrom_false sql s1, calc_line, Nat.add_assoc])
  | verOpen =>
    have s1 : scanStep ⟨.sql, q0, v, 0⟩ cSlash (cStar :: cBang :: rest') = (⟨.sql, q0, true, 2⟩, false) := by
      simp [scanStep, next1Is, next2Is, cSlash, cHash, cDash, cBQuote, cDQuote, cSQuote]
    exact ⟨q0, by rw [calcFrom_false sql s1, calcFrom_skip, calcFrom_skip]; rfl⟩
  | @block r body _ h5 hsc =>
    have := (calc_block sql ha q0 v r (i + 1 + 1)).next sql hsc
    exact len (k := 1 + 1 + (body.length + 2)) (by simp +arith [Tok.len, Tok.raw])
      (by rw [open_block sql q0 v h5, this, Nat.add_assoc, Nat.add_assoc, Nat.add_assoc])
  | verClose hv =>
    subst hv
    have s1 : scanStep ⟨.sql, q0, true, 0⟩ cStar (cSlash :: rest') = (⟨.sql, q0, false, 1⟩, false) := by
      simp [scanStep, next1Is, cStar, cSlash, cHash, cDash, cBQuote, cDQuote, cSQuote]
    exact ⟨q0, by rw [calcFrom_false sql s1, calcFrom_skip]; rfl⟩
  | param => exact absurd rfl ht
  | other hp =>
    obtain ⟨h1, h2, h3, h4, h6, h7⟩ := hp
    have n1 : ∀ x, next1Is rest x = true → rest.head? = some x := by
      intro x; cases rest <;> simp [next1Is]
    have s1 : scanStep ⟨.sql, q0, v, 0⟩ c rest = (⟨.sql, q0, v, 0⟩, false) := by
      simp only [scanStep]
      rw [if_neg (by decide), if_neg (fun h => h1 h.symm), if_neg h2, if_neg (fun h => h3 (.inl h)),
        if_neg (fun h => h3 (.inr (dashComment_eq rest ▸ h))), if_neg (fun h => h4 ⟨h.1, n1 _ h.2⟩),
        if_neg (fun h => h6 ⟨h.1, h.2.1, n1 _ h.2.2⟩), if_neg h7]
    exact ⟨q0, calcFrom_false sql s1 i a⟩

theorem calc_param (q0 : UInt8) (v : Bool) (rest : Bytes) (i : Nat) (h1 : a.subBeginIndex ≤ i) (h2 : i ≤ sql.length) :
    calcFrom sql i (cQMark :: rest) ⟨.sql, q0, v, 0⟩ a = calcFrom sql (i + 1) rest ⟨.sql, q0, v, 0⟩
      { count := a.count + 1, offsets := a.offsets ++ [i],
        sqlItems := a.sqlItems ++ [(sql.drop a.subBeginIndex).take (i - a.subBeginIndex), [cQMark]],
        subBeginIndex := i + 1 } := by
  have s1 : scanStep ⟨.sql, q0, v, 0⟩ cQMark rest = (⟨.sql, q0, v, 0⟩, true) := by
    simp [scanStep, cQMark, cStar, cSlash, cHash, cDash, cBQuote, cDQuote, cSQuote]
  rw [calcFrom, loop, s1]
  simp only [if_true, goSlice_nat sql _ _ h1 h2]
  rfl

/-- `x`, what `CalcParams` returns from offset `i` on with the accumulators `a`, agrees with the
    answer `o` of the lexical grammar for the rest of the text: the markers of the elements are
    recorded and the text is cut at them, or both fail. -/
def Agree (o : Option (List Tok)) (i : Nat) (a : Acc) (x : R (Nat × List Nat × List Bytes)) : Prop :=
  match o with
  | some toks => x = .ok (a.count + (paramOffsets i toks).length, a.offsets ++ paramOffsets i toks,
      a.sqlItems ++ cutItems sql a.subBeginIndex (paramOffsets i toks))
  | none => x = .fail

theorem Agree.param {o : Option (List Tok)} {i : Nat} {a : Acc} {x : R (Nat × List Nat × List Bytes)}
    (h : Agree sql o (i + 1)
      { count := a.count + 1, offsets := a.offsets ++ [i],
        sqlItems := a.sqlItems ++ [(sql.drop a.subBeginIndex).take (i - a.subBeginIndex), [cQMark]],
        subBeginIndex := i + 1 } x) : Agree sql (o.map (Tok.param :: ·)) i a x := by
  cases o with
  | none => exact h
  | some ts =>
    rw [h]
    simp only [Agree, Option.map_some, paramOffsets, cutItems, List.length_cons, List.append_assoc, Nat.add_assoc,
      Nat.add_comm 1, List.cons_append, List.nil_append]

theorem Agree.skip {o : Option (List Tok)} {tok : Tok} {i : Nat} {a : Acc} {x : R (Nat × List Nat × List Bytes)}
    (ht : tok ≠ .param) (h : Agree sql o (i + tok.len) a x) : Agree sql (o.map (tok :: ·)) i a x := by
  cases o with
  | none => exact h
  | some ts => simp only [Agree, Option.map_some]; rw [paramOffsets_nonparam _ _ _ ht]; exact h

theorem sim (fuel : Nat) : ∀ (text : Bytes) (v : Bool) (q0 : UInt8) (i : Nat) (a : Acc), text.length < fuel →
    i + text.length = sql.length → a.subBeginIndex ≤ i →
    Agree sql (lexF false fuel v text) i a (calcFrom sql i text ⟨.sql, q0, v, 0⟩ a) := by
  induction fuel with
  | zero => intro text v q0 i a h; cases h
  | succ n ih =>
    intro text v q0 i a hlen hi ha
    cases text with
    | nil =>
      have hi : a.subBeginIndex ≤ sql.length := hi ▸ ha
      cases v
      · rw [calcFrom_nil_ok sql rfl i hi]; simp [Agree, lexF, paramOffsets]
      · exact calcFrom_nil_bad sql rfl i hi
    | cons c rest =>
      rw [List.length_cons] at hlen hi
      have hle : i ≤ sql.length := hi ▸ Nat.le_add_right i _
      have hn : rest.length < n := Nat.lt_of_succ_lt_succ hlen
      rcases lexStep_total false v c rest with hf | ⟨tok, v', rest', hs⟩
      · rw [hf.lexF]; exact calc_fail sql (Nat.le_trans ha hle) hf v q0 i
      · obtain ⟨hraw, hpos⟩ := hs.length
        rw [hs.lexF]
        by_cases ht : tok = .param
        · subst ht
          cases hs
          rw [calc_param sql q0 v rest i ha hle]
          exact (ih rest v q0 (i + 1) _ hn (by rw [Nat.add_assoc, Nat.add_comm 1]; exact hi) (Nat.le_refl _)).param
        · obtain ⟨q', e⟩ := calc_step sql (Nat.le_trans ha hle) hs ht q0 i
          rw [e]
          exact (ih rest' v' q' (i + tok.len) a (by omega) (by rw [Nat.add_assoc, ← hraw]; exact hi)
            (Nat.le_trans ha (Nat.le_add_right _ _))).skip sql ht

end

/-- **C14.**  For every statement text, `CalcParams` returns an error exactly
    when the lexical grammar finds an unterminated string literal, quoted
    identifier or comment, and otherwise returns the number and the byte
    offsets of exactly the grammar's parameter markers — a `?` inside a string
    literal (after backslash-escaped or doubled quotes too), a quoted
    identifier or a comment is not one, every other `?` is — together with the
    statement text cut at those offsets. -/
theorem calcParams_eq_spec (text : Bytes) :
    calcParams text =
      match lex false text with
      | some toks =>
        .ok ((paramOffsets 0 toks).length, paramOffsets 0 toks, cutItems text 0 (paramOffsets 0 toks))
      | none => .fail := by
  have h := sim text (text.length + 1) text false 0 0 Acc.init (Nat.lt_succ_self _) (Nat.zero_add _) (Nat.le_refl _)
  rw [calcParams_eq_calcFrom, lex]
  cases hl : lexF false (text.length + 1) false text <;> rw [hl] at h
  · exact h
  · exact h.trans (by simp [Acc.init])

theorem calcParams_of_lex {text : Bytes} {toks : List Tok} (hl : lex false text = some toks) :
    calcParams text = .ok ((paramOffsets 0 toks).length, paramOffsets 0 toks, cutItems text 0 (paramOffsets 0 toks)) := by
  rw [calcParams_eq_spec, hl]

theorem calcParams_ok {text : Bytes} {n : Nat} {offs : List Nat} {items : List Bytes}
    (h : calcParams text = .ok (n, offs, items)) :
    ∃ toks, lex false text = some toks ∧ n = (paramOffsets 0 toks).length ∧ offs = paramOffsets 0 toks ∧
      items = cutItems text 0 (paramOffsets 0 toks) := by
  rw [calcParams_eq_spec] at h
  cases hl : lex false text with
  | none => rw [hl] at h; cases h
  | some toks => rw [hl] at h; cases h; exact ⟨toks, rfl, rfl, rfl, rfl⟩

/-- `CalcParams` cannot panic: `sql[subBeginIndex:i]` and `sql[subBeginIndex:]`
    are always in range. -/
theorem calcParams_no_panic (text : Bytes) : calcParams text ≠ .panic := by
  rw [calcParams_eq_spec]; split <;> simp

/-- Read as a statement about offsets: a byte offset is reported by
    `CalcParams` iff the text is accepted by the lexical grammar and a
    parameter-marker element of its token stream starts there. -/
theorem calcParams_offsets (text : Bytes) (n : Nat) (offs : List Nat) (items : List Bytes)
    (h : calcParams text = .ok (n, offs, items)) :
    ∃ toks, lex false text = some toks ∧ rawOf toks = text ∧ n = offs.length ∧
      (∀ o, o ∈ offs ↔ ∃ pre post, toks = pre ++ Tok.param :: post ∧ o = (rawOf pre).length) ∧
      (∀ b, Tok.other b ∈ toks → b ≠ cQMark) := by
  obtain ⟨toks, hl, rfl, rfl, rfl⟩ := calcParams_ok h
  refine ⟨toks, hl, lex_raw _ _ _ hl, rfl, ?_, lexF_other_ne_qmark _ _ _ _ _ hl⟩
  intro o
  have := paramOffsets_iff 0 toks o
  simpa using this

/-- The items joined give back the statement text (so rewriting only ever
    replaces the `?` items). -/
theorem items_join (text : Bytes) (n : Nat) (offs : List Nat) (items : List Bytes)
    (h : calcParams text = .ok (n, offs, items)) : items.flatten = text := by
  obtain ⟨toks, hl, rfl, rfl, rfl⟩ := calcParams_ok h
  have := cutItems_pieces toks [] []
  simp only [List.nil_append, List.length_nil, Nat.add_zero, lex_raw _ _ _ hl] at this
  rw [this, flatten_pieces, List.nil_append, lex_raw _ _ _ hl]

/-! ### the statements are not vacuous; the probed defects of the pinned tree -/

/-- ``select 'it\'s ?', `a?b`, ? -- ?⏎, ? /* ? */ # ?`` -/
def ex1 : Bytes := [0x73, 0x65, 0x6c, 0x65, 0x63, 0x74, 0x20, 0x27, 0x69, 0x74, 0x5c, 0x27, 0x73, 0x20, 0x3f, 0x27, 0x2c, 0x20, 0x60, 0x61, 0x3f, 0x62, 0x60, 0x2c, 0x20, 0x3f, 0x20, 0x2d, 0x2d, 0x20, 0x3f, 0x0a, 0x2c, 0x20, 0x3f, 0x20, 0x2f, 0x2a, 0x20, 0x3f, 0x20, 0x2a, 0x2f, 0x20, 0x23, 0x20, 0x3f]

/-- Two markers, at 25 and 34; the pinned code counted the `?` inside the literal
    (and failed), inside the quoted identifier and inside the comments. -/
example : calcParams ex1 = .ok (2, [25, 34],
    [[0x73, 0x65, 0x6c, 0x65, 0x63, 0x74, 0x20, 0x27, 0x69, 0x74, 0x5c, 0x27, 0x73, 0x20, 0x3f, 0x27, 0x2c, 0x20, 0x60, 0x61, 0x3f, 0x62, 0x60, 0x2c, 0x20], [cQMark],
     [0x20, 0x2d, 0x2d, 0x20, 0x3f, 0x0a, 0x2c, 0x20], [cQMark],
     [0x20, 0x2f, 0x2a, 0x20, 0x3f, 0x20, 0x2a, 0x2f, 0x20, 0x23, 0x20, 0x3f]]) := by decide +kernel

example : placeholders ex1 = some [25, 34] := by decide +kernel

/-- `'a''?' --? /*! ? */` : doubled quotes; `--` without a blank is not a comment;
    MySQL-specific code is SQL. -/
example : placeholders [0x27, 0x61, 0x27, 0x27, 0x3f, 0x27, 0x20, 0x2d, 0x2d, 0x3f, 0x20, 0x2f, 0x2a, 0x21, 0x20, 0x3f, 0x20, 0x2a, 0x2f] = some [9, 15] := by decide +kernel

/-- unterminated literal (`select 'abc ?`, `select 'a\`), identifier (``select `abc ?``),
    comment (`select 1 /* ?`): rejected -/
example : calcParams [0x73, 0x65, 0x6c, 0x65, 0x63, 0x74, 0x20, 0x27, 0x61, 0x62, 0x63, 0x20, 0x3f] = .fail := by decide +kernel
example : calcParams [0x73, 0x65, 0x6c, 0x65, 0x63, 0x74, 0x20, 0x27, 0x61, 0x5c] = .fail := by decide +kernel
example : calcParams [0x73, 0x65, 0x6c, 0x65, 0x63, 0x74, 0x20, 0x60, 0x61, 0x62, 0x63, 0x20, 0x3f] = .fail := by decide +kernel
example : calcParams [0x73, 0x65, 0x6c, 0x65, 0x63, 0x74, 0x20, 0x31, 0x20, 0x2f, 0x2a, 0x20, 0x3f] = .fail := by decide +kernel

end GaeaVerif.C14
