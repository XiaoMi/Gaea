import GaeaVerif.Model.Balancer
import GaeaVerif.Gen.Consts
/-
  C25 — Replica selection follows weights, health and locality.

  Theorems about `Model/Balancer.lean` (the tie to /repo/backend/balancer.go
  and backend/slice.go is the correspondence check `gvh run C25`; the policy
  constants come from the source through `Gen/Consts.lean`).

  Rendering of the English statement:
  * "normalized weight" of a replica of weight `w > 0` = `w / gcd` where `gcd`
    is the value computed by the model's `gcd`, proved to be the greatest
    common divisor of the positive weights (`gcd_spec`); the "normalized weight
    total" is the queue length `L`;
  * "any run of consecutive replica selections as long as the normalized
    weight total picks each replica exactly its normalized weight times":
    `window_exact`, `any_window_exact` (every queue, every cursor value, every
    position in a run), `newBalancer_counts`/`initBalancers_wf` (what the queue
    holds), put together for `GetSlaveConn` in
    `closed_selection_follows_weights`; "a zero-weight replica is never
    picked": same theorem and `run_sound`;
  * "a replica marked down is never picked while another eligible replica is
    up": `getNodeFromBalancer_sound` (never a down node),
    `getNodeFromBalancer_complete` (an up node is found if there is one),
    `GetSlaveConn_spec`/`run_sound` (`Sound`: the "no replica" errors occur only
    when every candidate is down);
  * "with forced-local reads a replica outside the proxy's datacenter is never
    picked": `Sound` (`.conn`, `.pool`), `selected_node_ok`;
  * "preferred-local falls back to remote replicas only when no local one can
    serve": `prefer_local_first` (full strength, after the `fix:` commit 5e14b16;
    `getConnFromBalancerTryAll_spec` is the retry loop's contract,
    `GetSlaveConnGets_spec` says which pools one selection asks), with the
    converse `prefer_local_serves` and `prefer_gives_up_only_if_none_serves`;
    `prefer_local_legacy_witness` records the repaired defect;
  * configurations: any node list, weights, datacenters, states (no bound);
    schedules: `cas_linearizable` (any interleaving of the atomic actions of
    concurrent `next` callers); `GetSlaveConn` runs under the `DBInfo` lock.
-/
namespace GaeaVerif.C25
open GaeaVerif GaeaVerif.Balancer

/-- The policy numbers the model dispatches on are those of the source. -/
theorem policy_consts :
    Gen.c25LocalSlaveReadClosed = LocalSlaveReadClosed ∧
    Gen.c25LocalSlaveReadPrefer = LocalSlaveReadPrefer ∧
    Gen.c25LocalSlaveReadForce = LocalSlaveReadForce := by decide

theorem gcdHelperFuel_nat (n : Nat) : ∀ (a b : Nat), b < n →
    gcdHelperFuel n (a : Int) (b : Int) = (Nat.gcd a b : Int) := by
  induction n with
  | zero => exact fun a b h => absurd h (Nat.not_lt_zero b)
  | succ n ih =>
    intro a b hb
    unfold gcdHelperFuel
    by_cases h0 : b = 0
    · subst h0; simp
    · rw [if_neg (by omega), ← Int.ofNat_tmod, ih b (a % b) (by have := Nat.mod_lt a (Nat.pos_of_ne_zero h0); omega),
        Nat.gcd_comm b (a % b), ← Nat.gcd_rec b a, Nat.gcd_comm]

theorem gcdHelper_nonneg (a b : Int) (ha : 0 ≤ a) (hb : 0 ≤ b) :
    gcdHelper a b = (Nat.gcd a.natAbs b.natAbs : Int) := by
  unfold gcdHelper
  conv => lhs; rw [← Int.natAbs_of_nonneg ha, ← Int.natAbs_of_nonneg hb]
  rw [gcdHelperFuel_nat _ _ _ (by simp)]

theorem gcdLoop_spec (ws : List Int) : ∀ g : Nat, (∀ w ∈ ws, 0 ≤ w) →
    ∃ r : Nat, gcdLoop g ws = r ∧ r ∣ g ∧ (∀ w ∈ ws, r ∣ w.natAbs) ∧
      ∀ d : Nat, d ∣ g → (∀ w ∈ ws, d ∣ w.natAbs) → d ∣ r := by
  induction ws with
  | nil => exact fun g _ => ⟨g, rfl, Nat.dvd_refl g, List.forall_mem_nil _, fun d h _ => h⟩
  | cons w ws ih =>
    intro g hws
    obtain ⟨hw, hws⟩ := List.forall_mem_cons.mp hws
    rw [gcdLoop, gcdHelper_nonneg g w (Int.natCast_nonneg g) hw, Int.natAbs_natCast]
    by_cases h1 : Nat.gcd g w.natAbs = 1
    · -- the early exit: 1 divides everything, and a common divisor of `g` and `w` divides their gcd 1
      rw [h1]
      exact ⟨1, rfl, Nat.one_dvd g, fun _ _ => Nat.one_dvd _,
        fun d hd hall => h1 ▸ Nat.dvd_gcd hd (hall w List.mem_cons_self)⟩
    · rw [if_neg (by omega)]
      obtain ⟨r, e, hg, hall, hmax⟩ := ih (Nat.gcd g w.natAbs) hws
      exact ⟨r, e, Nat.dvd_trans hg (Nat.gcd_dvd_left _ _),
        List.forall_mem_cons.mpr ⟨Nat.dvd_trans hg (Nat.gcd_dvd_right _ _), hall⟩,
        fun d hd hd' => hmax d (Nat.dvd_gcd hd (hd' w List.mem_cons_self)) fun x hx => hd' x (List.mem_cons_of_mem w hx)⟩

/-- **`gcd` is the greatest common divisor.** For a non-empty list of positive
    weights the value computed by `gcd` (with its early exit at 1) is positive,
    divides every weight, and every common divisor of the weights divides it. -/
theorem gcd_spec (ws : List Int) (hne : ws ≠ []) (hpos : ∀ w ∈ ws, 0 < w) :
    ∃ g : Nat, gcd ws = (g : Int) ∧ 0 < g ∧ (∀ w ∈ ws, (g : Int) ∣ w) ∧
      ∀ d : Nat, (∀ w ∈ ws, (d : Int) ∣ w) → d ∣ g := by
  match ws, hne with
  | w :: rest, _ =>
    obtain ⟨hw, hrest⟩ := List.forall_mem_cons.mp hpos
    obtain ⟨r, e, hg, hall, hmax⟩ := gcdLoop_spec rest w.natAbs fun x hx => Int.le_of_lt (hrest x hx)
    rw [Int.natAbs_of_nonneg (Int.le_of_lt hw)] at e
    refine ⟨r, e, Nat.pos_of_dvd_of_pos hg (Int.natAbs_pos.mpr (Int.ne_of_gt hw)),
      List.forall_mem_cons.mpr ⟨Int.ofNat_dvd_left.mpr hg, fun x hx => Int.ofNat_dvd_left.mpr (hall x hx)⟩, fun d hd => ?_⟩
    obtain ⟨hdw, hdr⟩ := List.forall_mem_cons.mp hd
    exact hmax d (Int.ofNat_dvd_left.mp hdw) fun x hx => Int.ofNat_dvd_left.mp (hdr x hx)

example : gcd [4, 6, 8] = 2 ∧ gcd [2, 3, 4] = 1 ∧ gcd [5] = 5 := by decide

theorem mem_expand (g : Int) (is : List Int) : ∀ (ws : List Int) (v : Int), v ∈ expand g is ws → v ∈ is := by
  induction is with
  | nil => exact fun ws v h => nomatch h
  | cons i is ih =>
    intro ws v h
    cases ws with
    | nil => cases h
    | cons w ws =>
      rw [expand, List.mem_append, List.mem_replicate] at h
      rcases h with ⟨_, rfl⟩ | h
      · exact List.mem_cons_self
      · exact List.mem_cons_of_mem _ (ih ws v h)

theorem count_expand_not_mem (g : Int) (is ws : List Int) (v : Int) (h : v ∉ is) :
    (expand g is ws).count v = 0 :=
  List.count_eq_zero.mpr fun hm => h (mem_expand g is ws v hm)

theorem count_expand (g : Int) (is : List Int) : ∀ (ws : List Int) (i w : Int),
    is.Nodup → (i, w) ∈ is.zip ws → (expand g is ws).count i = (Int.tdiv w g).toNat := by
  induction is with
  | nil => exact fun ws i w _ h => by rw [List.zip_nil_left] at h; cases h
  | cons i0 is ih =>
    intro ws i w hnd h
    cases ws with
    | nil => rw [List.zip_nil_right] at h; cases h
    | cons w0 ws =>
      obtain ⟨hi0, hnd⟩ := List.nodup_cons.mp hnd
      rw [List.zip_cons_cons, List.mem_cons, Prod.mk.injEq] at h
      rw [expand, List.count_append, List.count_replicate]
      rcases h with ⟨rfl, rfl⟩ | h
      · rw [count_expand_not_mem g is ws i hi0, if_pos (beq_self_eq_true i), Nat.add_zero]
      · have hne : (i0 == i) = false := beq_false_of_ne fun e => hi0 (e ▸ (List.of_mem_zip h).1)
        rw [hne, ih ws i w hnd h]; exact Nat.zero_add _

def Permutes (sh : List Int → List Int) : Prop := ∀ l, (sh l).Perm l

/-- **C25 (the queue).** For distinct node indices with positive weights and
    any shuffle that permutes, `newBalancer` succeeds, starts the cursor at 0
    and builds a queue in which index `i` of weight `w` occurs exactly
    `w / gcd(weights)` times (its normalized weight) and nothing else occurs. -/
theorem newBalancer_counts (is ws : List Int) (sh : List Int → List Int) (hsh : Permutes sh)
    (hlen : is.length = ws.length) (hne : is ≠ []) (hpos : ∀ w ∈ ws, 0 < w) (hnd : is.Nodup) :
    ∃ b, newBalancer is ws sh = .ok (some b) ∧ b.nextIndex = 0 ∧
      (∀ i w, (i, w) ∈ is.zip ws → b.roundRobinQ.count i = (Int.tdiv w (gcd ws)).toNat ∧
          1 ≤ (Int.tdiv w (gcd ws)).toNat) ∧
      (∀ v, v ∈ b.roundRobinQ → v ∈ is) := by
  have hl0 : is.length ≠ 0 := fun e => hne (List.length_eq_zero_iff.mp e)
  obtain ⟨g, hg, hgpos, hgd, -⟩ := gcd_spec ws (fun e => hl0 (by rw [hlen, e]; rfl)) hpos
  have hperm : ∀ q : List Int, (if q.length > 1 then sh q else q).Perm q := by
    intro q; split
    · exact hsh q
    · exact .refl q
  have hperm := hperm (expand (gcd ws) is ws)
  refine ⟨⟨0, if (expand (gcd ws) is ws).length > 1 then sh (expand (gcd ws) is ws) else expand (gcd ws) is ws, is, ws⟩,
    by rw [newBalancer, if_neg fun h => h hlen, if_neg hl0, if_neg (by omega)], rfl,
    fun i w hiw => ?_, fun v hv => mem_expand _ _ _ _ (hperm.subset hv)⟩
  have hw := (List.of_mem_zip hiw).2
  have : 1 ≤ Int.tdiv w (gcd ws) :=
    Int.le_tdiv_of_mul_le (by omega) (by rw [Int.one_mul, hg]; exact Int.le_of_dvd (hpos w hw) (hgd w hw))
  exact ⟨by rw [hperm.count_eq, count_expand (gcd ws) is ws i w hnd hiw], by omega⟩

example : Permutes (fun l => l.reverse) := fun l => List.reverse_perm l

theorem qIdx_lt (q : List Int) (i : Nat) (h : i < q.length) : qIdx q i = .ok q[i] := by
  unfold qIdx; rw [List.getElem?_eq_getElem h]

theorem next_lt (c : Nat) (q pi pw : List Int) (h2 : 2 ≤ q.length) (hc : c + 1 < q.length) :
    (Balancer.mk c q pi pw).next = (Balancer.mk ((c + 1) % 4294967296) q pi pw, .ok q[c + 1]) := by
  simp only [Balancer.next, show ¬ q.length = 0 by omega, show ¬ q.length = 1 by omega, Nat.not_le.mpr hc,
    if_false, qIdx_lt q (c + 1) hc]

theorem next_ge (c : Nat) (q pi pw : List Int) (h2 : 2 ≤ q.length) (hc : c + 1 ≥ q.length) :
    (Balancer.mk c q pi pw).next = (Balancer.mk 0 q pi pw, .ok (q[0]'(by omega))) := by
  simp only [Balancer.next, show ¬ q.length = 0 by omega, show ¬ q.length = 1 by omega, hc,
    if_false, if_true, qIdx_lt q 0 (by omega)]

theorem next_single (c : Nat) (v : Int) (pi pw : List Int) :
    (Balancer.mk c [v] pi pw).next = (Balancer.mk c [v] pi pw, .ok v) := rfl

theorem next_empty (c : Nat) (pi pw : List Int) :
    (Balancer.mk c [] pi pw).next = (Balancer.mk c [] pi pw, .fail) := rfl

theorem next_ok (b : Balancer) (hne : b.roundRobinQ ≠ []) :
    ∃ b1 v, b.next = (b1, .ok v) ∧ v ∈ b.roundRobinQ ∧ b1.roundRobinQ = b.roundRobinQ := by
  obtain ⟨c, q, pi, pw⟩ := b
  match q, hne with
  | [v], _ => exact ⟨_, v, next_single c v pi pw, List.mem_singleton_self v, rfl⟩
  | x :: y :: r, _ =>
    have h2 : 2 ≤ (x :: y :: r).length := Nat.le_add_left 2 r.length
    by_cases hc : c + 1 ≥ (x :: y :: r).length
    · exact ⟨_, _, next_ge c _ pi pw h2 hc, List.getElem_mem _, rfl⟩
    · exact ⟨_, _, next_lt c _ pi pw h2 (Nat.not_le.mp hc), List.getElem_mem _, rfl⟩

theorem nextN_cons {n : Nat} {b b1 b2 : Balancer} {v : Int} {vs : List Int} (h : b.next = (b1, .ok v))
    (hn : nextN n b1 = .ok (b2, vs)) : nextN (n + 1) b = .ok (b2, v :: vs) := by
  simp only [nextN, h, hn]

theorem nextN_succ_ok {n : Nat} {b b2 : Balancer} {ps : List Int} (h : nextN (n + 1) b = .ok (b2, ps)) :
    ∃ b1 v vs, b.next = (b1, .ok v) ∧ nextN n b1 = .ok (b2, vs) ∧ ps = v :: vs := by
  rcases hb : b.next with ⟨b1, r⟩
  cases r <;> simp only [nextN, hb] at h
  case ok v =>
    cases hr : nextN n b1 <;> rw [hr] at h
    case ok p =>
      simp only [R.ok.injEq, Prod.mk.injEq] at h
      exact ⟨b1, v, p.2, rfl, h.1 ▸ hr, h.2.symm⟩
    all_goals cases h
  all_goals cases h

theorem nextN_append {m n : Nat} {b b1 b2 : Balancer} {xs ys : List Int} (h1 : nextN m b = .ok (b1, xs))
    (h2 : nextN n b1 = .ok (b2, ys)) : nextN (m + n) b = .ok (b2, xs ++ ys) := by
  induction m generalizing b xs with
  | zero =>
    simp only [nextN, R.ok.injEq, Prod.mk.injEq] at h1
    obtain ⟨rfl, rfl⟩ := h1
    rwa [Nat.zero_add]
  | succ m ih =>
    obtain ⟨b', v, vs, hb, hr, rfl⟩ := nextN_succ_ok h1
    rw [Nat.add_right_comm]
    exact nextN_cons hb (ih hr)

theorem nextN_total (n : Nat) : ∀ (b : Balancer), b.roundRobinQ ≠ [] →
    ∃ b' ps, nextN n b = .ok (b', ps) ∧ b'.roundRobinQ = b.roundRobinQ ∧ ps.length = n ∧
      ∀ v ∈ ps, v ∈ b.roundRobinQ := by
  induction n with
  | zero => exact fun b _ => ⟨b, [], rfl, rfl, rfl, List.forall_mem_nil _⟩
  | succ n ih =>
    intro b hne
    obtain ⟨b1, v, e, hv, hq⟩ := next_ok b hne
    obtain ⟨b', ps, e2, hq2, hlen, hmem⟩ := ih b1 (hq ▸ hne)
    refine ⟨b', v :: ps, nextN_cons e e2, hq2.trans hq, congrArg (· + 1) hlen, fun x hx => ?_⟩
    rcases List.mem_cons.mp hx with rfl | hx
    · exact hv
    · exact hq ▸ hmem x hx

theorem nextN_inc (q pi pw : List Int) (h2 : 2 ≤ q.length) (hL : q.length ≤ 4294967296) (k : Nat) :
    ∀ c, c + k < q.length →
      nextN k (Balancer.mk c q pi pw) = .ok (Balancer.mk (c + k) q pi pw, (q.drop (c + 1)).take k) := by
  induction k with
  | zero => exact fun c _ => rfl
  | succ k ih =>
    intro c hc
    have hc1 : c + 1 < q.length := by omega
    have hn := next_lt c q pi pw h2 hc1
    rw [Nat.mod_eq_of_lt (Nat.lt_of_lt_of_le hc1 hL)] at hn
    rw [List.drop_eq_getElem_cons hc1, List.take_succ_cons, ← Nat.add_assoc c, Nat.add_right_comm c k 1]
    exact nextN_cons hn (ih (c + 1) (by omega))

/-- From the last position the next `k + 1` picks are the first `k + 1` entries; so also from a cursor beyond
    the last entry, which is possible only if it was set from outside. -/
theorem nextN_wrap (c : Nat) (q pi pw : List Int) (h2 : 2 ≤ q.length) (hL : q.length ≤ 4294967296)
    (hc : c + 1 ≥ q.length) (k : Nat) (hk : k < q.length) :
    nextN (k + 1) (Balancer.mk c q pi pw) = .ok (Balancer.mk k q pi pw, q.take (k + 1)) := by
  have h := nextN_cons (next_ge c q pi pw h2 hc) (nextN_inc q pi pw h2 hL k 0 (by omega))
  rw [Nat.zero_add] at h
  rw [h, ← List.take_succ_cons, Nat.zero_add, ← List.drop_eq_getElem_cons, List.drop_zero]

theorem nextN_rotate (c k : Nat) (q pi pw : List Int) (h2 : 2 ≤ q.length) (hL : q.length ≤ 4294967296)
    (hlen : q.length = c + 1 + k) :
    nextN (k + (c + 1)) (Balancer.mk c q pi pw) = .ok (Balancer.mk c q pi pw, q.drop (c + 1) ++ q.take (c + 1)) := by
  have s1 := nextN_inc q pi pw h2 hL k c (by omega)
  rw [List.take_of_length_le (by rw [List.length_drop]; omega)] at s1
  exact nextN_append s1 (nextN_wrap (c + k) q pi pw h2 hL (by omega) c (by omega))

/-- **C25 (exact windows).** For every queue of length `L ≥ 2` and *every*
    value of the cursor, the next `L` selections succeed and are a permutation
    of the queue: each index is picked exactly as often as it occurs in the
    queue (its normalized weight, `newBalancer_counts`). -/
theorem window_exact (b : Balancer) (h2 : 2 ≤ b.roundRobinQ.length) (hL : b.roundRobinQ.length ≤ 4294967296) :
    ∃ b' ps, nextN b.roundRobinQ.length b = .ok (b', ps) ∧ ps.Perm b.roundRobinQ ∧
      b'.roundRobinQ = b.roundRobinQ := by
  obtain ⟨c, q, pi, pw⟩ := b
  simp only at h2 hL ⊢
  by_cases hc : c + 1 ≤ q.length
  · obtain ⟨k, hk⟩ := Nat.exists_eq_add_of_le hc
    have s := nextN_rotate c k q pi pw h2 hL hk
    rw [Nat.add_comm k, ← hk] at s
    exact ⟨_, _, s, List.perm_append_comm.trans (by rw [List.take_append_drop]), rfl⟩
  · obtain ⟨k, hk⟩ := Nat.exists_eq_add_of_le' (Nat.le_of_succ_le h2)
    have s := nextN_wrap c q pi pw h2 hL (by omega) k (by omega)
    rw [← hk, List.take_length] at s
    exact ⟨_, _, s, .refl _, rfl⟩

/-- `window_exact` for every length: an empty queue has an empty round, a queue of one entry picks it. -/
theorem nextN_round (b : Balancer) (hL : b.roundRobinQ.length ≤ 4294967296) :
    ∃ b' ps, nextN b.roundRobinQ.length b = .ok (b', ps) ∧ ps.Perm b.roundRobinQ ∧
      b'.roundRobinQ = b.roundRobinQ :=
  match b, hL with
  | ⟨_, [], _, _⟩, _ => ⟨_, [], rfl, .nil, rfl⟩
  | ⟨c, [v], pi, pw⟩, _ => ⟨_, [v], nextN_cons (next_single c v pi pw) rfl, .refl _, rfl⟩
  | ⟨_, _ :: _ :: r, _, _⟩, hL => window_exact _ (Nat.le_add_left 2 r.length) hL

/-- `any_window_exact` for every non-empty queue, a single replica included. -/
theorem any_window_exact_of_ne_nil (b : Balancer) (hne : b.roundRobinQ ≠ [])
    (hL : b.roundRobinQ.length ≤ 4294967296) (n : Nat) :
    ∃ b' ps, nextN (n + b.roundRobinQ.length) b = .ok (b', ps) ∧
      ((ps.drop n).take b.roundRobinQ.length).Perm b.roundRobinQ := by
  obtain ⟨b1, xs, e1, hq, hlen, _⟩ := nextN_total n b hne
  obtain ⟨b2, ys, e2, hp, _⟩ := nextN_round b1 (hq ▸ hL)
  rw [hq] at e2 hp
  refine ⟨b2, xs ++ ys, nextN_append e1 e2, ?_⟩
  rw [← hlen, List.drop_left, ← hp.length_eq, List.take_length]
  exact hp

/-- **C25 (any run of consecutive selections).** In a run of `n + L`
    selections from any state, the `L` selections following the first `n` are
    a permutation of the queue — wherever the window starts. -/
theorem any_window_exact (b : Balancer) (h2 : 2 ≤ b.roundRobinQ.length)
    (hL : b.roundRobinQ.length ≤ 4294967296) (n : Nat) :
    ∃ b' ps, nextN (n + b.roundRobinQ.length) b = .ok (b', ps) ∧
      ((ps.drop n).take b.roundRobinQ.length).Perm b.roundRobinQ :=
  any_window_exact_of_ne_nil b (List.ne_nil_of_length_pos (Nat.lt_of_lt_of_le Nat.two_pos h2)) hL n

example : (nextN 7 (Balancer.mk 4294967294 [0, 1, 2] [] [])).isPanic = false ∧
    (match nextN 7 (Balancer.mk 4294967294 [0, 1, 2] [] []) with | .ok (_, ps) => ps | _ => []) = [0, 1, 2, 0, 1, 2, 0] := by
  decide

theorem nextN_covers (K : Nat) (b b' : Balancer) (ps : List Int)
    (hL : b.roundRobinQ.length ≤ 4294967296) (hK : b.roundRobinQ.length ≤ K)
    (h : nextN K b = .ok (b', ps)) : ∀ v ∈ b.roundRobinQ, v ∈ ps := by
  intro v hv
  obtain ⟨k, rfl⟩ := Nat.exists_eq_add_of_le hK
  obtain ⟨b1, xs, e1, hp, hq⟩ := nextN_round b hL
  obtain ⟨b2, ys, e2, _⟩ := nextN_total k b1 (hq ▸ List.ne_nil_of_mem hv)
  rw [nextN_append e1 e2] at h
  injection h with h
  injection h with _ h
  exact h ▸ List.mem_append_left ys (hp.symm.subset hv)

/-- node `v` exists and is up -/
def upAt (nodes : List Node) (v : Int) : Bool :=
  match GetNode nodes v with
  | some nd => nd.up
  | none => false

theorem upAt_eq (nodes : List Node) (i : Int) (nd : Node) (h : GetNode nodes i = some nd) : upAt nodes i = nd.up := by
  rw [upAt, h]

theorem getNodeLoop_succ (nodes : List Node) (n : Nat) {b b1 : Balancer} {v : Int} (h : b.next = (b1, .ok v)) :
    getNodeLoop nodes (n + 1) b = if upAt nodes v = true then (b1, .conn v) else getNodeLoop nodes n b1 := by
  rcases hg : GetNode nodes v with _ | nd <;>
    simp only [getNodeLoop, h, upAt, hg, Bool.false_eq_true, if_false]

/-- `getNodeLoop` is a run of `next` that stops at the first node that is up. -/
theorem getNodeLoop_run (nodes : List Node) (n : Nat) : ∀ (b : Balancer), b.roundRobinQ ≠ [] →
    (∃ b' i k ps, getNodeLoop nodes n b = (b', .conn i) ∧ k < n ∧ nextN (k + 1) b = .ok (b', ps ++ [i]) ∧
        (∀ v ∈ ps, upAt nodes v = false) ∧ upAt nodes i = true) ∨
    (∃ b' ps, getNodeLoop nodes n b = (b', .noHealthy) ∧ nextN n b = .ok (b', ps) ∧
        ∀ v ∈ ps, upAt nodes v = false) := by
  induction n with
  | zero => exact fun b _ => Or.inr ⟨b, [], rfl, rfl, List.forall_mem_nil _⟩
  | succ n ih =>
    intro b hne
    obtain ⟨b1, v, e, -, hq⟩ := next_ok b hne
    rw [getNodeLoop_succ nodes n e]
    by_cases hu : upAt nodes v = true
    · rw [if_pos hu]
      exact Or.inl ⟨b1, v, 0, [], rfl, Nat.zero_lt_succ n, nextN_cons e rfl, List.forall_mem_nil _, hu⟩
    · rw [if_neg hu]
      have hdown : ∀ ps, (∀ x ∈ ps, upAt nodes x = false) → ∀ x ∈ v :: ps, upAt nodes x = false :=
        fun ps h => List.forall_mem_cons.mpr ⟨Bool.eq_false_iff.mpr hu, h⟩
      rcases ih b1 (hq ▸ hne) with ⟨b', i, k, ps, h1, h2, h3, h4, h5⟩ | ⟨b', ps, h1, h2, h3⟩
      · exact Or.inl ⟨b', i, k + 1, v :: ps, h1, Nat.succ_lt_succ h2, nextN_cons e h3, hdown ps h4, h5⟩
      · exact Or.inr ⟨b', v :: ps, h1, nextN_cons e h2, hdown ps h3⟩

theorem nextN_sound {n : Nat} {b b' : Balancer} {ps : List Int} (hne : b.roundRobinQ ≠ [])
    (h : nextN n b = .ok (b', ps)) : b'.roundRobinQ = b.roundRobinQ ∧ ∀ v ∈ ps, v ∈ b.roundRobinQ := by
  obtain ⟨b1, xs, e, hq, -, hmem⟩ := nextN_total n b hne
  rw [e] at h
  injection h with h
  injection h with h1 h2
  exact h1 ▸ h2 ▸ ⟨hq, hmem⟩

/-- **C25 (a down replica is never picked).** The node returned by
    `getNodeFromBalancer` is in the balancer's queue and is up; the queue is
    never modified. -/
theorem getNodeFromBalancer_sound (nodes : List Node) (b b' : Balancer) (i : Int)
    (h : getNodeFromBalancer nodes b = (b', .conn i)) :
    i ∈ b.roundRobinQ ∧ upAt nodes i = true ∧ b'.roundRobinQ = b.roundRobinQ := by
  unfold getNodeFromBalancer at h
  by_cases hne : b.roundRobinQ = []
  · rw [hne] at h; cases h
  · rcases getNodeLoop_run nodes b.roundRobinQ.length b hne with ⟨b2, j, k, ps, h1, -, h3, -, h5⟩ | ⟨b2, ps, h1, -⟩
    · rw [h1] at h
      injection h with hb hi
      injection hi with hi
      obtain ⟨hq, hmem⟩ := nextN_sound hne h3
      exact hb ▸ hi ▸ ⟨hmem j (List.mem_append_right ps (List.mem_singleton_self j)), h5, hq⟩
    · rw [h1] at h; injection h with _ h; cases h

theorem getNodeFromBalancer_run (nodes : List Node) (b : Balancer) (hL : b.roundRobinQ.length ≤ 4294967296) :
    (∃ b' i k ps, getNodeFromBalancer nodes b = (b', .conn i) ∧ nextN (k + 1) b = .ok (b', ps ++ [i]) ∧
        (∀ v ∈ ps, upAt nodes v = false) ∧ upAt nodes i = true ∧ i ∈ b.roundRobinQ ∧
        b'.roundRobinQ = b.roundRobinQ) ∨
    (∃ b', getNodeFromBalancer nodes b = (b', .noHealthy) ∧ (∀ v ∈ b.roundRobinQ, upAt nodes v = false) ∧
        b'.roundRobinQ = b.roundRobinQ) := by
  by_cases hne : b.roundRobinQ = []
  · exact Or.inr ⟨b, by unfold getNodeFromBalancer; rw [hne]; rfl, by rw [hne]; exact List.forall_mem_nil _, rfl⟩
  · rcases getNodeLoop_run nodes b.roundRobinQ.length b hne with ⟨b', i, k, ps, h1, -, h3, h4, h5⟩ | ⟨b', ps, h1, h2, h3⟩
    · obtain ⟨hi, -, hq⟩ := getNodeFromBalancer_sound nodes b b' i h1
      exact Or.inl ⟨b', i, k, ps, h1, h3, h4, h5, hi, hq⟩
    · exact Or.inr ⟨b', h1, fun v hv => h3 v (nextN_covers _ b b' ps hL (Nat.le_refl _) h2 v hv), (nextN_sound hne h2).1⟩

/-- **C25 (… while another eligible replica is up).** If some node of the
    balancer's queue is up, `getNodeFromBalancer` returns a node (it does not
    give up): one round of the cursor visits every entry of the queue. -/
theorem getNodeFromBalancer_complete (nodes : List Node) (b : Balancer)
    (hL : b.roundRobinQ.length ≤ 4294967296)
    (hup : ∃ v ∈ b.roundRobinQ, upAt nodes v = true) :
    ∃ b' i, getNodeFromBalancer nodes b = (b', .conn i) := by
  obtain ⟨v, hv, hvu⟩ := hup
  rcases getNodeFromBalancer_run nodes b hL with ⟨b', i, -, -, h, -⟩ | ⟨-, -, hall, -⟩
  · exact ⟨b', i, h⟩
  · rw [hall v hv] at hvu; cases hvu

/-- node `v` exists and its pool answers -/
def poolAt (nodes : List Node) (v : Int) : Bool :=
  match GetNode nodes v with
  | some nd => nd.poolOk
  | none => false

theorem poolAt_eq (nodes : List Node) (i : Int) (nd : Node) (h : GetNode nodes i = some nd) : poolAt nodes i = nd.poolOk := by
  rw [poolAt, h]

theorem poolAt_of_up {nodes : List Node} {i : Int} (hu : upAt nodes i = true) :
    ∃ nd, GetNode nodes i = some nd ∧ poolAt nodes i = nd.poolOk := by
  unfold upAt at hu
  unfold poolAt
  cases hg : GetNode nodes i with
  | none => rw [hg] at hu; cases hu
  | some nd => exact ⟨nd, rfl, rfl⟩

theorem getConnFromBalancer_cases (nodes : List Node) (b : Balancer) (hL : b.roundRobinQ.length ≤ 4294967296) :
    ∃ b' o, getConnFromBalancer nodes b = (b', o) ∧ b'.roundRobinQ = b.roundRobinQ ∧
      ((∃ i, o = .conn i ∧ i ∈ b.roundRobinQ ∧ upAt nodes i = true ∧ poolAt nodes i = true) ∨
       (∃ i, o = .pool i ∧ i ∈ b.roundRobinQ ∧ upAt nodes i = true ∧ poolAt nodes i = false) ∨
       (o = .noHealthy ∧ ∀ v ∈ b.roundRobinQ, upAt nodes v = false)) := by
  unfold getConnFromBalancer
  rcases getNodeFromBalancer_run nodes b hL with ⟨b', i, -, -, e, -, -, hu, hi, hq⟩ | ⟨b', e, hall, hq⟩
  · obtain ⟨nd, hg, hp⟩ := poolAt_of_up hu
    rw [e]
    simp only [hg]
    cases hpo : nd.poolOk
    · exact ⟨b', _, rfl, hq, Or.inr (Or.inl ⟨i, rfl, hi, hu, hp.trans hpo⟩)⟩
    · exact ⟨b', _, rfl, hq, Or.inl ⟨i, rfl, hi, hu, hp.trans hpo⟩⟩
  · rw [e]
    exact ⟨b', _, rfl, hq, Or.inr (Or.inr ⟨rfl, hall⟩)⟩

def cannotServe (nodes : List Node) (v : Int) : Prop := upAt nodes v = false ∨ poolAt nodes v = false

/-- The loop of `getConnFromBalancerTryAll`, started on balancer `b0`: `K`
    selections (`picks`) have been made so far, every node met is down, or its
    pool has been asked and failed; `m` iterations are left and `m + K` is at
    least the queue length, so when the loop runs out one whole round has been
    made (`nextN_covers`) and no node of the queue can serve. -/
theorem tryAllLoop_spec (nodes : List Node) (b0 : Balancer) (hne : b0.roundRobinQ ≠ [])
    (hL : b0.roundRobinQ.length ≤ 4294967296) :
    ∀ (m : Nat) (tried : List Int) (last : Sel) (b : Balancer) (K : Nat) (picks : List Int),
      nextN K b0 = .ok (b, picks) →
      (∀ v ∈ picks, cannotServe nodes v) → (∀ v ∈ tried, poolAt nodes v = false ∧ v ∈ b0.roundRobinQ) → tried.Nodup →
      b0.roundRobinQ.length ≤ m + K → (last = .noHealthy ∨ ∃ i, last = .pool i) →
      ∃ b' o tr, tryAllLoop nodes m tried last b = (b', o, tr) ∧ b'.roundRobinQ = b0.roundRobinQ ∧ tr.Nodup ∧
        (∀ v ∈ tr, v ∈ b0.roundRobinQ) ∧
        ((∃ i, o = .conn i ∧ i ∈ b0.roundRobinQ ∧ upAt nodes i = true ∧ poolAt nodes i = true) ∨
         ((o = .noHealthy ∨ ∃ i, o = .pool i) ∧ ∀ v ∈ b0.roundRobinQ, cannotServe nodes v)) := by
  intro m
  induction m with
  | zero =>
    intro tried last b K picks hrun hpicks htried hnd hK hlast
    exact ⟨b, last, tried, rfl, (nextN_sound hne hrun).1, hnd, fun v hv => (htried v hv).2, Or.inr ⟨hlast,
      fun v hv => hpicks v (nextN_covers K b0 b picks hL (Nat.zero_add K ▸ hK) hrun v hv)⟩⟩
  | succ m ih =>
    intro tried last b K picks hrun hpicks htried hnd hK hlast
    have hq : b.roundRobinQ = b0.roundRobinQ := (nextN_sound hne hrun).1
    rcases getNodeFromBalancer_run nodes b (hq ▸ hL) with ⟨b1, i, k, ps, e, hnext, hps, hup, hi, hq1⟩ | ⟨b1, e, hall, hq1⟩
    · -- a node that is up was found after k + 1 selections
      have hrun1 := nextN_append hrun hnext
      have hi0 : i ∈ b0.roundRobinQ := hq ▸ hi
      have hpicks1 : poolAt nodes i = false → ∀ v ∈ picks ++ (ps ++ [i]), cannotServe nodes v := by
        intro hpi v hv
        rcases List.mem_append.mp hv with hv | hv
        · exact hpicks v hv
        · rcases List.mem_append.mp hv with hv | hv
          · exact Or.inl (hps v hv)
          · exact List.mem_singleton.mp hv ▸ Or.inr hpi
      obtain ⟨nd, hg, hp⟩ := poolAt_of_up hup
      simp only [tryAllLoop, e, hg]
      by_cases hc : tried.contains i = true
      · -- its pool has been asked already: continue
        rw [if_pos hc]
        exact ih tried last b1 _ _ hrun1 (hpicks1 (htried i (List.contains_iff_mem.mp hc)).1) htried hnd (by omega) hlast
      · rw [if_neg hc]
        have hnd1 : (i :: tried).Nodup := List.nodup_cons.mpr ⟨fun h => hc (List.contains_iff_mem.mpr h), hnd⟩
        cases hpo : nd.poolOk
        · rw [if_neg Bool.false_ne_true]
          exact ih (i :: tried) (.pool i) b1 _ _ hrun1 (hpicks1 (hp.trans hpo))
            (List.forall_mem_cons.mpr ⟨⟨hp.trans hpo, hi0⟩, htried⟩) hnd1 (by omega) (Or.inr ⟨i, rfl⟩)
        · rw [if_pos rfl]
          exact ⟨b1, _, _, rfl, hq1.trans hq, hnd1, List.forall_mem_cons.mpr ⟨hi0, fun v hv => (htried v hv).2⟩,
            Or.inl ⟨i, rfl, hi0, hup, hp.trans hpo⟩⟩
    · -- every node of the queue is down
      simp only [tryAllLoop, e]
      exact ⟨b1, _, _, rfl, hq1.trans hq, hnd, fun v hv => (htried v hv).2, Or.inr ⟨Or.inl rfl,
        fun v hv => Or.inl (hall v (hq ▸ hv))⟩⟩

/-- **C25 (retry).** `getConnFromBalancerTryAll` never panics, leaves the queue
    alone, asks no pool twice and only pools of nodes of the queue, and either
    hands out a connection of a node of the queue that is up and whose pool
    answers, or fails — and it fails only if *every* node of the queue is down
    or has a failing pool. -/
theorem getConnFromBalancerTryAll_spec (nodes : List Node) (b : Balancer) (hL : b.roundRobinQ.length ≤ 4294967296) :
    ∃ b' o tr, getConnFromBalancerTryAll nodes b = (b', o, tr) ∧ b'.roundRobinQ = b.roundRobinQ ∧ tr.Nodup ∧
      (∀ v ∈ tr, v ∈ b.roundRobinQ) ∧
      ((∃ i, o = .conn i ∧ i ∈ b.roundRobinQ ∧ upAt nodes i = true ∧ poolAt nodes i = true) ∨
       ((o = .noHealthy ∨ ∃ i, o = .pool i) ∧ ∀ v ∈ b.roundRobinQ, cannotServe nodes v)) := by
  unfold getConnFromBalancerTryAll
  by_cases hne : b.roundRobinQ = []
  · rw [hne]
    exact ⟨b, .noHealthy, [], rfl, hne, .nil, List.forall_mem_nil _, Or.inr ⟨Or.inl rfl, List.forall_mem_nil _⟩⟩
  · exact tryAllLoop_spec nodes b hne hL b.roundRobinQ.length [] .noHealthy b 0 [] rfl (List.forall_mem_nil _) (List.forall_mem_nil _)
      .nil (Nat.le_refl _) (Or.inl rfl)

example : getConnFromBalancerTryAll [⟨1, 0, true, false⟩, ⟨1, 0, true, true⟩] ⟨1, [0, 1], [0, 1], [1, 1]⟩
    = (⟨1, [0, 1], [0, 1], [1, 1]⟩, .conn 1, [1, 0]) := by decide

/-- Reference: the (index, weight) pairs of the nodes from position `k` on that
    have a positive weight and satisfy `p`. -/
def pick (p : Node → Bool) : Int → List Node → List (Int × Int)
  | _, [] => []
  | k, nd :: rest =>
    if 0 < nd.weight ∧ p nd = true then (k, nd.weight) :: pick p (k + 1) rest else pick p (k + 1) rest

def iwl (l : List (Int × Int)) : IndexWeightList := ⟨l.map Prod.fst, l.map Prod.snd⟩

theorem getIndicesAndWeightsFrom_eq (proxy : Nat) (nodes : List Node) : ∀ k,
    getIndicesAndWeightsFrom proxy k nodes =
      (iwl (pick (fun nd => decide (nd.dc = proxy)) k nodes),
       iwl (pick (fun nd => !decide (nd.dc = proxy)) k nodes),
       iwl (pick (fun _ => true) k nodes)) := by
  induction nodes with
  | nil => exact fun k => rfl
  | cons nd rest ih =>
    intro k
    simp only [getIndicesAndWeightsFrom, ih (k + 1), pick]
    by_cases hw : nd.weight ≤ 0
    · simp [hw, Int.not_lt.mpr hw]
    · by_cases hd : nd.dc = proxy <;> simp [hw, Int.not_le.mp hw, hd, iwl]

theorem GetNode_some {nodes : List Node} {i : Int} {nd : Node} :
    GetNode nodes i = some nd ↔ 0 ≤ i ∧ nodes[i.toNat]? = some nd := by
  unfold GetNode
  constructor
  · intro h
    split at h
    · cases h
    · exact ⟨by omega, h⟩
  · intro ⟨h0, h⟩
    have := (List.getElem?_eq_some_iff.mp h).1
    rw [if_neg (by omega), h]

theorem GetNode_mem (nodes : List Node) (i : Int) (nd : Node) (h : GetNode nodes i = some nd) : nd ∈ nodes :=
  List.mem_of_getElem? (GetNode_some.mp h).2

/-- `n`, the number the list starts at, is there for the induction. -/
theorem pick_eq (p : Node → Bool) (k : Int) (nodes : List Node) : ∀ n : Nat,
    pick p (k + n) nodes =
      ((nodes.zipIdx n).filter fun x => decide (0 < x.1.weight ∧ p x.1 = true)).map fun x => (k + (x.2 : Int), x.1.weight) := by
  induction nodes with
  | nil => exact fun n => rfl
  | cons nd rest ih =>
    intro n
    rw [pick, List.zipIdx_cons, List.filter_cons, Int.add_assoc, ← Int.natCast_succ, ih (n + 1)]
    by_cases hc : 0 < nd.weight ∧ p nd = true
    · rw [if_pos hc, if_pos (decide_eq_true hc), List.map_cons]
    · rw [if_neg hc, if_neg (by simpa using hc)]

theorem pick_eq_zipIdx (p : Node → Bool) (k : Int) (nodes : List Node) :
    pick p k nodes =
      (nodes.zipIdx.filter fun x => decide (0 < x.1.weight ∧ p x.1 = true)).map fun x => (k + (x.2 : Int), x.1.weight) := by
  have h := pick_eq p k nodes 0
  rwa [Int.natCast_zero, Int.add_zero] at h

theorem pick_nodup (p : Node → Bool) (nodes : List Node) (k : Int) : ((pick p k nodes).map Prod.fst).Nodup := by
  rw [pick_eq_zipIdx, List.map_map,
    show (Prod.fst ∘ fun x : Node × Nat => (k + (x.2 : Int), x.1.weight)) = (fun j : Nat => k + (j : Int)) ∘ Prod.snd from rfl,
    ← List.map_map]
  -- the indices are an injective image of a sublist of `range' 0 nodes.length`
  refine List.Pairwise.map (R := (· ≠ ·)) _ (fun a b hab e => hab (by omega))
    (List.Pairwise.sublist (List.filter_sublist.map _) ?_)
  rw [List.zipIdx_map_snd]
  exact List.nodup_range' 1

theorem mem_pick_zero (p : Node → Bool) (nodes : List Node) (i w : Int) : (i, w) ∈ pick p 0 nodes ↔
    ∃ nd, GetNode nodes i = some nd ∧ nd.weight = w ∧ 0 < w ∧ p nd = true := by
  simp only [pick_eq_zipIdx, List.mem_map, List.mem_filter, List.mem_zipIdx_iff_getElem?, decide_eq_true_eq, Prod.exists,
    Prod.mk.injEq, GetNode_some]
  constructor
  · rintro ⟨nd, j, ⟨hj, hw, hp⟩, rfl, rfl⟩
    exact ⟨nd, ⟨by omega, by simpa using hj⟩, rfl, hw, hp⟩
  · rintro ⟨nd, ⟨h0, hj⟩, rfl, hw, hp⟩
    exact ⟨nd, i.toNat, ⟨hj, hw, hp⟩, by omega, rfl⟩

/-- The queue of the balancer `ob` (none: an empty queue) holds exactly the nodes of class `cls` that
    have a positive weight. -/
def Exact (nodes : List Node) (cls : Node → Prop) (ob : Option Balancer) : Prop :=
  (∀ b, ob = some b → ∀ v ∈ b.roundRobinQ, ∃ nd, GetNode nodes v = some nd ∧ 0 < nd.weight ∧ cls nd) ∧
  (∀ i nd, GetNode nodes i = some nd → 0 < nd.weight → cls nd → ∃ b, ob = some b ∧ i ∈ b.roundRobinQ)

theorem Exact.congr {nodes : List Node} {cls cls' : Node → Prop} {ob : Option Balancer} (h : ∀ nd, cls nd ↔ cls' nd)
    (hex : Exact nodes cls ob) : Exact nodes cls' ob :=
  ⟨fun b hb v hv => (hex.1 b hb v hv).imp fun nd hnd => ⟨hnd.1, hnd.2.1, (h nd).mp hnd.2.2⟩,
   fun i nd h1 h2 h3 => hex.2 i nd h1 h2 ((h nd).mpr h3)⟩

/-- What `InitBalancers` establishes and every later step keeps: each
    balancer's queue holds exactly the nodes of its class with a positive
    weight, and (from the assumption on the weight sums) fits the cursor. -/
structure WF (proxy : Nat) (d : DBInfo) : Prop where
  loc : ∀ b, d.localB = some b → ∀ v ∈ b.roundRobinQ, ∃ nd, GetNode d.nodes v = some nd ∧ 0 < nd.weight ∧ nd.dc = proxy
  rem : ∀ b, d.remoteB = some b → ∀ v ∈ b.roundRobinQ, ∃ nd, GetNode d.nodes v = some nd ∧ 0 < nd.weight ∧ nd.dc ≠ proxy
  glo : ∀ b, d.globalB = some b → ∀ v ∈ b.roundRobinQ, ∃ nd, GetNode d.nodes v = some nd ∧ 0 < nd.weight
  locAll : ∀ i nd, GetNode d.nodes i = some nd → 0 < nd.weight → nd.dc = proxy →
    ∃ b, d.localB = some b ∧ i ∈ b.roundRobinQ
  remAll : ∀ i nd, GetNode d.nodes i = some nd → 0 < nd.weight → nd.dc ≠ proxy →
    ∃ b, d.remoteB = some b ∧ i ∈ b.roundRobinQ
  gloAll : ∀ i nd, GetNode d.nodes i = some nd → 0 < nd.weight →
    ∃ b, d.globalB = some b ∧ i ∈ b.roundRobinQ

theorem wf_iff (proxy : Nat) (d : DBInfo) : WF proxy d ↔
    Exact d.nodes (fun nd => nd.dc = proxy) d.localB ∧ Exact d.nodes (fun nd => nd.dc ≠ proxy) d.remoteB ∧
      Exact d.nodes (fun _ => True) d.globalB :=
  ⟨fun h => ⟨⟨h.loc, h.locAll⟩, ⟨h.rem, h.remAll⟩,
      fun b hb v hv => (h.glo b hb v hv).imp fun _ h => ⟨h.1, h.2, trivial⟩, fun i nd h1 h2 _ => h.gloAll i nd h1 h2⟩,
   fun ⟨hl, hr, hg⟩ => ⟨hl.1, hr.1, fun b hb v hv => (hg.1 b hb v hv).imp fun _ h => ⟨h.1, h.2.1⟩, hl.2, hr.2,
      fun i nd h1 h2 => hg.2 i nd h1 h2 trivial⟩⟩

/-- Assumption on the configuration: no queue is longer than the range of the
    32-bit cursor (the normalized weights sum to at most 2^32). -/
def Fits (d : DBInfo) : Prop :=
  ∀ b, (d.localB = some b ∨ d.remoteB = some b ∨ d.globalB = some b) → b.roundRobinQ.length ≤ 4294967296

/-- One balancer as `InitBalancers` builds it for the class `p` of nodes. -/
theorem mkBalancer_spec (p : Node → Bool) (nodes : List Node) (sh : List Int → List Int) (hsh : Permutes sh) :
    ∃ ob, (if (iwl (pick p 0 nodes)).indices.length > 0
            then newBalancer (iwl (pick p 0 nodes)).indices (iwl (pick p 0 nodes)).weights sh
            else R.ok (none : Option Balancer)) = .ok ob ∧
      Exact nodes (fun nd => p nd = true) ob ∧
      ∀ b, ob = some b → b.nextIndex = 0 ∧ ∀ i w, (i, w) ∈ pick p 0 nodes →
        b.roundRobinQ.count i = (Int.tdiv w (gcd ((pick p 0 nodes).map Prod.snd))).toNat := by
  by_cases hemp : pick p 0 nodes = []
  · refine ⟨none, by rw [hemp]; rfl, ⟨nofun, fun i nd hg hw hp => ?_⟩, nofun⟩
    have := (mem_pick_zero p nodes i nd.weight).mpr ⟨nd, hg, rfl, hw, hp⟩
    rw [hemp] at this; cases this
  · have hlen : (iwl (pick p 0 nodes)).indices.length > 0 := by
      rw [iwl, List.length_map]; exact List.length_pos_iff.mpr hemp
    obtain ⟨b, hb, hc0, hcnt, hmem⟩ := newBalancer_counts (iwl (pick p 0 nodes)).indices (iwl (pick p 0 nodes)).weights
      sh hsh (by rw [iwl, List.length_map, List.length_map]) (fun h => hemp (List.map_eq_nil_iff.mp h))
      (fun w hw => by
        obtain ⟨⟨i', w'⟩, hm, rfl⟩ := List.mem_map.mp hw
        obtain ⟨nd, -, -, h3, -⟩ := (mem_pick_zero p nodes i' w').mp hm
        exact h3)
      (pick_nodup p nodes 0)
    rw [show (iwl (pick p 0 nodes)).indices.zip (iwl (pick p 0 nodes)).weights = pick p 0 nodes from (List.zip_of_prod rfl rfl).symm] at hcnt
    rw [if_pos hlen]
    refine ⟨some b, hb, ⟨fun b' hb' v hv => ?_, fun i nd hg hw hp => ⟨b, rfl, ?_⟩⟩,
      fun b' hb' => Option.some.inj hb' ▸ ⟨hc0, fun i w hiw => (hcnt i w hiw).1⟩⟩
    · obtain ⟨⟨i', w'⟩, hm, rfl⟩ := List.mem_map.mp (hmem v (Option.some.inj hb' ▸ hv))
      obtain ⟨nd, h1, h2, h3, h4⟩ := (mem_pick_zero p nodes i' w').mp hm
      exact ⟨nd, h1, h2 ▸ h3, h4⟩
    · have := hcnt i nd.weight ((mem_pick_zero p nodes i nd.weight).mpr ⟨nd, hg, rfl, hw, hp⟩)
      exact List.count_pos_iff.mp (by omega)

/-- **C25 (`InitBalancers`).** For a non-empty replica list and any permuting
    shuffles, `InitBalancers` succeeds, establishes `WF`, starts every cursor
    at 0, and in the global / local / remote queue every node of that class
    with a positive weight `w` occurs exactly `w / gcd` times, `gcd` being the
    greatest common divisor (`gcd_spec`) of the positive weights of the class;
    nodes with weight ≤ 0 occur in no queue. -/
theorem initBalancers_wf (nodes : List Node) (proxy : Nat) (shG shL shR : List Int → List Int)
    (hG : Permutes shG) (hLo : Permutes shL) (hR : Permutes shR) (hne : nodes ≠ []) :
    ∃ d, InitBalancers ⟨nodes, none, none, none⟩ proxy shG shL shR = .ok d ∧ d.nodes = nodes ∧ WF proxy d ∧
      (∀ b, d.globalB = some b → b.nextIndex = 0 ∧ ∀ i w, (i, w) ∈ pick (fun _ => true) 0 nodes →
        b.roundRobinQ.count i = (Int.tdiv w (gcd ((pick (fun _ => true) 0 nodes).map Prod.snd))).toNat) ∧
      (∀ b, d.localB = some b → b.nextIndex = 0 ∧ ∀ i w, (i, w) ∈ pick (fun nd => decide (nd.dc = proxy)) 0 nodes →
        b.roundRobinQ.count i =
          (Int.tdiv w (gcd ((pick (fun nd => decide (nd.dc = proxy)) 0 nodes).map Prod.snd))).toNat) ∧
      (∀ b, d.remoteB = some b → b.nextIndex = 0 ∧ ∀ i w, (i, w) ∈ pick (fun nd => !decide (nd.dc = proxy)) 0 nodes →
        b.roundRobinQ.count i =
          (Int.tdiv w (gcd ((pick (fun nd => !decide (nd.dc = proxy)) 0 nodes).map Prod.snd))).toNat) := by
  obtain ⟨og, eg, hg1, hg2⟩ := mkBalancer_spec (fun _ => true) nodes shG hG
  obtain ⟨ol, el, hl1, hl2⟩ := mkBalancer_spec (fun nd => decide (nd.dc = proxy)) nodes shL hLo
  obtain ⟨or, er, hr1, hr2⟩ := mkBalancer_spec (fun nd => !decide (nd.dc = proxy)) nodes shR hR
  refine ⟨⟨nodes, ol, or, og⟩, ?_, rfl, (wf_iff proxy _).mpr ⟨?_, ?_, ?_⟩, hg2, hl2, hr2⟩
  · have hlen : ¬ nodes.length = 0 := fun e => hne (List.length_eq_zero_iff.mp e)
    unfold InitBalancers
    simp only [hlen, if_false, getIndicesAndWeights, getIndicesAndWeightsFrom_eq]
    rw [eg, el, er]
  · exact hl1.congr fun _ => decide_eq_true_iff
  · exact hr1.congr fun _ => by rw [Bool.not_eq_true', decide_eq_false_iff_not]
  · exact hg1.congr fun _ => iff_true_intro rfl

/-- Non-vacuity of `WF`/`Fits`: three replicas in two datacenters, one of weight 0. -/
example : ∃ d, InitBalancers ⟨[⟨2, 0, true, true⟩, ⟨0, 0, true, true⟩, ⟨4, 1, false, true⟩], none, none, none⟩ 0
      (fun l => l) (fun l => l) (fun l => l) = .ok d ∧ WF 0 d ∧ Fits d ∧
      d.globalB = some ⟨0, [0, 2, 2], [0, 2], [2, 4]⟩ := by
  obtain ⟨d, h1, _, h3, _⟩ := initBalancers_wf [⟨2, 0, true, true⟩, ⟨0, 0, true, true⟩, ⟨4, 1, false, true⟩] 0
    (fun l => l) (fun l => l) (fun l => l) (fun l => List.Perm.refl l) (fun l => List.Perm.refl l)
    (fun l => List.Perm.refl l) (by simp)
  have hc : InitBalancers ⟨[⟨2, 0, true, true⟩, ⟨0, 0, true, true⟩, ⟨4, 1, false, true⟩], none, none, none⟩ 0
      (fun l => l) (fun l => l) (fun l => l) =
      .ok ⟨[⟨2, 0, true, true⟩, ⟨0, 0, true, true⟩, ⟨4, 1, false, true⟩],
           some ⟨0, [0], [0], [2]⟩, some ⟨0, [2], [2], [4]⟩, some ⟨0, [0, 2, 2], [0, 2], [2, 4]⟩⟩ := by decide +kernel
  rw [hc] at h1
  simp only [R.ok.injEq] at h1
  subst h1
  refine ⟨_, hc, h3, ?_, rfl⟩
  intro b hb
  rcases hb with h | h | h <;> (simp only [Option.some.injEq] at h; subst h; decide)

/-- every node of positive weight (in the proxy's datacenter if `localOnly`) is down -/
def AllDown (proxy : Nat) (nodes : List Node) (localOnly : Bool) : Prop :=
  ∀ j nd, GetNode nodes j = some nd → 0 < nd.weight → (localOnly = true → nd.dc = proxy) → nd.up = false

/-- no node of positive weight (in the proxy's datacenter if `localOnly`) can
    serve: each one is down or its pool fails -/
def NoneServes (proxy : Nat) (nodes : List Node) (localOnly : Bool) : Prop :=
  ∀ j nd, GetNode nodes j = some nd → 0 < nd.weight → (localOnly = true → nd.dc = proxy) →
    nd.up = false ∨ nd.poolOk = false

/-- What the property demands of one selection made in state `d` under `policy`. -/
def Sound (proxy : Nat) (d : DBInfo) (policy : Int) : Sel → Prop
  | .conn i => ∃ nd, GetNode d.nodes i = some nd ∧ 0 < nd.weight ∧ nd.up = true ∧ nd.poolOk = true ∧
      (policy = LocalSlaveReadForce → nd.dc = proxy) ∧
      (policy = LocalSlaveReadPrefer → nd.dc ≠ proxy → NoneServes proxy d.nodes true)
  | .pool i => ∃ nd, GetNode d.nodes i = some nd ∧ 0 < nd.weight ∧ nd.up = true ∧ nd.poolOk = false ∧
      (policy = LocalSlaveReadForce → nd.dc = proxy) ∧ policy ≠ LocalSlaveReadPrefer
  | .noSlave => ∀ nd ∈ d.nodes, nd.up = false
  | .noLocalBalancer => policy = LocalSlaveReadForce ∧ AllDown proxy d.nodes true
  | .noGlobalBalancer => policy ≠ LocalSlaveReadForce ∧ policy ≠ LocalSlaveReadPrefer ∧ AllDown proxy d.nodes false
  | .noHealthy => policy ≠ LocalSlaveReadPrefer ∧ AllDown proxy d.nodes (decide (policy = LocalSlaveReadForce))
  | .noLocalOrRemote => policy = LocalSlaveReadPrefer ∧ NoneServes proxy d.nodes false
  | .nextErr => False
  | .panic => False

def SameQueues (d d' : DBInfo) : Prop :=
  d'.nodes = d.nodes ∧
  d'.localB.map (·.roundRobinQ) = d.localB.map (·.roundRobinQ) ∧
  d'.remoteB.map (·.roundRobinQ) = d.remoteB.map (·.roundRobinQ) ∧
  d'.globalB.map (·.roundRobinQ) = d.globalB.map (·.roundRobinQ)

theorem sameQueues_refl (d : DBInfo) : SameQueues d d := ⟨rfl, rfl, rfl, rfl⟩

theorem map_q_some {ob ob' : Option Balancer} (h : ob'.map (·.roundRobinQ) = ob.map (·.roundRobinQ))
    (b' : Balancer) (hb : ob' = some b') : ∃ b, ob = some b ∧ b.roundRobinQ = b'.roundRobinQ := by
  subst hb
  cases ob with
  | none => cases h
  | some b => exact ⟨b, rfl, (Option.some.inj h).symm⟩

theorem Exact.of_sameQueue {nodes : List Node} {cls : Node → Prop} {ob ob' : Option Balancer}
    (h : ob'.map (·.roundRobinQ) = ob.map (·.roundRobinQ)) (hex : Exact nodes cls ob) : Exact nodes cls ob' := by
  refine ⟨fun b' hb' v hv => ?_, fun i nd h1 h2 h3 => ?_⟩
  · obtain ⟨b, hb, hq⟩ := map_q_some h b' hb'
    exact hex.1 b hb v (hq ▸ hv)
  · obtain ⟨b, hb, hi⟩ := hex.2 i nd h1 h2 h3
    obtain ⟨b', hb', hq⟩ := map_q_some h.symm b hb
    exact ⟨b', hb', hq ▸ hi⟩

theorem wf_of_sameQueues (proxy : Nat) (d d' : DBInfo) (h : SameQueues d d') (hwf : WF proxy d) : WF proxy d' := by
  obtain ⟨hl, hr, hg⟩ := (wf_iff proxy d).mp hwf
  rw [wf_iff, h.1]
  exact ⟨hl.of_sameQueue h.2.1, hr.of_sameQueue h.2.2.1, hg.of_sameQueue h.2.2.2⟩

theorem fits_of_sameQueues (d d' : DBInfo) (h : SameQueues d d') (hf : Fits d) : Fits d' := by
  intro b' hb'
  rcases hb' with hb' | hb' | hb'
  · obtain ⟨b, hb, hq⟩ := map_q_some h.2.1 b' hb'
    exact hq ▸ hf b (Or.inl hb)
  · obtain ⟨b, hb, hq⟩ := map_q_some h.2.2.1 b' hb'
    exact hq ▸ hf b (Or.inr (Or.inl hb))
  · obtain ⟨b, hb, hq⟩ := map_q_some h.2.2.2 b' hb'
    exact hq ▸ hf b (Or.inr (Or.inr hb))

theorem prefer_ne_force : LocalSlaveReadPrefer ≠ LocalSlaveReadForce := by decide

theorem beq_pool_panic (i : Int) : (Sel.pool i == Sel.panic) = false := rfl
theorem beq_noHealthy_panic : (Sel.noHealthy == Sel.panic) = false := rfl
theorem beq_noLocalBalancer_panic : (Sel.noLocalBalancer == Sel.panic) = false := rfl

def AttemptOut (nodes : List Node) (cls : Node → Prop) (nilOut o : Sel) : Prop :=
  (∃ i nd, o = .conn i ∧ GetNode nodes i = some nd ∧ 0 < nd.weight ∧ cls nd ∧ nd.up = true ∧ nd.poolOk = true) ∨
  (∃ i nd, o = .pool i ∧ GetNode nodes i = some nd ∧ 0 < nd.weight ∧ cls nd ∧ nd.up = true ∧ nd.poolOk = false) ∨
  ((o = .noHealthy ∨ o = nilOut) ∧ ∀ j nd, GetNode nodes j = some nd → 0 < nd.weight → cls nd → nd.up = false)

/-- One guarded attempt on the balancer `ob` of the class `cls`, `upd` storing the advanced balancer
    back into `d`. -/
theorem attempt_field (d : DBInfo) (cls : Node → Prop) (ob : Option Balancer) (nilOut : Sel) (upd : Balancer → DBInfo)
    (hex : Exact d.nodes cls ob) (hfit : ∀ b, ob = some b → b.roundRobinQ.length ≤ 4294967296)
    (hupd : ∀ b b' : Balancer, ob = some b → b'.roundRobinQ = b.roundRobinQ → SameQueues d (upd b')) :
    ∃ d1 o, (match ob with
        | none => (d, nilOut)
        | some b => (upd (getConnFromBalancer d.nodes b).1, (getConnFromBalancer d.nodes b).2)) = (d1, o) ∧
      SameQueues d d1 ∧ AttemptOut d.nodes cls nilOut o := by
  cases ob with
  | none =>
    exact ⟨d, nilOut, rfl, sameQueues_refl d, Or.inr (Or.inr ⟨Or.inr rfl, fun j nd h1 h2 h3 =>
      let ⟨_, hb, _⟩ := hex.2 j nd h1 h2 h3; nomatch hb⟩)⟩
  | some b =>
    obtain ⟨b', o, e, hq, hc⟩ := getConnFromBalancer_cases d.nodes b (hfit b rfl)
    refine ⟨upd b', o, by simp only [e], hupd b b' rfl hq, ?_⟩
    rcases hc with ⟨i, rfl, hi, hu, hp⟩ | ⟨i, rfl, hi, hu, hp⟩ | ⟨rfl, hdown⟩
    · obtain ⟨nd, h1, h2, h3⟩ := hex.1 b rfl i hi
      exact Or.inl ⟨i, nd, rfl, h1, h2, h3, upAt_eq d.nodes i nd h1 ▸ hu, poolAt_eq d.nodes i nd h1 ▸ hp⟩
    · obtain ⟨nd, h1, h2, h3⟩ := hex.1 b rfl i hi
      exact Or.inr (Or.inl ⟨i, nd, rfl, h1, h2, h3, upAt_eq d.nodes i nd h1 ▸ hu, poolAt_eq d.nodes i nd h1 ▸ hp⟩)
    · refine Or.inr (Or.inr ⟨Or.inl rfl, fun j nd h1 h2 h3 => ?_⟩)
      obtain ⟨b2, hb2, hj⟩ := hex.2 j nd h1 h2 h3
      cases hb2
      exact upAt_eq d.nodes j nd h1 ▸ hdown j hj

theorem attemptLocal_spec (proxy : Nat) (d : DBInfo) (hwf : WF proxy d) (hfit : Fits d) :
    ∃ d1 o, attemptLocal d = (d1, o) ∧ SameQueues d d1 ∧
      AttemptOut d.nodes (fun nd => nd.dc = proxy) .noLocalBalancer o :=
  attempt_field d _ d.localB _ (fun b => { d with localB := some b }) ((wf_iff proxy d).mp hwf).1
    (fun b hb => hfit b (Or.inl hb)) fun b b' hs hq => ⟨rfl, by rw [hs]; exact congrArg some hq, rfl, rfl⟩

theorem attemptRemote_spec (proxy : Nat) (d : DBInfo) (hwf : WF proxy d) (hfit : Fits d) :
    ∃ d1 o, attemptRemote d = (d1, o) ∧ SameQueues d d1 ∧
      AttemptOut d.nodes (fun nd => nd.dc ≠ proxy) .noLocalBalancer o :=
  attempt_field d _ d.remoteB _ (fun b => { d with remoteB := some b }) ((wf_iff proxy d).mp hwf).2.1
    (fun b hb => hfit b (Or.inr (Or.inl hb))) fun b b' hs hq => ⟨rfl, rfl, by rw [hs]; exact congrArg some hq, rfl⟩

theorem attemptGlobal_spec (proxy : Nat) (d : DBInfo) (hwf : WF proxy d) (hfit : Fits d) :
    ∃ d1 o, attemptGlobal d = (d1, o) ∧ SameQueues d d1 ∧
      AttemptOut d.nodes (fun _ => True) .noGlobalBalancer o :=
  attempt_field d _ d.globalB _ (fun b => { d with globalB := some b }) ((wf_iff proxy d).mp hwf).2.2
    (fun b hb => hfit b (Or.inr (Or.inr hb))) fun b b' hs hq => ⟨rfl, rfl, rfl, by rw [hs]; exact congrArg some hq⟩

def AttemptAllOut (nodes : List Node) (cls : Node → Prop) (o : Sel) : Prop :=
  (∃ i nd, o = .conn i ∧ GetNode nodes i = some nd ∧ 0 < nd.weight ∧ cls nd ∧ nd.up = true ∧ nd.poolOk = true) ∨
  ((o = .noHealthy ∨ o = .noLocalBalancer ∨ ∃ i, o = .pool i) ∧
    ∀ j nd, GetNode nodes j = some nd → 0 < nd.weight → cls nd → nd.up = false ∨ nd.poolOk = false)

/-- The same for the retrying attempt; `tr`: the pools asked. -/
theorem attemptAll_field (d : DBInfo) (cls : Node → Prop) (ob : Option Balancer) (upd : Balancer → DBInfo)
    (hex : Exact d.nodes cls ob) (hfit : ∀ b, ob = some b → b.roundRobinQ.length ≤ 4294967296)
    (hupd : ∀ b b' : Balancer, ob = some b → b'.roundRobinQ = b.roundRobinQ → SameQueues d (upd b')) :
    ∃ d1 o tr, (match ob with
        | none => (d, Sel.noLocalBalancer, [])
        | some b => (upd (getConnFromBalancerTryAll d.nodes b).1, (getConnFromBalancerTryAll d.nodes b).2.1,
            (getConnFromBalancerTryAll d.nodes b).2.2)) = (d1, o, tr) ∧
      SameQueues d d1 ∧ (tr.Nodup ∧ ∀ v ∈ tr, ∃ nd, GetNode d.nodes v = some nd ∧ 0 < nd.weight ∧ cls nd) ∧
      AttemptAllOut d.nodes cls o := by
  cases ob with
  | none =>
    exact ⟨d, _, [], rfl, sameQueues_refl d, ⟨.nil, List.forall_mem_nil _⟩, Or.inr ⟨Or.inr (Or.inl rfl),
      fun j nd h1 h2 h3 => let ⟨_, hb, _⟩ := hex.2 j nd h1 h2 h3; nomatch hb⟩⟩
  | some b =>
    obtain ⟨b', o, tr, e, hq, hnd, htr, hc⟩ := getConnFromBalancerTryAll_spec d.nodes b (hfit b rfl)
    refine ⟨upd b', o, tr, by simp only [e], hupd b b' rfl hq, ⟨hnd, fun v hv => hex.1 b rfl v (htr v hv)⟩, ?_⟩
    rcases hc with ⟨i, rfl, hi, hu, hp⟩ | ⟨ho, hnone⟩
    · obtain ⟨nd, h1, h2, h3⟩ := hex.1 b rfl i hi
      exact Or.inl ⟨i, nd, rfl, h1, h2, h3, upAt_eq d.nodes i nd h1 ▸ hu, poolAt_eq d.nodes i nd h1 ▸ hp⟩
    · refine Or.inr ⟨ho.imp_right Or.inr, fun j nd h1 h2 h3 => ?_⟩
      obtain ⟨b2, hb2, hj⟩ := hex.2 j nd h1 h2 h3
      cases hb2
      exact upAt_eq d.nodes j nd h1 ▸ poolAt_eq d.nodes j nd h1 ▸ hnone j hj

theorem attemptLocalAll_spec (proxy : Nat) (d : DBInfo) (hwf : WF proxy d) (hfit : Fits d) :
    ∃ d1 o tr, attemptLocalAll d = (d1, o, tr) ∧ SameQueues d d1 ∧
      (tr.Nodup ∧ ∀ v ∈ tr, ∃ nd, GetNode d.nodes v = some nd ∧ 0 < nd.weight ∧ nd.dc = proxy) ∧
      AttemptAllOut d.nodes (fun nd => nd.dc = proxy) o :=
  attemptAll_field d _ d.localB (fun b => { d with localB := some b }) ((wf_iff proxy d).mp hwf).1
    (fun b hb => hfit b (Or.inl hb)) fun b b' hs hq => ⟨rfl, by rw [hs]; exact congrArg some hq, rfl, rfl⟩

theorem attemptRemoteAll_spec (proxy : Nat) (d : DBInfo) (hwf : WF proxy d) (hfit : Fits d) :
    ∃ d1 o tr, attemptRemoteAll d = (d1, o, tr) ∧ SameQueues d d1 ∧
      (tr.Nodup ∧ ∀ v ∈ tr, ∃ nd, GetNode d.nodes v = some nd ∧ 0 < nd.weight ∧ nd.dc ≠ proxy) ∧
      AttemptAllOut d.nodes (fun nd => nd.dc ≠ proxy) o :=
  attemptAll_field d _ d.remoteB (fun b => { d with remoteB := some b }) ((wf_iff proxy d).mp hwf).2.1
    (fun b hb => hfit b (Or.inr (Or.inl hb))) fun b b' hs hq => ⟨rfl, rfl, by rw [hs]; exact congrArg some hq, rfl⟩

theorem attemptAll_failed (o : Sel) (h : o = .noHealthy ∨ o = .noLocalBalancer ∨ ∃ i, o = .pool i) :
    (o.isConn || o == .panic) = false := by
  rcases h with rfl | rfl | ⟨i, rfl⟩ <;> rfl

/-- **C25 (one selection).** In a well-formed `DBInfo` every call of
    `GetSlaveConn`, under every policy value, leaves nodes and queues alone and
    has an outcome that is `Sound`: a connection comes from a node that has a
    positive weight, is up and whose pool answered; under the forced-local
    policy it is in the proxy's datacenter; under preferred-local a remote node
    is returned only if no local node of positive weight can serve (each is
    down or its pool fails), and the selection fails only if no node at all can
    serve; "no replica" errors of the other policies occur only when every
    candidate node is down; nothing panics. -/
theorem GetSlaveConn_spec (proxy : Nat) (d : DBInfo) (hwf : WF proxy d) (hfit : Fits d) (policy : Int) :
    ∃ d' o, GetSlaveConn d policy = (d', o) ∧ SameQueues d d' ∧ Sound proxy d policy o := by
  unfold GetSlaveConn
  by_cases h0 : d.nodes.length = 0 ∨ allSlaveIsOffline d.nodes = true
  · rw [if_pos h0]
    refine ⟨d, .noSlave, rfl, sameQueues_refl d, fun nd hnd => ?_⟩
    rcases h0 with h0 | h0
    · rw [List.length_eq_zero_iff.mp h0] at hnd; cases hnd
    · exact (Bool.not_eq_true' nd.up).mp (List.all_eq_true.mp h0 nd hnd)
  rw [if_neg h0]
  by_cases hF : policy = LocalSlaveReadForce
  · rw [if_pos hF]
    obtain ⟨d1, o, e, hs, hc⟩ := attemptLocal_spec proxy d hwf hfit
    refine ⟨d1, o, e, hs, ?_⟩
    rcases hc with ⟨i, nd, rfl, h1, h2, h3, h4, h5⟩ | ⟨i, nd, rfl, h1, h2, h3, h4, h5⟩ | ⟨rfl | rfl, hdown⟩
    · exact ⟨nd, h1, h2, h4, h5, fun _ => h3, fun hp => absurd (hp.symm.trans hF) prefer_ne_force⟩
    · exact ⟨nd, h1, h2, h4, h5, fun _ => h3, fun hp => prefer_ne_force (hp.symm.trans hF)⟩
    · exact ⟨fun hp => prefer_ne_force (hp.symm.trans hF), fun j nd h1 h2 h3 => hdown j nd h1 h2 (h3 (decide_eq_true hF))⟩
    · exact ⟨hF, fun j nd h1 h2 h3 => hdown j nd h1 h2 (h3 rfl)⟩
  rw [if_neg hF]
  by_cases hP : policy = LocalSlaveReadPrefer
  · rw [if_pos hP]
    obtain ⟨d1, o1, t1, e1, hs1, -, hc1⟩ := attemptLocalAll_spec proxy d hwf hfit
    rw [e1]
    rcases hc1 with ⟨i, nd, rfl, h1, h2, h3, h4, h5⟩ | ⟨hfail1, hnone1⟩
    · exact ⟨d1, _, rfl, hs1, nd, h1, h2, h4, h5, fun hf => absurd hf hF, fun _ hne => absurd h3 hne⟩
    · have hlocal : NoneServes proxy d.nodes true := fun j nd h1 h2 h3 => hnone1 j nd h1 h2 (h3 rfl)
      obtain ⟨d2, o2, t2, e2, hs2, -, hc2⟩ := attemptRemoteAll_spec proxy d1 (wf_of_sameQueues proxy d d1 hs1 hwf)
        (fits_of_sameQueues d d1 hs1 hfit)
      simp only [attemptAll_failed o1 hfail1, Bool.false_eq_true, if_false, e2]
      rw [hs1.1] at hc2
      have hs12 : SameQueues d d2 :=
        ⟨hs2.1.trans hs1.1, hs2.2.1.trans hs1.2.1, hs2.2.2.1.trans hs1.2.2.1, hs2.2.2.2.trans hs1.2.2.2⟩
      rcases hc2 with ⟨i, nd, rfl, h1, h2, h3, h4, h5⟩ | ⟨hfail2, hnone2⟩
      · exact ⟨d2, _, rfl, hs12, nd, h1, h2, h4, h5, fun hf => absurd hf hF, fun _ _ => hlocal⟩
      · simp only [attemptAll_failed o2 hfail2, Bool.false_eq_true, if_false]
        refine ⟨d2, _, rfl, hs12, hP, fun j nd h1 h2 _ => ?_⟩
        by_cases hdc : nd.dc = proxy
        · exact hnone1 j nd h1 h2 hdc
        · exact hnone2 j nd h1 h2 hdc
  · -- closed, and every other value: the global balancer
    rw [if_neg hP]
    obtain ⟨d1, o, e, hs, hc⟩ := attemptGlobal_spec proxy d hwf hfit
    refine ⟨d1, o, e, hs, ?_⟩
    rcases hc with ⟨i, nd, rfl, h1, h2, -, h4, h5⟩ | ⟨i, nd, rfl, h1, h2, -, h4, h5⟩ | ⟨rfl | rfl, hdown⟩
    · exact ⟨nd, h1, h2, h4, h5, fun hf => absurd hf hF, fun hp => absurd hp hP⟩
    · exact ⟨nd, h1, h2, h4, h5, fun hf => absurd hf hF, hP⟩
    · exact ⟨hP, fun j nd h1 h2 _ => hdown j nd h1 h2 trivial⟩
    · exact ⟨hF, hP, fun j nd h1 h2 _ => hdown j nd h1 h2 trivial⟩

/-- **C25 (which pools a selection asks).** In a well-formed `DBInfo`, under
    every policy value, one `GetSlaveConn` asks the pool of no node twice, only
    pools of nodes of positive weight, and under the forced-local policy only
    pools of the proxy's datacenter. (The harness records the sequence of
    `ConnPool.Get` calls of every selection and compares it with `GetSlaveConnGets`.) -/
theorem GetSlaveConnGets_spec (proxy : Nat) (d : DBInfo) (hwf : WF proxy d) (hfit : Fits d) (policy : Int) :
    (GetSlaveConnGets d policy).Nodup ∧
      ∀ v ∈ GetSlaveConnGets d policy, ∃ nd, GetNode d.nodes v = some nd ∧ 0 < nd.weight ∧
        (policy = LocalSlaveReadForce → nd.dc = proxy) := by
  unfold GetSlaveConnGets
  by_cases h0 : d.nodes.length = 0 ∨ allSlaveIsOffline d.nodes = true
  · rw [if_pos h0]; exact ⟨.nil, List.forall_mem_nil _⟩
  rw [if_neg h0]
  by_cases hP : policy = LocalSlaveReadPrefer ∧ policy ≠ LocalSlaveReadForce
  · rw [if_pos hP]
    obtain ⟨d1, o1, t1, e1, hs1, ⟨hn1, hm1⟩, -⟩ := attemptLocalAll_spec proxy d hwf hfit
    rw [e1]
    have hloc : ∀ v ∈ t1.reverse, ∃ nd, GetNode d.nodes v = some nd ∧ 0 < nd.weight ∧
        (policy = LocalSlaveReadForce → nd.dc = proxy) := fun v hv =>
      (hm1 v (List.mem_reverse.mp hv)).imp fun nd h => ⟨h.1, h.2.1, fun _ => h.2.2⟩
    by_cases hc : (o1.isConn || o1 == .panic) = true
    · rw [if_pos hc]
      exact ⟨(List.reverse_perm t1).nodup_iff.mpr hn1, hloc⟩
    · rw [if_neg hc]
      obtain ⟨d2, o2, t2, e2, -, ⟨hn2, hm2⟩, -⟩ := attemptRemoteAll_spec proxy d1
        (wf_of_sameQueues proxy d d1 hs1 hwf) (fits_of_sameQueues d d1 hs1 hfit)
      rw [e2]
      rw [hs1.1] at hm2
      refine ⟨List.nodup_append.mpr ⟨(List.reverse_perm t1).nodup_iff.mpr hn1, (List.reverse_perm t2).nodup_iff.mpr hn2, ?_⟩, fun v hv => ?_⟩
      · -- a node asked locally and one asked remotely differ in their datacenter
        rintro a ha _ hb rfl
        obtain ⟨nd, g1, -, g3⟩ := hm1 a (List.mem_reverse.mp ha)
        obtain ⟨nd', g1', -, g3'⟩ := hm2 a (List.mem_reverse.mp hb)
        cases g1.symm.trans g1'
        exact g3' g3
      · rcases List.mem_append.mp hv with hv | hv
        · exact hloc v hv
        · exact (hm2 v (List.mem_reverse.mp hv)).imp fun nd h => ⟨h.1, h.2.1, fun hf => absurd hf hP.2⟩
  · rw [if_neg hP]
    obtain ⟨d', o, e, -, hsound⟩ := GetSlaveConn_spec proxy d hwf hfit policy
    rw [e]
    cases o with
    | conn i | pool i =>
      obtain ⟨nd, g1, g2, -, -, g5, -⟩ := hsound
      exact ⟨List.nodup_cons.mpr ⟨List.not_mem_nil, .nil⟩, fun v hv => List.mem_singleton.mp hv ▸ ⟨nd, g1, g2, g5⟩⟩
    | _ => exact ⟨.nil, fun _ h => (List.not_mem_nil h).elim⟩

theorem setNode_eq_modify (nodes : List Node) (i : Nat) (f : Node → Node) : setNode nodes i f = nodes.modify i f := by
  unfold setNode
  cases hi : nodes[i]? with
  | none => exact (List.modify_eq_self (List.getElem?_eq_none_iff.mp hi)).symm
  | some nd =>
    haveI : Inhabited Node := ⟨nd⟩
    rw [List.modify_eq_set, hi]; rfl

theorem GetNode_setNode (nodes : List Node) (i : Nat) (f : Node → Node) (j : Int) :
    GetNode (setNode nodes i f) j = (GetNode nodes j).map fun nd => if j = (i : Int) then f nd else nd := by
  rw [setNode_eq_modify]
  unfold GetNode
  rw [List.length_modify]
  split
  · rfl
  · rename_i hc
    rw [List.getElem?_modify]
    have : (i = j.toNat) = (j = (i : Int)) := propext (by omega)
    simp only [this]; rfl

theorem Exact.setNode {nodes : List Node} {cls : Node → Prop} {ob : Option Balancer} (i : Nat) (f : Node → Node)
    (hf : ∀ nd, (f nd).weight = nd.weight ∧ (cls (f nd) ↔ cls nd)) (hex : Exact nodes cls ob) :
    Exact (Balancer.setNode nodes i f) cls ob := by
  have inv : ∀ (j : Int) nd, (0 < (if j = (i : Int) then f nd else nd).weight ∧ cls (if j = (i : Int) then f nd else nd)) ↔
      (0 < nd.weight ∧ cls nd) := by
    intro j nd
    split
    · rw [(hf nd).1, (hf nd).2]
    · rfl
  refine ⟨fun b hb v hv => ?_, fun j nd' h1 h2 h3 => ?_⟩
  · obtain ⟨nd, h1, h2⟩ := hex.1 b hb v hv
    exact ⟨_, by rw [GetNode_setNode, h1]; rfl, (inv v nd).mpr h2⟩
  · rw [GetNode_setNode] at h1
    obtain ⟨nd, hg, rfl⟩ := Option.map_eq_some_iff.mp h1
    obtain ⟨h2, h3⟩ := (inv j nd).mp ⟨h2, h3⟩
    exact hex.2 j nd hg h2 h3

theorem wf_setNode (proxy : Nat) (d : DBInfo) (i : Nat) (f : Node → Node)
    (hf : ∀ nd, (f nd).weight = nd.weight ∧ (f nd).dc = nd.dc) (hwf : WF proxy d) :
    WF proxy { d with nodes := setNode d.nodes i f } := by
  obtain ⟨hl, hr, hg⟩ := (wf_iff proxy d).mp hwf
  exact (wf_iff proxy _).mpr ⟨hl.setNode i f fun nd => ⟨(hf nd).1, by rw [(hf nd).2]⟩,
    hr.setNode i f fun nd => ⟨(hf nd).1, by rw [(hf nd).2]⟩, hg.setNode i f fun nd => ⟨(hf nd).1, Iff.rfl⟩⟩

/-- **C25 (all histories).** From a well-formed state (what `InitBalancers`
    builds), along every sequence of selections under any policies interleaved
    with arbitrary status changes (health checker, breaker) and pool failures
    and recoveries, every selection is `Sound` with respect to the node states
    at the moment it was made.  In particular (see `Sound`): a node of weight
    ≤ 0 is never selected, a node marked down is never selected, forced-local
    reads never leave the proxy's datacenter, and a "no replica" error means
    every candidate was down. -/
theorem run_sound (proxy : Nat) (ops : List Op) : ∀ (d : DBInfo), WF proxy d → Fits d →
    ∀ t ∈ run d ops, Sound proxy t.1 t.2.1 t.2.2 := by
  induction ops with
  | nil => exact fun d _ _ t ht => nomatch ht
  | cons op ops ih =>
    intro d hwf hfit t ht
    cases op with
    | sel p =>
      obtain ⟨d', o, e, hs, hsound⟩ := GetSlaveConn_spec proxy d hwf hfit p
      simp only [run, step, e] at ht
      rcases List.mem_cons.mp ht with rfl | ht
      · exact hsound
      · exact ih d' (wf_of_sameQueues proxy d d' hs hwf) (fits_of_sameQueues d d' hs hfit) t ht
    | setUp i u =>
      exact ih _ (wf_setNode proxy d i (fun nd => { nd with up := u }) (fun nd => ⟨rfl, rfl⟩) hwf) hfit t ht
    | setPool i k =>
      exact ih _ (wf_setNode proxy d i (fun nd => { nd with poolOk := k }) (fun nd => ⟨rfl, rfl⟩) hwf) hfit t ht

theorem sound_prefer {proxy : Nat} {d : DBInfo} {o : Sel} (h : Sound proxy d LocalSlaveReadPrefer o) :
    (∃ i nd, o = .conn i ∧ GetNode d.nodes i = some nd ∧ nd.up = true ∧ nd.poolOk = true ∧
        (nd.dc ≠ proxy → NoneServes proxy d.nodes true)) ∨
    (o = .noSlave ∧ ∀ nd ∈ d.nodes, nd.up = false) ∨
    (o = .noLocalOrRemote ∧ NoneServes proxy d.nodes false) := by
  cases o with
  | conn i => obtain ⟨nd, h1, -, h3, h4, -, h6⟩ := h; exact Or.inl ⟨i, nd, rfl, h1, h3, h4, h6 rfl⟩
  | pool i => obtain ⟨_, -, -, -, -, -, h7⟩ := h; exact absurd rfl h7
  | noSlave => exact Or.inr (Or.inl ⟨rfl, h⟩)
  | noLocalBalancer => exact absurd h.1 prefer_ne_force
  | noGlobalBalancer => exact absurd rfl h.2.1
  | noHealthy => exact absurd rfl h.1
  | noLocalOrRemote => exact Or.inr (Or.inr ⟨rfl, h.2⟩)
  | nextErr | panic => exact h.elim

/-- What DESIGN.md (C25) calls `zero_weight_never`, `down_never_picked` and `force_local_only`, read off `Sound`. -/
theorem selected_node_ok (proxy : Nat) (d : DBInfo) (hwf : WF proxy d) (hfit : Fits d) (ops : List Op)
    (dk : DBInfo) (p : Int) (i : Int) (h : (dk, p, Sel.conn i) ∈ run d ops) :
    ∃ nd, GetNode dk.nodes i = some nd ∧ 0 < nd.weight ∧ nd.up = true ∧
      (p = LocalSlaveReadForce → nd.dc = proxy) := by
  obtain ⟨nd, h1, h2, h3, _, h5, _⟩ := run_sound proxy ops d hwf hfit _ h
  exact ⟨nd, h1, h2, h3, h5⟩

/-- **C25 (`prefer_local_first`, full strength).** Along every history, when a
    selection under the preferred-local policy hands out a node outside the
    proxy's datacenter, *no* local node could serve at that moment: every node
    of the proxy's datacenter with a positive weight is down or its pool fails.
    ("preferred-local falls back to remote replicas only when no local one can
    serve"; before the `fix:` commit 5e14b16 this held only in the partial form
    "all local nodes down or *some* local pool failing", `prefer_local_legacy_witness`.) -/
theorem prefer_local_first (proxy : Nat) (d : DBInfo) (hwf : WF proxy d) (hfit : Fits d) (ops : List Op)
    (dk : DBInfo) (i : Int) (h : (dk, LocalSlaveReadPrefer, Sel.conn i) ∈ run d ops)
    (nd : Node) (hi : GetNode dk.nodes i = some nd) (hremote : nd.dc ≠ proxy) :
    ∀ j ndj, GetNode dk.nodes j = some ndj → 0 < ndj.weight → ndj.dc = proxy →
      ndj.up = false ∨ ndj.poolOk = false := by
  obtain ⟨nd', h1, -, -, -, -, h6⟩ := run_sound proxy ops d hwf hfit _ h
  cases hi.symm.trans h1
  exact fun j ndj g1 g2 g3 => h6 rfl hremote j ndj g1 g2 fun _ => g3

/-- **C25 (preferred-local serves locally whenever it can).** The converse
    reading: if some local node of positive weight is up and its pool answers,
    a preferred-local selection hands out a connection of a *local* node (not
    an error, not a remote node). -/
theorem prefer_local_serves (proxy : Nat) (d : DBInfo) (hwf : WF proxy d) (hfit : Fits d) (ops : List Op)
    (dk : DBInfo) (o : Sel) (h : (dk, LocalSlaveReadPrefer, o) ∈ run d ops)
    (j : Int) (ndj : Node) (hj : GetNode dk.nodes j = some ndj) (hw : 0 < ndj.weight) (hdc : ndj.dc = proxy)
    (hup : ndj.up = true) (hpool : ndj.poolOk = true) :
    ∃ i nd, o = .conn i ∧ GetNode dk.nodes i = some nd ∧ nd.dc = proxy ∧ nd.up = true ∧ nd.poolOk = true := by
  have contra : ∀ lo, ¬ NoneServes proxy dk.nodes lo := by
    intro lo hn
    rcases hn j ndj hj hw (fun _ => hdc) with h' | h'
    · rw [hup] at h'; cases h'
    · rw [hpool] at h'; cases h'
  rcases sound_prefer (run_sound proxy ops d hwf hfit _ h) with ⟨i, nd, rfl, h1, h3, h4, h6⟩ | ⟨-, hdown⟩ | ⟨-, hnone⟩
  · exact ⟨i, nd, rfl, h1, Decidable.byContradiction fun hd => contra true (h6 hd), h3, h4⟩
  · have := hdown ndj (GetNode_mem dk.nodes j ndj hj)
    rw [hup] at this; cases this
  · exact absurd hnone (contra false)

/-- **C25 (preferred-local gives up only when nobody can serve).** A
    preferred-local selection that does not hand out a connection means that no
    node of positive weight, local or remote, could serve. -/
theorem prefer_gives_up_only_if_none_serves (proxy : Nat) (d : DBInfo) (hwf : WF proxy d) (hfit : Fits d)
    (ops : List Op) (dk : DBInfo) (o : Sel) (h : (dk, LocalSlaveReadPrefer, o) ∈ run d ops)
    (hno : o.isConn = false) :
    ∀ j ndj, GetNode dk.nodes j = some ndj → 0 < ndj.weight → ndj.up = false ∨ ndj.poolOk = false := by
  intro j ndj hj hw
  rcases sound_prefer (run_sound proxy ops d hwf hfit _ h) with ⟨i, -, rfl, -⟩ | ⟨-, hdown⟩ | ⟨-, hnone⟩
  · cases hno
  · exact Or.inl (hdown ndj (GetNode_mem dk.nodes j ndj hj))
  · exact hnone j ndj hj hw nofun

/-- The input of the repaired finding `prefer-remote-while-local-can-serve`:
    two local nodes, node 0's pool fails, node 1 can serve, remote node 2. -/
def preferWitness : DBInfo :=
  { nodes := [⟨1, 0, true, false⟩, ⟨1, 0, true, true⟩, ⟨1, 1, true, true⟩],
    localB := some ⟨1, [0, 1], [0, 1], [1, 1]⟩,
    remoteB := some ⟨0, [2], [2], [1]⟩,
    globalB := some ⟨0, [0, 1, 2], [0, 1, 2], [1, 1, 1]⟩ }

/-- Before the `fix:` commit the read went to the remote node 2 … -/
theorem prefer_local_legacy_witness :
    (GetSlaveConnLegacy preferWitness LocalSlaveReadPrefer).2 = .conn 2 := by decide

/-- … the repaired code asks the pool of node 0, then that of node 1, and serves locally. -/
theorem prefer_local_repaired :
    (GetSlaveConn preferWitness LocalSlaveReadPrefer).2 = .conn 1 ∧
      GetSlaveConnGets preferWitness LocalSlaveReadPrefer = [0, 1] := by decide

/-- Non-vacuity of `prefer_local_first` / `prefer_local_serves` /
    `prefer_gives_up_only_if_none_serves`: a well-formed state built by
    `InitBalancers` and a history on it with a local selection after a retry, a
    remote one once both local pools fail, and a failure once the remote pool
    fails too. -/
example : ∃ d, InitBalancers ⟨preferWitness.nodes, none, none, none⟩ 0 (fun l => l) (fun l => l) (fun l => l) = .ok d ∧
    WF 0 d ∧ Fits d ∧
    (run d [.sel 1, .sel 1, .setPool 1 false, .sel 1, .setPool 2 false, .sel 1]).map (fun t => t.2.2)
      = [.conn 1, .conn 1, .conn 2, .noLocalOrRemote] := by
  obtain ⟨d, h1, _, h3, _⟩ := initBalancers_wf preferWitness.nodes 0
    (fun l => l) (fun l => l) (fun l => l) (fun l => List.Perm.refl l) (fun l => List.Perm.refl l)
    (fun l => List.Perm.refl l) (by decide)
  have hc : InitBalancers ⟨preferWitness.nodes, none, none, none⟩ 0 (fun l => l) (fun l => l) (fun l => l) =
      .ok { preferWitness with localB := some ⟨0, [0, 1], [0, 1], [1, 1]⟩ } := by decide +kernel
  rw [hc] at h1
  simp only [R.ok.injEq] at h1
  subst h1
  refine ⟨_, hc, h3, ?_, by decide +kernel⟩
  intro b hb
  rcases hb with h | h | h <;> (simp only [preferWitness, Option.some.injEq] at h; subst h; decide)

def AllServing (nodes : List Node) : Prop := ∀ nd ∈ nodes, nd.up = true ∧ nd.poolOk = true

theorem GetSlaveConn_global_serving (proxy : Nat) (d : DBInfo) (hwf : WF proxy d) (hserv : AllServing d.nodes)
    (b : Balancer) (hb : d.globalB = some b) (hne : b.roundRobinQ ≠ []) (policy : Int)
    (hF : policy ≠ LocalSlaveReadForce) (hP : policy ≠ LocalSlaveReadPrefer) :
    ∃ b1 v, b.next = (b1, .ok v) ∧ b1.roundRobinQ = b.roundRobinQ ∧
      GetSlaveConn d policy = ({ d with globalB := some b1 }, .conn v) := by
  obtain ⟨b1, v, e, hv, hq⟩ := next_ok b hne
  obtain ⟨nd, hg, -⟩ := hwf.glo b hb v hv
  have hmem := GetNode_mem d.nodes v nd hg
  obtain ⟨hup, hpool⟩ := hserv nd hmem
  refine ⟨b1, v, e, hq, ?_⟩
  obtain ⟨n, hn⟩ := Nat.exists_eq_succ_of_ne_zero fun h => hne (List.length_eq_zero_iff.mp h)
  have h1 : getNodeFromBalancer d.nodes b = (b1, .conn v) := by
    rw [getNodeFromBalancer, hn, getNodeLoop_succ d.nodes n e, if_pos ((upAt_eq d.nodes v nd hg).trans hup)]
  have h2 : getConnFromBalancer d.nodes b = (b1, .conn v) := by
    simp only [getConnFromBalancer, h1, hg, hpool, if_true]
  have h0 : ¬ (d.nodes.length = 0 ∨ allSlaveIsOffline d.nodes = true) := by
    rintro (h | h)
    · rw [List.length_eq_zero_iff.mp h] at hmem; cases hmem
    · have := List.all_eq_true.mp h nd hmem
      rw [hup] at this; cases this
  simp only [GetSlaveConn, h0, hF, hP, if_false, attemptGlobal, hb, h2]

theorem global_run_serving (proxy : Nat) (policy : Int)
    (hF : policy ≠ LocalSlaveReadForce) (hP : policy ≠ LocalSlaveReadPrefer) (k : Nat) :
    ∀ (d : DBInfo) (b : Balancer), WF proxy d → AllServing d.nodes → d.globalB = some b → b.roundRobinQ ≠ [] →
      ∃ b' ps, nextN k b = .ok (b', ps) ∧
        (run d (List.replicate k (.sel policy))).map (fun t => t.2.2) = ps.map Sel.conn := by
  induction k with
  | zero => intro d b _ _ _ _; exact ⟨b, [], rfl, rfl⟩
  | succ k ih =>
    intro d b hwf hserv hb hne
    obtain ⟨b1, v, e, hq, hsel⟩ := GetSlaveConn_global_serving proxy d hwf hserv b hb hne policy hF hP
    have hs : SameQueues d { d with globalB := some b1 } :=
      ⟨rfl, rfl, rfl, by simp [hb, hq]⟩
    obtain ⟨b', ps, e2, hrun⟩ := ih { d with globalB := some b1 } b1
      (wf_of_sameQueues proxy d _ hs hwf) hserv rfl (by rw [hq]; exact hne)
    refine ⟨b', v :: ps, by simp only [nextN, e, e2], ?_⟩
    simp only [List.replicate_succ, run, step, hsel, List.map_cons, hrun]

/-- `closed_selection_follows_weights` for every non-empty global queue, a single replica included. -/
theorem closed_selection_follows_weights_of_ne_nil (nodes : List Node) (proxy : Nat) (shG shL shR : List Int → List Int)
    (hG : Permutes shG) (hLo : Permutes shL) (hR : Permutes shR) (hne : nodes ≠ []) (hserv : AllServing nodes)
    (policy : Int) (hF : policy ≠ LocalSlaveReadForce) (hP : policy ≠ LocalSlaveReadPrefer)
    (d : DBInfo) (hd : InitBalancers ⟨nodes, none, none, none⟩ proxy shG shL shR = .ok d)
    (b : Balancer) (hb : d.globalB = some b) (hqne : b.roundRobinQ ≠ [])
    (hfit : b.roundRobinQ.length ≤ 4294967296) (n : Nat) :
    ∃ ps : List Int,
      (run d (List.replicate (n + b.roundRobinQ.length) (.sel policy))).map (fun t => t.2.2) = ps.map Sel.conn ∧
      (∀ i w, (i, w) ∈ pick (fun _ => true) 0 nodes →
        ((ps.drop n).take b.roundRobinQ.length).count i =
          (Int.tdiv w (gcd ((pick (fun _ => true) 0 nodes).map Prod.snd))).toNat) ∧
      (∀ v ∈ (ps.drop n).take b.roundRobinQ.length, ∃ nd, GetNode nodes v = some nd ∧ 0 < nd.weight) := by
  obtain ⟨d0, hd0, hn0, hwf, hcg, _, _⟩ := initBalancers_wf nodes proxy shG shL shR hG hLo hR hne
  rw [hd] at hd0
  simp only [R.ok.injEq] at hd0
  subst hd0
  obtain ⟨b', ps, e, hrun⟩ := global_run_serving proxy policy hF hP (n + b.roundRobinQ.length) d b hwf
    (by rw [hn0]; exact hserv) hb hqne
  obtain ⟨b'', ps', e', hperm⟩ := any_window_exact_of_ne_nil b hqne hfit n
  rw [e] at e'
  simp only [R.ok.injEq, Prod.mk.injEq] at e'
  obtain ⟨_, rfl⟩ := e'
  refine ⟨ps, hrun, ?_, ?_⟩
  · intro i w hiw
    rw [hperm.count_eq]
    exact (hcg b hb).2 i w hiw
  · intro v hv
    obtain ⟨nd, h1, h2'⟩ := hwf.glo b hb v (hperm.subset hv)
    rw [hn0] at h1
    exact ⟨nd, h1, h2'⟩

/-- **C25 (selections follow the weights).** Replicas all up and serving,
    balancers built by `InitBalancers` with any permuting shuffles, the read
    policy "closed" (or any value other than prefer/force): in a run of
    `n + L` consecutive `GetSlaveConn` calls, `L` the length of the global
    queue (the normalized weight total), the last `L` calls — i.e. *any* `L`
    consecutive selections — hand out every replica of positive weight `w`
    exactly `w / gcd` times, and no other replica (a zero-weight replica is
    never picked). -/
theorem closed_selection_follows_weights (nodes : List Node) (proxy : Nat) (shG shL shR : List Int → List Int)
    (hG : Permutes shG) (hLo : Permutes shL) (hR : Permutes shR) (hne : nodes ≠ []) (hserv : AllServing nodes)
    (policy : Int) (hF : policy ≠ LocalSlaveReadForce) (hP : policy ≠ LocalSlaveReadPrefer)
    (d : DBInfo) (hd : InitBalancers ⟨nodes, none, none, none⟩ proxy shG shL shR = .ok d)
    (b : Balancer) (hb : d.globalB = some b) (h2 : 2 ≤ b.roundRobinQ.length)
    (hfit : b.roundRobinQ.length ≤ 4294967296) (n : Nat) :
    ∃ ps : List Int,
      (run d (List.replicate (n + b.roundRobinQ.length) (.sel policy))).map (fun t => t.2.2) = ps.map Sel.conn ∧
      (∀ i w, (i, w) ∈ pick (fun _ => true) 0 nodes →
        ((ps.drop n).take b.roundRobinQ.length).count i =
          (Int.tdiv w (gcd ((pick (fun _ => true) 0 nodes).map Prod.snd))).toNat) ∧
      (∀ v ∈ (ps.drop n).take b.roundRobinQ.length, ∃ nd, GetNode nodes v = some nd ∧ 0 < nd.weight) :=
  closed_selection_follows_weights_of_ne_nil nodes proxy shG shL shR hG hLo hR hne hserv policy hF hP d hd b hb
    (List.ne_nil_of_length_pos (Nat.lt_of_lt_of_le Nat.two_pos h2)) hfit n

example : AllServing [⟨2, 0, true, true⟩, ⟨0, 0, true, true⟩, ⟨4, 1, true, true⟩] := by
  intro nd h; simp at h; rcases h with rfl | rfl | rfl <;> simp

theorem casStep_spec (s : Shared) (a : Act) :
    (∃ s', casStep s a = (s', none) ∧ s'.b = s.b) ∨
    (∃ s', casStep s a = (s', some s.b.next.2) ∧ s'.b = s.b.next.1) := by
  cases a with
  | load t => exact Or.inl ⟨_, rfl, rfl⟩
  | cas t =>
    cases hreg : s.regs.getD t none with
    | none => exact Or.inl ⟨s, by simp only [casStep, hreg], rfl⟩
    | some old =>
      by_cases hc : s.b.nextIndex = old
      · have hb : (Balancer.mk old s.b.roundRobinQ s.b.poolIndices s.b.poolWeights) = s.b := by
          rw [← hc]
        refine Or.inr ⟨{ b := s.b.next.1, regs := s.regs.set t none }, ?_, rfl⟩
        simp only [casStep, hreg, hc, if_true]
        rw [hb]
      · exact Or.inl ⟨{ s with regs := s.regs.set t none }, by simp only [casStep, hreg, hc, if_false], rfl⟩

/-- **C25 (schedules).** Whatever the interleaving of the goroutines' atomic
    loads and compare-and-swaps, the values returned by the calls of `next`,
    in the order of their successful swaps, are exactly the values a
    sequential run of that many calls returns, and the cursor ends where the
    sequential run ends.  Hence every statement above about consecutive
    selections holds for concurrent callers. -/
theorem cas_linearizable (acts : List Act) : ∀ (s : Shared),
    ∃ k, ((runSched s acts).1.b, (runSched s acts).2) = nextSeq k s.b := by
  induction acts with
  | nil => intro s; exact ⟨0, rfl⟩
  | cons a as ih =>
    intro s
    rcases casStep_spec s a with ⟨s', e, hb⟩ | ⟨s', e, hb⟩
    · obtain ⟨k, hk⟩ := ih s'
      refine ⟨k, ?_⟩
      simp only [runSched, e]
      rw [← hb]; exact hk
    · obtain ⟨k, hk⟩ := ih s'
      refine ⟨k + 1, ?_⟩
      simp only [runSched, e, nextSeq]
      rw [hb] at hk
      rw [← hk]

example : (runSched ⟨⟨0, [10, 11, 12], [], []⟩, [none, none]⟩
    [.load 0, .load 1, .cas 1, .cas 0, .load 0, .cas 0]).2 = [.ok 11, .ok 12] := by decide

/-- Before the fix (`AddUint32` then `% len`) the window straddling the wrap of
    the 32-bit counter was not exact: three equal weights, counter at 2^32-2,
    the next three picks use the positions 0, 0, 1 — node 2 is skipped. -/
theorem window_wrap_witness :
    (match nextNWrapping 3 (Balancer.mk 4294967294 [0, 1, 2] [0, 1, 2] [1, 1, 1]) with
      | .ok (_, ps) => ps | _ => []) = [0, 0, 1] := by decide

end GaeaVerif.C25
