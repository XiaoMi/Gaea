import GaeaVerif.Lemmas.RouteLists
import GaeaVerif.Lemmas.RouteCalendar
import GaeaVerif.Lemmas.RouteLit
import GaeaVerif.Gen.Consts
/-
  C01 — Sharded reads are routed to every table that can hold a matching row.
  Theorems about `Model/Route.lean` (the tie to proxy/plan is `gvh run C01`).
-/
namespace GaeaVerif.C01
open GaeaVerif.Route

/-- What the theorem assumes about the row under consideration: it is stored in
    the sub table `placeVal x`, which is one of the rule's listed tables. -/
structure RowOK (r : Rule) (placeVal : Int → Int) (x : Int) : Prop where
  sorted : Sorted r.idxs
  inIdxs : placeVal x ∈ r.idxs
  firstLe : r.first ≤ placeVal x
  leLast : placeVal x ≤ r.last

/-- Well-formedness of the rule with respect to the literals of a condition. -/
structure LitsOK (r : Rule) (placeVal : Int → Int) (ls : List Lit) : Prop where
  /-- a literal that `FindTableIndex` places denotes a value, and is placed where rows with that value live -/
  place_den : ∀ l ∈ ls, ∀ i, l.place = some i → ∃ v, l.rank = some v ∧ placeVal v = i
  /-- range-type rules place values monotonically -/
  mono : r.isRange = true → ∀ a b : Int, a ≤ b → placeVal a ≤ placeVal b
  /-- `EqualStart(v, i)` only if every smaller value lives in an earlier table -/
  eqStart : r.isRange = true → ∀ l ∈ ls, l.eqStart = true → ∀ i v, l.place = some i → l.rank = some v →
      ∀ y : Int, y < v → placeVal y < i
  /-- a literal that `FindTableIndex` places denotes exactly its `rank` (not a value with a fraction, not NULL) -/
  placed_exact : ∀ l ∈ ls, ∀ i, l.place = some i → l.sem = .exact

/-- the comparison the router actually evaluates, in column-left form -/
def normOp (litLeft : Bool) (op : Cmp) : Cmp := if litLeft then op.inverse else op

/-! ### The invariant of `handleComparisonExpr`, for several joined tables and relative to a
    set `V` of row values -/

/-- The sub table `i` under consideration is one of the rule's listed tables
    (`RowOK r pv x` says the same of `i = pv x`: `RowOK.table`, `TableOK.row`). -/
structure TableOK (r : Rule) (i : Int) : Prop where
  sorted : Sorted r.idxs
  inIdxs : i ∈ r.idxs
  firstLe : r.first ≤ i
  leLast : i ≤ r.last

theorem RowOK.table {r : Rule} {pv : Int → Int} {x : Int} (h : RowOK r pv x) : TableOK r (pv x) :=
  ⟨h.sorted, h.inIdxs, h.firstLe, h.leLast⟩

theorem TableOK.row {r : Rule} {pv : Int → Int} {x : Int} (h : TableOK r (pv x)) : RowOK r pv x :=
  ⟨h.sorted, h.inIdxs, h.firstLe, h.leLast⟩

/-- `LitsOK` relative to the set `V` of values a row of the column can hold
    (`LitsOK` is the case `V = everything`): monotone placement and the
    `EqualStart` condition are only required of such values, and a placed
    literal denotes one of them. -/
structure LitsOKOn (V : Int → Prop) (r : Rule) (pv : Int → Int) (ls : List Lit) : Prop where
  place_den : ∀ l ∈ ls, ∀ i, l.place = some i → ∃ v, l.rank = some v ∧ V v ∧ pv v = i
  mono : r.isRange = true → ∀ a b : Int, V a → V b → a ≤ b → pv a ≤ pv b
  eqStart : r.isRange = true → ∀ l ∈ ls, l.eqStart = true → ∀ i v, l.place = some i → l.rank = some v →
      ∀ y : Int, V y → y < v → pv y < i
  placed_exact : ∀ l ∈ ls, ∀ i, l.place = some i → l.sem = .exact

theorem LitsOKOn.sub {V : Int → Prop} {r : Rule} {pv : Int → Int} {ls ls' : List Lit} (h : LitsOKOn V r pv ls)
    (hs : ∀ l ∈ ls', l ∈ ls) : LitsOKOn V r pv ls' :=
  ⟨fun l hl => h.place_den l (hs l hl), h.mono, fun hr l hl => h.eqStart hr l (hs l hl),
    fun l hl => h.placed_exact l (hs l hl)⟩

theorem LitsOK.on {r : Rule} {pv : Int → Int} {ls : List Lit} (h : LitsOK r pv ls) :
    LitsOKOn (fun _ => True) r pv ls :=
  ⟨fun l hl i hp => by obtain ⟨v, hv, hpv⟩ := h.place_den l hl i hp; exact ⟨v, hv, trivial, hpv⟩,
   fun hr a b _ _ hab => h.mono hr a b hab,
   fun hr l hl he i v hp hv y _ hy => h.eqStart hr l hl he i v hp hv y hy,
   h.placed_exact⟩

/-- What `LitsOKOn` asks of one literal. -/
def LitOK (V : Int → Prop) (r : Rule) (pv : Int → Int) (l : Lit) : Prop :=
  ∀ i, l.place = some i → l.sem = .exact ∧ ∃ v, l.rank = some v ∧ V v ∧ pv v = i ∧
    (r.isRange = true → l.eqStart = true → ∀ y, V y → y < v → pv y < i)

theorem LitOK.of_unplaced {V : Int → Prop} {r : Rule} {pv : Int → Int} {l : Lit} (h : l.place = none) :
    LitOK V r pv l :=
  fun i hp => by rw [h] at hp; cases hp

theorem LitsOKOn.of_forall {V : Int → Prop} {r : Rule} {pv : Int → Int} {ls : List Lit}
    (hm : r.isRange = true → ∀ a b : Int, V a → V b → a ≤ b → pv a ≤ pv b) (h : ∀ l ∈ ls, LitOK V r pv l) :
    LitsOKOn V r pv ls := by
  refine ⟨fun l hl i hp => ?_, hm, fun hr l hl he i v hp hv => ?_, fun l hl i hp => (h l hl i hp).1⟩
  · obtain ⟨_, v, hv, hV, hpv, _⟩ := h l hl i hp
    exact ⟨v, hv, hV, hpv⟩
  · obtain ⟨_, v', hv', _, _, hst⟩ := h l hl i hp
    rw [hv] at hv'; cases hv'
    exact hst hr he

/-- every row of the joined tables that is present holds a value of `V` and is stored in sub table `i` -/
def ValsOK (V : Int → Prop) (pv : Int → Int) (i : Int) (vals : Nat → Option Int) : Prop :=
  ∀ t v, vals t = some v → V v ∧ pv v = i

/-- What the routing result `res` of a condition owes the sub table `i`, where `p` stands for
    "the condition is TRUE on the row at hand". -/
def Covers (res : Bool × List Int) (i : Int) (p : Prop) : Prop :=
  res.1 = true → Sorted res.2 ∧ (p → i ∈ res.2)

theorem Covers.of_false {res : Bool × List Int} {i : Int} {p : Prop} (h : res.1 = false) : Covers res i p :=
  fun h' => by rw [h] at h'; cases h'

theorem Covers.of_true {l : List Int} {i : Int} {p : Prop} (hs : Sorted l) (h : p → i ∈ l) : Covers (true, l) i p :=
  fun _ => ⟨hs, h⟩

theorem Covers.all {r : Rule} {i : Int} (ht : TableOK r i) (has : Bool) (p : Prop) : Covers (has, r.idxs) i p :=
  fun _ => ⟨ht.sorted, fun _ => ht.inIdxs⟩

theorem Covers.imp {res : Bool × List Int} {i : Int} {p q : Prop} (h : Covers res i p) (hqp : q → p) :
    Covers res i q :=
  fun hh => ⟨(h hh).1, fun hq => (h hh).2 (hqp hq)⟩

theorem Covers.mergeAnd {x y : Bool × List Int} {i : Int} {p q : Prop} (hx : Covers x i p) (hy : Covers y i q) :
    Covers (mergeAnd x y) i (p ∧ q) := by
  obtain ⟨xh, xl⟩ := x
  obtain ⟨yh, yl⟩ := y
  cases xh <;> cases yh <;> intro hh
  · cases hh
  · exact ⟨(hy rfl).1, fun h => (hy rfl).2 h.2⟩
  · exact ⟨(hx rfl).1, fun h => (hx rfl).2 h.1⟩
  · have h1 := hx rfl
    have h2 := hy rfl
    exact ⟨interList_sorted _ _ h1.1, fun h => (interList_mem _ _ h1.1 h2.1 _).2 ⟨h1.2 h.1, h2.2 h.2⟩⟩

theorem Covers.mergeOr {x y : Bool × List Int} {i : Int} {p q : Prop} (hx : Covers x i p) (hy : Covers y i q) :
    Covers (mergeOr x y) i (p ∨ q) := by
  obtain ⟨xh, xl⟩ := x
  obtain ⟨yh, yl⟩ := y
  cases xh <;> cases yh <;> intro hh <;> try cases hh
  have h1 := hx rfl
  have h2 := hy rfl
  exact ⟨unionList_sorted _ _ h1.1 h2.1, fun h => (unionList_mem _ _ _).2 (h.imp h1.2 h2.2)⟩

/-- `RouteResult.Inter` with the result of a condition; `b`: the caller lets the condition prune. -/
theorem Covers.inter {has : Bool} {l acc : List Int} {i : Int} {p : Prop} (h : Covers (has, l) i p) (b : Bool)
    (hs : Sorted acc) :
    Sorted (if has && b then interList acc l else acc) ∧
      (i ∈ acc → (b = true → p) → i ∈ (if has && b then interList acc l else acc)) := by
  cases has <;> cases b <;> try exact ⟨hs, fun hi _ => hi⟩
  have h1 := h rfl
  exact ⟨interList_sorted _ _ hs, fun hi hp => (interList_mem _ _ hs h1.1 _).2 ⟨hi, h1.2 (hp rfl)⟩⟩

theorem inverse_holds (op : Cmp) (x v : Int) : op.inverse.holds x v = op.holds v x := by
  cases op <;> simp [Cmp.inverse, Cmp.holds, BEq.comm, bne_comm]

theorem and3_true {a b : Option Bool} (h : and3 a b = some true) : a = some true ∧ b = some true := by
  rcases a with _ | _ | _ <;> rcases b with _ | _ | _ <;> simp [and3] at h ⊢

theorem or3_true {a b : Option Bool} (h : or3 a b = some true) : a = some true ∨ b = some true := by
  rcases a with _ | _ | _ <;> rcases b with _ | _ | _ <;> simp [or3] at h ⊢

/-! #### what `route` answers for a connective and for an atom -/

theorem route_and {r : Rule} {a b : Cond} {res : Bool × List Int} (h : route r (.and a b) = some res) :
    ∃ x y, route r a = some x ∧ route r b = some y ∧ res = mergeAnd x y := by
  simp only [route] at h
  split at h <;> cases h
  exact ⟨_, _, ‹_›, ‹_›, rfl⟩

theorem route_or {r : Rule} {a b : Cond} {res : Bool × List Int} (h : route r (.or a b) = some res) :
    ∃ x y, route r a = some x ∧ route r b = some y ∧ res = mergeOr x y := by
  simp only [route] at h
  split at h <;> cases h
  exact ⟨_, _, ‹_›, ‹_›, rfl⟩

theorem route_cmp {r : Rule} {on ll : Bool} {op : Cmp} {l : Lit} {res : Bool × List Int}
    (h : route r (.cmp on ll op l) = some res) :
    res.1 = false ∨ res = (true, r.idxs) ∨
      on = true ∧ ∃ is, findTableIndexes r (if ll then op.inverse else op) true l = some is ∧ res = (true, is) := by
  simp only [route] at h
  split at h
  · cases h; exact Or.inl rfl
  split at h
  · cases h; exact Or.inr (Or.inl rfl)
  cases on
  · cases h; exact Or.inr (Or.inl rfl)
  · obtain ⟨is, hf, rfl⟩ := Option.map_eq_some_iff.mp h
    exact Or.inr (Or.inr ⟨rfl, is, hf, rfl⟩)

theorem route_inList {r : Rule} {on neg : Bool} {ls : List Lit} {res : Bool × List Int}
    (h : route r (.inList on neg ls) = some res) :
    res = (true, r.idxs) ∨
      on = true ∧ neg = false ∧ ∃ ps, allPlaces ls = some ps ∧ res = (true, sortDedup ps) := by
  simp only [route] at h
  split at h
  · cases h; exact Or.inl rfl
  · rename_i hc
    obtain ⟨ps, hps, rfl⟩ := Option.map_eq_some_iff.mp h
    simp only [Bool.or_eq_true, Bool.not_eq_eq_eq_not, Bool.not_true, not_or, Bool.not_eq_true, Bool.not_eq_false] at hc
    exact Or.inr ⟨hc.1.2, hc.1.1.2, ps, hps, rfl⟩

theorem route_between {r : Rule} {on neg : Bool} {lo hi : Lit} {res : Bool × List Int}
    (h : route r (.between on neg lo hi) = some res) :
    res = (true, r.idxs) ∨
      on = true ∧ r.isRange = true ∧ ∃ is, shardBetween r neg lo hi = some is ∧ res = (true, is) := by
  simp only [route] at h
  split at h
  · cases h; exact Or.inl rfl
  · rename_i hc
    obtain ⟨is, hf, rfl⟩ := Option.map_eq_some_iff.mp h
    simp only [Bool.or_eq_true, Bool.not_eq_eq_eq_not, Bool.not_true, not_or, Bool.not_eq_true, Bool.not_eq_false] at hc
    exact Or.inr ⟨hc.1.1.1.2, hc.1.1.2, is, hf, rfl⟩

/-! #### what the rule's answers mean for a row -/

theorem find_unplaced {r : Rule} {op : Cmp} {l : Lit} {is : List Int}
    (hp : l.place = none) (hf : findTableIndexes r op true l = some is) : is = r.idxs := by
  cases op <;> simp only [findTableIndexes, Bool.not_true, Bool.false_eq_true, ↓reduceIte, hp, Option.map_none] at hf
  case eq => cases hf
  case ne => cases hf; rfl
  all_goals
    split at hf <;> cases hf
    rfl

theorem find_placed {V : Int → Prop} {r : Rule} {pv : Int → Int} {i j : Int} {op : Cmp} {l : Lit} {is : List Int}
    (ht : TableOK r i) (hl : LitsOKOn V r pv [l]) (hp : l.place = some j)
    (hf : findTableIndexes r op true l = some is) :
    Sorted is ∧ ∃ v, l.rank = some v ∧ l.sem = .exact ∧
      ∀ x, V x → pv x = i → op.holds x v = true → i ∈ is := by
  obtain ⟨v, hv, hVv, hpv⟩ := hl.place_den l (by simp) j hp
  suffices h : Sorted is ∧ ∀ x, V x → pv x = i → op.holds x v = true → i ∈ is from
    ⟨h.1, v, hv, hl.placed_exact l (by simp) j hp, h.2⟩
  have all : Sorted r.idxs ∧ ∀ x, V x → pv x = i → op.holds x v = true → i ∈ r.idxs :=
    ⟨ht.sorted, fun _ _ _ _ => ht.inIdxs⟩
  have one : Sorted [j] ∧ ∀ x, V x → pv x = i → Cmp.eq.holds x v = true → i ∈ [j] := by
    refine ⟨by simp [Sorted], fun x _ hpx hx => ?_⟩
    simp only [Cmp.holds, beq_iff_eq] at hx
    simp [← hpx, hx, hpv]
  cases hr : r.isRange
  · -- not a range rule: only `=` narrows
    cases op <;> simp only [findTableIndexes, Bool.not_true, Bool.false_eq_true, ↓reduceIte, hp, hr,
      Option.map_some, Option.some.injEq] at hf <;> subst hf
    case eq => exact one
    all_goals exact all
  · -- a range rule: the tables of `x` and `v` are ordered as `x` and `v` are
    have hm := hl.mono hr
    have hfst := ht.firstLe
    have hlst := ht.leLast
    cases op <;> simp only [findTableIndexes, Bool.not_true, Bool.false_eq_true, ↓reduceIte, hp, hr,
      Option.map_some, Option.some.injEq] at hf <;> subst hf
    case eq => exact one
    case ne => exact all
    all_goals
      refine ⟨makeList_sorted _ _, fun x hVx hpx hx => (makeList_mem _ _ _).2 ?_⟩
      simp only [Cmp.holds, gt_iff_lt, ge_iff_le, decide_eq_true_eq] at hx
    case lt =>
      have := hm x v hVx hVv (Int.le_of_lt hx)
      unfold adjust
      split
      · rename_i he
        have := hl.eqStart hr l (by simp) he j v hp hv x hVx hx
        omega
      · omega
    case le => have := hm x v hVx hVv hx; omega
    case gt => have := hm v x hVv hVx (Int.le_of_lt hx); omega
    case ge => have := hm v x hVv hVx hx; omega

theorem allPlaces_ranks_on {V : Int → Prop} {r : Rule} {pv : Int → Int} {ls : List Lit} {ps : List Int}
    (hl : LitsOKOn V r pv ls) (h : allPlaces ls = some ps) :
    ∃ vs, allRanks ls = some vs ∧ ps = vs.map pv ∧ ls.all (fun l => l.sem == .exact) = true := by
  induction ls generalizing ps with
  | nil => cases h; exact ⟨[], rfl, rfl, rfl⟩
  | cons l ls ih =>
    simp only [allPlaces] at h
    split at h <;> cases h
    rename_i i is hp hq
    obtain ⟨vs, hvs, his, hex⟩ := ih (hl.sub (fun l hl => by simp [hl])) hq
    obtain ⟨v, hv, _, hpv⟩ := hl.place_den l (by simp) i hp
    exact ⟨v :: vs, by simp [allRanks, hv, hvs], by simp [hpv, his],
      by simp [hl.placed_exact l (by simp) i hp, hex]⟩

theorem between_placed {V : Int → Prop} {r : Rule} {pv : Int → Int} {i : Int} {neg : Bool} {lo hi : Lit}
    {is : List Int} (ht : TableOK r i) (hl : LitsOKOn V r pv [lo, hi]) (hr : r.isRange = true)
    (hf : shardBetween r neg lo hi = some is) :
    Sorted is ∧ ∃ a b, lo.rank = some a ∧ hi.rank = some b ∧ lo.sem = .exact ∧ hi.sem = .exact ∧
      ∀ x, V x → pv x = i → ((decide (a ≤ x) && decide (x ≤ b)) != neg) = true → i ∈ is := by
  unfold shardBetween at hf
  split at hf
  · rename_i s e hs he
    obtain ⟨a, ha, hVa, hpa⟩ := hl.place_den lo (by simp) s hs
    obtain ⟨b, hb, hVb, hpb⟩ := hl.place_den hi (by simp) e he
    suffices h : Sorted is ∧ ∀ x, V x → pv x = i → ((decide (a ≤ x) && decide (x ≤ b)) != neg) = true → i ∈ is from
      ⟨h.1, a, b, ha, hb, hl.placed_exact lo (by simp) s hs, hl.placed_exact hi (by simp) e he, h.2⟩
    have hm := hl.mono hr
    have hfst := ht.firstLe
    have hlst := ht.leLast
    cases neg
    · -- BETWEEN: both orders of the two places
      simp only [Bool.false_eq_true, ↓reduceIte] at hf
      split at hf <;> cases hf <;> refine ⟨makeList_sorted _ _, fun x hVx hpx hx => ?_⟩
      all_goals
        simp only [Bool.bne_false, Bool.and_eq_true, decide_eq_true_eq] at hx
        have h1 := hm a x hVa hVx hx.1
        have h2 := hm x b hVx hVb hx.2
        rw [makeList_mem]; omega
    · simp only [↓reduceIte] at hf
      split at hf <;> cases hf
      · exact ⟨ht.sorted, fun _ _ _ _ => ht.inIdxs⟩
      · refine ⟨unionList_sorted _ _ (makeList_sorted _ _) (makeList_sorted _ _), fun x hVx hpx hx => ?_⟩
        rw [unionList_mem, makeList_mem, makeList_mem]
        simp only [bne_iff_ne, ne_eq, Bool.and_eq_true, decide_eq_true_eq, not_and, Int.not_le] at hx
        by_cases hxa : x < a
        · left
          have := hm x a hVx hVa (Int.le_of_lt hxa)
          unfold adjust
          split
          · rename_i heq
            have := hl.eqStart hr lo (by simp) heq s a hs ha x hVx hxa
            omega
          · omega
        · right
          have := hm b x hVb hVx (Int.le_of_lt (hx (by omega)))
          omega
  · cases hf

/-- Invariant of `handleComparisonExpr` on the condition of a single-table statement.  The row
    is quantified inside, so that `jroute_inv` can use this at an atom whose table may have no
    row (a NULL extension). -/
theorem route_inv {V : Int → Prop} {r : Rule} {pv : Int → Int} {i : Int} (ht : TableOK r i)
    (env : Cond → Option Bool) (c : Cond) (hl : LitsOKOn V r pv (shardLits c))
    (res : Bool × List Int) (h : route r c = some res) :
    Covers res i (∃ x, V x ∧ pv x = i ∧ eval env x c = some true) := by
  induction c generalizing res with
  | paren a ih => exact ih hl res h
  | other id => cases h; exact .of_false rfl
  | and a b iha ihb =>
    obtain ⟨x, y, ha, hb, rfl⟩ := route_and h
    exact ((iha (hl.sub fun l h => by simp [shardLits, h]) x ha).mergeAnd
      (ihb (hl.sub fun l h => by simp [shardLits, h]) y hb)).imp
      fun ⟨x, hV, hp, ht⟩ => ⟨⟨x, hV, hp, (and3_true ht).1⟩, x, hV, hp, (and3_true ht).2⟩
  | or a b iha ihb =>
    obtain ⟨x, y, ha, hb, rfl⟩ := route_or h
    exact ((iha (hl.sub fun l h => by simp [shardLits, h]) x ha).mergeOr
      (ihb (hl.sub fun l h => by simp [shardLits, h]) y hb)).imp
      fun ⟨x, hV, hp, ht⟩ => (or3_true ht).imp (⟨x, hV, hp, ·⟩) (⟨x, hV, hp, ·⟩)
  | cmp on litLeft op lit =>
    rcases route_cmp h with h0 | rfl | ⟨rfl, is, hf, rfl⟩
    · exact .of_false h0
    · exact .all ht _ _
    cases hpl : lit.place with
    | none => rw [find_unplaced hpl hf]; exact .all ht _ _
    | some j =>
      obtain ⟨hs, v, hrk, hsem, hmem⟩ := find_placed ht hl hpl hf
      refine .of_true hs fun ⟨x, hV, hp, htrue⟩ => hmem x hV hp ?_
      simp only [eval, Bool.not_true, Bool.false_eq_true, ↓reduceIte, hsem, hrk, Option.some.injEq] at htrue
      cases litLeft
      · exact htrue
      · rw [if_pos rfl, inverse_holds]; exact htrue
  | inList on neg ls =>
    rcases route_inList h with rfl | ⟨rfl, rfl, ps, hps, rfl⟩
    · exact .all ht _ _
    have hl : LitsOKOn V r pv ls := hl
    obtain ⟨vs, hvs, rfl, hall⟩ := allPlaces_ranks_on hl hps
    refine .of_true (sortDedup_sorted _) fun ⟨x, _, hp, htrue⟩ => ?_
    simp only [eval, Bool.not_true, Bool.false_eq_true, hall, hvs, ↓reduceIte, Option.some.injEq, Bool.bne_false,
      List.contains_iff_mem] at htrue
    rw [sortDedup_mem, List.mem_map]
    exact ⟨x, htrue, hp⟩
  | between on neg lo hi =>
    rcases route_between h with rfl | ⟨rfl, hr, is, hf, rfl⟩
    · exact .all ht _ _
    obtain ⟨hs, a, b, ha, hb, hsa, hsb, hmem⟩ := between_placed ht hl hr hf
    refine .of_true hs fun ⟨x, hV, hp, htrue⟩ => hmem x hV hp ?_
    simpa only [eval, Bool.not_true, Bool.false_eq_true, hsa, hsb, ha, hb, beq_self_eq_true, Bool.and_self, ↓reduceIte,
      Option.some.injEq] using htrue

theorem off_column {r : Rule} {i : Int} (ht : TableOK r i) (res : Bool × List Int) (p : Prop) :
    (∀ ll op l, route r (.cmp false ll op l) = some res → Covers res i p) ∧
    (∀ neg ls, route r (.inList false neg ls) = some res → Covers res i p) ∧
    (∀ neg lo hi, route r (.between false neg lo hi) = some res → Covers res i p) := by
  refine ⟨fun _ _ _ h => ?_, fun _ _ h => ?_, fun _ _ _ h => ?_⟩
  · rcases route_cmp h with h0 | rfl | ⟨hon, -⟩
    · exact .of_false h0
    · exact .all ht _ _
    · cases hon
  · rcases route_inList h with rfl | ⟨hon, -⟩
    · exact .all ht _ _
    · cases hon
  · rcases route_between h with rfl | ⟨hon, -⟩
    · exact .all ht _ _
    · cases hon

theorem evalJ_cmp_key (env : JCond → Option Bool) (vals : Nat → Option Int) (t : Nat) (ll : Bool) (op : Cmp) (l : Lit) :
    evalJ env vals (.cmp (.key t) ll op l) =
      (vals t).bind fun x => eval (fun _ => env (.cmp (.key t) ll op l)) x (.cmp true ll op l) := by
  cases hx : vals t with
  | none => simp [evalJ, hx]
  | some x =>
    simp only [evalJ, eval, hx, Option.bind_some, ↓reduceIte, Bool.not_true, Bool.false_eq_true]

theorem evalJ_inList_key (env : JCond → Option Bool) (vals : Nat → Option Int) (t : Nat) (neg : Bool) (ls : List Lit) :
    evalJ env vals (.inList (.key t) neg ls) =
      (vals t).bind fun x => eval (fun _ => env (.inList (.key t) neg ls)) x (.inList true neg ls) := by
  cases hx : vals t with
  | none => simp [evalJ, hx]
  | some x =>
    simp only [evalJ, eval, hx, Option.bind_some, ↓reduceIte, Bool.not_true, Bool.false_eq_true]

theorem evalJ_between_key (env : JCond → Option Bool) (vals : Nat → Option Int) (t : Nat) (neg : Bool) (lo hi : Lit) :
    evalJ env vals (.between (.key t) neg lo hi) =
      (vals t).bind fun x => eval (fun _ => env (.between (.key t) neg lo hi)) x (.between true neg lo hi) := by
  cases hx : vals t with
  | none => simp [evalJ, hx]
  | some x =>
    simp only [evalJ, eval, hx, Option.bind_some, ↓reduceIte, Bool.not_true, Bool.false_eq_true]

theorem ValsOK.row {V : Int → Prop} {pv : Int → Int} {i : Int} {vals : Nat → Option Int}
    (hv : ValsOK V pv i vals) {t : Nat} {f : Int → Option Bool} (h : (vals t).bind f = some true) : ∃ x, V x ∧ pv x = i ∧ f x = some true := by
  cases hx : vals t with
  | none => rw [hx] at h; cases h
  | some x => rw [hx] at h; exact ⟨x, (hv t x hx).1, (hv t x hx).2, h⟩

/-- Invariant of `handleComparisonExpr` on a condition of a multi-table statement. -/
theorem jroute_inv (V : Int → Prop) (r : Rule) (pv : Int → Int) (i : Int) (env : JCond → Option Bool)
    (vals : Nat → Option Int) (ht : TableOK r i) (hv : ValsOK V pv i vals)
    (c : JCond) (hl : LitsOKOn V r pv (jShardLits c))
    (res : Bool × List Int) (h : route r c.erase = some res) :
    Covers res i (evalJ env vals c = some true) := by
  induction c generalizing res with
  | paren a ih => exact ih hl res h
  | other id => cases h; exact .of_false rfl
  | and a b iha ihb =>
    obtain ⟨x, y, ha, hb, rfl⟩ := route_and h
    exact ((iha (hl.sub fun l h => by simp [jShardLits, h]) x ha).mergeAnd
      (ihb (hl.sub fun l h => by simp [jShardLits, h]) y hb)).imp and3_true
  | or a b iha ihb =>
    obtain ⟨x, y, ha, hb, rfl⟩ := route_or h
    exact ((iha (hl.sub fun l h => by simp [jShardLits, h]) x ha).mergeOr
      (ihb (hl.sub fun l h => by simp [jShardLits, h]) y hb)).imp or3_true
  | cmp col litLeft op lit =>
    cases col with
    | free | ambiguous => cases h; exact .of_false rfl
    | col t => exact (off_column ht res _).1 _ _ _ h
    | key t => exact (route_inv ht _ _ hl res h).imp fun htrue => ValsOK.row hv (evalJ_cmp_key .. ▸ htrue)
  | inList col neg ls =>
    cases col with
    | free | ambiguous => cases h; exact .of_false rfl
    | col t => exact (off_column ht res _).2.1 _ _ h
    | key t => exact (route_inv ht _ _ hl res h).imp fun htrue => ValsOK.row hv (evalJ_inList_key .. ▸ htrue)
  | between col neg lo hi =>
    cases col with
    | free | ambiguous => cases h; exact .of_false rfl
    | col t => exact (off_column ht res _).2.2 _ _ _ h
    | key t => exact (route_inv ht _ _ hl res h).imp fun htrue => ValsOK.row hv (evalJ_between_key .. ▸ htrue)

theorem routeJ_some {r : Rule} {c : JCond} {res : Bool × List Int} (h : routeJ r c = some res) :
    route r c.erase = some res := by
  unfold routeJ at h
  split at h
  · cases h
  · exact h

theorem joinsLits_cons (j : JoinStep) (rest : List JoinStep) :
    joinsLits (j :: rest) = optLits j.on ++ joinsLits rest := by
  unfold joinsLits; rw [List.flatMap_cons]

theorem routeJoins_sound (V : Int → Prop) (r : Rule) (pv : Int → Int) (i : Int) (env : JCond → Option Bool)
    (vals : Nat → Option Int) (ht : TableOK r i) (hv : ValsOK V pv i vals) (joins : List JoinStep)
    (hl : LitsOKOn V r pv (joinsLits joins)) (restricts : Bool) (acc acc' : List Int)
    (h : routeJoins r acc joins restricts = some acc') (hs : Sorted acc) :
    Sorted acc' ∧ (restricts = false → acc' = acc) ∧
      (i ∈ acc → inJoin env vals joins → i ∈ acc') := by
  induction joins generalizing restricts acc' with
  | nil => cases h; exact ⟨hs, fun _ => rfl, fun hi _ => hi⟩
  | cons j rest ih =>
    rw [joinsLits_cons] at hl
    simp only [routeJoins] at h
    split at h
    · cases h
    split at h
    · cases h
    rename_i acc1 h1
    obtain ⟨s1, hfalse1, hmem1⟩ := ih (hl.sub fun l h => by simp [h]) _ acc1 h1
    have hmem : i ∈ acc → inJoin env vals (j :: rest) → i ∈ acc1 := by
      intro hi hin
      cases htp : j.tp with
      | inner => simp only [inJoin, htp] at hin; exact hmem1 hi hin.1
      | left => simp only [inJoin, htp] at hin; exact hmem1 hi hin.1
      -- the left tree of a RIGHT JOIN may be all NULLs, no row of its join; `i` stays because that
      -- tree is routed with `restricts = false`: what the second conjunct is for
      | right => rw [hfalse1 (by simp [htp])]; exact hi
    split at h
    · cases h
      exact ⟨s1, fun hr => hfalse1 (by simp [hr]), hmem⟩
    rename_i c hon
    split at h <;> cases h
    rename_i has l hrc
    have hcov := jroute_inv V r pv i env vals ht hv c (hl.sub fun l h => by simp [hon, optLits, h]) _
      (routeJ_some hrc)
    obtain ⟨s2, hm2⟩ := hcov.inter (restricts && j.tp == .inner) s1
    refine ⟨s2, fun hr => ?_, fun hi hin => hm2 (hmem hi hin) fun hb => ?_⟩
    · simp only [hr, Bool.false_and, Bool.and_false, Bool.false_eq_true, ↓reduceIte]
      exact hfalse1 (by simp [hr])
    · -- the ON condition of an inner join is TRUE on every row of the join
      simp only [Bool.and_eq_true, beq_iff_eq] at hb
      simp only [inJoin, hb.2] at hin
      simpa [onTrue, hon] using hin.2.2

/-- **C01 for joined tables (`JOIN … ON`).**  For a SELECT over a sharded table
    and tables linked to it, joined by any left-deep sequence of inner, LEFT and
    RIGHT joins with ON conditions and filtered by WHERE: if the statement is
    accepted and routed to `is`, every combined row of the joined table (SQL
    semantics `inJoin`, NULL extensions included) on which WHERE is TRUE and
    whose present rows are stored in the sub tables number `i` has `i ∈ is`. -/
theorem join_route_sound (V : Int → Prop) (r : Rule) (pv : Int → Int) (i : Int) (env : JCond → Option Bool)
    (vals : Nat → Option Int) (ht : TableOK r i) (hv : ValsOK V pv i vals) (joins : List JoinStep)
    (wh : Option JCond)
    (hl : LitsOKOn V r pv (joinsLits joins ++ optLits wh))
    (is : List Int) (h : routeJoinStmt r joins wh = some is)
    (hin : inJoin env vals joins) (hwh : ∀ c, wh = some c → evalJ env vals c = some true) : i ∈ is := by
  simp only [routeJoinStmt] at h
  split at h
  · cases h
  rename_i acc h1
  obtain ⟨s1, _, hmem⟩ := routeJoins_sound V r pv i env vals ht hv joins (hl.sub fun l h => by simp [h]) true
    r.idxs acc h1 ht.sorted
  have hi := hmem ht.inIdxs hin
  split at h
  · cases h; exact hi
  rename_i c
  split at h <;> cases h
  rename_i has l hrc
  have hcov := jroute_inv V r pv i env vals ht hv c (hl.sub fun l h => by simp [optLits, h]) _ (routeJ_some hrc)
  have := (hcov.inter true s1).2 hi fun _ => hwh c rfl
  simpa using this


/-! ### the single-table statement -/

/-- **`route_sound` relative to the values `V` a row can hold** (`route_sound`
    is the case `V = everything`): the form the calendar rules need, where
    placement is monotone only on real dates. -/
theorem route_sound_on (V : Int → Prop) (r : Rule) (pv : Int → Int) (x : Int) (env : Cond → Option Bool)
    (c : Cond) (hrow : RowOK r pv x) (hx : V x) (hl : LitsOKOn V r pv (shardLits c))
    (is : List Int) (h : routeStmt r (some c) = some is)
    (htrue : eval env x c = some true) : pv x ∈ is := by
  simp only [routeStmt] at h
  split at h <;> cases h
  rename_i has l hrc
  have := ((route_inv hrow.table env c hl _ hrc).inter true hrow.sorted).2 hrow.inIdxs
    fun _ => ⟨x, hx, rfl, htrue⟩
  simpa using this

/-- **C01 (routing is sound).** For every rule (any kind: `isRange`/`isGlobal`
    flags, any table index list), every condition tree of any depth, every
    truth assignment to the predicates that do not depend on the sharding column
    alone, and every row: if the statement is accepted and routed to `is`, and
    the WHERE condition is TRUE on the row, then the sub table holding the row
    is among the routed tables. -/
theorem route_sound (r : Rule) (pv : Int → Int) (x : Int) (env : Cond → Option Bool)
    (c : Cond) (hrow : RowOK r pv x) (hl : LitsOK r pv (shardLits c))
    (is : List Int) (h : routeStmt r (some c) = some is)
    (htrue : eval env x c = some true) : pv x ∈ is :=
  route_sound_on (fun _ => True) r pv x env c hrow trivial hl.on is h htrue

/-- A statement without WHERE goes to every sub table. -/
theorem route_no_where (r : Rule) : routeStmt r none = some r.idxs := rfl

/-! ### IN lists -/

theorem allRanks_mem {ls : List Lit} {vs : List Int} (h : allRanks ls = some vs) (x : Int) :
    x ∈ vs ↔ ∃ l ∈ ls, l.rank = some x := by
  induction ls generalizing vs with
  | nil => cases h; simp
  | cons l ls ih =>
    simp only [allRanks] at h
    split at h <;> cases h
    rename_i v ws hr hq
    simp only [List.mem_cons, ih hq, or_and_right, exists_or, exists_eq_left, hr, Option.some.injEq, eq_comm (a := v)]

theorem allPlaces_isSome (ls : List Lit) : (∃ ps, allPlaces ls = some ps) ↔ ∀ l ∈ ls, ∃ j, l.place = some j := by
  induction ls with
  | nil => simp [allPlaces]
  | cons a as ih =>
    simp only [List.mem_cons, forall_eq_or_imp, ← ih, allPlaces]
    cases a.place <;> cases allPlaces as <;> simp

/-- **C01 (IN lists are split soundly).** For `k IN (v₁ … vₙ)` on the sharding
    column the statement sent to table `i` lists only the values placed in `i`.
    On every row stored in table `i` this narrower predicate has the same truth
    value as the original one: a listed value equal to the row's key is placed
    where the row lives. (An empty per-table list is written `1=0`: FALSE, as
    the original is on such rows.) -/
theorem in_rewrite_sound (r : Rule) (pv : Int → Int) (ls : List Lit) (ps : List Int)
    (hl : LitsOK r pv ls) (hp : allPlaces ls = some ps) (x i : Int) (hx : pv x = i) :
    ∃ vs ws, allRanks ls = some vs ∧ allRanks (inValuesFor ls i) = some ws ∧
      (vs.contains x = ws.contains x) := by
  have hplaced := (allPlaces_isSome ls).1 ⟨ps, hp⟩
  have hsub : ∀ l ∈ inValuesFor ls i, l ∈ ls := fun l h => (List.mem_filter.mp h).1
  obtain ⟨qs, hqs⟩ := (allPlaces_isSome (inValuesFor ls i)).2 fun l h => hplaced l (hsub l h)
  obtain ⟨vs, hvs, _⟩ := allPlaces_ranks_on hl.on hp
  obtain ⟨ws, hws, _⟩ := allPlaces_ranks_on (hl.on.sub hsub) hqs
  refine ⟨vs, ws, hvs, hws, ?_⟩
  rw [Bool.eq_iff_iff]
  simp only [List.contains_iff_mem, allRanks_mem hvs, allRanks_mem hws]
  constructor
  · rintro ⟨l, hl', hr⟩
    refine ⟨l, ?_, hr⟩
    simp only [inValuesFor, List.mem_filter, hl', true_and]
    -- a listed value equal to the row's key is placed where the row lives
    obtain ⟨j, hpl⟩ := hplaced l hl'
    obtain ⟨v, hv, hpv⟩ := hl.place_den l hl' j hpl
    rw [hr] at hv; cases hv
    simp [hpl, ← hpv, hx]
  · rintro ⟨l, hl', hr⟩
    exact ⟨l, hsub l hl', hr⟩

/-! ### Instances discharging the well-formedness hypotheses -/

/-- What `NumRangeShard` (built by `ParseNumSharding`: table `i` holds
    `[i·limit, (i+1)·limit)`) reports for a literal denoting `v`. -/
def rangeLit (limit n v : Int) : Lit :=
  { rank := some v
    place := if 0 ≤ v ∧ v < n * limit then some (v / limit) else none
    eqStart := v == (v / limit) * limit }

def rangeRule (n : Int) : Rule :=
  { idxs := makeList 0 n, first := 0, last := n - 1, isRange := true, isGlobal := false }

theorem range_tableOK (n i : Int) (hi : 0 ≤ i ∧ i < n) : TableOK (rangeRule n) i :=
  ⟨makeList_sorted _ _, (makeList_mem _ _ _).2 hi, hi.1, by simp only [rangeRule]; omega⟩

theorem range_rowOK (limit n x : Int) (hlim : 0 < limit) (hx : 0 ≤ x ∧ x < n * limit) :
    RowOK (rangeRule n) (· / limit) x :=
  TableOK.row (pv := (· / limit))
    (range_tableOK n (x / limit) ⟨Int.ediv_nonneg hx.1 (by omega), (Int.ediv_lt_iff_lt_mul hlim).mpr hx.2⟩)

theorem range_litsOK_of {limit n : Int} (hlim : 0 < limit) {ls : List Lit}
    (h : ∀ l ∈ ls, ∀ i, l.place = some i →
      l.sem = .exact ∧ ∃ v, l.rank = some v ∧ v / limit = i ∧ (l.eqStart = true → v = i * limit)) :
    LitsOK (rangeRule n) (· / limit) ls := by
  refine ⟨fun l hl i hp => ?_, fun _ a b hab => Int.ediv_le_ediv hlim hab,
    fun _ l hl he i v hp hv y hy => ?_, fun l hl i hp => (h l hl i hp).1⟩
  · obtain ⟨_, v, hv, hi, _⟩ := h l hl i hp
    exact ⟨v, hv, hi⟩
  · obtain ⟨_, v', hv', _, hst⟩ := h l hl i hp
    rw [hv] at hv'; cases hv'
    have := hst he
    exact (Int.ediv_lt_iff_lt_mul hlim).mpr (by omega)

theorem range_litsOK (limit n : Int) (hlim : 0 < limit) (vs : List Int) :
    LitsOK (rangeRule n) (· / limit) (vs.map (rangeLit limit n)) :=
  range_litsOK_of hlim <| List.forall_mem_map.2 fun v _ i hp => by
    simp only [rangeLit] at hp
    split at hp <;> cases hp
    exact ⟨rfl, v, rfl, rfl, fun he => by simpa [rangeLit] using he⟩

/-- the literals of a condition all come from `rangeLit` -/
def RangeCond (limit n : Int) (c : Cond) : Prop := ∃ vs : List Int, shardLits c = vs.map (rangeLit limit n)

/-- **C01 for `range` rules, no residual hypothesis**: with `n` tables of
    `limit` rows each, every accepted statement whose WHERE is TRUE on a row
    with key `x` is routed to the table `x / limit` that holds the row. -/
theorem range_route_sound (limit n x : Int) (hlim : 0 < limit) (hx : 0 ≤ x ∧ x < n * limit)
    (env : Cond → Option Bool) (c : Cond) (hc : RangeCond limit n c) (is : List Int)
    (h : routeStmt (rangeRule n) (some c) = some is) (htrue : eval env x c = some true) :
    x / limit ∈ is := by
  obtain ⟨vs, hvs⟩ := hc
  exact route_sound (rangeRule n) (· / limit) x env c (range_rowOK limit n x hlim hx)
    (hvs ▸ range_litsOK limit n hlim vs) is h htrue

/-- hash, mod and the Mycat rules: nothing but "a literal is placed where rows
    with its value live" is needed (only `=` and `IN` prune). -/
theorem hashlike_litsOK (r : Rule) (pv : Int → Int) (hr : r.isRange = false) (ls : List Lit)
    (h : ∀ l ∈ ls, ∀ i, l.place = some i → l.sem = .exact ∧ ∃ v, l.rank = some v ∧ pv v = i) : LitsOK r pv ls :=
  ⟨fun l hl i hp => (h l hl i hp).2, fun hr' => absurd (hr.symm.trans hr') (by decide),
    fun hr' => absurd (hr.symm.trans hr') (by decide), fun l hl i hp => (h l hl i hp).1⟩

/-! ### Non-vacuity: concrete rules and a three-level condition tree -/

/-- `id < 200 AND (id NOT BETWEEN 120 AND 350 OR other)` on 4 tables of 100 rows:
    routed to tables 0 and 1, and row 150 (TRUE via the opaque atom) lives in table 1. -/
example :
    let c := Cond.and (.cmp true false .lt (rangeLit 100 4 200))
      (.paren (.or (.between true true (rangeLit 100 4 120) (rangeLit 100 4 350)) (.other 0)))
    routeStmt (rangeRule 4) (some c) = some [0, 1] ∧
    eval (fun _ => some true) 150 c = some true ∧ (150 : Int) / 100 ∈ [0, 1] := by
  decide +kernel

/-- the defect repaired by the `fix:` commit, as a regression witness on the model:
    had `EqualStart` been true for a mid-period key, `<` would have dropped the
    table of the key itself although smaller keys of the same table match. -/
theorem equalStart_midperiod_unsound_witness :
    let lit : Lit := { rank := some 150, place := some 1, eqStart := true }
    routeStmt (rangeRule 4) (some (.cmp true false .lt lit)) = some [0] ∧
    eval (fun _ => none) 120 (.cmp true false .lt lit) = some true ∧ ¬ ((120 : Int) / 100 ∈ [0]) := by
  decide +kernel


open GaeaVerif.ShardGo GaeaVerif.RouteCal

/-! ### Calendar rules (date_year, date_month, date_day): the hypotheses of
    `route_sound_on` discharged from the placement model of C09 and the model of
    the repaired `EqualStart` -/

/-- the rule of a calendar table whose configured periods are `idxs`
    (`GetFirstTableIndex` / `GetLastTableIndex` are its first and last entry) -/
def calRule (idxs : List Int) : Rule :=
  { idxs := idxs, first := idxs.headD 0, last := idxs.getLastD 0, isRange := true, isGlobal := false }

theorem tableOK_of_sorted {r : Rule} (hf : r.first = r.idxs.headD 0) (hl : r.last = r.idxs.getLastD 0)
    (hs : Sorted r.idxs) {i : Int} (hi : i ∈ r.idxs) : TableOK r i :=
  ⟨hs, hi, hf ▸ (sorted_bounds _ hs i hi).1, hl ▸ (sorted_bounds _ hs i hi).2⟩

theorem calRule_tableOK (idxs : List Int) (hs : Sorted idxs) (i : Int) (hi : i ∈ idxs) : TableOK (calRule idxs) i :=
  tableOK_of_sorted (r := calRule idxs) rfl rfl hs hi

/-- **The sub-table list of an accepted calendar configuration is ascending**:
    C09's `slice_infos_concat` shows it is the concatenation of the entries'
    period lists, accepted only if they are ascending across entries
    (`C09.AscChain`); with every entry ascending in itself the whole list is —
    the hypothesis `Sorted idxs` of `calendar_route_sound`. -/
theorem config_sorted (acc : List Int) (lists : List (List Int)) (hacc : Sorted acc)
    (h : C09.AscChain acc lists) (hs : ∀ l ∈ lists, Sorted l) : Sorted (acc ++ lists.flatten) := by
  induction lists generalizing acc with
  | nil => simpa using hacc
  | cons l rest ih =>
    simp only [C09.AscChain] at h
    have hal : Sorted (acc ++ l) := sorted_append acc l hacc (hs l (by simp)) (fun x y hx hy => h.2.1 x y hx hy)
    have := ih (acc ++ l) hal h.2.2 (fun l' hl' => hs l' (by simp [hl']))
    simpa [List.flatten_cons, List.append_assoc] using this

example : Sorted ([] ++ [[201511, 201512], [201601], [201602, 201603]].flatten) :=
  config_sorted [] _ (by simp [Sorted]) (by simp [C09.AscChain]) (by simp [Sorted])

/-- The literal the planner sees for a sharding value `key` of a calendar rule:
    what `FindTableIndex(key)` and `EqualStart(key, index)` answer
    (Model/ShardPlace.lean, Model/ShardStart.lean), with the value `rank` it denotes. -/
def calLit (k : CalKind) (civilOf : Int → ShardPlace.Civil) (clockOf : Int → ShardPlace.Clock) (rank : Option Int)
    (key : ShardPlace.Key) : Lit :=
  match k.find civilOf key with
  | .ok i => { rank := rank, place := some i, eqStart := k.equalStart civilOf clockOf key i == .ok true }
  | _ => { rank := rank, place := none, eqStart := false }

/-- a string literal compared with a DATETIME sharding column: it denotes the
    date-time `CalendarSpec.parseSpelling` reads ('YYYY-MM-DD' is midnight) -/
def strLit (k : CalKind) (civilOf : Int → ShardPlace.Civil) (clockOf : Int → ShardPlace.Clock) (s : GoStr) : Lit :=
  calLit k civilOf clockOf ((CalendarSpec.parseSpelling s).map pack) (.str s)

/-- an integer literal compared with an integer (unix timestamp) sharding column -/
def unixLit (k : CalKind) (civilOf : Int → ShardPlace.Civil) (clockOf : Int → ShardPlace.Clock) (v : Int) : Lit :=
  calLit k civilOf clockOf (some v) (.int64 v)

/-- What `LitsOKOn` asks of a calendar literal that denotes `v`: the rule places `key` where rows holding
    `v` live, and a true `EqualStart` there means that every smaller value lives in an earlier table. -/
theorem calLit_ok {V : Int → Prop} {r : Rule} {pv : Int → Int} {k : CalKind} {civilOf : Int → ShardPlace.Civil}
    {clockOf : Int → ShardPlace.Clock} {key : ShardPlace.Key} {v i : Int} (hf : k.find civilOf key = .ok i)
    (hV : V v) (hpv : pv v = i)
    (hst : k.equalStart civilOf clockOf key i = .ok true → ∀ y, V y → y < v → pv y < i) :
    LitOK V r pv (calLit k civilOf clockOf (some v) key) := by
  intro j hp
  simp only [calLit, hf] at hp ⊢
  cases hp
  exact ⟨trivial, v, rfl, hV, hpv, fun _ he => hst (by simpa using he)⟩

theorem pvStr_mono (k : CalKind) (a b : Int) (hab : a ≤ b) : pvStr k a ≤ pvStr k b :=
  Int.ediv_le_ediv (by cases k <;> decide) hab

theorem strLit_ok {r : Rule} (k : CalKind) (civilOf : Int → ShardPlace.Civil)
    (clockOf : Int → ShardPlace.Clock) (s : GoStr) (hs : (CalendarSpec.parseSpelling s).isSome = true) :
    LitOK VStr r (pvStr k) (strLit k civilOf clockOf s) := by
  obtain ⟨c, hc⟩ := Option.isSome_iff_exists.mp hs
  have hsp := spelled_of_parse s c hc
  rw [strLit, hc]
  exact calLit_ok (str_place k civilOf s c hsp) ⟨c, hsp.valid, rfl⟩ rfl (str_start k civilOf clockOf s c hsp _)

theorem unixLit_ok {r : Rule} (k : CalKind) (civilOf : Int → ShardPlace.Civil)
    (clockOf : Int → ShardPlace.Clock) (hz : ZoneOK civilOf clockOf) (v : Int) (hv : VUnix civilOf v) :
    LitOK (VUnix civilOf) r (pvUnix k civilOf) (unixLit k civilOf clockOf v) :=
  calLit_ok (unix_place k civilOf clockOf hz v hv) hv rfl
    fun he y _ => unix_start k civilOf clockOf hz v _ hv he y

theorem str_litsOK (k : CalKind) (idxs : List Int) (civilOf : Int → ShardPlace.Civil)
    (clockOf : Int → ShardPlace.Clock) (ss : List GoStr)
    (hss : ∀ s ∈ ss, (CalendarSpec.parseSpelling s).isSome = true) :
    LitsOKOn VStr (calRule idxs) (pvStr k) (ss.map (strLit k civilOf clockOf)) :=
  .of_forall (fun _ a b _ _ => pvStr_mono k a b) <| List.forall_mem_map.2 fun s hs =>
    strLit_ok k civilOf clockOf s (hss s hs)

theorem unix_litsOK (k : CalKind) (idxs : List Int) (civilOf : Int → ShardPlace.Civil)
    (clockOf : Int → ShardPlace.Clock) (hz : ZoneOK civilOf clockOf) (vs : List Int)
    (hvs : ∀ v ∈ vs, VUnix civilOf v) :
    LitsOKOn (VUnix civilOf) (calRule idxs) (pvUnix k civilOf) (vs.map (unixLit k civilOf clockOf)) :=
  .of_forall (fun _ a b _ _ => unix_mono k civilOf clockOf hz a b) <| List.forall_mem_map.2 fun v hv =>
    unixLit_ok k civilOf clockOf hz v (hvs v hv)

/-- every literal compared with the sharding column is an accepted spelling of a date-time -/
def StrCond (k : CalKind) (civilOf : Int → ShardPlace.Civil) (clockOf : Int → ShardPlace.Clock) (c : Cond) : Prop :=
  ∃ ss : List GoStr, (∀ s ∈ ss, (CalendarSpec.parseSpelling s).isSome = true) ∧
    shardLits c = ss.map (strLit k civilOf clockOf)

/-- every literal compared with the sharding column is a timestamp of a year 0 … 9999 -/
def UnixCond (k : CalKind) (civilOf : Int → ShardPlace.Civil) (clockOf : Int → ShardPlace.Clock) (c : Cond) : Prop :=
  ∃ vs : List Int, (∀ v ∈ vs, VUnix civilOf v) ∧ shardLits c = vs.map (unixLit k civilOf clockOf)

/-- C01 for a calendar rule on a DATETIME column, for any literals that satisfy `LitsOKOn`. -/
theorem calendar_route_sound_str (k : CalKind) (idxs : List Int) (hs : Sorted idxs)
    (x : CalendarSpec.DateTime) (hx : x.valid = true)
    (hrow : k.num { year := x.year, month := x.month, day := x.day } ∈ idxs)
    (env : Cond → Option Bool) (c : Cond) (hl : LitsOKOn VStr (calRule idxs) (pvStr k) (shardLits c))
    (is : List Int) (h : routeStmt (calRule idxs) (some c) = some is) (htrue : eval env (pack x) c = some true) :
    k.num { year := x.year, month := x.month, day := x.day } ∈ is := by
  rw [← pack_num k x hx] at hrow ⊢
  exact route_sound_on VStr (calRule idxs) (pvStr k) (pack x) env c (calRule_tableOK idxs hs _ hrow).row
    ⟨x, hx, rfl⟩ hl is h htrue

/-- … and on an integer (unix timestamp) column. -/
theorem calendar_route_sound_unix (k : CalKind) (idxs : List Int) (hs : Sorted idxs)
    (civilOf : Int → ShardPlace.Civil) (x : Int) (hx : VUnix civilOf x) (hrow : k.num (civilOf x) ∈ idxs)
    (env : Cond → Option Bool) (c : Cond)
    (hl : LitsOKOn (VUnix civilOf) (calRule idxs) (pvUnix k civilOf) (shardLits c)) (is : List Int)
    (h : routeStmt (calRule idxs) (some c) = some is) (htrue : eval env x c = some true) :
    k.num (civilOf x) ∈ is :=
  route_sound_on (VUnix civilOf) (calRule idxs) (pvUnix k civilOf) x env c (calRule_tableOK idxs hs _ hrow).row
    hx hl is h htrue

/-- **C01 for calendar rules (`calendar_route_sound`).**  The only parameter
    left is the time zone of C09, here its offset `off` (`civilOfUnix off`,
    `clockOfUnix off`: `time.Unix(v, 0)` in a zone `off` seconds east of UTC):
    for all three rules, every ascending period list, both column types and
    both key spellings, an accepted statement whose WHERE is TRUE on a row is
    routed to the table of that row. -/
theorem calendar_route_sound (k : CalKind) (idxs : List Int) (hs : Sorted idxs) (off : Int) :
    (∀ (x : CalendarSpec.DateTime), x.valid = true →
      k.num { year := x.year, month := x.month, day := x.day } ∈ idxs →
      ∀ (env : Cond → Option Bool) (c : Cond),
        StrCond k (ShardPlace.civilOfUnix off) (ShardPlace.clockOfUnix off) c → ∀ is : List Int,
        routeStmt (calRule idxs) (some c) = some is → eval env (pack x) c = some true →
        k.num { year := x.year, month := x.month, day := x.day } ∈ is) ∧
    (∀ (x : Int), VUnix (ShardPlace.civilOfUnix off) x → k.num (ShardPlace.civilOfUnix off x) ∈ idxs →
      ∀ (env : Cond → Option Bool) (c : Cond),
        UnixCond k (ShardPlace.civilOfUnix off) (ShardPlace.clockOfUnix off) c → ∀ is : List Int,
        routeStmt (calRule idxs) (some c) = some is → eval env x c = some true →
        k.num (ShardPlace.civilOfUnix off x) ∈ is) :=
  ⟨fun x hx hrow env c ⟨ss, hss, hlits⟩ =>
      calendar_route_sound_str k idxs hs x hx hrow env c (hlits ▸ str_litsOK k idxs _ _ ss hss),
   fun x hx hrow env c ⟨vs, hvs, hlits⟩ =>
      calendar_route_sound_unix k idxs hs _ x hx hrow env c (hlits ▸ unix_litsOK k idxs _ _ (fixedZone_ok off) vs hvs)⟩


/-! #### the joined form for calendar rules -/

/-- **C01 for calendar rules, joined tables, DATETIME columns.**  The present
    rows of the combined row hold valid date-times of the same period `i`. -/
theorem calendar_join_route_sound_str (k : CalKind) (idxs : List Int) (hs : Sorted idxs)
    (civilOf : Int → ShardPlace.Civil) (clockOf : Int → ShardPlace.Clock)
    (i : Int) (hi : i ∈ idxs) (vals : Nat → Option Int) (hv : ValsOK VStr (pvStr k) i vals)
    (env : JCond → Option Bool) (joins : List JoinStep) (wh : Option JCond)
    (hc : ∃ ss : List GoStr, (∀ s ∈ ss, (CalendarSpec.parseSpelling s).isSome = true) ∧
      joinsLits joins ++ optLits wh = ss.map (strLit k civilOf clockOf))
    (is : List Int) (h : routeJoinStmt (calRule idxs) joins wh = some is)
    (hin : inJoin env vals joins) (hwh : ∀ c, wh = some c → evalJ env vals c = some true) : i ∈ is := by
  obtain ⟨ss, hss, hlits⟩ := hc
  exact join_route_sound VStr (calRule idxs) (pvStr k) i env vals (calRule_tableOK idxs hs i hi) hv joins wh
    (hlits ▸ str_litsOK k idxs civilOf clockOf ss hss) is h hin hwh

/-- **C01 for calendar rules, joined tables, unix-timestamp columns**, zone with fixed offset `off`. -/
theorem calendar_join_route_sound_unix (k : CalKind) (idxs : List Int) (hs : Sorted idxs) (off : Int)
    (i : Int) (hi : i ∈ idxs) (vals : Nat → Option Int)
    (hv : ValsOK (VUnix (ShardPlace.civilOfUnix off)) (pvUnix k (ShardPlace.civilOfUnix off)) i vals)
    (env : JCond → Option Bool) (joins : List JoinStep) (wh : Option JCond)
    (hc : ∃ vs : List Int, (∀ v ∈ vs, VUnix (ShardPlace.civilOfUnix off) v) ∧
      joinsLits joins ++ optLits wh = vs.map (unixLit k (ShardPlace.civilOfUnix off) (ShardPlace.clockOfUnix off)))
    (is : List Int) (h : routeJoinStmt (calRule idxs) joins wh = some is)
    (hin : inJoin env vals joins) (hwh : ∀ c, wh = some c → evalJ env vals c = some true) : i ∈ is := by
  obtain ⟨vs, hvs, hlits⟩ := hc
  exact join_route_sound _ (calRule idxs) _ i env vals (calRule_tableOK idxs hs i hi) hv joins wh
    (hlits ▸ unix_litsOK k idxs _ _ (fixedZone_ok off) vs hvs) is h hin hwh

/-! #### non-vacuity of the calendar instances -/

/-- `k < '2017-06-01'` on a date_year table with periods 2016, 2017: both tables
    are routed (the code before the repair routed 2016 only), and the row
    '2017-03-05 10:00:00' on which the condition is TRUE lives in table 2017. -/
example :
    strLit .year (ShardPlace.civilOfUnix 0) (ShardPlace.clockOfUnix 0) (ascii "2017-06-01") =
      { rank := some 20170601000000, place := some 2017, eqStart := false } := by
  decide +kernel

example :
    let c := Cond.cmp true false .lt { rank := some 20170601000000, place := some 2017, eqStart := false }
    routeStmt (calRule [2016, 2017]) (some c) = some [2016, 2017] ∧
    eval (fun _ => none) (pack { year := 2017, month := 3, day := 5, hour := 10 }) c = some true := by
  decide +kernel

/-- `k < '2017-01-01 00:00:00'`: the first instant of 2017, table 2017 is skipped. -/
example :
    strLit .year (ShardPlace.civilOfUnix 0) (ShardPlace.clockOfUnix 0) (ascii "2017-01-01 00:00:00") =
      { rank := some 20170101000000, place := some 2017, eqStart := true } := by
  decide +kernel

example :
    routeStmt (calRule [2016, 2017])
      (some (.cmp true false .lt { rank := some 20170101000000, place := some 2017, eqStart := true })) =
      some [2016] := by
  decide +kernel

/-- the timestamp 1483228800 is 2017-01-01 00:00:00 UTC but 08:00:00 in UTC+8:
    `EqualStart` depends on the zone, as the theorem's parameter says. -/
example :
    unixLit .month (ShardPlace.civilOfUnix 0) (ShardPlace.clockOfUnix 0) 1483228800 =
      { rank := some 1483228800, place := some 201701, eqStart := true } ∧
    unixLit .month (ShardPlace.civilOfUnix 28800) (ShardPlace.clockOfUnix 28800) 1483228800 =
      { rank := some 1483228800, place := some 201701, eqStart := false } := by
  decide +kernel

/-! ### hash, mod and the Mycat rules: any placement function -/

/-- the table a placement function `find` (any `Shard.FindForKey`: `HashShard`,
    `ModShard`, the `MycatPartition…Shard`s of C08) gives the integer key `v`;
    rows whose key it rejects are stored nowhere -/
def pvFind (find : ShardPlace.Key → ShardPlace.Out Int) (v : Int) : Int :=
  match find (.int64 v) with
  | .ok i => i
  | _ => -1

/-- an integer literal compared with the sharding column of such a table
    (these shards do not implement `RangeShard`: no `EqualStart`) -/
def findLit (find : ShardPlace.Key → ShardPlace.Out Int) (v : Int) : Lit :=
  { rank := some v
    place := match find (.int64 v) with | .ok i => some i | _ => none
    eqStart := false }

def hashRule (idxs : List Int) : Rule :=
  { idxs := idxs, first := idxs.headD 0, last := idxs.getLastD 0, isRange := false, isGlobal := false }

theorem hashRule_tableOK (idxs : List Int) (hs : Sorted idxs) (i : Int) (hi : i ∈ idxs) : TableOK (hashRule idxs) i :=
  tableOK_of_sorted (r := hashRule idxs) rfl rfl hs hi

theorem find_litsOK (find : ShardPlace.Key → ShardPlace.Out Int) (idxs : List Int) (vs : List Int) :
    LitsOK (hashRule idxs) (pvFind find) (vs.map (findLit find)) :=
  hashlike_litsOK _ _ rfl _ <| List.forall_mem_map.2 fun v _ i hp => by
    refine ⟨rfl, v, rfl, ?_⟩
    simp only [findLit, pvFind] at hp ⊢
    split at hp <;> cases hp
    rfl

/-- **C01 for hash-like rules, no residual hypothesis**: for every placement
    function — in particular `Shard.FindForKey` of the four Mycat shards of C08
    (`mycat_rules_route_sound`) — and every ascending sub-table list, an accepted
    statement whose WHERE is TRUE on a row with key `x` stored in a listed table
    is routed to that table. -/
theorem hashlike_route_sound (find : ShardPlace.Key → ShardPlace.Out Int) (idxs : List Int) (hs : Sorted idxs)
    (x : Int) (hrow : pvFind find x ∈ idxs) (env : Cond → Option Bool) (c : Cond)
    (hc : ∃ vs : List Int, shardLits c = vs.map (findLit find)) (is : List Int)
    (h : routeStmt (hashRule idxs) (some c) = some is) (htrue : eval env x c = some true) :
    pvFind find x ∈ is := by
  obtain ⟨vs, hvs⟩ := hc
  exact route_sound (hashRule idxs) (pvFind find) x env c (hashRule_tableOK idxs hs _ hrow).row
    (hvs ▸ find_litsOK find idxs vs) is h htrue

/-- the instance for the Mycat shards of C08 (`mycat_mod`, `mycat_long`,
    `mycat_string`, `mycat_murmur`), placed by the functions C08 proves equal to Mycat's -/
theorem mycat_rules_route_sound (civilOf : Int → ShardPlace.Civil) (sh : ShardPlace.Shard)
    (idxs : List Int) (hs : Sorted idxs)
    (x : Int) (hrow : pvFind (sh.FindForKey civilOf) x ∈ idxs) (env : Cond → Option Bool) (c : Cond)
    (hc : ∃ vs : List Int, shardLits c = vs.map (findLit (sh.FindForKey civilOf))) (is : List Int)
    (h : routeStmt (hashRule idxs) (some c) = some is) (htrue : eval env x c = some true) :
    pvFind (sh.FindForKey civilOf) x ∈ is :=
  hashlike_route_sound _ idxs hs x hrow env c hc is h htrue

/-- `k = 7 OR k IN (1, 2)` under mycat_mod with 4 databases: tables 1, 2, 3. -/
example :
    let f := ShardPlace.MycatPartitionModShard.FindForKey 4
    findLit f 7 = { rank := some 7, place := some 3, eqStart := false } ∧
    findLit f 1 = { rank := some 1, place := some 1, eqStart := false } ∧
    findLit f 2 = { rank := some 2, place := some 2, eqStart := false } ∧ pvFind f 7 = 3 := by
  decide +kernel

example :
    let c := Cond.or (.cmp true false .eq { rank := some 7, place := some 3, eqStart := false })
      (.inList true false [{ rank := some 1, place := some 1, eqStart := false },
        { rank := some 2, place := some 2, eqStart := false }])
    routeStmt (hashRule [0, 1, 2, 3]) (some c) = some [1, 2, 3] := by
  decide +kernel

/-! ### non-vacuity of the joined form, and the repaired defect as a witness -/

/-- `t JOIN c ON t.k = c.k AND c.k >= 250 WHERE t.k < 350` on 4 tables of 100
    rows: routed to tables 2 and 3; the pair of rows (310, 310) is in the join. -/
example :
    let on := JCond.and (.other 0) (.cmp (.key 1) false .ge (rangeLit 100 4 250))
    let wh := JCond.cmp (.key 0) false .lt (rangeLit 100 4 350)
    let joins := [{ tp := .inner, usingQualified := false, on := some on : JoinStep }]
    let vals : Nat → Option Int := fun _ => some 310
    routeJoinStmt (rangeRule 4) joins (some wh) = some [2, 3] ∧
    inJoin (fun _ => some true) vals joins ∧ evalJ (fun _ => some true) vals wh = some true := by
  simp [routeJoinStmt, routeJoins, routeJ, JCond.hasAmbiguous, JCond.erase, route, rangeRule, rangeLit,
    findTableIndexes, adjust, mergeAnd, makeList, interList, inJoin, onTrue, evalJ, and3, Cmp.holds,
    List.range, List.range.loop]

/-- **The defect repaired by the LEFT/RIGHT JOIN fix, on the model.**
    `t LEFT JOIN c ON t.k = 150`: the ON condition is routed to table 1, but
    the row with key 50 (NULL-extended, no partner) is a row of the joined
    table and lives in table 0; the repaired code routes the statement to all
    four tables, intersecting with the ON route — as the code before the repair did —
    would have dropped it. -/
theorem outer_join_on_prune_unsound_witness :
    let on := JCond.cmp (.key 0) false .eq (rangeLit 100 4 150)
    let joins := [{ tp := .left, usingQualified := false, on := some on : JoinStep }]
    let vals : Nat → Option Int := fun t => if t = 0 then some 50 else none
    routeJ (rangeRule 4) on = some (true, [1]) ∧
    routeJoinStmt (rangeRule 4) joins none = some [0, 1, 2, 3] ∧
    inJoin (fun _ => none) vals joins ∧ ¬ ((50 : Int) / 100 ∈ interList (rangeRule 4).idxs [1]) := by
  simp [routeJoinStmt, routeJoins, routeJ, JCond.hasAmbiguous, JCond.erase, route, rangeRule, rangeLit,
    findTableIndexes, makeList, interList, inJoin, List.range, List.range.loop]


/-! ### Literal kinds: what the planner routes by, and what MySQL compares the column with

From here on the literals of a statement are given by kind and value (`RouteLit.SqlLit`:
what the parser delivers).  `RouteLit.litOf fam ct find eqs q` is the literal the
routing model sees for `q` on a rule of family `fam` whose `FindTableIndex` /
`EqualStart` are `find` / `eqs`: `getShardingCompareValue` (`compareValue`)
decides whether the rule is asked at all, `den ct q` is what MySQL compares a
column of type `ct` with.  The theorems below have no hypothesis on the *kind*
of a literal: hexadecimal, bit, decimal and float literals, NULL, and strings
the rule does not read as MySQL does are covered (the planner keeps every sub
table for them).  What remains excluded is a literal of the other type family
than the column (the proxy does not know the column type): a string MySQL does
not read as a number against an integer column of a rule that hashes text, an
integer literal against a string or DATETIME column, a string against a unix
time column. -/

open GaeaVerif.RouteLit GaeaVerif.InsertStored in
/-- The planner never prunes on a literal it does not hand to the rule:
    `k op lit`, `k IN (… lit …)`, `k [NOT] BETWEEN lit AND …` keep every sub table. -/
theorem wide_keeps_all (r : Rule) (hg : r.isGlobal = false) (l : Lit) (hw : l.wide = true) :
    (∀ on ll op, route r (.cmp on ll op l) = some (true, r.idxs)) ∧
    (∀ on neg ls, l ∈ ls → route r (.inList on neg ls) = some (true, r.idxs)) ∧
    (∀ on neg o, route r (.between on neg l o) = some (true, r.idxs) ∧
      route r (.between on neg o l) = some (true, r.idxs)) := by
  refine ⟨fun on ll op => by simp [route, hg, hw], fun on neg ls hl => ?_, fun on neg o => ?_⟩
  · have : ls.any (·.wide) = true := List.any_eq_true.mpr ⟨l, hl, hw⟩
    simp [route, this]
  · simp [route, hw]

open GaeaVerif.RouteLit in
/-- **the kinds the planner never routes by** (the repaired defect 1707815):
    whatever the rule, the column type and the recorded answers of the rule, a
    hexadecimal, bit, decimal or float literal or NULL compared with the
    sharding column keeps every sub table -/
theorem unrouted_kinds_keep_all (r : Rule) (hg : r.isGlobal = false) (fam : Fam) (ct : ColType) (q : SqlLit)
    (p : Option Int) (e : Bool)
    (hq : (∃ b, q = .hex b) ∨ (∃ b, q = .bit b) ∨ (∃ d s, q = .dec d s) ∨ (∃ b, q = .float b) ∨ q = .null)
    (ll : Bool) (op : Cmp) :
    routeStmt r (some (.cmp true ll op (mkLit fam ct q p e))) = some (interList r.idxs r.idxs) := by
  have hw := (mkLit_wide fam ct q p e (wide_kinds fam q hq)).1
  simp [routeStmt, (wide_keeps_all r hg _ hw).1]

open GaeaVerif.RouteLit in
theorem litsOK_of_placed (r : Rule) (hr : r.isRange = false) (fam : Fam) (ct : ColType)
    (find : ShardPlace.Key → ShardPlace.Out Int) (eqs : ShardPlace.Key → Int → Bool) (pv : Int → Int)
    (qs : List SqlLit) (h : ∀ q ∈ qs, Placed fam ct find pv q) :
    LitsOK r pv (qs.map (litOf fam ct find eqs)) :=
  hashlike_litsOK r pv hr _ <| List.forall_mem_map.2 fun q hq i hp => by
    obtain ⟨key, hc, hf, hrk, hsm, _⟩ := litOf_place fam ct find eqs q i hp
    obtain ⟨v, hv, hs, hpv⟩ := h q hq key i hc hf
    exact ⟨hsm.trans hs, v, hrk.trans hv, hpv⟩

open GaeaVerif.RouteLit in
/-- **C01 for hash-like rules over literals of every kind.**  `find` is the
    rule's `FindTableIndex`, `pv` the table of a row by the value of its
    sharding column; the literals compared with the sharding column are any
    list `qs` of SQL literals, each `Placed` (discharged below, family by
    family). -/
theorem litkinds_route_sound (fam : Fam) (ct : ColType) (find : ShardPlace.Key → ShardPlace.Out Int)
    (eqs : ShardPlace.Key → Int → Bool) (pv : Int → Int) (idxs : List Int) (hs : Sorted idxs)
    (x : Int) (hrow : pv x ∈ idxs) (env : Cond → Option Bool) (c : Cond)
    (hc : ∃ qs : List SqlLit, shardLits c = qs.map (litOf fam ct find eqs) ∧ ∀ q ∈ qs, Placed fam ct find pv q)
    (is : List Int) (h : routeStmt (hashRule idxs) (some c) = some is) (htrue : eval env x c = some true) :
    pv x ∈ is := by
  obtain ⟨qs, hqs, hpl⟩ := hc
  exact route_sound (hashRule idxs) pv x env c (hashRule_tableOK idxs hs _ hrow).row
    (hqs ▸ litsOK_of_placed (hashRule idxs) rfl fam ct find eqs pv qs hpl) is h htrue

open GaeaVerif.RouteLit GaeaVerif.InsertStored in
/-- **C01 for the integer rules `mod` and `mycat_long`, every literal kind, no
    residual hypothesis**: `f` is what the rule does with the int64 `NumValue`
    gives it (`ksMod_is_viaNum`, `mycatLong_is_viaNum` in Props/C03.lean), the
    row holds the integer `x` and lives where the rule places it.  Strings the
    rule reads (`'7'`, `'+7'`, `'007'`) are placed where MySQL's reading of them
    lives; ` ' 7'`, `'7.0'`, `'abc'`, `0x10`, `1.5`, `1e0`, NULL keep every table. -/
theorem num_rules_route_sound (f : Int → ShardPlace.Out Int) (eqs : ShardPlace.Key → Int → Bool)
    (idxs : List Int) (hs : Sorted idxs) (x : Int) (hrow : pvNum f x ∈ idxs)
    (env : Cond → Option Bool) (c : Cond)
    (hc : ∃ qs : List SqlLit, (∀ q ∈ qs, q.wf) ∧ shardLits c = qs.map (litOf .num .int (viaNum f) eqs))
    (is : List Int) (h : routeStmt (hashRule idxs) (some c) = some is) (htrue : eval env x c = some true) :
    pvNum f x ∈ is := by
  obtain ⟨qs, hwf, hqs⟩ := hc
  exact litkinds_route_sound .num .int (viaNum f) eqs (pvNum f) idxs hs x hrow env c
    ⟨qs, hqs, fun q hq => num_placed f q (hwf q hq)⟩ is h htrue

open GaeaVerif.RouteLit GaeaVerif.InsertStored in
/-- **C01 for `mycat_mod`, every literal kind, no residual hypothesis** (`g`:
    what the rule does with the big integer it reads, `mycatMod_is_viaBig`). -/
theorem mycat_mod_route_sound (g : Int → ShardPlace.Out Int) (eqs : ShardPlace.Key → Int → Bool)
    (idxs : List Int) (hs : Sorted idxs) (x : Int) (hrow : pvBig g x ∈ idxs)
    (env : Cond → Option Bool) (c : Cond)
    (hc : ∃ qs : List SqlLit, shardLits c = qs.map (litOf .big .int (viaBig g) eqs))
    (is : List Int) (h : routeStmt (hashRule idxs) (some c) = some is) (htrue : eval env x c = some true) :
    pvBig g x ∈ is := by
  obtain ⟨qs, hqs⟩ := hc
  exact litkinds_route_sound .big .int (viaBig g) eqs (pvBig g) idxs hs x hrow env c
    ⟨qs, hqs, fun q _ => big_placed g q⟩ is h htrue

open GaeaVerif.RouteLit GaeaVerif.InsertStored in
/-- **C01 for the kingshard `hash` rule, integer key column** (after d3d5b3a):
    every literal kind; of the strings, those MySQL reads as a number
    (`looksLikeNumber`: `'7'`, `'007'`, `' 7'`, `'+7'`, `'7.0'`, `'7e0'` …).  A
    string MySQL does not read as a number is compared with an integer column
    only under the warning "Truncated incorrect DOUBLE value"; the rule places
    it by the checksum of its text, for the string columns it also serves. -/
theorem hash_route_sound_intcol (n : Nat) (hn : n ≠ 0) (eqs : ShardPlace.Key → Int → Bool)
    (idxs : List Int) (hs : Sorted idxs) (x : Int) (hrow : pvHash n x ∈ idxs)
    (env : Cond → Option Bool) (c : Cond)
    (hc : ∃ qs : List SqlLit, (∀ q ∈ qs, q.wf) ∧ (∀ s, SqlLit.str s ∈ qs → Insert.looksLikeNumber s = true) ∧
      shardLits c = qs.map (litOf .hash .int (HashShard.FindForKey n) eqs))
    (is : List Int) (h : routeStmt (hashRule idxs) (some c) = some is) (htrue : eval env x c = some true) :
    pvHash n x ∈ is := by
  obtain ⟨qs, hwf, hnum, hqs⟩ := hc
  exact litkinds_route_sound .hash .int (HashShard.FindForKey n) eqs (pvHash n) idxs hs x hrow env c
    ⟨qs, hqs, fun q hq => ksHash_placed_int n hn q (hwf q hq) (fun s hs' => hnum s (hs' ▸ hq))⟩ is h htrue

open GaeaVerif.RouteLit in
/-- **C01 for a string key column, any rule that is not a range rule** (`hash`,
    `mycat_string`, `mycat_murmur`): the row holds the byte string `s` (compared
    byte by byte) and lives where the rule places that string; string,
    hexadecimal and bit literals denote their bytes, decimal / float literals
    and NULL keep every table.  Integer literals are excluded: MySQL compares
    them with a string column by reading every row as a number. -/
theorem strcol_route_sound (fam : Fam) (find : ShardPlace.Key → ShardPlace.Out Int)
    (eqs : ShardPlace.Key → Int → Bool) (idxs : List Int) (hs : Sorted idxs)
    (s : ShardGo.GoStr) (hrow : pvStrCol find (encodeStr s : Nat) ∈ idxs)
    (env : Cond → Option Bool) (c : Cond)
    (hc : ∃ qs : List SqlLit, (∀ q ∈ qs, q.wf) ∧ (∀ q ∈ qs, (∀ v, q ≠ .int v) ∧ (∀ v, q ≠ .uint v)) ∧
      shardLits c = qs.map (litOf fam .str find eqs))
    (is : List Int) (h : routeStmt (hashRule idxs) (some c) = some is)
    (htrue : eval env (encodeStr s : Nat) c = some true) :
    pvStrCol find (encodeStr s : Nat) ∈ is := by
  obtain ⟨qs, hwf, hstr, hqs⟩ := hc
  exact litkinds_route_sound fam .str find eqs (pvStrCol find) idxs hs _ hrow env c
    ⟨qs, hqs, fun q hq => strcol_placed fam find q (hwf q hq) (hstr q hq)⟩ is h htrue

open GaeaVerif.RouteLit GaeaVerif.InsertStored in
/-- **mycat_string / mycat_murmur, integer key column.**  FULL STATEMENT, NOT
    TRUE: the same without `hcanon` (`mycat_text_numeric_string_witness`; known
    finding `mycat-numeric-string-routed-as-text`, Mycat-compatible and right
    for string key columns, not repaired).  Proved: every literal kind, with
    the string literals in the decimal spelling of the integer they denote. -/
theorem text_route_sound_intcol_partial (f : ShardGo.GoStr → ShardPlace.Out Int)
    (eqs : ShardPlace.Key → Int → Bool) (idxs : List Int) (hs : Sorted idxs) (x : Int)
    (hrow : pvText f x ∈ idxs) (env : Cond → Option Bool) (c : Cond)
    (hc : ∃ qs : List SqlLit,
      (∀ s, SqlLit.str s ∈ qs → ∃ n, mysqlInt s = some n ∧ s = ShardGo.fmtInt n) ∧
      shardLits c = qs.map (litOf .text .int (viaStr f) eqs))
    (is : List Int) (h : routeStmt (hashRule idxs) (some c) = some is) (htrue : eval env x c = some true) :
    pvText f x ∈ is := by
  obtain ⟨qs, hcanon, hqs⟩ := hc
  exact litkinds_route_sound .text .int (viaStr f) eqs (pvText f) idxs hs x hrow env c
    ⟨qs, hqs, fun q hq => text_placed_int_partial f q (fun s hs' => hcanon s (hs' ▸ hq))⟩ is h htrue

/-- two partitions of 512 slots -/
def exSegment2 : List Int := List.replicate 512 0 ++ List.replicate 512 1

open GaeaVerif.RouteLit GaeaVerif.ShardPlace in
/-- **Known finding `mycat-numeric-string-routed-as-text` (not repaired)**:
    mycat_string (hash of the whole key, two partitions) hands the string
    `'007'` to the rule, which places its text in table 1; MySQL compares an
    integer column with 7, and the row 7 lives in table 0: `k = '007'` is TRUE
    on a row outside the routed tables. -/
theorem mycat_text_numeric_string_witness :
    litOf .text .int (MycatPartitionStringShard.FindForKey exSegment2 0 0) (fun _ _ => false) (.str [48, 48, 55]) =
      { rank := some 7, place := some 1, eqStart := false } ∧
    routeStmt (hashRule [0, 1]) (some (.cmp true false .eq { rank := some 7, place := some 1, eqStart := false })) =
      some [1] ∧
    eval (fun _ => none) 7 (.cmp true false .eq { rank := some 7, place := some 1, eqStart := false }) = some true ∧
    MycatPartitionStringShard.FindForKey exSegment2 0 0 (.int64 7) = .ok 0 := by
  decide +kernel

/-- the defect repaired by 1707815 as a regression witness on the model: had the
    planner handed `0x10` to a hash rule of 4 tables as the text `x'10'`
    (placed in table 3), `k = 0x10`, TRUE on the row 16, would have skipped
    the table 0 of that row -/
theorem hex_placed_by_text_unsound_witness :
    let l : Lit := { rank := some 16, place := some 3, eqStart := false }
    routeStmt (hashRule [0, 1, 2, 3]) (some (.cmp true false .eq l)) = some [3] ∧
    eval (fun _ => none) 16 (.cmp true false .eq l) = some true ∧ RouteLit.pvHash 4 16 = 0 := by
  decide +kernel

open GaeaVerif.RouteLit in
/-- and what the model of the repaired code does with it: `den` says 16, the
    literal is not routed by, every table is kept -/
example :
    mkLit .hash .int (.hex [16]) none false =
      { rank := some 16, place := none, eqStart := false, wide := true } ∧
    routeStmt (hashRule [0, 1, 2, 3]) (some (.cmp true false .eq (mkLit .hash .int (.hex [16]) none false))) =
      some [0, 1, 2, 3] := by
  decide +kernel

open GaeaVerif.RouteLit in
/-- `k < 1.5` is TRUE on the rows 0 and 1 and on no other; `k = 1.5` on none;
    `k IN (1, NULL)` is TRUE on 1 and NULL elsewhere; `k NOT IN (1, NULL)` is
    never TRUE -/
example :
    let l := mkLit .num .int (.dec 15 1) none false
    let n := mkLit .num .int .null none false
    let one : Lit := { rank := some 1, place := some 1, eqStart := false }
    eval (fun _ => none) 1 (.cmp true false .lt l) = some true ∧
    eval (fun _ => none) 2 (.cmp true false .lt l) = some false ∧
    eval (fun _ => none) 1 (.cmp true false .eq l) = some false ∧
    eval (fun _ => none) 1 (.cmp true true .lt l) = some false ∧
    eval (fun _ => none) 1 (.inList true false [one, n]) = some true ∧
    eval (fun _ => none) 2 (.inList true false [one, n]) = none ∧
    eval (fun _ => none) 2 (.inList true true [one, n]) = none ∧
    eval (fun _ => none) 1 (.inList true true [one, n]) = some false ∧
    eval (fun _ => none) 1 (.between true false one l) = some true ∧
    eval (fun _ => none) 2 (.between true false one l) = some false := by
  decide +kernel


/-! #### `range` rules over literals of every kind -/

/-- `NumRangeShard.FindForKey` for `n` tables of `limit` rows (the abstraction of `rangeLit`) -/
def rangeFind (limit n : Int) : ShardPlace.Key → ShardPlace.Out Int :=
  InsertStored.viaNum fun v => if 0 ≤ v ∧ v < n * limit then .ok (v / limit) else .err .keyOutOfRange

/-- `NumRangeShard.EqualStart`: `Shards[index].Start == NumValue(key)` -/
def rangeEqs (limit : Int) (key : ShardPlace.Key) (i : Int) : Bool :=
  match ShardPlace.NumValue key with
  | .ok v => v == i * limit
  | _ => false

open GaeaVerif.RouteLit GaeaVerif.InsertStored GaeaVerif.ShardPlace in
theorem rangeFind_ok (limit n : Int) (key : Key) (i : Int) (h : rangeFind limit n key = .ok i) :
    ∃ v, NumValue key = .ok v ∧ 0 ≤ v ∧ v < n * limit ∧ i = v / limit := by
  unfold rangeFind viaNum at h
  cases hv : NumValue key with
  | ok v =>
    simp only [hv] at h
    split at h
    · rename_i hr
      simp only [Out.ok.injEq] at h
      exact ⟨v, rfl, hr.1, hr.2, h.symm⟩
    · simp at h
  | err k => simp [hv] at h
  | panic => simp [hv] at h

open GaeaVerif.RouteLit in
theorem range_litsOK_kinds (limit n : Int) (hlim : 0 < limit) (qs : List SqlLit) (hwf : ∀ q ∈ qs, q.wf) :
    LitsOK (rangeRule n) (· / limit) (qs.map (litOf .num .int (rangeFind limit n) (rangeEqs limit))) :=
  range_litsOK_of hlim <| List.forall_mem_map.2 fun q hq i hp => by
    obtain ⟨key, hc, hf, hrk, hsm, heq⟩ := litOf_place _ _ _ _ q i hp
    obtain ⟨v, hv, h0, _, hi⟩ := rangeFind_ok limit n key i hf
    obtain ⟨hr, hs⟩ := num_rank q (hwf q hq) key v hc hv h0
    refine ⟨hsm.trans hs, v, hrk.trans hr, hi.symm, fun he => ?_⟩
    rw [heq] at he
    simpa [rangeEqs, hv] using he

open GaeaVerif.RouteLit in
/-- **C01 for `range` rules, every literal kind, no residual hypothesis**: with
    `n` tables of `limit` rows, every accepted statement whose WHERE is TRUE on a
    row with key `x` is routed to the table `x / limit` of the row, whatever
    literals (integers, strings, hexadecimal, bit, decimal, float, NULL) it
    compares the sharding column with in `=  !=  <  <=  >  >=`, IN and BETWEEN. -/
theorem range_route_sound_kinds (limit n x : Int) (hlim : 0 < limit) (hx : 0 ≤ x ∧ x < n * limit)
    (env : Cond → Option Bool) (c : Cond)
    (hc : ∃ qs : List SqlLit, (∀ q ∈ qs, q.wf) ∧
      shardLits c = qs.map (litOf .num .int (rangeFind limit n) (rangeEqs limit)))
    (is : List Int) (h : routeStmt (rangeRule n) (some c) = some is) (htrue : eval env x c = some true) :
    x / limit ∈ is := by
  obtain ⟨qs, hwf, hqs⟩ := hc
  exact route_sound (rangeRule n) (· / limit) x env c (range_rowOK limit n x hlim hx)
    (hqs ▸ range_litsOK_kinds limit n hlim qs hwf) is h htrue

open GaeaVerif.RouteLit in
/-- on integer literals `litOf` is the `rangeLit` of the first instance -/
example : litOf .num .int (rangeFind 100 4) (rangeEqs 100) (.int 200) = rangeLit 100 4 200 ∧
    litOf .num .int (rangeFind 100 4) (rangeEqs 100) (.str [50, 48, 48]) = rangeLit 100 4 200 ∧
    litOf .num .int (rangeFind 100 4) (rangeEqs 100) (.str [32, 50, 48, 48]) =
      { rank := some 200, place := none, eqStart := false, wide := true } ∧
    litOf .num .int (rangeFind 100 4) (rangeEqs 100) (.dec 1505 1) =
      { rank := some 150, place := none, eqStart := false, wide := true, sem := .frac } := by
  decide +kernel

/-! #### calendar rules over literals of every kind -/

open GaeaVerif.RouteLit in
/-- the literal of a calendar rule for the SQL literal `q` -/
def calSqlLit (k : CalKind) (civilOf : Int → ShardPlace.Civil) (clockOf : Int → ShardPlace.Clock) (ct : ColType)
    (q : SqlLit) : Lit :=
  litOf .date ct (k.find civilOf) (fun key i => k.equalStart civilOf clockOf key i == .ok true) q

open GaeaVerif.RouteLit in
theorem calSqlLit_str (k : CalKind) (civilOf : Int → ShardPlace.Civil) (clockOf : Int → ShardPlace.Clock)
    (s : GoStr) : calSqlLit k civilOf clockOf .datetime (.str s) = strLit k civilOf clockOf s := by
  simp only [calSqlLit, litOf, compareValue, strLit, calLit]
  cases k.find civilOf (.str s) <;> simp [mkLit, isWide, compareValue, den, show packDT = pack from rfl]

open GaeaVerif.RouteLit in
theorem calSqlLit_int (k : CalKind) (civilOf : Int → ShardPlace.Civil) (clockOf : Int → ShardPlace.Clock)
    (v : Int) : calSqlLit k civilOf clockOf .int (.int v) = unixLit k civilOf clockOf v := by
  simp only [calSqlLit, litOf, compareValue, unixLit, calLit]
  cases k.find civilOf (.int64 v) <;> simp [mkLit, isWide, compareValue, den]

open GaeaVerif.RouteLit in
/-- the literals of a statement on a DATETIME sharding column: strings in an
    accepted spelling, and any literal of a kind the planner does not route by;
    integer literals are excluded (the rule reads them as unix times, MySQL as
    `YYYYMMDDhhmmss`) -/
def DatetimeLit (q : SqlLit) : Prop :=
  (∀ v, q ≠ .int v) ∧ (∀ v, q ≠ .uint v) ∧ ∀ s, q = .str s → (CalendarSpec.parseSpelling s).isSome = true

open GaeaVerif.RouteLit in
/-- the literals of a statement on an integer (unix time) sharding column:
    timestamps of the years 0 … 9999, and any literal of a kind the planner does
    not route by; strings are excluded (the rule reads them as dates) -/
def UnixLit (civilOf : Int → ShardPlace.Civil) (q : SqlLit) : Prop :=
  (∀ s, q ≠ .str s) ∧ (∀ v, q ≠ .uint v) ∧ ∀ v, q = .int v → VUnix civilOf v

open GaeaVerif.RouteLit in
theorem str_litsOK_kinds (k : CalKind) (idxs : List Int) (civilOf : Int → ShardPlace.Civil)
    (clockOf : Int → ShardPlace.Clock) (qs : List SqlLit) (hqs : ∀ q ∈ qs, DatetimeLit q) :
    LitsOKOn VStr (calRule idxs) (pvStr k) (qs.map (calSqlLit k civilOf clockOf .datetime)) :=
  .of_forall (fun _ a b _ _ => pvStr_mono k a b) <| List.forall_mem_map.2 fun q hq => by
    obtain ⟨hint, huint, hstr⟩ := hqs q hq
    cases q with
    | str s => rw [calSqlLit_str]; exact strLit_ok k civilOf clockOf s (hstr s rfl)
    | int v => exact absurd rfl (hint v)
    | uint v => exact absurd rfl (huint v)
    | _ => exact .of_unplaced rfl

open GaeaVerif.RouteLit in
theorem unix_litsOK_kinds (k : CalKind) (idxs : List Int) (civilOf : Int → ShardPlace.Civil)
    (clockOf : Int → ShardPlace.Clock) (hz : ZoneOK civilOf clockOf) (qs : List SqlLit)
    (hqs : ∀ q ∈ qs, UnixLit civilOf q) :
    LitsOKOn (VUnix civilOf) (calRule idxs) (pvUnix k civilOf) (qs.map (calSqlLit k civilOf clockOf .int)) :=
  .of_forall (fun _ a b _ _ => unix_mono k civilOf clockOf hz a b) <| List.forall_mem_map.2 fun q hq => by
    obtain ⟨hstr, huint, hint⟩ := hqs q hq
    cases q with
    | int v => rw [calSqlLit_int]; exact unixLit_ok k civilOf clockOf hz v (hint v rfl)
    | str s => exact absurd rfl (hstr s)
    | uint v => exact absurd rfl (huint v)
    | _ => exact .of_unplaced rfl

open GaeaVerif.RouteLit in
/-- **C01 for calendar rules over literals of every kind** (`calendar_route_sound`
    with the literals given by kind and value): DATETIME columns with strings in
    the accepted spellings, integer columns with unix times (zone with the fixed
    offset `off`), and in both cases hexadecimal, bit, decimal and float literals
    and NULL anywhere — `k > 2016.5` keeps every period (repaired defect). -/
theorem calendar_route_sound_kinds (k : CalKind) (idxs : List Int) (hs : Sorted idxs) (off : Int) :
    (∀ (x : CalendarSpec.DateTime), x.valid = true →
      k.num { year := x.year, month := x.month, day := x.day } ∈ idxs →
      ∀ (env : Cond → Option Bool) (c : Cond),
        (∃ qs : List SqlLit, (∀ q ∈ qs, DatetimeLit q) ∧ shardLits c =
          qs.map (calSqlLit k (ShardPlace.civilOfUnix off) (ShardPlace.clockOfUnix off) .datetime)) →
        ∀ is : List Int, routeStmt (calRule idxs) (some c) = some is → eval env (pack x) c = some true →
        k.num { year := x.year, month := x.month, day := x.day } ∈ is) ∧
    (∀ (x : Int), VUnix (ShardPlace.civilOfUnix off) x → k.num (ShardPlace.civilOfUnix off x) ∈ idxs →
      ∀ (env : Cond → Option Bool) (c : Cond),
        (∃ qs : List SqlLit, (∀ q ∈ qs, UnixLit (ShardPlace.civilOfUnix off) q) ∧ shardLits c =
          qs.map (calSqlLit k (ShardPlace.civilOfUnix off) (ShardPlace.clockOfUnix off) .int)) →
        ∀ is : List Int, routeStmt (calRule idxs) (some c) = some is → eval env x c = some true →
        k.num (ShardPlace.civilOfUnix off x) ∈ is) := by
  exact ⟨fun x hx hrow env c ⟨qs, hqs, hlits⟩ =>
      calendar_route_sound_str k idxs hs x hx hrow env c (hlits ▸ str_litsOK_kinds k idxs _ _ qs hqs),
    fun x hx hrow env c ⟨qs, hqs, hlits⟩ =>
      calendar_route_sound_unix k idxs hs _ x hx hrow env c
        (hlits ▸ unix_litsOK_kinds k idxs _ _ (fixedZone_ok off) qs hqs)⟩

open GaeaVerif.RouteLit in
/-- `k > 2016.5` on a date_year table 2014 … 2017: every period is kept (the
    code before the repair placed the text "2016.5" in 2016 and skipped 2014 and 2015) -/
example :
    let l := calSqlLit .year (ShardPlace.civilOfUnix 0) (ShardPlace.clockOfUnix 0) .datetime (.dec 20165 1)
    l.wide = true ∧ routeStmt (calRule [2014, 2015, 2016, 2017]) (some (.cmp true false .gt l)) =
      some [2014, 2015, 2016, 2017] := by
  decide +kernel

open GaeaVerif.RouteLit in
/-- **C01 for joined tables over literals of every kind** (hash-like rules):
    `join_route_sound` with the literals of the ON and WHERE conditions given by
    kind and value; the family lemmas (`num_placed`, `big_placed`,
    `ksHash_placed_int`, `strcol_placed`, `text_placed_int_partial`) discharge
    `Placed` as in the single-table instances. -/
theorem litkinds_join_route_sound (fam : Fam) (ct : ColType) (find : ShardPlace.Key → ShardPlace.Out Int)
    (eqs : ShardPlace.Key → Int → Bool) (pv : Int → Int) (idxs : List Int) (hs : Sorted idxs)
    (i : Int) (hi : i ∈ idxs) (vals : Nat → Option Int) (hv : ValsOK (fun _ => True) pv i vals)
    (env : JCond → Option Bool) (joins : List JoinStep) (wh : Option JCond)
    (hc : ∃ qs : List SqlLit, joinsLits joins ++ optLits wh = qs.map (litOf fam ct find eqs) ∧
      ∀ q ∈ qs, Placed fam ct find pv q)
    (is : List Int) (h : routeJoinStmt (hashRule idxs) joins wh = some is)
    (hin : inJoin env vals joins) (hwh : ∀ c, wh = some c → evalJ env vals c = some true) : i ∈ is := by
  obtain ⟨qs, hqs, hpl⟩ := hc
  exact join_route_sound (fun _ => True) (hashRule idxs) pv i env vals (hashRule_tableOK idxs hs i hi) hv joins wh
    (hqs ▸ (litsOK_of_placed (hashRule idxs) rfl fam ct find eqs pv qs hpl).on) is h hin hwh

open GaeaVerif.RouteLit in
/-- … and for `range` rules: joined tables, literals of every kind, no residual hypothesis -/
theorem range_join_route_sound_kinds (limit n : Int) (hlim : 0 < limit) (i : Int) (hi : 0 ≤ i ∧ i < n)
    (vals : Nat → Option Int) (hv : ValsOK (fun _ => True) (· / limit) i vals)
    (env : JCond → Option Bool) (joins : List JoinStep) (wh : Option JCond)
    (hc : ∃ qs : List SqlLit, (∀ q ∈ qs, q.wf) ∧
      joinsLits joins ++ optLits wh = qs.map (litOf .num .int (rangeFind limit n) (rangeEqs limit)))
    (is : List Int) (h : routeJoinStmt (rangeRule n) joins wh = some is)
    (hin : inJoin env vals joins) (hwh : ∀ c, wh = some c → evalJ env vals c = some true) : i ∈ is := by
  obtain ⟨qs, hwf, hqs⟩ := hc
  exact join_route_sound (fun _ => True) (rangeRule n) (· / limit) i env vals (range_tableOK n i hi) hv joins wh
    (hqs ▸ (range_litsOK_kinds limit n hlim qs hwf).on) is h hin hwh


/-! #### non-vacuity of the literal-kind instances -/

set_option maxRecDepth 10000 in
open GaeaVerif.RouteLit GaeaVerif.InsertStored GaeaVerif.ShardGo in
/-- the kingshard `mod` rule with 3 tables is an instance of `num_rules_route_sound`
    (`ModShard.FindForKey n` is `viaNum …` by definition); `'+7'` is read by the
    rule and placed with 7, `' 7'` and `'7.0'` denote 7 and keep every table,
    `'abc'` keeps every table -/
example :
    ModShard.FindForKey 3 = viaNum (fun v => if 3 = 0 then .panic else .ok (hackAbs (Int.tmod v 3))) ∧
    litOf .num .int (ModShard.FindForKey 3) (fun _ _ => false) (.str [43, 55]) =
      { rank := some 7, place := some 1, eqStart := false } ∧
    litOf .num .int (ModShard.FindForKey 3) (fun _ _ => false) (.int 7) =
      { rank := some 7, place := some 1, eqStart := false } ∧
    litOf .num .int (ModShard.FindForKey 3) (fun _ _ => false) (.str [32, 55]) =
      { rank := some 7, place := none, eqStart := false, wide := true } ∧
    litOf .num .int (ModShard.FindForKey 3) (fun _ _ => false) (.str [55, 46, 48]) =
      { rank := some 7, place := none, eqStart := false, wide := true } ∧
    litOf .num .int (ModShard.FindForKey 3) (fun _ _ => false) (.str [97, 98, 99]) =
      { rank := none, place := none, eqStart := false, wide := true } ∧
    pvNum (fun v => if 3 = 0 then .panic else .ok (hackAbs (Int.tmod v 3))) 7 = 1 := by
  refine ⟨rfl, ?_⟩
  decide

set_option maxRecDepth 10000 in
open GaeaVerif.RouteLit GaeaVerif.InsertStored GaeaVerif.ShardGo in
/-- the kingshard `hash` rule with 4 tables (`hash_route_sound_intcol`,
    `strcol_route_sound`): `'007'` goes with 7, `' 7'` and `'7e0'` denote 7 and
    keep every table; on a string column `'abc'` is placed by its checksum,
    where the row `abc` lives, and `x'616263'` denotes the same bytes -/
example :
    litOf .hash .int (HashShard.FindForKey 4) (fun _ _ => false) (.str [48, 48, 55]) =
      { rank := some 7, place := some 3, eqStart := false } ∧
    litOf .hash .int (HashShard.FindForKey 4) (fun _ _ => false) (.str [32, 55]) =
      { rank := some 7, place := none, eqStart := false, wide := true } ∧
    litOf .hash .int (HashShard.FindForKey 4) (fun _ _ => false) (.str [55, 101, 48]) =
      { rank := some 7, place := none, eqStart := false, wide := true } ∧
    pvHash 4 7 = 3 ∧
    litOf .hash .str (HashShard.FindForKey 4) (fun _ _ => false) (.str [97, 98, 99]) =
      { rank := some (encodeStr [97, 98, 99] : Nat), place := some 2, eqStart := false } ∧
    (litOf .hash .str (HashShard.FindForKey 4) (fun _ _ => false) (.hex [97, 98, 99])).rank =
      some (encodeStr [97, 98, 99] : Nat) ∧
    pvStrCol (HashShard.FindForKey 4) (encodeStr [97, 98, 99] : Nat) = 2 := by
  decide +kernel

set_option maxRecDepth 10000 in
open GaeaVerif.RouteLit GaeaVerif.InsertStored GaeaVerif.ShardGo in
/-- `k = '007' OR k IN (' 7', 1)`: the tables of 7 and 1 are not
    enough — `' 7'` keeps every table of a hash rule -/
example :
    let f := litOf .hash .int (HashShard.FindForKey 4) (fun _ _ => false)
    let c := Cond.or (.cmp true false .eq (f (.str [48, 48, 55])))
      (.inList true false [f (.str [32, 55]), f (.int 1)])
    routeStmt (hashRule [0, 1, 2, 3]) (some c) = some [0, 1, 2, 3] ∧
    routeStmt (hashRule [0, 1, 2, 3]) (some (.cmp true false .eq (f (.str [48, 48, 55])))) = some [3] ∧
    eval (fun _ => none) 7 c = some true := by
  decide +kernel

/-! #### a value stored through the proxy is found by a query written with the same literal -/

open GaeaVerif.RouteLit GaeaVerif.InsertStored in
/-- **An inserted sharding literal is routed by when it is written in a WHERE.**
    C03's `insert_findable` sends the point query `k = literal` to exactly the
    table of the row provided the planner asks the rule to place the literal
    (`wide = false`).  That holds for every literal an INSERT is accepted with:
    integer literals always; a string on a `hash` rule because
    `getInsertShardingValue` accepts exactly the strings `getShardingCompareValue`
    hands on; a string on an integer rule or on mycat_mod because the rule placed
    it (it read it as an integer); on every other rule strings are handed on. -/
theorem stored_literal_routed :
    (∀ fam v, compareValue fam (.int v) = some (.int64 v)) ∧ (∀ fam v, compareValue fam (.uint v) = some (.uint64 v)) ∧
    (∀ s, Insert.shardingValueOk Insert.head "hash" (.str s) = true → compareValue .hash (.str s) = some (.str s)) ∧
    (∀ (f : Int → ShardPlace.Out Int) s i, viaNum f (.str s) = .ok i → compareValue .num (.str s) = some (.str s)) ∧
    (∀ (g : Int → ShardPlace.Out Int) s i, viaBig g (.str s) = .ok i → compareValue .big (.str s) = some (.str s)) ∧
    (∀ s, compareValue .text (.str s) = some (.str s) ∧ compareValue .date (.str s) = some (.str s)) := by
  refine ⟨fun _ _ => rfl, fun _ _ => rfl, ?_, ?_, ?_, fun _ => ⟨rfl, rfl⟩⟩
  · intro s h
    simp only [Insert.shardingValueOk, Insert.head, Bool.false_or, bne_self_eq_false, Insert.hashStringOk] at h
    simp only [compareValue]
    cases hp : Insert.parseUint64 s with
    | some m => simp
    | none => simp [hp] at h; simp [h]
  · intro f s i h
    simp only [viaNum, ShardPlace.NumValue] at h
    simp only [compareValue]
    cases hp : ShardGo.parseInt64 s with
    | some m => simp
    | none => simp [hp] at h
  · intro g s i h
    simp only [viaBig, viaStr, ShardPlace.GetString] at h
    simp only [compareValue]
    cases hp : ShardGo.parseBigDec s with
    | some m => simp
    | none => simp [hp] at h

/-! ### The operator dispatch of the source, read by the translator, is the model's -/

/-- the model's `findTableIndexes` is its dispatch table run -/
theorem findTableIndexes_eq_action (r : Rule) (op : Cmp) (l : Lit) :
    findTableIndexes r op true l = op.findAction.run r l := by
  cases op <;> simp [findTableIndexes, Cmp.findAction, FindAction.run, adjust]

/-- **Translator tie, `getFindTableIndexesFunc`.**  For each of the six
    comparison operators the statements the source executes for the sharding
    column (extracted with go/ast on every run) are the ones the model's table
    `Cmp.findAction` stands for; the default case and the guard for other
    columns return all sub tables. -/
theorem find_dispatch_tied :
    Gen.c01FindDispatch = Cmp.all.map (fun op => (op.goName, op.findAction.trace)) ∧
    Gen.c01FindDefault = FindAction.all.trace ∧
    Gen.c01FindOtherColumn = ["rule.GetShardingColumn() != columnName", "return rule.GetSubTableIndexes(), nil"] ∧
    Gen.c01AdjustShardIndex = ["if s.EqualStart(value, index) {", "return index - 1", "}", "return index"] :=
  ⟨rfl, rfl, rfl, rfl⟩

/-- **Translator tie, `inverseOperator`.** -/
theorem inverse_tied (op : Cmp) :
    (match Gen.c01InverseOperator.lookup op.goName with
     | some n => n
     | none => if Gen.c01InverseDefault = "op" then op.goName else "?") = op.inverse.goName := by
  cases op <;> decide

/-- **Translator tie, `mergeBinaryOperationRouteResult`.**  Running the
    `if … { return … }` lists of the source (conditions translated into Lean by
    the translator) gives the model's `mergeAnd` / `mergeOr` for all inputs. -/
theorem merge_tied :
    ∃ dsAnd dsOr dflt, readDecisions Gen.c01MergeAnd = some dsAnd ∧ readDecisions Gen.c01MergeOr = some dsOr ∧
      MergeRet.ofCode Gen.c01MergeEnd.2 = some dflt ∧
      ∀ (lHas rHas : Bool) (l r : List Int),
        mergeAnd (lHas, l) (rHas, r) =
          ((runDecisions dsAnd (Gen.c01MergeEnd.1, dflt) lHas rHas).1,
           (runDecisions dsAnd (Gen.c01MergeEnd.1, dflt) lHas rHas).2.run l r) ∧
        mergeOr (lHas, l) (rHas, r) =
          ((runDecisions dsOr (Gen.c01MergeEnd.1, dflt) lHas rHas).1,
           (runDecisions dsOr (Gen.c01MergeEnd.1, dflt) lHas rHas).2.run l r) := by
  refine ⟨_, _, _, rfl, rfl, rfl, ?_⟩
  intro lHas rHas l r
  cases lHas <;> cases rHas <;> exact ⟨rfl, rfl⟩

/-- **Translator tie, `handleJoinTree` / `rewriteOnCondition`.**  The Boolean
    expressions of the source that decide whether an ON condition prunes are
    the ones of `routeJoins`. -/
theorem join_prune_tied (restricts has : Bool) (tp : JoinTp) :
    Gen.c01JoinLeftRestricts restricts tp.goName = (restricts && tp != .right) ∧
    Gen.c01OnInter has (Gen.c01JoinOnPrunes restricts tp.goName) = (has && (restricts && tp == .inner)) := by
  cases restricts <;> cases has <;> cases tp <;> decide

open GaeaVerif.RouteLit in
/-- **`getShardingCompareValue` of the source is the model's `compareValue`**:
    the literal kinds whose value is handed to the rule, what every other kind
    returns (not routable, no error), the rule types with a test on strings and
    the tests themselves, as the translator reads them from
    proxy/plan/plan_select.go on every run; and the model's `compareValue` is
    "a string is not routed by exactly when the test of its family holds". -/
theorem compare_value_tied :
    Gen.c01RoutedKinds = routedKinds ∧ Gen.c01UnroutedKind = "return nil, false, nil" ∧
    Gen.c01StringRules = stringRules ∧ Gen.c01RoutedReturn = "return v, true, nil" ∧
    (∀ (fam : Fam) (s : ShardGo.GoStr),
      compareValue fam (.str s) = if fam.stringTest s then none else some (.str s)) ∧
    (∀ fam : Fam, fam.goCase = none → ∀ s, fam.stringTest s = false) := by
  refine ⟨rfl, rfl, rfl, rfl, compareValue_str, ?_⟩
  · intro fam h s
    cases fam <;> simp [Fam.goCase] at h <;> rfl

open GaeaVerif.RouteLit in
/-- the family the driver reads from `rule.GetType()` (`Fam.ofType`) is the
    `case` of the source that names the constant with that value: for every rule
    type constant of proxy/router/rule.go, the constant is listed in the case
    of its family, or in no case when its family has none -/
theorem rule_type_family_tied :
    Gen.c01RuleTypes.all (fun (name, value) =>
      match (Fam.ofType value).goCase with
      | some (names, _) => names.contains name
      | none => stringRules.all fun (names, _) => !names.contains name) = true := by
  decide +kernel

end GaeaVerif.C01
