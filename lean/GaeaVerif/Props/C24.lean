import GaeaVerif.Model.ResourcePool
import GaeaVerif.Lemmas.C24Ledger
import GaeaVerif.Lemmas.C24Capacity
import GaeaVerif.Lemmas.C24Blocked
/-
  C24 — The connection pool never over-allocates, double-issues or fails a return.

  Statement (properties.jsonl): under any interleaving of concurrent get,
  return, idle-close, automatic scale-out/scale-in, capacity change and close
  operations, the pool never has more connections handed out than its maximum
  capacity, never hands the same connection to two holders, and returning a
  connection obtained from it never fails; when no operation is in progress,
  idle plus in-use connections equal the current capacity.

  The model (Model/ResourcePool.lean) is the transition system of
  util/resource_pool.go at the granularity of its atomic actions, any number of
  threads, any programs, any schedule.

  What is proved (all at full strength: every program made of Get, Put,
  Put(nil), idle sweep, scale-in tick, SetCapacity, ScaleCapacity, Close, every
  interleaving of their atomic steps, any number of threads):
  * `pool_safe` — handed-out ≤ maxCap, every Put finds an open channel with
    room, no pool operation panics, quiescent ⇒ len(chan)+inUse = capacity and
    available = len(chan).  `put_never_fails`: no step reports a panic.
    The bound is on the resources clients hold, not on the counter `inUse`: a Put
    lowers it one step after its slot is back in the channel (`inUseW` against
    `pcTok` at `.pInUse`), and a Get of that slot can raise it past maxCap meanwhile.
  * `pool_no_double_issue` / `no_two_holders` — a resource is never in two
    places (channel, operation in progress, client).
  * `no_deadlock`, `lock_held_has_running_holder`, `holder_rank_decreases` —
    the `scaling` semaphore that serialises the capacity changes introduces
    no deadlock: whoever waits for `rp.lock` or the semaphore waits for a
    thread that can move or that itself waits for a resource to be returned;
    when nothing can move at all, every slot of the pool is in the hands of a
    client and the channel is empty (the wait of an exhausted pool).
  Each of these is the instance, through `reach_inv`, of the theorem of the same
  name under `Inv.` (`LInv.`, `ND.`), which holds of any state with the invariant.
  Repairs considered for the shrink window (ScaleCapacity lowers `capacity`
  first and drains afterwards): (a) holding `rp.lock` for the whole
  ScaleCapacity — a Get that finds the channel empty then blocks on the mutex
  inside scaleOutResources, deaf to its context, and a client that holds a
  resource and calls Get while a shrink waits for that resource deadlocks
  (with the semaphore the same Get fails its TryAcquire, waits on the channel
  and times out: `no_deadlock` has no such state); (b) draining before
  lowering the capacity — `Capacity()`/`IsClosed()` would keep the old value
  while Close or a shrink is pending, which the repository's own TestShrinking
  and TestClosing assert against, and scale-outs would continue during Close;
  (c) chosen: a one-slot semaphore held by ScaleCapacity for its whole
  duration and tried, never awaited, by the scale-out inside `rp.lock`.

  Before fix b12dcd5 the statement was false of the code (a capacity change
  during the window of a shrinking ScaleCapacity): the schedules that witnessed
  it (`w1Sched` …, corpus/C24) are replayed below on the repaired pool.
-/
namespace GaeaVerif.C24
open GaeaVerif.ResourcePool

/-- States reachable from `s0` by any schedule at all. -/
inductive ReachAll (s0 : State) : State → Prop where
  | init : ReachAll s0 s0
  | step {s s' : State} {i : Nat} {a : Alt} {ev : Ev} :
      ReachAll s0 s → step s i a = some (s', ev) → ReachAll s0 s'

structure Inv (s : State) : Prop where
  /-- slot balance: slots in the channel, in operations, with clients and still to be
      added by a growing ScaleCapacity = capacity counter + slots a shrinking one has
      lowered it by but not yet taken out -/
  eq : (s.pool.chan.length : Int) + (sumN tok s.threads : Nat) + (sumN growP s.threads : Nat)
        = s.pool.capacity + (sumN closeP s.threads : Nat)
  bound : s.pool.capacity + (sumN closeP s.threads : Nat) ≤ s.pool.maxCap
  capNonneg : 0 ≤ s.pool.capacity
  /-- the semaphore is taken exactly while one thread holds it -/
  holders : sumN holder s.threads = b2n s.pool.scaling
  /-- after the swap of a ScaleCapacity(0) the capacity counter is 0 -/
  zero : ∀ t ∈ s.threads, zeroing t → s.pool.capacity = 0
  closedOk : s.pool.closed = true → s.pool.capacity = 0 ∧ sumN inLoop s.threads = 0
  asserts : ∀ t ∈ s.threads, A s.pool.maxCap t
  inUse : s.pool.inUse = (sumN inUseW s.threads : Nat)
  avail : s.pool.available = s.pool.chan.length + sumI avW s.threads
  alive : ∀ t ∈ s.threads, t.pc ≠ .dead

/-- Ownership of `rp.lock`, the running timer callbacks, and the values the
    holder of the semaphore compares-and-swaps against. -/
structure LInv (s : State) : Prop where
  locks : sumN lockW s.threads = b2n s.pool.lock
  sweeps : sumN sweepF s.threads = s.pool.idleBusy
  ticks : sumN tickF s.threads = s.pool.capBusy
  cas : ∀ t ∈ s.threads, casOk s.pool t

/-- Number of places resource `r` is in: slots of the channel, operations in
    progress, clients. -/
def occ (r : Nat) (s : State) : Nat := s.pool.chan.count (some r) + sumN (resW r) s.threads

def ND (s : State) : Prop := ∀ r, occ r s ≤ 1 ∧ (s.pool.nextRes ≤ r → occ r s = 0)

theorem init_inv {capacity maxCap : Int} {dyn : Bool} {progs : List (List Op)} {s : State}
    (h : init capacity maxCap dyn progs = some s) : Inv s ∧ LInv s ∧ ND s := by
  unfold init newPool at h
  split at h
  · cases h
  · cases h
    have z (f : Thread → Nat) (hf : ∀ x, f (mkThread x) = 0) : sumN f (progs.map mkThread) = 0 :=
      sumN_map_zero f _ hf _
    refine ⟨?_, ?_, fun r => ?_⟩
    · constructor
      all_goals simp [z tok fun _ => rfl, z growP fun _ => rfl, z closeP fun _ => rfl, z holder fun _ => rfl,
        z inLoop fun _ => rfl, z inUseW fun _ => rfl, sumI_map_zero avW mkThread fun _ => rfl]
      all_goals first | omega | (intro _ _; simp [mkThread, A, zeroing])
    · constructor
      all_goals simp [z lockW fun _ => rfl, z sweepF fun _ => rfl, z tickF fun _ => rfl]
      intro _ _; trivial
    · simp [occ, z (resW r) fun _ => rfl, List.count_replicate]

theorem Inv.local {s : State} {i : Nat} {t : Thread} (hI : Inv s) (hti : s.threads[i]? = some t) :
    Local s.pool t := by
  have hmem : t ∈ s.threads := List.mem_of_getElem? hti
  have e1 := sumN_elem_le tok _ i t hti
  have e2 := sumN_elem_le growP _ i t hti
  have e3 := sumN_elem_le closeP _ i t hti
  have e4 := sumN_elem_le holder _ i t hti
  have e5 := sumN_elem_le inLoop _ i t hti
  have heq := hI.eq
  have hb := hI.bound
  have hh := hI.holders
  refine ⟨hI.asserts t hmem, ?_, by omega, hI.zero t hmem, fun _ => b2n_pos (by omega), by omega, hI.capNonneg⟩
  intro hc
  obtain ⟨hc0, hcz⟩ := hI.closedOk hc
  have hcp := sumN_eq_zero_of_sumN_eq_zero closeP inLoop closeP_zero_of_inLoop _ hcz
  omega

theorem Inv.holder_sums {s : State} {i : Nat} {t : Thread} (hI : Inv s) (hti : s.threads[i]? = some t)
    (h1 : holder t = 1) : sumN closeP s.threads = closeP t ∧ sumN inLoop s.threads = inLoop t := by
  have hle : sumN holder s.threads ≤ holder t := by
    have := hI.holders
    have := b2n_le_one s.pool.scaling
    omega
  exact ⟨sumN_eq_of_others_zero closeP holder closeP_zero_of_holder _ i t hti hle,
         sumN_eq_of_others_zero inLoop holder inLoop_zero_of_holder _ i t hti hle⟩

theorem inv_step {s s' : State} {i : Nat} {a : Alt} {ev : Ev}
    (hI : Inv s) (hs : step s i a = some (s', ev)) : Inv s' := by
  obtain ⟨t, r, hti, h, hp, hth, -⟩ := step_some hs
  have hl := hI.local hti
  -- when `t` is the holder the sums of `closeP` and `inLoop` are its own terms: a bound `Step.*` gives for `t` holds of the sum
  have hone := hI.holder_sums hti
  have hal := h.alive hl
  have s1 := h.sumN tok rfl hti
  have s2 := h.sumN growP rfl hti
  have s3 := h.sumN closeP rfl hti
  have s5 := h.sumN inLoop rfl hti
  have old {P : Thread → Prop} (hP : ∀ u ∈ s.threads, P u) (j : Nat) (u : Thread) (_ : j ≠ i)
      (hj : s.threads[j]? = some u) : P u := hP u (List.mem_of_getElem? hj)
  constructor
  · have := h.slots hl
    have := hI.eq
    rw [hp, hth]; omega
  · obtain ⟨_, C2⟩ := h.capacity_bounds hl
    have := hI.bound
    rw [hp, hth, h.maxCap_eq]
    rcases Nat.eq_zero_or_pos (holder t) with h0 | h0
    · obtain ⟨c1, c2⟩ := h.capacity_eq h0
      rw [c1]; omega
    · obtain ⟨o1, _⟩ := hone (by have := holder_le_one t; omega)
      omega
  · rw [hp]; exact (h.capacity_bounds hl).1
  · have := h.scaling_eq hl
    have := h.sumN holder rfl hti
    have := hI.holders
    rw [hp, hth]; omega
  · rw [hp, hth]
    exact h.forall_threads (old fun u hu hz => (h.at_capacity_zero hl.asserts (hI.zero u hu hz)).1)
      (h.zeroing_capacity hl) False.elim
  · rw [hp, hth]
    intro hc
    rcases h.closed_eq with e | ⟨e1, e2, e3, e4⟩
    · obtain ⟨c0, cz⟩ := hI.closedOk (e ▸ hc)
      obtain ⟨c0', _⟩ := h.at_capacity_zero hl.asserts c0
      exact ⟨c0', by omega⟩
    · obtain ⟨_, o2⟩ := hone e2
      exact ⟨e4 ▸ hl.zero e1, by omega⟩
  · rw [hp, hth, h.maxCap_eq]
    exact h.forall_threads (old hI.asserts) (h.maxCap_eq ▸ h.asserts hl) trivial
  · have := (h.counters hl).1
    have := h.sumN inUseW rfl hti
    have := hI.inUse
    rw [hp, hth]; omega
  · have := (h.counters hl).2
    have := h.sumI avW rfl hti
    have := hI.avail
    rw [hp, hth]; omega
  · rw [hth]
    exact h.forall_threads (old hI.alive) hal Pc.noConfusion

theorem other_not_holder {s : State} {i j : Nat} {t u : Thread} (hI : Inv s)
    (hti : s.threads[i]? = some t) (huj : s.threads[j]? = some u) (hij : j ≠ i) (hu : holder u = 1) :
    holder t = 0 := by
  have h2 := sumN_two_le holder s.threads i j t u (fun e => hij e.symm) hti huj
  have hh := hI.holders
  have := b2n_le_one s.pool.scaling
  omega

theorem linv_step {s s' : State} {i : Nat} {a : Alt} {ev : Ev}
    (hI : Inv s) (hL : LInv s) (hs : step s i a = some (s', ev)) : LInv s' := by
  obtain ⟨t, r, hti, h, hp, hth, -⟩ := step_some hs
  have e1 := sumN_elem_le lockW _ i t hti
  have e2 := sumN_elem_le sweepF _ i t hti
  have e3 := sumN_elem_le tickF _ i t hti
  have hl := hL.locks
  have hsw := hL.sweeps
  have htk := hL.ticks
  obtain ⟨K1, K2, K3⟩ := h.locks (fun _ => b2n_pos (by omega)) (by omega) (by omega) (h.alive (hI.local hti))
  have s1 := h.sumN lockW rfl hti
  have s2 := h.sumN sweepF rfl hti
  have s3 := h.sumN tickF rfl hti
  constructor
  · rw [hp, hth]; omega
  · rw [hp, hth]; omega
  · rw [hp, hth]; omega
  · rw [hp, hth]
    refine h.forall_threads (fun j u hji huj => ?_) h.casOk_thr trivial
    rcases Nat.eq_zero_or_pos (holder u) with h0 | h0
    · exact casOk_of_not_holder _ _ h0
    · have h1 : holder u = 1 := by have := holder_le_one u; omega
      exact casOk_congr (h.capacity_eq (other_not_holder hI hti huj hji h1)).1
        (hL.cas u (List.mem_of_getElem? huj))

theorem nd_step {s s' : State} {i : Nat} {a : Alt} {ev : Ev}
    (hN : ND s) (hs : step s i a = some (s', ev)) : ND s' := by
  obtain ⟨t, q, hti, h, hp, hth, -⟩ := step_some hs
  intro r
  obtain ⟨R1, R2⟩ := h.res r
  have e := h.sumN (resW r) rfl hti
  obtain ⟨n1, n2⟩ := hN r
  unfold occ at n1 n2 ⊢
  rw [hp, hth]
  split at R1 <;> omega

theorem reach_inv {capacity maxCap : Int} {dyn : Bool} {progs : List (List Op)} {s0 s : State}
    (h0 : init capacity maxCap dyn progs = some s0) (hr : ReachAll s0 s) : Inv s ∧ LInv s ∧ ND s := by
  induction hr with
  | init => exact init_inv h0
  | step _ hs ih => exact ⟨inv_step ih.1 hs, linv_step ih.1 ih.2.1 hs, nd_step ih.2.2 hs⟩

/-- Resources handed out to clients (obtained from Get and not yet given to Put). -/
def handedOut (s : State) : Nat := sumN (fun t => t.held.length) s.threads

/-- No operation is in progress. -/
def Quiescent (s : State) : Prop := ∀ t ∈ s.threads, t.pc = .idle

/-- C24 as a state predicate. -/
structure Safe (s : State) : Prop where
  /-- never more resources handed out than the maximum capacity -/
  notOver : handedOut s ≤ s.pool.maxCap
  /-- a Put about to send finds the channel open and not full -/
  putOk : ∀ t ∈ s.threads, ∀ w, t.pc = .pSend w → s.pool.closed = false ∧ s.pool.chan.length < s.pool.maxCap
  /-- no thread has panicked inside a pool operation -/
  noPanic : ∀ t ∈ s.threads, t.pc ≠ .dead
  /-- when no operation is in progress, idle + in-use = capacity (and the `available` counter is exact) -/
  quiescent : Quiescent s →
    (s.pool.chan.length : Int) + s.pool.inUse = s.pool.capacity ∧ s.pool.available = s.pool.chan.length

theorem safe_of_inv {s : State} (hI : Inv s) : Safe s := by
  have heq := hI.eq
  have hb := hI.bound
  constructor
  · have : handedOut s ≤ sumN tok s.threads := sumN_le_of _ _ (by intro t; simp [tok]) _
    omega
  · intro t ht w hpc
    obtain ⟨i, hti⟩ := List.mem_iff_getElem?.mp ht
    obtain ⟨-, hcl, hroom, -, -, -, -⟩ := hI.local hti
    have htok : 1 ≤ tok t := by simp [tok, pcTok, hpc]
    constructor
    · cases hc : s.pool.closed with
      | false => rfl
      | true => have := (hcl hc).1; omega
    · omega
  · exact hI.alive
  · intro hq
    have h1 : sumN tok s.threads = sumN inUseW s.threads :=
      sumN_congr _ _ _ (by intro t ht; simp [tok, inUseW, pcTok, hq t ht])
    have h2 : sumN growP s.threads = 0 := sumN_eq_zero _ _ (by intro t ht; simp [growP, hq t ht])
    have h3 : sumN closeP s.threads = 0 := sumN_eq_zero _ _ (by intro t ht; simp [closeP, hq t ht])
    have h4 : sumI avW s.threads = 0 := sumI_eq_zero _ _ (by intro t ht; simp [avW, hq t ht])
    have hiu := hI.inUse
    have hav := hI.avail
    constructor <;> omega

/--
  **C24.**  For every reachable state under every interleaving of every
  program (Get with any number of factory failures and scale-out, Put,
  Put(nil), idle sweep, scale-in tick and its goroutine, SetCapacity,
  ScaleCapacity, Close, the passing of time), for any number of threads, from
  any valid pool configuration: never more than `maxCap` resources handed out,
  every Put finds room in an open channel, no pool operation panics, and in
  quiescent states `len(chan) + inUse = capacity` (and `available = len(chan)`).
-/
theorem pool_safe {capacity maxCap : Int} {dyn : Bool} {progs : List (List Op)} {s0 s : State}
    (h0 : init capacity maxCap dyn progs = some s0) (hr : ReachAll s0 s) : Safe s :=
  safe_of_inv (reach_inv h0 hr).1

theorem Inv.put_never_fails {s s' : State} {i : Nat} {a : Alt} {ev : Ev} (hI : Inv s)
    (hs : step s i a = some (s', ev)) : evIsPanic ev = false := by
  obtain ⟨t, r, hti, h, -, -, rfl⟩ := step_some hs
  exact Bool.eq_false_iff.mpr fun hp => h.alive (hI.local hti) (h.panic_dead hp)

/-- No step of any run reports a panic: in particular a Put of a resource
    obtained from Get never hits the `full` or the closed-channel branch. -/
theorem put_never_fails {capacity maxCap : Int} {dyn : Bool} {progs : List (List Op)} {s0 s s' : State}
    {i : Nat} {a : Alt} {ev : Ev}
    (h0 : init capacity maxCap dyn progs = some s0) (hr : ReachAll s0 s)
    (hs : step s i a = some (s', ev)) : evIsPanic ev = false :=
  (reach_inv h0 hr).1.put_never_fails hs

/-- `pool_safe` for the fragment of clients, the idle sweeper and Close. -/
theorem pool_safe_clients_sweep_close {capacity maxCap : Int} {dyn : Bool} {progs : List (List Op)} {s0 s : State}
    (_hprogs : ∀ p ∈ progs, p.all basicOp = true)
    (h0 : init capacity maxCap dyn progs = some s0) (hr : ReachAll s0 s) : Safe s :=
  pool_safe h0 hr

/-! ## Locks and progress: the `scaling` semaphore introduces no deadlock -/

theorem Inv.enabled_or_blocked {s : State} {j : Nat} {u : Thread} (hI : Inv s) (hj : s.threads[j]? = some u)
    (a : Alt) : (step s j a).isSome = true ∨ Blocked s.pool u :=
  (C24.enabled_or_blocked a (hI.local hj)).imp_left (step_isSome hj)

theorem Inv.stuck {s : State} {a : Alt} (hI : Inv s) (hstuck : ∀ j, step s j a = none) :
    ∀ u ∈ s.threads, Blocked s.pool u := by
  intro u hu
  obtain ⟨k, hk⟩ := List.mem_iff_getElem?.mp hu
  exact (hI.enabled_or_blocked hk a).resolve_left (by simp [hstuck k])

theorem Inv.lock_held_has_running_holder {s : State} (hI : Inv s) (hL : LInv s) (hl : s.pool.lock = true)
    (a : Alt) : ∃ j u, s.threads[j]? = some u ∧ lockW u = 1 ∧ (step s j a).isSome = true := by
  obtain ⟨j, u, hj, hu1⟩ := exists_of_sumN_pos lockW lockW_le_one s.threads (by simp [hL.locks, hl])
  exact ⟨j, u, hj, hu1, (hI.enabled_or_blocked hj a).resolve_right fun hb => by have := hb.sections.1; omega⟩

/-- **`rp.lock` is never awaited in vain**: when it is held, the thread that
    holds it can take its next step (the locked sections — scale-out with
    its TryAcquire, the scale-in tick — contain no blocking action). -/
theorem lock_held_has_running_holder {capacity maxCap : Int} {dyn : Bool} {progs : List (List Op)} {s0 s : State}
    (h0 : init capacity maxCap dyn progs = some s0) (hr : ReachAll s0 s) (hl : s.pool.lock = true) (a : Alt) :
    ∃ j u, s.threads[j]? = some u ∧ lockW u = 1 ∧ (step s j a).isSome = true := by
  obtain ⟨hI, hL, -⟩ := reach_inv h0 hr
  exact hI.lock_held_has_running_holder hL hl a

theorem Inv.scaling_held_has_running_holder {s : State} (hI : Inv s) (hsc : s.pool.scaling = true) (a : Alt) :
    ∃ j u, s.threads[j]? = some u ∧ holder u = 1 ∧
      ((step s j a).isSome = true
        ∨ (s.pool.chan = [] ∧ s.pool.closed = false ∧ ∃ c old i, u.pc = .sShrRecv c old i)) := by
  obtain ⟨j, u, hj, hu1⟩ := exists_of_sumN_pos holder holder_le_one s.threads (by simp [hI.holders, hsc])
  exact ⟨j, u, hj, hu1, (hI.enabled_or_blocked hj a).imp_right fun hb => hb.sections.2.2.2 hu1⟩

/-- **The `scaling` semaphore is never awaited in vain**: when it is taken,
    the thread that holds it can take its next step, or it is a shrinking
    ScaleCapacity (Close) waiting on the empty channel for a resource to be
    returned — the wait ScaleCapacity always had, which every Put ends. -/
theorem scaling_held_has_running_holder {capacity maxCap : Int} {dyn : Bool} {progs : List (List Op)} {s0 s : State}
    (h0 : init capacity maxCap dyn progs = some s0) (hr : ReachAll s0 s) (hsc : s.pool.scaling = true) (a : Alt) :
    ∃ j u, s.threads[j]? = some u ∧ holder u = 1 ∧
      ((step s j a).isSome = true
        ∨ (s.pool.chan = [] ∧ s.pool.closed = false ∧ ∃ c old i, u.pc = .sShrRecv c old i)) :=
  (reach_inv h0 hr).1.scaling_held_has_running_holder hsc a

theorem Inv.timer_stop_waits_for_running_callback {s : State} (hI : Inv s) (hL : LInv s) (a : Alt) :
    (s.pool.idleBusy ≠ 0 → ∃ j u, s.threads[j]? = some u ∧ sweepF u = 1 ∧ (step s j a).isSome = true)
    ∧ (s.pool.capBusy ≠ 0 → ∃ j u, s.threads[j]? = some u ∧ tickF u = 1 ∧
        ((step s j a).isSome = true ∨ (u.pc = .tLock ∧ s.pool.lock = true))) := by
  constructor <;> intro hb
  · obtain ⟨j, u, hj, hu1⟩ := exists_of_sumN_pos sweepF sweepF_le_one s.threads (by have := hL.sweeps; omega)
    exact ⟨j, u, hj, hu1, (hI.enabled_or_blocked hj a).resolve_right fun hb => by have := hb.sections.2.1; omega⟩
  · obtain ⟨j, u, hj, hu1⟩ := exists_of_sumN_pos tickF tickF_le_one s.threads (by have := hL.ticks; omega)
    exact ⟨j, u, hj, hu1, (hI.enabled_or_blocked hj a).imp_right fun hb => hb.sections.2.2.1.resolve_left (by omega)⟩

/-- `Timer.Stop` in Close waits for a running callback only: a running idle
    sweep can always move, a running scale-in tick can move or waits for `rp.lock`. -/
theorem timer_stop_waits_for_running_callback {capacity maxCap : Int} {dyn : Bool} {progs : List (List Op)} {s0 s : State}
    (h0 : init capacity maxCap dyn progs = some s0) (hr : ReachAll s0 s) (a : Alt) :
    (s.pool.idleBusy ≠ 0 → ∃ j u, s.threads[j]? = some u ∧ sweepF u = 1 ∧ (step s j a).isSome = true)
    ∧ (s.pool.capBusy ≠ 0 → ∃ j u, s.threads[j]? = some u ∧ tickF u = 1 ∧
        ((step s j a).isSome = true ∨ (u.pc = .tLock ∧ s.pool.lock = true))) := by
  obtain ⟨hI, hL, -⟩ := reach_inv h0 hr
  exact hI.timer_stop_waits_for_running_callback hL a

theorem Inv.holder_rank_decreases {s s' : State} {i : Nat} {a : Alt} {ev : Ev} {t : Thread} (hI : Inv s) (hL : LInv s)
    (hs : step s i a = some (s', ev)) (hti : s.threads[i]? = some t) (hh : holder t = 1) :
    ∃ t', s'.threads[i]? = some t' ∧ (holder t' = 0 ∨ rank s'.pool t' < rank s.pool t) := by
  obtain ⟨t', r, hti', h, hp, hth, -⟩ := step_some hs
  cases hti.symm.trans hti'
  have hmem : t ∈ s.threads := List.mem_of_getElem? hti
  exact ⟨r.thr, hth ▸ getElem?_step_self _ _ hti, hp ▸ h.rank_lt hh (hI.asserts t hmem) (hL.cas t hmem)⟩

theorem Inv.holder_rank_stable {s s' : State} {i j : Nat} {a : Alt} {ev : Ev} {u : Thread} (hI : Inv s)
    (hs : step s i a = some (s', ev)) (hji : j ≠ i) (huj : s.threads[j]? = some u) (hh : holder u = 1) :
    s'.threads[j]? = some u ∧ rank s'.pool u = rank s.pool u := by
  obtain ⟨t, r, hti, h, hp, hth, -⟩ := step_some hs
  exact ⟨hth ▸ getElem?_step_ne _ _ hji huj,
    hp ▸ rank_congr u (h.capacity_eq (other_not_holder hI hti huj hji hh)).1⟩

theorem LInv.lock_rank_decreases {s s' : State} {i : Nat} {a : Alt} {ev : Ev} {t : Thread} (hL : LInv s)
    (hs : step s i a = some (s', ev)) (hti : s.threads[i]? = some t) (hh : lockW t = 1) :
    ∃ t', s'.threads[i]? = some t' ∧ lockRank t' < lockRank t ∧ (lockW t' = 0 ↔ lockRank t' = 0) := by
  obtain ⟨t', r, hti', h, -, hth, -⟩ := step_some hs
  cases hti.symm.trans hti'
  exact ⟨r.thr, hth ▸ getElem?_step_self _ _ hti, h.lockRank_lt hh (hL.cas t (List.mem_of_getElem? hti))⟩

/-- **The holder of the semaphore releases it after a bounded number of its own
    steps**: each of them lowers `rank` (its compare-and-swap cannot fail: nobody
    else changes the capacity) or releases the semaphore. -/
theorem holder_rank_decreases {capacity maxCap : Int} {dyn : Bool} {progs : List (List Op)} {s0 s s' : State}
    {i : Nat} {a : Alt} {ev : Ev} {t : Thread}
    (h0 : init capacity maxCap dyn progs = some s0) (hr : ReachAll s0 s)
    (hs : step s i a = some (s', ev)) (hti : s.threads[i]? = some t) (hh : holder t = 1) :
    ∃ t', s'.threads[i]? = some t' ∧ (holder t' = 0 ∨ rank s'.pool t' < rank s.pool t) := by
  obtain ⟨hI, hL, -⟩ := reach_inv h0 hr
  exact hI.holder_rank_decreases hL hs hti hh

/-- … and the steps of the other threads leave its rank alone. -/
theorem holder_rank_stable {capacity maxCap : Int} {dyn : Bool} {progs : List (List Op)} {s0 s s' : State}
    {i j : Nat} {a : Alt} {ev : Ev} {u : Thread}
    (h0 : init capacity maxCap dyn progs = some s0) (hr : ReachAll s0 s)
    (hs : step s i a = some (s', ev)) (hji : j ≠ i) (huj : s.threads[j]? = some u) (hh : holder u = 1) :
    s'.threads[j]? = some u ∧ rank s'.pool u = rank s.pool u :=
  (reach_inv h0 hr).1.holder_rank_stable hs hji huj hh

/-- The same for `rp.lock`: every step inside a locked section brings the unlock nearer. -/
theorem lock_rank_decreases {capacity maxCap : Int} {dyn : Bool} {progs : List (List Op)} {s0 s s' : State}
    {i : Nat} {a : Alt} {ev : Ev} {t : Thread}
    (h0 : init capacity maxCap dyn progs = some s0) (hr : ReachAll s0 s)
    (hs : step s i a = some (s', ev)) (hti : s.threads[i]? = some t) (hh : lockW t = 1) :
    ∃ t', s'.threads[i]? = some t' ∧ lockRank t' < lockRank t ∧ (lockW t' = 0 ↔ lockRank t' = 0) :=
  (reach_inv h0 hr).2.1.lock_rank_decreases hs hti hh

/-- A thread whose program has ended. -/
def Finished (t : Thread) : Prop := t.pc = .idle ∧ t.prog = []
instance : DecidablePred Finished := fun t => by unfold Finished; exact inferInstance
/-- A Get waiting for a resource (`select` on the channel and `ctx.Done()`). -/
def AtGetWait (t : Thread) : Prop := ∃ f, t.pc = .gWait f
/-- A shrinking ScaleCapacity (Close) waiting for a slot. -/
def AtShrinkRecv (t : Thread) : Prop := ∃ c old i, t.pc = .sShrRecv c old i
/-- A ScaleCapacity waiting for the semaphore. -/
def AtScaleLock (t : Thread) : Prop := ∃ c, t.pc = .sLock c

theorem Inv.no_deadlock {s : State} (hI : Inv s) (hL : LInv s) (hstuck : ∀ j, step s j {} = none) :
    (∀ t ∈ s.threads, Finished t ∨ AtGetWait t ∨ AtShrinkRecv t
        ∨ (AtScaleLock t ∧ ∃ u ∈ s.threads, AtShrinkRecv u))
    ∧ ((∃ t ∈ s.threads, ¬ Finished t) →
        s.pool.chan = [] ∧ s.pool.closed = false
        ∧ (handedOut s : Int) = s.pool.capacity + (sumN closeP s.threads : Nat)) := by
  have hb := hI.stuck hstuck
  -- a blocked thread is outside every locked section and timer callback, so none is running
  have hlock : s.pool.lock = false := by
    have := sumN_eq_zero lockW _ fun u hu => (hb u hu).sections.1
    have := hL.locks
    cases hl : s.pool.lock <;> simp_all
  have hidle : s.pool.idleBusy = 0 := hL.sweeps ▸ sumN_eq_zero _ _ fun u hu => (hb u hu).sections.2.1
  have hcapb : s.pool.capBusy = 0 := hL.ticks ▸ sumN_eq_zero _ _ fun u hu =>
    (hb u hu).sections.2.2.1.resolve_right fun h => Bool.false_ne_true (hlock ▸ h.2)
  have hclass : ∀ t ∈ s.threads, Finished t ∨
      (s.pool.chan = [] ∧ s.pool.closed = false ∧
        (AtGetWait t ∨ AtShrinkRecv t ∨ (AtScaleLock t ∧ ∃ u ∈ s.threads, AtShrinkRecv u))) := by
    intro t ht
    cases hb t ht with
    | finished h1 h2 => exact Or.inl ⟨h1, h2⟩
    | dead h1 => exact absurd h1 (hI.alive t ht)
    | onLock hl _ => rw [hlock] at hl; cases hl
    | onScaling hsc hpc =>
      obtain ⟨j, u, hj, -, hu⟩ := hI.scaling_held_has_running_holder hsc {}
      obtain ⟨c1, c2, c3⟩ := hu.resolve_left (by simp [hstuck j])
      exact Or.inr ⟨c1, c2, Or.inr (Or.inr ⟨hpc, u, List.mem_of_getElem? hj, c3⟩)⟩
    | getWait c1 c2 hpc => exact Or.inr ⟨c1, c2, Or.inl hpc⟩
    | shrinkWait c1 c2 hpc => exact Or.inr ⟨c1, c2, Or.inr (Or.inl hpc)⟩
    | idleTimer hb _ => exact absurd hidle hb
    | capTimer hb _ => exact absurd hcapb hb
  refine ⟨fun t ht => (hclass t ht).imp_right fun h => h.2.2, fun ⟨t, ht, hnf⟩ => ?_⟩
  obtain ⟨c1, c2, -⟩ := (hclass t ht).resolve_left hnf
  have e1 : sumN tok s.threads = handedOut s :=
    sumN_congr _ _ _ (by intro u hu; simp [tok, (hb u hu).no_slot.1])
  have e2 : sumN growP s.threads = 0 := sumN_eq_zero _ _ fun u hu => (hb u hu).no_slot.2
  have heq := hI.eq
  simp [c1] at heq
  exact ⟨c1, c2, by omega⟩

/--
  **No deadlock.**  If, without a timeout, no thread at all can move, then
  every thread has finished its program, or waits in Get for a resource, or is
  a shrinking ScaleCapacity/Close waiting for a slot, or waits for the semaphore
  held by such a ScaleCapacity; and unless all have finished, the pool is simply
  exhausted: the channel is empty and open, and every one of the pool's slots
  (capacity + the ones the shrink still has to take out) is a resource in the
  hands of a client.  That is the wait the pool had before the semaphore was
  introduced (a Get on an exhausted pool, Close "waits for all resources to be
  returned"), ended by any Put — which takes neither lock — or by the Get's
  context; nobody ever waits for a lock whose holder cannot move.
-/
theorem no_deadlock {capacity maxCap : Int} {dyn : Bool} {progs : List (List Op)} {s0 s : State}
    (h0 : init capacity maxCap dyn progs = some s0) (hr : ReachAll s0 s)
    (hstuck : ∀ j, step s j {} = none) :
    (∀ t ∈ s.threads, Finished t ∨ AtGetWait t ∨ AtShrinkRecv t
        ∨ (AtScaleLock t ∧ ∃ u ∈ s.threads, AtShrinkRecv u))
    ∧ ((∃ t ∈ s.threads, ¬ Finished t) →
        s.pool.chan = [] ∧ s.pool.closed = false
        ∧ (handedOut s : Int) = s.pool.capacity + (sumN closeP s.threads : Nat)) := by
  obtain ⟨hI, hL, -⟩ := reach_inv h0 hr
  exact hI.no_deadlock hL hstuck

/--
  **C24: a resource is never issued twice** — full strength: every program,
  every operation (including the racy capacity changes), every interleaving.
  In every reachable state every resource number is in at most one place
  (a slot of the channel, an operation in progress, a client).
-/
theorem pool_no_double_issue {capacity maxCap : Int} {dyn : Bool} {progs : List (List Op)} {s0 s : State}
    (h0 : init capacity maxCap dyn progs = some s0) (hr : ReachAll s0 s) (r : Nat) : occ r s ≤ 1 :=
  ((reach_inv h0 hr).2.2 r).1

theorem ND.no_two_holders {s : State} (hN : ND s) {i j : Nat} {t1 t2 : Thread} (hi : s.threads[i]? = some t1)
    (hj : s.threads[j]? = some t2) (hij : i ≠ j) (r : Nat) (h1 : r ∈ t1.held) :
    r ∉ t2.held ∧ t1.held.count r = 1 := by
  have ho := (hN r).1
  have h2 := sumN_two_le (resW r) s.threads i j t1 t2 hij hi hj
  have c1 : 0 < t1.held.count r := List.count_pos_iff.mpr h1
  unfold occ at ho
  constructor
  · intro hin
    have c2 : 0 < t2.held.count r := List.count_pos_iff.mpr hin
    simp [resW] at h2
    omega
  · simp [resW] at h2
    omega

/-- Consequence in the words of the property: two different threads never hold
    the same resource, and no client holds it twice. -/
theorem no_two_holders {capacity maxCap : Int} {dyn : Bool} {progs : List (List Op)} {s0 s : State}
    (h0 : init capacity maxCap dyn progs = some s0) (hr : ReachAll s0 s)
    {i j : Nat} {t1 t2 : Thread} (hi : s.threads[i]? = some t1) (hj : s.threads[j]? = some t2) (hij : i ≠ j)
    (r : Nat) (h1 : r ∈ t1.held) : r ∉ t2.held ∧ t1.held.count r = 1 :=
  (reach_inv h0 hr).2.2.no_two_holders hi hj hij r h1

theorem reachAll_run (s0 s : State) (hs : ReachAll s0 s) (sched : List (Nat × Alt)) :
    ReachAll s0 (run s sched) := by
  induction sched generalizing s with
  | nil => exact hs
  | cons x rest ih =>
    obtain ⟨i, a⟩ := x
    unfold run
    cases h : step s i a with
    | none => simpa using ih s hs
    | some r => obtain ⟨s', ev⟩ := r; simpa using ih s' (.step hs h)

def rep (i n : Nat) : List (Nat × Alt) := List.replicate n (i, {})

theorem exists_of_run (c m : Int) (d : Bool) (progs : List (List Op)) (sched : List (Nat × Alt))
    (P : State → Bool) (h : ((init c m d progs).map fun s0 => P (run s0 sched)) = some true) :
    ∃ s0 s, init c m d progs = some s0 ∧ ReachAll s0 s ∧ P s = true := by
  cases hi : init c m d progs with
  | none => simp [hi] at h
  | some s0 =>
    simp [hi] at h
    exact ⟨s0, run s0 sched, rfl, reachAll_run s0 s0 .init sched, h⟩

def pcOf (s : State) (i : Nat) : Option Pc := s.threads[i]?.map (·.pc)

/-! ### The schedules that broke the pool before fix b12dcd5 (corpus/C24 lines 1–5), on the repaired pool

  Each of them runs into the window of a shrinking ScaleCapacity; the capacity
  change waits (or, for the scale-out, is refused and the Get waits for a
  returned resource). -/

/-- corpus line 1: capacity 1, max 2, clients 0 and 1 hold both slots, the
    scale-in goroutine (thread 4) has swapped 2 → 1 and waits for a slot.
    Client 2 finds the semaphore taken, does not scale out and waits: two
    resources out, not three.  Once client 0 returns its resource the shrink
    completes. -/
def w1Progs : List (List Op) := [[.get 0, .put], [.get 0, .put], [.get 0, .put], [.age, .tick]]
def w1Sched : List (Nat × Alt) := rep 0 6 ++ rep 1 14 ++ rep 3 6 ++ rep 4 4 ++ rep 2 12

example : ∃ s0 s, init 1 2 true w1Progs = some s0 ∧ ReachAll s0 s ∧
    (handedOut s == 2 && pcOf s 2 == some (.gWait 0) && pcOf s 4 == some (.sShrRecv 1 2 0)
      && s.pool.scaling && s.pool.capacity == 1) = true :=
  exists_of_run 1 2 true w1Progs w1Sched _ (by decide)

example : ∃ s0 s, init 1 2 true w1Progs = some s0 ∧ ReachAll s0 s ∧
    (handedOut s == 1 && pcOf s 4 == some .idle && !s.pool.scaling && s.pool.capacity == 1
      && s.pool.chan.length == 0) = true :=
  exists_of_run 1 2 true w1Progs (w1Sched ++ rep 0 4 ++ rep 4 9) _ (by decide)

/-- corpus line 2: ScaleCapacity(1) pending (3 → 1); ScaleCapacity(3) waits for
    the semaphore (without it, it added two slots); all three Puts succeed and
    the pool ends with capacity 3 = three slots in the channel. -/
def w2Progs : List (List Op) := [[.get 0, .put], [.get 0, .put], [.get 0, .put], [.scale 1], [.scale 3]]
def w2Sched : List (Nat × Alt) := rep 0 6 ++ rep 1 6 ++ rep 2 6 ++ rep 3 4 ++ rep 4 7

example : ∃ s0 s, init 3 3 false w2Progs = some s0 ∧ ReachAll s0 s ∧
    (pcOf s 3 == some (.sShrRecv 1 3 0) && pcOf s 4 == some (.sLock 3) && s.pool.capacity == 1) = true :=
  exists_of_run 3 3 false w2Progs w2Sched _ (by decide)

example : ∃ s0 s, init 3 3 false w2Progs = some s0 ∧ ReachAll s0 s ∧
    (s.threads.all (fun t => t.pc == .idle && t.prog.isEmpty) && s.pool.capacity == 3
      && s.pool.chan.length == 3 && s.pool.inUse == 0) = true :=
  exists_of_run 3 3 false w2Progs (w2Sched ++ rep 0 4 ++ rep 1 4 ++ rep 3 9 ++ rep 4 12 ++ rep 2 4 ++ rep 4 9) _ (by decide)

/-- corpus lines 3–5: ScaleCapacity(1) pending (2 → 1); Close waits for the
    semaphore, then for both resources, and closes an empty pool: no Put meets
    a closed channel and the quiescent equation holds at the end. -/
def w3Progs : List (List Op) := [[.get 0, .put], [.get 0, .put], [.scale 1], [.close]]
def w3Sched : List (Nat × Alt) := rep 0 6 ++ rep 1 6 ++ rep 2 4 ++ rep 3 5

example : ∃ s0 s, init 2 2 false w3Progs = some s0 ∧ ReachAll s0 s ∧
    (pcOf s 2 == some (.sShrRecv 1 2 0) && pcOf s 3 == some (.sLock 0) && !s.pool.closed) = true :=
  exists_of_run 2 2 false w3Progs w3Sched _ (by decide)

example : ∃ s0 s, init 2 2 false w3Progs = some s0 ∧ ReachAll s0 s ∧
    (s.threads.all (fun t => t.pc == .idle && t.prog.isEmpty) && s.pool.closed && s.pool.capacity == 0
      && s.pool.chan.length == 0 && s.pool.inUse == 0) = true :=
  exists_of_run 2 2 false w3Progs (w3Sched ++ rep 0 4 ++ rep 2 9 ++ rep 3 9 ++ rep 1 4 ++ rep 3 9) _ (by decide)

/-- fix 481c0c2: ScaleCapacity(0) closes the channel while an idle sweep is
    between two slots; the sweep returns instead of sending the zero value. -/
example : ∃ s0 s, init 2 2 false [[.sweep], [.scale 0]] = some s0 ∧ ReachAll s0 s ∧
    (s.threads.all (fun t => t.pc == .idle) && s.pool.closed && s.pool.idleBusy == 0) = true :=
  exists_of_run 2 2 false [[.sweep], [.scale 0]] (rep 0 4 ++ rep 1 20 ++ rep 0 5) _ (by decide)

/-! ### Non-vacuity -/

def roundRobin (n steps : Nat) : List (Nat × Alt) := (List.range steps).map fun k => (k % n, {})

def exProgs : List (List Op) :=
  [[.get 0, .put, .get 1, .drop], [.get 0, .put, .get 3], [.sweep, .sweep], [.setCap 2], [.age, .tick, .scale 1], [.close]]

/-- `pool_safe` is about runs in which everything happens: two clients, a
    sweeper, a growing SetCapacity, a scale-in tick, a ScaleCapacity and a
    Close, interleaved step by step; the run passes through a state with
    `maxCap` resources handed out and ends closed and quiescent. -/
example : ∃ s0 s1 s2, init 1 2 true exProgs = some s0 ∧ ReachAll s0 s1 ∧ ReachAll s0 s2 ∧
    handedOut s1 = 2 ∧ s2.pool.closed = true ∧ (∀ t ∈ s2.threads, t.pc = .idle ∧ t.prog = []) := by
  refine ⟨(init 1 2 true exProgs).get (by decide), run _ (rep 0 6 ++ rep 1 14), run _ (roundRobin 7 200), by simp,
    reachAll_run _ _ .init _, reachAll_run _ _ .init _, by decide, by decide, by decide⟩

/-- … and runs in which the automatic scale-in fires while both resources are
    out (thread 4 is its goroutine), Close queues behind it, and both complete
    as the resources come back. -/
example : ∃ s0 s, init 1 2 true [[.get 0, .put], [.get 0, .put], [.age, .tick], [.close]] = some s0 ∧ ReachAll s0 s ∧
    s.threads.length = 5 ∧ s.pool.closed = true ∧ s.pool.capacity = 0 ∧ s.pool.inUse = 0
    ∧ (∀ t ∈ s.threads, t.pc = .idle ∧ t.prog = []) := by
  refine ⟨(init 1 2 true [[.get 0, .put], [.get 0, .put], [.age, .tick], [.close]]).get (by decide),
    run _ (rep 0 6 ++ rep 1 14 ++ rep 2 6 ++ rep 4 4 ++ rep 3 9 ++ rep 0 4 ++ rep 4 9 ++ rep 3 20 ++ rep 1 4 ++ rep 3 9),
    by simp, reachAll_run _ _ .init _, by decide, by decide, by decide, by decide, by decide⟩

/-- Stuck states are found by looking at the finitely many threads. -/
theorem stuck_of_all (s : State)
    (h : (List.range s.threads.length).all (fun j => (step s j {}).isNone) = true) : ∀ j, step s j {} = none := by
  intro j
  rcases Nat.lt_or_ge j s.threads.length with hj | hj
  · have := List.all_eq_true.mp h j (List.mem_range.mpr hj)
    simpa using this
  · unfold step
    simp [List.getElem?_eq_none hj]

/-- The hypothesis of `no_deadlock` is satisfiable by a state with unfinished
    threads, and its conclusion names all three kinds of waiting: client 0
    holds both resources and has ended; ScaleCapacity(1) has lowered the
    capacity and waits for a slot; Close waits for the semaphore; a second
    client waits in Get. -/
example : ∃ s0 s, init 2 2 false [[.get 0, .get 0], [.scale 1], [.close], [.get 0]] = some s0 ∧ ReachAll s0 s ∧
    (∀ j, step s j {} = none) ∧ (∃ t ∈ s.threads, ¬ Finished t) ∧
    pcOf s 1 = some (.sShrRecv 1 2 0) ∧ pcOf s 2 = some (.sLock 0) ∧ pcOf s 3 = some (.gWait 0) ∧
    handedOut s = 2 := by
  refine ⟨(init 2 2 false [[.get 0, .get 0], [.scale 1], [.close], [.get 0]]).get (by decide),
    run _ (rep 0 12 ++ rep 1 9 ++ rep 2 9 ++ rep 3 9), by simp, reachAll_run _ _ .init _,
    stuck_of_all _ (by decide), by decide, by decide, by decide, by decide, by decide⟩

/-- The hypotheses of `scaling_held_has_running_holder` / `holder_rank_decreases`
    hold in reachable states: here the scale-in goroutine holds the semaphore
    with rank 5 while a Close waits for it. -/
example : ∃ s0 s, init 1 2 true [[.get 0], [.get 0], [.age, .tick], [.close]] = some s0 ∧ ReachAll s0 s ∧
    s.pool.scaling = true ∧ (s.threads[4]?.map holder) = some 1 ∧ (s.threads[4]?.map (rank s.pool)) = some 5
    ∧ pcOf s 3 = some (.sLock 0) := by
  refine ⟨(init 1 2 true [[.get 0], [.get 0], [.age, .tick], [.close]]).get (by decide),
    run _ (rep 0 6 ++ rep 1 14 ++ rep 2 6 ++ rep 4 4 ++ rep 3 9), by simp, reachAll_run _ _ .init _,
    by decide, by decide, by decide, by decide⟩

/-- `pool_no_double_issue` is about states in which resources really are in
    circulation: here resource 0 is held by client 0 and resource 1 lies in the channel. -/
example : ∃ s0 s, init 2 2 true [[.get 0], [.get 0, .put]] = some s0 ∧ ReachAll s0 s ∧
    occ 0 s = 1 ∧ occ 1 s = 1 ∧ s.pool.chan.count (some 1) = 1 := by
  refine ⟨(init 2 2 true [[.get 0], [.get 0, .put]]).get (by decide), run _ (roundRobin 2 40), by simp,
    reachAll_run _ _ .init _, by decide, by decide, by decide⟩

end GaeaVerif.C24
