import GaeaVerif.Lemmas.MgrReload
import GaeaVerif.Gen.Consts
/-
  C31 — Online reload never loses or resurrects a namespace configuration.

  Theorems about `Model/MgrReload.lean` (the model of the repaired
  `Manager.ReloadNamespacePrepare / ReloadNamespaceCommit / DeleteNamespace`;
  the tie to /repo/proxy/server/manager.go is the correspondence `gvh run C31`).

  Rendering of the English property.  A history is any list of operations
  `prepare n v` (possibly of a configuration the proxy cannot build),
  `commit n`, `delete n` — the operations of all administrators in the order in
  which `Manager.reloadMu` admits them.  `Spec` keeps, per namespace, the
  configuration last committed or deleted (`active`) and the configuration last
  prepared (`prepared`), updated from the *observed* outcomes.  The theorems say
  that after every operation of every history the tables sessions read
  (`GetNamespace`, `GetNamespaceByUser`) are exactly `active`:
    * a successful commit of `n` activates the version last prepared for `n`
      and changes no other namespace (`commit_activates_last_prepared`);
    * failed commits, prepares and failed prepares change nothing, a delete
      removes that namespace only (`prepare_keeps_view`, `failed_commit_keeps_view`,
      `delete_removes_only_that`);
    * a deleted namespace stays absent until a commit of it succeeds
      (`deleted_stays_deleted`);
    * no operation panics (`reload_history`);
    * a reader that looks between two stores of a running operation sees the
      generation before or the generation after it, namespaces and users from
      the same one (`reader_sees_complete_generation`).
  `pinned_*_witness`: the histories on which the code before the repair
  violated this (regression witnesses for the `fix:` commit).
-/
namespace GaeaVerif.C31
open GaeaVerif GaeaVerif.MgrReload

/-- The modelling step "one operation = one atomic step" is what the source
    does: the three operations each start with `Lock` / `defer Unlock` of one
    `sync.Mutex` field of `Manager` (structural fact extracted from
    proxy/server/manager.go on every run; removing a lock breaks this proof). -/
theorem reload_ops_serialised : Gen.mgrReloadOpsSerialised = true := by decide

@[simp] theorem put_not' {α : Type} (a : Pair α) (i : Bool) (x : α) : (a.put i x) (!i) = a (!i) := by
  cases i <;> simp [Pair.put]

/-- The abstract state after a history, driven by the outcomes the manager gave. -/
def specRun (m : Manager) (s : Spec) : List Op → List (Out × Manager × Spec)
  | [] => []
  | op :: rest =>
    let r := step m op
    let s' := s.step op r.2
    (r.2, r.1, s') :: specRun r.1 s' rest

theorem specRun_length (m : Manager) (s : Spec) (ops : List Op) : (specRun m s ops).length = ops.length := by
  induction ops generalizing m s with
  | nil => rfl
  | cons op rest ih => simp [specRun, ih]

theorem specRun_outcomes (m : Manager) (s : Spec) (ops : List Op) :
    (specRun m s ops).map (fun e => (e.1, e.2.1)) = run m ops := by
  induction ops generalizing m s with
  | nil => rfl
  | cons op rest ih => simp [specRun, run, ih]

theorem history_refines {m : Manager} {s : Spec} (h : Rel m s) (ops : List Op) :
    ∀ e ∈ specRun m s ops, Rel e.2.1 e.2.2 ∧ e.1 ≠ .panic := by
  induction ops generalizing m s with
  | nil => exact List.forall_mem_nil _
  | cons op rest ih => exact List.forall_mem_cons.mpr ⟨step_refines h op, ih (step_refines h op).1⟩

/-- **C31, main statement.**  From the state `CreateManager` builds out of any
    set of configurations, after every operation of every history: the
    operation did not panic, and for every namespace both tables sessions read
    hold exactly the configuration last committed or deleted for it (`active`
    of the reference semantics; `none` = absent). -/
theorem reload_history (cfgs : List (Name × Ver)) (ops : List Op) :
    ∀ e ∈ specRun (CreateManager cfgs) (Spec.init cfgs) ops,
      e.1 ≠ .panic ∧
      (∀ n, GetNamespace e.2.1 n = some (e.2.2.active n)) ∧
      (∀ n, GetNamespaceByUser e.2.1 n = some (e.2.2.active n)) := by
  intro e he
  have := history_refines (rel_init cfgs) ops e he
  exact ⟨this.2, fun n => (view_eq_active this.1 n).1, fun n => (view_eq_active this.1 n).2⟩

example : (specRun (CreateManager [(0, 1), (1, 1)]) (Spec.init [(0, 1), (1, 1)])
    [.prepare 0 2 true, .prepare 1 2 true, .commit 0, .commit 1, .delete 0]).map (·.1) =
    [.ok, .ok, .errNotPrepared, .ok, .ok] := by decide +kernel

/-- A successful commit of `n` activates exactly the version last prepared for
    `n` and leaves every other namespace as it was; it can only succeed when a
    version was prepared for `n`. -/
theorem commit_activates_last_prepared {m : Manager} {s : Spec} (h : Rel m s) (n : Name)
    (hok : (ReloadNamespaceCommit m n).2 = .ok) :
    ∃ v, s.prepared n = some v ∧
      GetNamespace (ReloadNamespaceCommit m n).1 n = some (some v) ∧
      GetNamespaceByUser (ReloadNamespaceCommit m n).1 n = some (some v) ∧
      ∀ k, k ≠ n → GetNamespace (ReloadNamespaceCommit m n).1 k = GetNamespace m k ∧
                   GetNamespaceByUser (ReloadNamespaceCommit m n).1 k = GetNamespaceByUser m k := by
  have hc := commit_refines h n
  rcases hc.2 with h1 | ⟨_, _, _, v, hv⟩
  · rw [h1] at hok; cases hok
  · have hr := hc.1
    rw [hok] at hr
    rw [step_commit_ok hv] at hr
    have a := view_eq_active hr n
    simp only [set_same] at a
    exact ⟨v, hv, a.1, a.2, fun k hk =>
      step_keeps_view h (.commit n) k (fun c => hk (Op.commit.inj c.1).symm) (fun c => Op.noConfusion c.1)⟩

example : (ReloadNamespaceCommit (ReloadNamespacePrepare (CreateManager [(0, 1)]) 0 2 true).1 0).2 = .ok := by decide

/-- A commit that fails changes nothing sessions can see. -/
theorem failed_commit_keeps_view {m : Manager} {s : Spec} (h : Rel m s) (n : Name)
    (hne : (ReloadNamespaceCommit m n).2 ≠ .ok) (k : Name) :
    GetNamespace (ReloadNamespaceCommit m n).1 k = GetNamespace m k ∧
    GetNamespaceByUser (ReloadNamespaceCommit m n).1 k = GetNamespaceByUser m k :=
  step_keeps_view h (.commit n) k (fun c => hne c.2) (fun c => Op.noConfusion c.1)

example : (ReloadNamespaceCommit (CreateManager [(0, 1)]) 0).2 ≠ .ok := by decide

/-- A prepare (successful or not) changes nothing sessions can see. -/
theorem prepare_keeps_view {m : Manager} {s : Spec} (h : Rel m s) (n : Name) (v : Ver) (b : Bool) (k : Name) :
    GetNamespace (ReloadNamespacePrepare m n v b).1 k = GetNamespace m k ∧
    GetNamespaceByUser (ReloadNamespacePrepare m n v b).1 k = GetNamespaceByUser m k :=
  step_keeps_view h (.prepare n v b) k (fun c => Op.noConfusion c.1) (fun c => Op.noConfusion c.1)

/-- A delete removes that namespace and no other. -/
theorem delete_removes_only_that {m : Manager} {s : Spec} (h : Rel m s) (n : Name) :
    GetNamespace (DeleteNamespace m n).1 n = some none ∧
    GetNamespaceByUser (DeleteNamespace m n).1 n = some none ∧
    ∀ k, k ≠ n → GetNamespace (DeleteNamespace m n).1 k = GetNamespace m k ∧
                 GetNamespaceByUser (DeleteNamespace m n).1 k = GetNamespaceByUser m k := by
  have hr := (delete_refines h n).1
  rw [(delete_refines h n).2] at hr
  have a := view_eq_active hr n
  simp only [step_delete_ok, erase_same] at a
  exact ⟨a.1, a.2, fun k hk =>
    step_keeps_view h (.delete n) k (fun c => Op.noConfusion c.1) (fun c => hk (Op.delete.inj c.1).symm)⟩

/-- A deleted (absent) namespace stays absent through any further history in
    which no commit of it succeeds: nothing resurrects it. -/
theorem deleted_stays_deleted {m : Manager} {s : Spec} (h : Rel m s) (n : Name)
    (habs : GetNamespace m n = some none) (ops : List Op)
    (hno : ∀ (i : Nat) (e : Out × Manager), ops[i]? = some (Op.commit n) → (run m ops)[i]? = some e → e.1 ≠ .ok) :
    ∀ e ∈ run m ops, GetNamespace e.2 n = some none ∧ GetNamespaceByUser e.2 n = some none := by
  have hs0 : s.active n = none := by
    have := (view_eq_active h n).1
    rw [habs] at this
    simpa using this.symm
  clear habs
  induction ops generalizing m s with
  | nil => exact List.forall_mem_nil _
  | cons op rest ih =>
    have hst := (step_refines h op).1
    have hact : (s.step op (step m op).2).active n = none := by
      by_cases hd : op = .delete n ∧ (step m op).2 = .ok
      · obtain ⟨rfl, ho⟩ := hd
        rw [ho]; exact erase_same _ n
      · rw [spec_active_unchanged s op (step m op).2 n
          (fun hc => hno 0 (_, _) (congrArg some hc.1) rfl hc.2) hd, hs0]
    refine List.forall_mem_cons.mpr ⟨?_, ih hst (fun i e' hi hr => hno (i + 1) e' hi hr) hact⟩
    have v := view_eq_active hst n
    rwa [hact] at v

example : (run (CreateManager [(0, 1), (1, 1)]) [.delete 1, .prepare 0 2 true, .commit 0]).map
    (fun e => GetNamespace e.2 1) = [some none, some none, some none] := by decide +kernel

theorem step_eq_trace (m : Manager) (op : Op) : step m op = ((trace m op).1.getLastD m, (trace m op).2) := by
  cases op <;> rfl

theorem view_congr {m m' : Manager} (hn : m'.namespaces m'.switchIndex = m.namespaces m.switchIndex)
    (hu : m'.users m'.switchIndex = m.users m.switchIndex) :
    GetNamespace m' = GetNamespace m ∧ GetNamespaceByUser m' = GetNamespaceByUser m := by
  unfold GetNamespace GetNamespaceByUser
  rw [hn, hu]
  exact ⟨rfl, rfl⟩

/-- Every store of an operation goes to the inactive generation or to the
    prepare flag and name, except the last one of a commit or delete, which
    flips `switchIndex`: this needs no invariant. -/
theorem trace_frame (m : Manager) (op : Op) :
    ∀ m' ∈ (trace m op).1,
      (GetNamespace m' = GetNamespace m ∧ GetNamespaceByUser m' = GetNamespaceByUser m) ∨ m' = (step m op).1 := by
  rw [step_eq_trace]
  cases op with
  | prepare n v b =>
    rw [trace]
    fun_cases ReloadNamespacePrepareTrace m n v b
    · exact List.forall_mem_nil _
    · exact List.forall_mem_nil _
    · exact List.forall_mem_singleton.mpr (.inl (view_congr (put_not ..) rfl))
    · simp only [List.forall_mem_cons]
      exact ⟨.inl (view_congr (put_not ..) rfl), .inl (view_congr (put_not ..) (put_not ..)),
        .inl (view_congr (put_not ..) (put_not ..)), .inl (view_congr (put_not ..) (put_not ..)), List.forall_mem_nil _⟩
  | commit n =>
    rw [trace]
    fun_cases ReloadNamespaceCommitTrace m n
    · exact List.forall_mem_nil _
    · exact List.forall_mem_singleton.mpr (.inr rfl)
    all_goals
      simp only [List.forall_mem_cons]
      exact ⟨.inl (view_congr rfl rfl), .inr rfl, List.forall_mem_nil _⟩
  | delete n =>
    rw [trace]
    fun_cases DeleteNamespaceTrace m n
    · exact List.forall_mem_nil _
    · exact List.forall_mem_nil _
    · exact List.forall_mem_singleton.mpr (.inr rfl)
    · simp only [List.forall_mem_cons]
      exact ⟨.inl (view_congr (put_not ..) rfl), .inl (view_congr (put_not ..) (put_not ..)),
        .inl (view_congr (put_not ..) (put_not ..)), .inr rfl, List.forall_mem_nil _⟩

/-- **Sessions observe one complete generation.**  While an operation runs
    (from any state reachable by whole operations), a reader looking after any
    of its stores finds namespaces and users of the same generation, and that
    generation is the one before the operation or the one after it. -/
theorem reader_sees_complete_generation {m : Manager} {s : Spec} (h : Rel m s) (op : Op) :
    ∀ m' ∈ (trace m op).1,
      (∀ n, GetNamespace m' n = GetNamespaceByUser m' n) ∧
      ((∀ n, GetNamespace m' n = GetNamespace m n) ∨
       (∀ n, GetNamespace m' n = GetNamespace (step m op).1 n)) := by
  intro m' hm'
  have agree {m s} (h : Rel m s) (n) : GetNamespace m n = GetNamespaceByUser m n :=
    (view_eq_active h n).1.trans (view_eq_active h n).2.symm
  rcases trace_frame m op m' hm' with ⟨hn, hu⟩ | rfl
  · exact ⟨fun n => by rw [hn, hu]; exact agree h n, .inl fun n => congrFun hn n⟩
  · exact ⟨agree (step_refines h op).1, .inr fun _ => rfl⟩

example : ((trace (ReloadNamespacePrepare (CreateManager [(0, 1)]) 0 2 true).1 (.commit 0)).1.map
    (fun m' => (GetNamespace m' 0, GetNamespaceByUser m' 0))) =
    [(some (some 1), some (some 1)), (some (some 2), some (some 2))] := by decide +kernel

/-- Before the repair: `prepare 0 v2; prepare 1 v2; commit 0` left namespace 0
    at version 1 (its prepared change lost) and activated the uncommitted
    version 2 of namespace 1. -/
theorem pinned_lost_witness :
    let r := Pinned.run (CreateManager [(0, 1), (1, 1)]) [.prepare 0 2 true, .prepare 1 2 true, .commit 0]
    r.map (fun e => (e.1, GetNamespace e.2 0, GetNamespace e.2 1)) =
      [(.ok, some (some 1), some (some 1)), (.ok, some (some 1), some (some 1)),
       (.ok, some (some 1), some (some 2))] := by decide +kernel

/-- Before the repair: `prepare 0 v2; delete 1; commit 0` brought the deleted
    namespace 1 back and dropped the change of namespace 0. -/
theorem pinned_resurrect_witness :
    let r := Pinned.run (CreateManager [(0, 1), (1, 1)]) [.prepare 0 2 true, .delete 1, .commit 0]
    r.map (fun e => (e.1, GetNamespace e.2 0, GetNamespace e.2 1)) =
      [(.ok, some (some 1), some (some 1)), (.ok, some (some 1), some none),
       (.ok, some (some 1), some (some 1))] := by decide +kernel

/-- Before the repair: a commit of a name the prepared generation does not
    hold switched generations (activating the other namespace's uncommitted
    version) and then dereferenced a nil namespace. -/
theorem pinned_commit_other_name_witness :
    let r := Pinned.run (CreateManager [(0, 1)]) [.prepare 0 2 true, .commit 1]
    r.map (fun e => (e.1, GetNamespace e.2 0)) = [(.ok, some (some 1)), (.panic, some (some 2))] := by decide +kernel

/-- The same histories on the repaired machine. -/
theorem repaired_on_witness_histories :
    ((run (CreateManager [(0, 1), (1, 1)]) [.prepare 0 2 true, .prepare 1 2 true, .commit 0, .commit 1]).map
        (fun e => (e.1, GetNamespace e.2 0, GetNamespace e.2 1)) =
      [(.ok, some (some 1), some (some 1)), (.ok, some (some 1), some (some 1)),
       (.errNotPrepared, some (some 1), some (some 1)), (.ok, some (some 1), some (some 2))]) ∧
    ((run (CreateManager [(0, 1), (1, 1)]) [.prepare 0 2 true, .delete 1, .commit 0]).map
        (fun e => (e.1, GetNamespace e.2 0, GetNamespace e.2 1)) =
      [(.ok, some (some 1), some (some 1)), (.ok, some (some 1), some none),
       (.errNotPrepared, some (some 1), some none)]) ∧
    ((run (CreateManager [(0, 1)]) [.prepare 0 2 true, .commit 1, .commit 0]).map
        (fun e => (e.1, GetNamespace e.2 0)) =
      [(.ok, some (some 1)), (.errNotPrepared, some (some 1)), (.ok, some (some 2))]) := by decide +kernel

end GaeaVerif.C31
