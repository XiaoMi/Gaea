import GaeaVerif.Lemmas.TokenizeC06
import GaeaVerif.Model.SpecC22
import GaeaVerif.Gen.Consts
/-
  C22 — Read/write splitting sends only plain reads to replicas.

  Theorems about `Model/RwSplitC22.lean` (`checkExecuteFromSlave`, `handleShow`,
  `getBackendConn`, `doQuery`) and the lexical layer of `Model/TokenizeC06.lean`
  (`Tokenize`, `TrimTrailingComments`); the tie to /repo is the correspondence
  check `gvh run C22`.  `Model/SpecC22.lean` holds the executable reference
  semantics the oracle evaluates.

  Rendering of the English property.  "May run on a replica" is the value `true`
  of `checkExecuteFromSlave` (the fromSlave flag) and, end to end, the node class
  `Node.slave` in the `Route` of `doQuery`.
  * writes never: `writes_go_to_master`, `replica_only_for_plain_reads`;
  * locking reads never, whatever white space and comments follow the clause
    and whatever the letter case: `locking_read_goes_to_master` (grammar of the
    trailing margin: `Margin`; of the clause: `LockClause`), and its form on the
    executable reference semantics `spec_locking_read_goes_to_master`;
  * statements with a master hint never, wherever the `/*master*/` comment
    stands and whatever other comments surround it: `master_hint_goes_to_master`,
    and on the executable reference semantics `hinted_statement_goes_to_master`;
  * read_only probes never: `read_only_probe_goes_to_master`;
  * only read/write-split (or read-only) users at all: `rw_split_decision`;
  * inside a transaction every statement runs on the master: `in_transaction_master`
    (every session, keep-session and read-only users included since fix cb8bfb6:
    `keepsession_master`; the pinned decision is kept in
    `readonly_keepsession_tx_on_replica_witness`);
  * the pieces of a multi-statement packet are routed as if each were sent alone:
    `multi_pieces_routed_alone`, `multi_replica_only_for_plain_reads`;
  * the oracle of the correspondence check accepts every decision of the model:
    `replicaVerdict_of_flag`, `replicaVerdict_of_route`.
-/
namespace GaeaVerif.C22
open GaeaVerif GaeaVerif.Tok GaeaVerif.FastPath GaeaVerif.RwSplit

theorem constants_eq_source :
    String.ofList Tok.masterHint = Gen.c22_masterHint ∧
    String.ofList RwSplit.readonlyVariable = Gen.c22_readonlyVariable ∧
    String.ofList RwSplit.atReadonly = "@@" ++ Gen.c22_readonlyVariable ∧
    String.ofList RwSplit.atGlobalReadonly = "@@" ++ Gen.c22_globalReadonlyVariable ∧
    (RwSplit.rwReadOnly, RwSplit.rwReadWrite, RwSplit.rwSplitOn) =
      (Gen.c22_ReadOnly, Gen.c22_ReadWrite, Gen.c22_ReadWriteSplit) :=
  ⟨String.ofList_toList, String.ofList_toList, String.ofList_toList.trans (by decide +kernel),
    String.ofList_toList.trans (by decide +kernel), rfl⟩

/-- `canHandleWithoutPlan` lists SHOW and the kinds the model leaves out. -/
theorem withoutPlanKinds_eq_source :
    FastPath.stmtShow :: RwSplit.otherWithoutPlan = Gen.c22_withoutPlanKinds := rfl

/-- The statement kinds the model names by number are the parser's. -/
theorem stmtKinds_eq_source :
    [("StmtDDL", RwSplit.stmtDDL), ("StmtLoad", RwSplit.stmtLoad)].all
      (fun kv => Gen.c21StmtKinds.lookup kv.1 == some kv.2) = true ∧
    ["StmtCallProc", "StmtPrepare", "StmtExecute", "StmtWith", "StmtComment"].map
      (fun k => Gen.c21StmtKinds.lookup k) = RwSplit.roTextDecided.map some := by decide +kernel

/-- White space and comments: what may follow the last token of a statement.
    Blanks (` `, `\t`, `\n`, `\v`, `\f`, `\r`), block comments (the body holds
    no `*/`), `#` comments and `--` comments (`--` followed by a blank, a control
    character or the end of the line) up to the end of the line or of the text. -/
inductive Margin : Str → Prop where
  | nil : Margin []
  | blank (c : Char) (r : Str) : isBlank c = true → Margin r → Margin (c :: r)
  | block (b r : Str) : indexClose b = none → Margin r → Margin ('/' :: '*' :: (b ++ '*' :: '/' :: r))
  | hashLine (l r : Str) : '\n' ∉ l → Margin r → Margin ('#' :: (l ++ '\n' :: r))
  | hashEnd (l : Str) : '\n' ∉ l → Margin ('#' :: l)
  | dashLine (l r : Str) : '\n' ∉ l → dashStartsComment ('-' :: (l ++ ['\n'])) = true → Margin r →
      Margin ('-' :: '-' :: (l ++ '\n' :: r))
  | dashEnd (l : Str) : '\n' ∉ l → dashStartsComment ('-' :: l) = true → Margin ('-' :: '-' :: l)

/-- The end of a locking read: white space, a word, white space, a word, where
    the two words are, in any letter case, `for update`, `for share`,
    `share mode` (LOCK IN SHARE MODE), `update|share nowait`, `skip locked`. -/
structure LockClause (clause : Str) : Prop where
  ex : ∃ s1 w1 s2 w2 : Str, clause = s1 ++ w1 ++ s2 ++ w2 ∧
    s1 ≠ [] ∧ (∀ c ∈ s1, Spec.isWs c = true) ∧ s2 ≠ [] ∧ (∀ c ∈ s2, Spec.isWs c = true) ∧
    (∀ c ∈ w1, Spec.isLetter c = true) ∧ (∀ c ∈ w2, Spec.isLetter c = true) ∧
    isLockPair (toLower w1) (toLower w2) = true

/-- `h` is a quantifier over four characters, which `decide` can run. -/
theorem forall_ws (P : Char → Prop) (h : ∀ w ∈ [' ', '\t', '\n', '\r'], P w) (w : Char) (hw : Spec.isWs w = true) :
    P w :=
  h w (by simpa [Spec.isWs, or_assoc] using hw)

theorem ws_isSqlSep (w : Char) (hw : Spec.isWs w = true) : isSqlSep w = true :=
  forall_ws (isSqlSep · = true) (by decide) w hw

theorem ws_not_mark (w : Char) (hw : Spec.isWs w = true) : w ∉ lexMarks :=
  forall_ws (· ∉ lexMarks) (by decide) w hw

theorem letter_not_mark (c : Char) (h : Spec.isLetter c = true) : c ∉ lexMarks :=
  not_mem_of_class _ _ (by decide) c h

theorem letter_not_blank (c : Char) (h : Spec.isLetter c = true) : isBlank c = false :=
  Bool.eq_false_iff.2 fun hb => not_mem_of_class _ _ (by decide) c h (mem_of_isBlank c hb)

theorem letter_not_sep (c : Char) (h : Spec.isLetter c = true) : isSqlSep c = false := by
  simpa [isSqlSep] using not_mem_of_class _ sqlSeps (by decide) c h

theorem lexStep_ws (st : Lex) (c : Char) (r : Str) (w : Char) (b : Str) (hw : Spec.isWs w = true) :
    lexStep st c (r ++ w :: b) = lexStep st c r := by
  have hm := ws_not_mark w hw
  obtain ⟨hstar, hctl⟩ :=
    forall_ws (fun w => w ≠ '*' ∧ (decide (w.val ≤ 0x20) || w.val == 0x7f) = true) (by decide) w hw
  have hslash : w ≠ '/' := fun h => hm (by rw [h]; decide)
  have hdash : (w == '-') = false := beq_eq_false_iff_ne.2 fun h => hm (by rw [h]; decide)
  have hhead : ∀ d : Char, w ≠ d → ((r ++ w :: b).head? == some d) = (r.head? == some d) := by
    intro d hd; cases r <;> simp [hd]
  have hdd : dashStartsComment (r ++ w :: b) = dashStartsComment r := by
    match r with
    | [] => simp [dashStartsComment, hdash]
    | [x] => simp [dashStartsComment, hctl]
    | x :: y :: r' => simp [dashStartsComment]
  unfold lexStep
  rw [hdd, hhead '/' hslash, hhead '*' hstar]

theorem trimLoop_ws (a : Str) (w : Char) (b : Str) (hw : Spec.isWs w = true) (st : Lex) (i e : Nat) :
    trimLoop st i e (a ++ w :: b) = trimLoop (lexRun st a) (i + a.length) (trimLoop st i e a) (w :: b) := by
  induction a generalizing st i e with
  | nil => rfl
  | cons c a ih =>
    rw [List.cons_append, trimLoop, lexStep_ws st c a w b hw, ih, List.length_cons, Nat.add_right_comm, Nat.add_assoc]
    rfl

theorem trimLoop_margin (t : Str) (ht : Margin t) (e : Nat) : ∀ i, trimLoop .code i e t = e := by
  have hend : ∀ i, trimLoop .line i e [] = e := fun _ => rfl
  induction ht with
  | nil => exact fun _ => rfl
  | blank c r hc _ ih => exact trimLoop_skip (by rw [lexStep_code c r (blank_not_mark c hc), hc]; rfl) ih
  | block b r hb _ ih => exact trimLoop_skip rfl (trimLoop_skip rfl (trimLoop_block_body b r hb e ih))
  | hashLine l r hl _ ih => exact trimLoop_skip rfl (trimLoop_line_body l _ hl e (trimLoop_skip rfl ih))
  | hashEnd l hl => exact trimLoop_skip rfl (by rw [← List.append_nil l]; exact trimLoop_line_body l [] hl e hend)
  | dashLine l r hl hd _ ih =>
    have hd' : dashStartsComment ('-' :: (l ++ '\n' :: r)) = true := by
      cases l with
      | nil => rfl
      | cons x l' => simpa [dashStartsComment] using hd
    exact trimLoop_skip (lexStep_code_dash _ hd') (trimLoop_skip rfl (trimLoop_line_body l _ hl e (trimLoop_skip rfl ih)))
  | dashEnd l hl hd =>
    exact trimLoop_skip (lexStep_code_dash _ hd)
      (trimLoop_skip rfl (by rw [← List.append_nil l]; exact trimLoop_line_body l [] hl e hend))

theorem isLockPair_ne_nil (a b : Str) (h : isLockPair (toLower a) (toLower b) = true) : a ≠ [] ∧ b ≠ [] := by
  constructor <;> rintro rfl <;> simp [isLockPair, toLower] at h

theorem lock_tail (x w1 s2 w2 : Str)
    (hx : ∀ c, x.getLast? = some c → isSqlSep c = true)
    (h1 : ∀ c ∈ w1, Spec.isLetter c = true) (h2 : ∀ c ∈ w2, Spec.isLetter c = true)
    (hsne : s2 ≠ []) (hs : ∀ c ∈ s2, Spec.isWs c = true)
    (hp : isLockPair (toLower w1) (toLower w2) = true) :
    endsWithLockClause (fieldsFunc isSqlSep (x ++ w1 ++ s2 ++ w2)) = true := by
  obtain ⟨hw1, hw2⟩ := isLockPair_ne_nil _ _ hp
  have hsep : ∀ c ∈ s2, isSqlSep c = true := fun c hc => ws_isSqlSep c (hs c hc)
  have hhead : ∀ c, (s2 ++ w2).head? = some c → isSqlSep c = true := by
    obtain ⟨a, t, rfl⟩ := List.exists_cons_of_ne_nil hsne
    intro c hc
    cases hc
    exact hsep a List.mem_cons_self
  rw [List.append_assoc (x ++ w1), fieldsFunc_word_between isSqlSep x w1 (s2 ++ w2) hw1
      (fun c hc => letter_not_sep c (h1 c hc)) hx hhead,
    fieldsFunc_leading_seps isSqlSep s2 hsep, fieldsFunc_word isSqlSep w2 hw2 (fun c hc => letter_not_sep c (h2 c hc))]
  simpa [endsWithLockClause] using hp

theorem trimTrailingComments_margin (pre clause trail : Str)
    (hpre : lexRun .code pre = .code) (hc : LockClause clause) (ht : Margin trail) :
    trimTrailingComments (pre ++ clause ++ trail) = pre ++ clause := by
  obtain ⟨s1, w1, s2, w2, rfl, hs1ne, hs1, _, hs2, hw1, hw2, hp⟩ := hc.ex
  obtain ⟨w, s1', rfl⟩ := List.exists_cons_of_ne_nil hs1ne
  have hw2ne := (isLockPair_ne_nil _ _ hp).2
  generalize hcl : w :: s1' ++ w1 ++ s2 ++ w2 = clause
  have hplain : ∀ c ∈ clause, c ∉ lexMarks := by
    intro c hcm
    rw [← hcl] at hcm
    simp only [List.mem_append] at hcm
    rcases hcm with ((h | h) | h) | h
    · exact ws_not_mark c (hs1 c h)
    · exact letter_not_mark c (hw1 c h)
    · exact ws_not_mark c (hs2 c h)
    · exact letter_not_mark c (hw2 c h)
  have hlast : ∀ c, clause.getLast? = some c → isBlank c = false := by
    intro c hc
    rw [← hcl, List.getLast?_append, List.getLast?_eq_some_getLast hw2ne, Option.some_or] at hc
    obtain rfl := Option.some.inj hc
    exact letter_not_blank _ (hw2 _ (List.getLast_mem hw2ne))
  have hloop : trimLoop .code 0 0 (pre ++ clause ++ trail) = pre.length + clause.length := by
    have e : pre ++ clause ++ trail = pre ++ w :: (s1' ++ w1 ++ s2 ++ w2 ++ trail) := by simp [← hcl]
    rw [e, trimLoop_ws pre w _ (hs1 w (by simp)), hpre, ← List.cons_append, ← List.cons_append, ← List.cons_append,
      ← List.cons_append, hcl, trimLoop_plain clause trail (by simp [← hcl]) hplain hlast, trimLoop_margin trail ht]
    omega
  rw [trimTrailingComments, hloop, ← List.length_append, List.take_left']
  rfl

theorem checkExecuteFromSlave_iff (c : RwSplit.Cfg) (st : Nat) (tokens : List Str) (sql : Str) :
    checkExecuteFromSlave c st tokens sql = true ↔
      (st = stmtSelect ∨ st = stmtShow) ∧
      (c.allowWrite = false ∨
        ((c.checkSelectLock = false ∨ endsWithLockClause (lockWords sql) = false) ∧
          isReadOnlyProbe st sql = false ∧ hasMasterHint tokens = false ∧ c.isRWSplit = true)) := by
  -- every `if` of the chain has a constant on one side: the chain is a Boolean formula
  simp only [checkExecuteFromSlave, Bool.if_false_left, Bool.if_true_left]
  simp

theorem checkExecuteFromSlave_of_lock (c : RwSplit.Cfg) (st : Nat) (tokens : List Str) (sql : Str)
    (hw : c.allowWrite = true) (hl : c.checkSelectLock = true)
    (hlock : endsWithLockClause (lockWords sql) = true) :
    checkExecuteFromSlave c st tokens sql = false := by
  rw [← Bool.not_eq_true, checkExecuteFromSlave_iff, hw, hl, hlock]
  simp

/-- **C22, locking reads.**  For a user who may write, with `check_select_lock`
    on (`NewNamespace` always turns it on), a SELECT or SHOW that ends in a lock
    clause is not flagged for a replica — in any letter case, with any blanks,
    tabs and line breaks around the two words, and whatever white space and
    comments (trace comments appended by drivers, `-- …`, `# …`) follow it.
    `pre` is everything before the clause; it only has to end outside quotes and
    comments.  `tokens` is arbitrary: the lock test does not depend on it. -/
theorem locking_read_goes_to_master (c : RwSplit.Cfg) (st : Nat) (tokens : List Str) (pre clause trail : Str)
    (hw : c.allowWrite = true) (hl : c.checkSelectLock = true)
    (hpre : lexRun .code pre = .code) (hc : LockClause clause) (ht : Margin trail) :
    checkExecuteFromSlave c st tokens (pre ++ clause ++ trail) = false := by
  apply checkExecuteFromSlave_of_lock c st tokens _ hw hl
  rw [lockWords, trimTrailingComments_margin pre clause trail hpre hc ht]
  obtain ⟨s1, w1, s2, w2, rfl, hs1ne, hs1, hs2ne, hs2, hw1, hw2, hp⟩ := hc.ex
  rw [← List.append_assoc, ← List.append_assoc, ← List.append_assoc]
  apply lock_tail _ w1 s2 w2 _ hw1 hw2 hs2ne hs2 hp
  intro ch hch
  rw [List.getLast?_append, List.getLast?_eq_some_getLast hs1ne, Option.some_or] at hch
  obtain rfl := Option.some.inj hch
  exact ws_isSqlSep _ (hs1 _ (List.getLast_mem hs1ne))

/-- The hypotheses are satisfiable: `select * from t where a = '--' FOR\tUpdate  /* trace_id=1 */ -- x`. -/
example : checkExecuteFromSlave { rwFlag := 2, rwSplit := 1, checkSelectLock := true } stmtSelect []
    ("select * from t where a = '--'".toList ++ " FOR\tUpdate".toList ++ "  /* trace_id=1 */ -- x".toList) = false := by
  repeat rw [String.toList_ofList]
  apply locking_read_goes_to_master _ _ _ _ _ _ rfl rfl (by decide +kernel)
  · exact ⟨[' '], ['F', 'O', 'R'], ['\t'], ['U', 'p', 'd', 'a', 't', 'e'], rfl, by decide, by decide, by decide, by decide,
      by decide, by decide, by decide +kernel⟩
  · exact .blank ' ' _ rfl (.blank ' ' _ rfl
      (.block [' ', 't', 'r', 'a', 'c', 'e', '_', 'i', 'd', '=', '1', ' '] _ (by decide +kernel)
        (.blank ' ' _ rfl (.dashEnd [' ', 'x'] (by decide) (by decide)))))

/-- A text with no quote and no comment mark ends outside quotes and comments. -/
theorem lexRun_code_of_plain (s : Str)
    (h : ∀ c ∈ s, isQuoteChar c = false ∧ c ≠ '/' ∧ c ≠ '#' ∧ c ≠ '-') : lexRun .code s = .code := by
  induction s with
  | nil => rfl
  | cons c s ih =>
    obtain ⟨hq, h2, h3, h4⟩ := h c (by simp)
    simp only [isQuoteChar, Bool.or_eq_false_iff, beq_eq_false_iff_ne] at hq
    rw [lexRun, lexStep_code c s (by simp [lexMarks, hq, h2, h3, h4])]
    exact ih (fun d hd => h d (by simp [hd]))

theorem lockingRead_ends (sql : Str) (hs : Spec.lockingRead sql = true) :
    endsWithLockClause (lockWords sql) = true := by
  rw [lockWords, ← List.reverse_reverse (trimTrailingComments sql)]
  simp only [Spec.lockingRead, Bool.and_eq_true, Bool.not_eq_eq_eq_not, Bool.not_true,
    List.isEmpty_eq_false_iff] at hs
  generalize (trimTrailingComments sql).reverse = r at hs ⊢
  obtain ⟨⟨⟨⟨_, hs2ne⟩, _⟩, hr3⟩, hp⟩ := hs
  -- the reversed text: last word, white space, word before it, the rest
  have e : r = r.takeWhile Spec.isLetter ++ ((r.dropWhile Spec.isLetter).takeWhile Spec.isWs ++
      (((r.dropWhile Spec.isLetter).dropWhile Spec.isWs).takeWhile Spec.isLetter ++
        ((r.dropWhile Spec.isLetter).dropWhile Spec.isWs).dropWhile Spec.isLetter)) := by
    simp only [List.takeWhile_append_dropWhile]
  rw [e]
  simp only [List.reverse_append]
  apply lock_tail
  · intro ch hch
    rw [List.getLast?_reverse] at hch
    rw [List.head?_eq_some_iff] at hch
    obtain ⟨tl, htl⟩ := hch
    rw [htl] at hr3
    exact ws_isSqlSep ch hr3
  · exact fun ch hch => mem_takeWhile _ _ ch (List.mem_reverse.1 hch)
  · exact fun ch hch => mem_takeWhile _ _ ch (List.mem_reverse.1 hch)
  · simpa using hs2ne
  · exact fun ch hch => mem_takeWhile _ _ ch (List.mem_reverse.1 hch)
  · exact hp

/-- **C22, locking reads, on the reference semantics.**  Every statement the
    oracle classifies as a locking read (`Spec.lockingRead`) is not flagged for a
    replica, for every user who may write, with `check_select_lock` on. -/
theorem spec_locking_read_goes_to_master (c : RwSplit.Cfg) (st : Nat) (tokens : List Str) (sql : Str)
    (hw : c.allowWrite = true) (hl : c.checkSelectLock = true)
    (hs : Spec.lockingRead sql = true) :
    checkExecuteFromSlave c st tokens sql = false :=
  checkExecuteFromSlave_of_lock c st tokens sql hw hl (lockingRead_ends sql hs)

example : Spec.lockingRead "select * from t Lock In Share\nMODE /* c */ -- x".toList = true := by
  rw [String.toList_ofList]
  decide +kernel

/-- **C22, writes.**  A statement that is neither SELECT nor SHOW is never flagged for a replica. -/
theorem writes_go_to_master (c : RwSplit.Cfg) (st : Nat) (tokens : List Str) (sql : Str)
    (h1 : st ≠ stmtSelect) (h2 : st ≠ stmtShow) : checkExecuteFromSlave c st tokens sql = false := by
  rw [← Bool.not_eq_true, checkExecuteFromSlave_iff]
  exact fun h => h.1.elim h1 h2

/-- **C22, read_only probes.** -/
theorem read_only_probe_goes_to_master (c : RwSplit.Cfg) (st : Nat) (tokens : List Str) (sql : Str)
    (hw : c.allowWrite = true) (hp : isReadOnlyProbe st sql = true) :
    checkExecuteFromSlave c st tokens sql = false := by
  rw [← Bool.not_eq_true, checkExecuteFromSlave_iff, hw, hp]
  simp

example : isReadOnlyProbe stmtShow "SHOW GLOBAL VARIABLES LIKE 'Read_Only'".toList = true := by
  rw [String.toList_ofList]
  decide +kernel
example : isReadOnlyProbe stmtSelect "select 'a', @@GLOBAL.READ_ONLY".toList = true := by
  rw [String.toList_ofList]
  decide +kernel

theorem checkExecuteFromSlave_of_hint (c : RwSplit.Cfg) (st : Nat) (tokens : List Str) (sql : Str)
    (hw : c.allowWrite = true) (hh : hasMasterHint tokens = true) :
    checkExecuteFromSlave c st tokens sql = false := by
  rw [← Bool.not_eq_true, checkExecuteFromSlave_iff, hw, hh]
  simp

/-- **C22, the decision.**  If a statement is flagged for a replica, then it is a
    SELECT or SHOW, and either the user may not write (read-only users are
    pinned to replicas), or the user is read/write-split and the statement does
    not end in a lock clause (`check_select_lock` on), is no read_only probe and
    carries no master-hint token.  The lock clause is denied twice: on the words the
    code looks at, and (a consequence, by `lockingRead_ends`) on the reference semantics. -/
theorem rw_split_decision (c : RwSplit.Cfg) (st : Nat) (tokens : List Str) (sql : Str)
    (h : checkExecuteFromSlave c st tokens sql = true) :
    (st = stmtSelect ∨ st = stmtShow) ∧
    (c.allowWrite = false ∨
      (c.isRWSplit = true ∧
       (c.checkSelectLock = true → endsWithLockClause (lockWords sql) = false ∧ Spec.lockingRead sql = false) ∧
       isReadOnlyProbe st sql = false ∧ hasMasterHint tokens = false)) := by
  obtain ⟨hst, hrest⟩ := (checkExecuteFromSlave_iff c st tokens sql).1 h
  refine ⟨hst, hrest.imp_right fun ⟨hlk, hp, hh, hsp⟩ => ⟨hsp, fun hl => ?_, hp, hh⟩⟩
  have hends := hlk.resolve_left (by simp [hl])
  exact ⟨hends, Bool.eq_false_iff.2 fun hk => by rw [lockingRead_ends sql hk] at hends; cases hends⟩

example : checkExecuteFromSlave { rwFlag := 2, rwSplit := 1, checkSelectLock := true } stmtSelect
    ["select".toList, "1".toList] "select 1".toList = true := by
  repeat rw [String.toList_ofList]
  decide +kernel

/-- `NewNamespace` never turns `check_select_lock` off, whatever the configuration says. -/
theorem newNamespace_checkSelectLock_always_on (configured : Bool) :
    newNamespaceCheckSelectLock configured = true := by
  cases configured <;> rfl

theorem getBackendConn_node (c : RwSplit.Cfg) (s : Sess) (sl : Slice) (f : Bool) :
    (getBackendConn c s sl f).1 =
      if s.keepSession || s.isInTransaction then .master else getNormalConnection sl f := by
  unfold getBackendConn
  cases s.keepSession <;> cases s.isInTransaction <;> rfl

theorem getNormalConnection_slave (sl : Slice) (f : Bool) (h : getNormalConnection sl f = .slave) : f = true := by
  cases f
  · cases h
  · rfl

theorem getBackendConn_slave (c : RwSplit.Cfg) (s : Sess) (sl : Slice) (f f' : Bool)
    (h : getBackendConn c s sl f = (.slave, f')) :
    s.keepSession = false ∧ s.isInTransaction = false ∧ f = true := by
  have hn := getBackendConn_node c s sl f
  rw [h] at hn
  split at hn
  · cases hn
  · rename_i hkt
    rw [Bool.or_eq_true, not_or, Bool.not_eq_true, Bool.not_eq_true] at hkt
    exact ⟨hkt.1, hkt.2, getNormalConnection_slave sl f hn.symm⟩

theorem allowWrite_not_readOnly (c : RwSplit.Cfg) (hw : c.allowWrite = true) : c.rwFlag ≠ rwReadOnly := by
  intro h
  simp [RwSplit.Cfg.allowWrite, h, rwReadOnly, rwReadWrite] at hw

/-- Which of the outcomes it is does not depend on `f0`, the flag of the request context on entry. -/
theorem doQueryFrom_outcomes (c : RwSplit.Cfg) (s : Sess) (sl : Slice) (db : Str) (st : Nat) (sql : Str) :
    ∃ tokens, tokenize sql = .ok tokens ∧
      ((∀ f0, doQueryFrom f0 c s sl db st sql = .ok .unmodelled) ∨
       (∀ f0, doQueryFrom f0 c s sl db st sql = .ok (.failed f0)) ∨
       (∀ f0, doQueryFrom f0 c s sl db st sql = .ok (.local f0)) ∨
       (∀ f0, doQueryFrom f0 c s sl db st sql =
          .ok (.conn (getBackendConn c s sl (checkExecuteFromSlave c st tokens sql)).1
            (getBackendConn c s sl (checkExecuteFromSlave c st tokens sql)).2))) := by
  obtain ⟨tokens, htok⟩ := tokenize_ok sql
  refine ⟨tokens, htok, ?_⟩
  simp only [doQueryFrom, htok]
  by_cases h1 : (!c.allowWrite && isWriteKind st) = true
  · exact Or.inl fun _ => if_pos h1
  simp only [if_neg h1]
  by_cases h2 : (st == stmtShow) = true
  · obtain rfl : st = stmtShow := eq_of_beq h2
    simp only [if_pos h2]
    cases tokens with
    | nil => exact Or.inr (Or.inl fun _ => rfl)
    | cons t tl =>
      by_cases h3 : ((t :: tl).length == 2 && toLower ((t :: tl).getD 1 []) == kwDatabases) = true
      · exact Or.inr (Or.inr (Or.inl fun _ => if_pos h3))
      · exact Or.inr (Or.inr (Or.inr fun _ => if_neg h3))
  simp only [if_neg h2]
  by_cases h3 : otherWithoutPlan.contains st = true
  · exact Or.inl fun _ => if_pos h3
  simp only [if_neg h3]
  split
  · exact Or.inl fun _ => rfl
  · exact Or.inr (Or.inr (Or.inr fun _ => rfl))

theorem doQueryFrom_false (c : RwSplit.Cfg) (s : Sess) (sl : Slice) (db : Str) (st : Nat) (sql : Str) :
    doQueryFrom false c s sl db st sql = doQuery c s sl db st sql := rfl

theorem doQuery_conn (c : RwSplit.Cfg) (s : Sess) (sl : Slice) (db : Str) (st : Nat) (sql : Str) (n : Node) (f' : Bool)
    (h : doQuery c s sl db st sql = .ok (.conn n f')) :
    ∃ tokens, tokenize sql = .ok tokens ∧
      getBackendConn c s sl (checkExecuteFromSlave c st tokens sql) = (n, f') := by
  obtain ⟨tokens, htok, hout⟩ := doQueryFrom_outcomes c s sl db st sql
  refine ⟨tokens, htok, ?_⟩
  rw [← doQueryFrom_false] at h
  rcases hout with ho | ho | ho | ho <;> rw [ho false] at h <;> cases h
  rfl

/-- A keep-session session is always served by the master, whoever the user
    (read-only users included since fix cb8bfb6) and whatever the flag. -/
theorem keepsession_master (c : RwSplit.Cfg) (s : Sess) (sl : Slice) (db : Str) (st : Nat) (sql : Str)
    (n : Node) (f' : Bool) (hks : s.keepSession = true)
    (h : doQuery c s sl db st sql = .ok (.conn n f')) : n = .master := by
  obtain ⟨tokens, _, hg⟩ := doQuery_conn c s sl db st sql n f' h
  have := getBackendConn_node c s sl (checkExecuteFromSlave c st tokens sql)
  rwa [hg, hks] at this

/-- **C22, inside a transaction.**  In a session that is in a transaction (or
    has autocommit off) - with or without keep-session, for every user - every
    statement that reaches a backend takes its connection from the master,
    whatever the flag. -/
theorem in_transaction_master (c : RwSplit.Cfg) (s : Sess) (sl : Slice) (db : Str) (st : Nat) (sql : Str)
    (n : Node) (f' : Bool) (htx : s.isInTransaction = true)
    (h : doQuery c s sl db st sql = .ok (.conn n f')) : n = .master := by
  obtain ⟨tokens, _, hg⟩ := doQuery_conn c s sl db st sql n f' h
  have := getBackendConn_node c s sl (checkExecuteFromSlave c st tokens sql)
  rwa [hg, htx, Bool.or_true] at this

/-- a read-only user's keep-session transaction (on a replica before fix cb8bfb6) -/
example : doQuery { rwFlag := 1, rwSplit := 1, checkSelectLock := true }
    { keepSession := true, inTrans := true, autocommit := true } { slaveUp := true, fallback := true }
    "db_a".toList stmtSelect "select * from t".toList = .ok (.conn .master false) := by
  repeat rw [String.toList_ofList]
  decide +kernel

example : doQuery { rwFlag := 2, rwSplit := 1, checkSelectLock := true }
    { keepSession := false, inTrans := true, autocommit := true } { slaveUp := true, fallback := true }
    "db_a".toList stmtSelect "select * from t".toList = .ok (.conn .master true) := by
  repeat rw [String.toList_ofList]
  decide +kernel

/-- **C22, end to end.**  If a statement of a user who may write is served by a
    replica, then the session uses neither keep-session nor a transaction, the
    statement is a SELECT or SHOW, the user is read/write-split, the statement
    is no locking read (reference semantics `Spec.lockingRead`; `check_select_lock`
    on), no read_only probe, and none of its tokens is the master hint. -/
theorem replica_only_for_plain_reads (c : RwSplit.Cfg) (s : Sess) (sl : Slice) (db : Str) (st : Nat) (sql : Str)
    (f' : Bool) (hw : c.allowWrite = true)
    (h : doQuery c s sl db st sql = .ok (.conn .slave f')) :
    s.keepSession = false ∧ s.isInTransaction = false ∧ (st = stmtSelect ∨ st = stmtShow) ∧
    c.isRWSplit = true ∧ (c.checkSelectLock = true → Spec.lockingRead sql = false) ∧
    isReadOnlyProbe st sql = false ∧
    ∃ tokens, tokenize sql = .ok tokens ∧ hasMasterHint tokens = false := by
  obtain ⟨tokens, htok, hg⟩ := doQuery_conn c s sl db st sql .slave f' h
  obtain ⟨hks, htx, hf⟩ := getBackendConn_slave c s sl _ f' hg
  obtain ⟨hst, hrest⟩ := rw_split_decision c st tokens sql hf
  obtain ⟨hsp, hlk, hp, hh⟩ := hrest.resolve_left (by simp [hw])
  exact ⟨hks, htx, hst, hsp, fun hl => (hlk hl).2, hp, tokens, htok, hh⟩

example : doQuery { rwFlag := 2, rwSplit := 1, checkSelectLock := true }
    { keepSession := false, inTrans := false, autocommit := true } { slaveUp := true, fallback := true }
    "db_a".toList stmtSelect "select * from t".toList = .ok (.conn .slave true) := by
  repeat rw [String.toList_ofList]
  decide +kernel

/-- A user who may write and uses keep-session is always served by the master. -/
theorem keepsession_writer_master (c : RwSplit.Cfg) (s : Sess) (sl : Slice) (db : Str) (st : Nat) (sql : Str)
    (n : Node) (f' : Bool) (_hw : c.allowWrite = true) (hks : s.keepSession = true)
    (h : doQuery c s sl db st sql = .ok (.conn n f')) : n = .master :=
  keepsession_master c s sl db st sql n f' hks h

/-- `doQuery` cannot panic (its only source would be `Tokenize`). -/
theorem doQuery_never_panics (c : RwSplit.Cfg) (s : Sess) (sl : Slice) (db : Str) (st : Nat) (sql : Str) :
    doQuery c s sl db st sql ≠ .panic := by
  obtain ⟨_, _, hout⟩ := doQueryFrom_outcomes c s sl db st sql
  rw [← doQueryFrom_false]
  rcases hout with ho | ho | ho | ho <;> rw [ho false] <;> exact fun h => nomatch h

open GaeaVerif.RwSplit.Spec (hintWord hintComment caseVariants)

/-- `m` is a spelling of `master` the proxy recognises as the hint: letters
    only, `LowerEqual("*m*", "*master*")` (the test of `checkExecuteFromSlave`)
    and `EqualFold("*m*", "*master*")` (the test of `Tokenize`). -/
structure HintSpelling (m : Str) : Prop where
  letters : ∀ c ∈ m, Spec.isLetter c = true
  lower : lowerEqual (hintWord m) masterHint = true
  fold : equalFold (hintWord m) masterHint = true

theorem HintSpelling.of_variant (m : Str) (h : m ∈ caseVariants Spec.master) : HintSpelling m := by
  have := (by decide +kernel : ∀ m ∈ caseVariants Spec.master,
    (m.all Spec.isLetter && lowerEqual (hintWord m) masterHint && equalFold (hintWord m) masterHint) = true) m h
  simp only [Bool.and_eq_true, List.all_eq_true] at this
  exact ⟨this.1.1, this.1.2, this.2⟩

example : HintSpelling "MaSTer".toList := HintSpelling.of_variant _ (by decide +kernel)

theorem fields_around_hint (m b : Str) (hm : ∀ c ∈ m, Spec.isLetter c = true) :
    fieldsFunc isSqlSep (hintComment m ++ b) = hintWord m :: fieldsFunc isSqlSep b := by
  have hw : ∀ c ∈ hintWord m, isSqlSep c = false := by
    intro c hc
    simp only [hintWord, List.mem_cons, List.mem_append, List.mem_nil_iff, or_false] at hc
    rcases hc with rfl | h | rfl
    · decide
    · exact letter_not_sep c (hm c h)
    · decide
  have e : fieldsFunc isSqlSep ('/' :: b) = fieldsFunc isSqlSep b := fieldsFunc_sep isSqlSep '/' (by decide) [] b
  rw [show hintComment m ++ b = ['/'] ++ hintWord m ++ '/' :: b by simp [hintComment],
    fieldsFunc_word_between isSqlSep ['/'] (hintWord m) ('/' :: b) (by simp [hintWord]) hw
      (fun c hc => by cases hc; decide) (fun c hc => by cases hc; decide), e]
  rfl

theorem tokenizeCore_keeps_hint (a m b : Str) (hs : HintSpelling m) (ha : lexRun .code a = .code)
    (tokens : List Str) (ht : tokenizeCore (a ++ hintComment m ++ b) = .ok tokens) :
    hintWord m ∈ tokens := by
  have hF := fields_around_hint m b hs.letters
  by_cases hne : a = []
  · -- the hint comment opens the text: its word is the first field and, being the hint, is kept
    subst hne
    have hv : ¬hasPrefix versionCommentOpen ([] ++ hintComment m ++ b) = true := by
      cases m with
      | nil => simp [hasPrefix, versionCommentOpen, hintComment, hintWord]
      | cons x m' =>
        have : '!' ≠ x := fun h => absurd (hs.letters x (by simp)) (by rw [← h]; decide)
        simp [hasPrefix, versionCommentOpen, hintComment, hintWord, this]
    obtain ⟨t, ht', _⟩ := tokenizeCore_block _ (hintWord m) _ hv rfl hF
    rw [ht', hs.fold, if_pos rfl] at ht
    cases ht
    simp
  · rw [List.append_assoc] at ht
    exact tokenizeCore_keeps_behind a _ hne ha (fun c hc => by cases hc; decide) tokens ht _
      (by rw [hF]; exact List.mem_cons_self)

theorem trimSpace_around_hint (a m b : Str) :
    trimSpace (a ++ hintComment m ++ b) = a.dropWhile isSpace ++ hintComment m ++ trimRight b := by
  have hs : isSpace '/' = false := by decide
  have e1 : a ++ hintComment m ++ b = a ++ '/' :: (hintWord m ++ '/' :: b) := by simp [hintComment]
  have e2 : (a.dropWhile isSpace ++ '/' :: (hintWord m ++ '/' :: b)).reverse
      = b.reverse ++ '/' :: (a.dropWhile isSpace ++ '/' :: hintWord m).reverse := by simp
  rw [trimSpace, e1, dropWhile_append_stop a '/' _ hs, trimRight, e2, dropWhile_append_stop _ '/' _ hs, trimRight]
  simp [hintComment]

theorem master_hint_in_tokenized_text (c : RwSplit.Cfg) (st : Nat) (sql a m b : Str) (tokens : List Str)
    (hw : c.allowWrite = true) (hs : HintSpelling m) (ha : lexRun .code a = .code)
    (hdec : stripDashLines sql = a ++ hintComment m ++ b)
    (ht : tokenize sql = .ok tokens) :
    checkExecuteFromSlave c st tokens sql = false := by
  rw [tokenize, hdec] at ht
  apply checkExecuteFromSlave_of_hint c st tokens _ hw
  exact List.any_eq_true.2 ⟨hintWord m, tokenizeCore_keeps_hint a m b hs ha tokens ht, hs.lower⟩

/-- **C22, the master hint.**  A SELECT or SHOW of a user who may write that
    contains the comment `/*master*/`, in any letter case, is not flagged for a
    replica — wherever the comment stands (in front of the statement, after its
    first word, inside it, behind it) and whatever other comments and white space
    surround it.  The text before the comment has to end outside quotes and
    comments (`lexRun .code a = .code`: the hint is a comment in its own right).
    This form is for statements that do not begin with a `--` comment; for
    those see `hinted_statement_goes_to_master`. -/
theorem master_hint_goes_to_master (c : RwSplit.Cfg) (st : Nat) (a m b : Str) (tokens : List Str)
    (hw : c.allowWrite = true) (hs : HintSpelling m) (ha : lexRun .code a = .code)
    (hnd : hasPrefix dashDash (trimSpace (a ++ hintComment m ++ b)) = false)
    (ht : tokenize (a ++ hintComment m ++ b) = .ok tokens) :
    checkExecuteFromSlave c st tokens (a ++ hintComment m ++ b) = false := by
  have hdec : stripDashLines (a ++ hintComment m ++ b)
      = a.dropWhile isSpace ++ hintComment m ++ trimRight b := by
    simp only [stripDashLines, hnd, Bool.false_eq_true, if_false]
    exact trimSpace_around_hint a m b
  exact master_hint_in_tokenized_text c st _ _ m _ tokens hw hs ((lexRun_dropWhile_space a).trans ha) hdec ht

/-- The hypotheses are satisfiable: a trace comment in front of and behind a hint
    that follows the statement. -/
example : checkExecuteFromSlave { rwFlag := 2, rwSplit := 1, checkSelectLock := true } stmtSelect
    ["select".toList, "*".toList, "from".toList, "t".toList, "*MASTER*".toList, "*".toList, "trace_id=1".toList, "*".toList]
    ("/* c */ select * from t ".toList ++ hintComment "MASTER".toList ++ " /* trace_id=1 */".toList) = false := by
  repeat rw [String.toList_ofList]
  apply master_hint_goes_to_master _ _ _ _ _ _ rfl (HintSpelling.of_variant _ (by decide +kernel)) (by decide +kernel)
    (by decide +kernel)
  decide +kernel

/-- **C22, the master hint, on the reference semantics.**  Every statement the
    oracle classifies as hinted (`Spec.hinted`: the comment `/*master*/` in any
    letter case, anywhere outside quotes and other comments, the statement read
    as `Tokenize` reads it) is not flagged for a replica, for every user who may
    write.  No restriction on how the statement begins. -/
theorem hinted_statement_goes_to_master (c : RwSplit.Cfg) (st : Nat) (sql : Str) (tokens : List Str)
    (hw : c.allowWrite = true) (hh : Spec.hinted sql = true) (ht : tokenize sql = .ok tokens) :
    checkExecuteFromSlave c st tokens sql = false := by
  unfold Spec.hinted at hh
  simp only [List.any_eq_true, Bool.and_eq_true, beq_iff_eq] at hh
  obtain ⟨i, _, ⟨_, m, hm, hpre⟩, hrun⟩ := hh
  obtain ⟨t, htail⟩ := (hasPrefix_iff (hintComment m) _).1 hpre
  have hdec : stripDashLines sql = (stripDashLines sql).take i ++ hintComment m ++ t := by
    rw [List.append_assoc, ← htail, List.take_append_drop]
  exact master_hint_in_tokenized_text c st sql _ m t tokens hw (HintSpelling.of_variant m hm) hrun hdec ht

example : Spec.hinted "-- c\n/* trace */ select * from t /*MaStEr*/ -- d".toList = true := by
  rw [String.toList_ofList]
  decide +kernel

/-- **The oracle accepts every decision of the model.**  Whenever the model flags
    a statement for a replica (`tokens` being `Tokenize(sql)`, as in `doQuery`),
    the verdict of the reference semantics (`Spec.replicaVerdict`, the lock clause
    demanded iff `check_select_lock` is on) is "allowed": on the unchanged tree
    the oracle can only object where the implementation differs from the model. -/
theorem replicaVerdict_of_flag (c : RwSplit.Cfg) (st : Nat) (tokens : List Str) (sql : Str)
    (ht : tokenize sql = .ok tokens)
    (h : checkExecuteFromSlave c st tokens sql = true) :
    Spec.replicaVerdict c c.checkSelectLock st sql = none := by
  obtain ⟨hst, hrest⟩ := rw_split_decision c st tokens sql h
  unfold Spec.replicaVerdict
  cases hw : c.allowWrite with
  | false => rfl
  | true =>
    obtain ⟨hsp, hlk, hp, _⟩ := hrest.resolve_left (by simp [hw])
    have hst' : (st != stmtSelect && st != stmtShow) = false := by
      rcases hst with rfl | rfl <;> decide
    have hl' : (c.checkSelectLock && Spec.lockingRead sql) = false := by
      cases hl : c.checkSelectLock with
      | false => rfl
      | true => rw [(hlk hl).2]; rfl
    have hh : Spec.hinted sql = false :=
      Bool.eq_false_iff.2 fun hh => by rw [hinted_statement_goes_to_master c st sql tokens hw hh ht] at h; cases h
    simp [hst', hsp, hl', hp, hh]

/-- … and so does every route of `doQuery` to a replica, for a user who may write. -/
theorem replicaVerdict_of_route (c : RwSplit.Cfg) (s : Sess) (sl : Slice) (db : Str) (st : Nat) (sql : Str)
    (f' : Bool) (hw : c.allowWrite = true)
    (h : doQuery c s sl db st sql = .ok (.conn .slave f')) :
    s.isInTransaction = false ∧ Spec.replicaVerdict c c.checkSelectLock st sql = none := by
  obtain ⟨tokens, htok, hg⟩ := doQuery_conn c s sl db st sql .slave f' h
  obtain ⟨_, htx, hf⟩ := getBackendConn_slave c s sl _ f' hg
  exact ⟨htx, replicaVerdict_of_flag c st tokens sql htok hf⟩

/-- **C22, multi-statement packets.**  `doMultiStmts` runs the pieces of a
    packet on one request context; whatever flag the earlier pieces left there,
    every piece runs where it would run if it were sent alone (and the packet
    stops at the same piece): a write, a locking read, a hinted statement or a
    read_only probe that follows a plain read in the same packet does not
    inherit the read's route to a replica. -/
theorem multi_pieces_routed_alone (c : RwSplit.Cfg) (s : Sess) (sl : Slice) (db : Str) :
    ∀ (ps : List (Nat × Str)) (f0 : Bool), doMulti c s sl db f0 ps = doAlone c s sl db ps := by
  intro ps
  induction ps with
  | nil => intro f0; rfl
  | cons p ps ih =>
    intro f0
    obtain ⟨st, sql⟩ := p
    obtain ⟨_, _, hout⟩ := doQueryFrom_outcomes c s sl db st sql
    rw [doMulti, doAlone, ← doQueryFrom_false]
    rcases hout with ho | ho | ho | ho <;> rw [ho f0, ho false] <;> simp only [Route.next, Route.where_, ih]

theorem where_slave (r : Route) (h : r.where_ = .slave) : ∃ f, r = .conn .slave f := by
  cases r with
  | conn n f =>
    cases n with
    | slave => exact ⟨f, rfl⟩
    | master => cases h
    | none => cases h
  | _ => cases h

theorem doAlone_getElem (c : RwSplit.Cfg) (s : Sess) (sl : Slice) (db : Str) (ps : List (Nat × Str)) (i : Nat)
    (w : Where) (h : (doAlone c s sl db ps)[i]? = some w) :
    ∃ st sql r, ps[i]? = some (st, sql) ∧ doQuery c s sl db st sql = .ok r ∧ r.where_ = w := by
  induction ps generalizing i with
  | nil => cases h
  | cons p ps ih =>
    obtain ⟨st, sql⟩ := p
    rw [doAlone] at h
    cases hq : doQuery c s sl db st sql with
    | fail => rw [hq] at h; cases h
    | panic => rw [hq] at h; cases h
    | ok r =>
      rw [hq] at h
      simp only at h
      cases i with
      | zero => exact ⟨st, sql, r, rfl, hq, by cases hn : r.next <;> rw [hn] at h <;> exact Option.some.inj h⟩
      | succ j =>
        cases hn : r.next with
        | none => rw [hn] at h; cases h
        | some f =>
          rw [hn] at h
          exact ih j h

/-- A piece of a packet that is served by a replica is served by a replica when sent alone. -/
theorem multi_slave_piece (c : RwSplit.Cfg) (s : Sess) (sl : Slice) (db : Str) :
    ∀ (ps : List (Nat × Str)) (f0 : Bool) (i : Nat), (doMulti c s sl db f0 ps)[i]? = some .slave →
      ∃ st sql f', ps[i]? = some (st, sql) ∧ doQuery c s sl db st sql = .ok (.conn .slave f') := by
  intro ps f0 i h
  rw [multi_pieces_routed_alone] at h
  obtain ⟨st, sql, r, hp, hq, hw⟩ := doAlone_getElem c s sl db ps i _ h
  obtain ⟨f, rfl⟩ := where_slave r hw
  exact ⟨st, sql, f, hp, hq⟩

/-- … so, for a user who may write, such a piece is a plain read outside a
    transaction and keep-session (`replica_only_for_plain_reads` applies to it). -/
theorem multi_replica_only_for_plain_reads (c : RwSplit.Cfg) (s : Sess) (sl : Slice) (db : Str)
    (ps : List (Nat × Str)) (f0 : Bool) (i : Nat) (hw : c.allowWrite = true)
    (h : (doMulti c s sl db f0 ps)[i]? = some .slave) :
    ∃ st sql, ps[i]? = some (st, sql) ∧
      s.keepSession = false ∧ s.isInTransaction = false ∧ (st = stmtSelect ∨ st = stmtShow) ∧
      c.isRWSplit = true ∧ (c.checkSelectLock = true → Spec.lockingRead sql = false) ∧
      isReadOnlyProbe st sql = false ∧
      ∃ tokens, tokenize sql = .ok tokens ∧ hasMasterHint tokens = false := by
  obtain ⟨st, sql, f', hp, hq⟩ := multi_slave_piece c s sl db ps f0 i h
  exact ⟨st, sql, hp, replica_only_for_plain_reads c s sl db st sql f' hw hq⟩

/-- "select …; update …" for a read/write-split user: the read on a replica, the write on the master
    (the seeded change C22-2 dropped `SetFromSlave(false)`: the update inherited the replica) -/
example : doMulti { rwFlag := 2, rwSplit := 1, checkSelectLock := true }
    { keepSession := false, inTrans := false, autocommit := true } { slaveUp := true, fallback := true } "db_a".toList false
    [(stmtSelect, "select * from t where id = 1".toList), (stmtUpdate, " update t set a = 1 where id = 1".toList),
     (stmtSelect, " select * from t where id = 1 for update".toList)] = [.slave, .master, .master] := by
  repeat rw [String.toList_ofList]
  decide +kernel

/-! ### the pinned tree violated the property: witnesses

  `checkExecuteFromSlavePinned` / `handleShowFlagPinned` are the decisions before
  the `fix:` commits.  Each witness pairs the pinned decision (replica) with the
  current one (master) on the same statement; the statements are regression
  cases of corpus/C22. -/

def flagOf (f : RwSplit.Cfg → Nat → List Str → Str → Bool) (c : RwSplit.Cfg) (st : Nat) (sql : String) : Option Bool :=
  match tokenize sql.toList with
  | .ok t => some (f c st t sql.toList)
  | _ => none

def splitUser : RwSplit.Cfg := { rwFlag := 2, rwSplit := 1, checkSelectLock := true }
def writeUser : RwSplit.Cfg := { rwFlag := 2, rwSplit := 0, checkSelectLock := true }

/-- `flagOf` on the characters of a literal (`"ab"` unfolds to `String.ofList ['a', 'b']`), so that no
    evaluation has to decode the UTF-8 bytes of the literal. -/
theorem flagOf_ofList (f : RwSplit.Cfg → Nat → List Str → Str → Bool) (c : RwSplit.Cfg) (st : Nat) (l : Str) :
    flagOf f c st (String.ofList l) = match tokenize l with | .ok t => some (f c st t l) | _ => none := by
  rw [flagOf, String.toList_ofList]

theorem trailing_block_comment_witness :
    flagOf checkExecuteFromSlavePinned splitUser stmtSelect "select * from t where id=1 for update /* trace_id=1 */" = some true ∧
    flagOf checkExecuteFromSlave splitUser stmtSelect "select * from t where id=1 for update /* trace_id=1 */" = some false := by
  repeat rw [flagOf_ofList]
  decide +kernel

theorem trailing_line_comment_witness :
    flagOf checkExecuteFromSlavePinned splitUser stmtSelect "select * from t where id=1 lock in share mode -- x" = some true ∧
    flagOf checkExecuteFromSlave splitUser stmtSelect "select * from t where id=1 lock in share mode -- x" = some false := by
  repeat rw [flagOf_ofList]
  decide +kernel

theorem trailing_hash_comment_witness :
    flagOf checkExecuteFromSlavePinned splitUser stmtSelect "select * from t for share skip locked # x" = some true ∧
    flagOf checkExecuteFromSlave splitUser stmtSelect "select * from t for share skip locked # x" = some false := by
  repeat rw [flagOf_ofList]
  decide +kernel

theorem hint_before_trace_comment_witness :
    flagOf checkExecuteFromSlavePinned splitUser stmtSelect "select * from t /*master*/ /* trace_id=1 */" = some true ∧
    flagOf checkExecuteFromSlave splitUser stmtSelect "select * from t /*master*/ /* trace_id=1 */" = some false := by
  repeat rw [flagOf_ofList]
  decide +kernel

theorem hint_after_leading_comment_witness :
    flagOf checkExecuteFromSlavePinned splitUser stmtSelect "/* trace */ /*master*/ select * from t" = some true ∧
    flagOf checkExecuteFromSlave splitUser stmtSelect "/* trace */ /*master*/ select * from t" = some false := by
  repeat rw [flagOf_ofList]
  decide +kernel

/-- A statement that tokenises to one word (a vertical tab is white space for
    `parser.Preview` and MySQL but no separator for `Tokenize`) was sent to a
    replica even for a user without read/write splitting, and even when it
    probes `@@read_only`. -/
theorem one_word_statement_witness :
    flagOf checkExecuteFromSlavePinned writeUser stmtSelect "select\x0b@@read_only" = some true ∧
    flagOf checkExecuteFromSlave writeUser stmtSelect "select\x0b@@read_only" = some false ∧
    flagOf checkExecuteFromSlave splitUser stmtSelect "select\x0b@@read_only" = some false := by
  repeat rw [flagOf_ofList]
  decide +kernel

theorem show_read_only_upper_case_witness :
    handleShowFlagPinned splitUser false "SHOW VARIABLES LIKE 'READ_ONLY'".toList = true ∧
    flagOf (fun c _ t s => handleShowFlag c t s) splitUser stmtShow "SHOW VARIABLES LIKE 'READ_ONLY'" = some false := by
  rw [String.toList_ofList, flagOf_ofList]
  decide +kernel

theorem show_master_hint_witness :
    handleShowFlagPinned splitUser false "/*master*/ show tables".toList = true ∧
    flagOf (fun c _ t s => handleShowFlag c t s) splitUser stmtShow "/*master*/ show tables" = some false := by
  rw [String.toList_ofList, flagOf_ofList]
  decide +kernel

/-- **Former open finding** (class `readonly-keepsession-tx-on-replica`, repaired by
    fix cb8bfb6).  The property says that inside a transaction every statement
    runs on the master.  For a read-only user in a keep-session session,
    `getBackendKsConn` of the pinned tree set the flag to "replica" whatever the
    transaction state, so the statements of the transaction ran on a replica
    (`getBackendConnPinned`); the repaired code takes the master
    (`in_transaction_master`, `keepsession_master`). -/
theorem readonly_keepsession_tx_on_replica_witness :
    getBackendConnPinned { rwFlag := 1, rwSplit := 1, checkSelectLock := true }
      { keepSession := true, inTrans := true, autocommit := true } { slaveUp := true, fallback := true } true =
        (.slave, true) ∧
    doQuery { rwFlag := 1, rwSplit := 1, checkSelectLock := true }
      { keepSession := true, inTrans := true, autocommit := true } { slaveUp := true, fallback := true }
      "db_a".toList stmtSelect "select * from t".toList = .ok (.conn .master false) := by
  repeat rw [String.toList_ofList]
  decide +kernel

end GaeaVerif.C22
