import GaeaVerif.Lemmas.SessConnsPins
import GaeaVerif.Props.C19
/-
  C23 — Keep-session clients stay pinned to their backend connections.

  Model: Model/SessionConns.lean, a session of a namespace with
  `set_for_keep_session` (`cfg.ks = true`); `run cfg ops` is any sequence of
  client commands, pings, disconnects and namespace reloads (`nsc`, between two
  commands), every command with its own backend faults and map-iteration order.

  How the English property is rendered.
   * "a single backend connection per slice for its whole lifetime": at no
     moment are two connections of one slice out (`one_conn_per_slice`), no
     backend call hits a connection that is not out
     (`never_used_after_return`), and the entry of a slice in `ksConns` does not
     change from command to command (`ks_pin_stable`, `ks_pinned_lifetime`, for
     all histories: any faults, timeouts, pings) until the session ends, the
     namespace is reloaded, or the backend loses that very connection (then it
     is closed - inside a transaction the session is closed instead,
     C18.tx_affinity);
   * "released when the client disconnects": `ks_release`;
   * "after a configuration change they are dropped outside a transaction":
     `ks_nschange_outside_tx` — the first command after the reload closes and
     gives back every connection pinned before, and what it pins itself stays
     (`ks_pin_stable` applies again afterwards);
   * "a client inside a transaction is disconnected with an error":
     `ks_nschange_in_tx`.
  These hold of the repaired tree (fix commits 7a39468, 75817c9, 3388583,
  40b3331, 5a42848, cb8bfb6); the old failing histories are in corpus/C23.
-/
namespace GaeaVerif.C23
open GaeaVerif.SessionConns

/-- At no moment of any history are two connections of one slice out. -/
theorem one_conn_per_slice (cfg : Cfg) (ops : List Op) :
    (∀ c ∈ (run cfg ops).w.conns, c.dup = false) ∧
    (run cfg ops).ksConns.keys.Nodup ∧ (run cfg ops).ksConns.vals.Nodup := by
  have h := (idle_run_all cfg ops).ledger
  refine ⟨fun c hc => ((idle_run_all cfg ops).conn_flags c hc).2, ?_, ?_⟩
  · exact (List.nodup_append.1 (held_keys _ ▸ h.nodupS)).2.1
  · exact (List.nodup_append.1 (held_vals _ ▸ h.nodupC)).2.1

/-- No backend call of any history hits a connection after it was given back. -/
theorem never_used_after_return (cfg : Cfg) (ops : List Op) :
    ∀ c ∈ (run cfg ops).w.conns, c.uar = false :=
  C19.no_use_after_return cfg ops

/-- Between two commands every pinned connection is a connection of the slice
    it is filed under and is out. -/
theorem ks_conns_out (cfg : Cfg) (ops : List Op) :
    ∀ e ∈ (run cfg ops).ksConns, ∃ cn : Conn, (run cfg ops).w.conns[e.2]? = some cn ∧
      cn.slice = e.1 ∧ cn.returns = 0 :=
  fun _ he => let ⟨cn, hcn, _, hsl, h0⟩ := (idle_run_all cfg ops).held_conn (held_ks he); ⟨cn, hcn, hsl, h0⟩

/-- One more command on an open session with no reload pending, whatever its
    faults, timeouts and iteration order: every pinned connection is still pinned
    afterwards - unless the session has been closed (quit, a failed ping, a
    transaction that lost a connection, a response that could not be delivered),
    or the backend has lost that very connection (it is closed: a statement
    timeout, a broken connection) outside a transaction: the property cannot
    ask for a connection the backend no longer provides.  Afterwards still no
    reload is pending. -/
theorem ks_pin_stable (cfg : Cfg) (ops : List Op) (op : Op)
    (hcmd : op.body.isCommand = true)
    (hopen : (run cfg ops).closed = false) (hnr : (run cfg ops).nsCur ≤ (run cfg ops).nsOld) :
    (∀ e ∈ (run cfg ops).ksConns,
      e ∈ (run cfg (ops ++ [op])).ksConns ∨ (run cfg (ops ++ [op])).closed = true ∨
      (isClosed e.2 (run cfg (ops ++ [op])).w = true ∧ (run cfg ops).isInTransaction = false)) ∧
    ((run cfg (ops ++ [op])).closed = true ∨
      (run cfg (ops ++ [op])).nsCur ≤ (run cfg (ops ++ [op])).nsOld) := by
  rw [run_snoc]
  have key := cmdResult_step cfg op (idle_run_all cfg ops)
  exact ⟨key.ks, key.ns hcmd⟩

/-- `ks_pinned_lifetime` - from any point of a history at which the session is
    open and no reload is pending, through any further commands (statements on
    any slices, transactions, pings, quit; any backend faults, statement
    timeouts, lost connections, iteration orders): the connection pinned for a
    slice is still the same at the end, unless the session has ended or the
    backend has lost that connection (it is closed). -/
theorem ks_pinned_lifetime (cfg : Cfg) (ops mid : List Op)
    (hcmd : ∀ op ∈ mid, op.body.isCommand = true)
    (hopen : (run cfg ops).closed = false) (hnr : (run cfg ops).nsCur ≤ (run cfg ops).nsOld) :
    ∀ e ∈ (run cfg ops).ksConns,
      e ∈ (run cfg (ops ++ mid)).ksConns ∨ (run cfg (ops ++ mid)).closed = true ∨
      isClosed e.2 (run cfg (ops ++ mid)).w = true := by
  intro e he
  exact or_left_comm.1 <| run_append_induction (P := fun s => e ∈ s.ksConns ∨ isClosed e.2 s.w = true) cfg mid
    (fun ops' op _ _ hP => by
      rw [run_snoc]
      rcases hP with h | h
      · rcases (cmdResult_step cfg op (idle_run_all cfg ops')).ks e h with h3 | h3 | ⟨h3, -⟩
        · exact .inr (.inl h3)
        · exact .inl h3
        · exact .inr (.inr h3)
      · exact .inr (.inr (isClosed_ext ((idle_run_all cfg ops').ext_step op) h)))
    ops (.inr (.inl he))

/-- When the session has ended it pins nothing, and every connection it ever
    took was given back exactly once.  For all histories. -/
theorem ks_release (cfg : Cfg) (ops : List Op) (hcl : (run cfg ops).closed = true) :
    (run cfg ops).ksConns = [] ∧ ∀ c ∈ (run cfg ops).w.conns, c.returns = 1 :=
  ⟨((idle_run_all cfg ops).clean hcl).2, (idle_run_all cfg ops).returned hcl⟩

/-- Outside a transaction, the first command after a reload of the namespace
    closes and gives back every connection that was pinned before the reload
    (each exactly once), whatever the command, its faults and the iteration
    order. -/
theorem ks_nschange_outside_tx (cfg : Cfg) (ops : List Op) (op : Op) (hks : cfg.ks = true)
    (hcmd : op.body.isCommand = true) (hopen : (run cfg ops).closed = false)
    (hns : (run cfg ops).nsCur > (run cfg ops).nsOld) (hin : (run cfg ops).isInTransaction = false) :
    ∀ e ∈ (run cfg ops).ksConns, ∃ cn : Conn,
      (run cfg (ops ++ [op])).w.conns[e.2]? = some cn ∧ cn.closed = true ∧ cn.returns = 1 := by
  intro e he
  obtain ⟨cn, hcn, hcl, hr⟩ := dropped_runCommand (ctx := op.toCtx cfg)
    op.body (idle_run_all cfg ops).fresh hopen hks hns hin e he
  rw [← step_command cfg op hcmd hopen, ← run_snoc] at hcn
  have := C19.returned_once cfg (ops ++ [op]) cn (List.mem_of_getElem? hcn)
  exact ⟨cn, hcn, hcl, by omega⟩

/-- Inside a transaction, the first command after a reload of the namespace is
    answered with an error (ErrTxNsChanged) and the session is closed.
    With `ks_release`, the pinned connections are given back. -/
theorem ks_nschange_in_tx (cfg : Cfg) (ops : List Op) (op : Op) (hks : cfg.ks = true)
    (hcmd : op.body.isCommand = true) (hopen : (run cfg ops).closed = false)
    (hns : (run cfg ops).nsCur > (run cfg ops).nsOld) (hin : (run cfg ops).isInTransaction = true) :
    (step cfg (run cfg ops) op).2 = .err ∧ (run cfg (ops ++ [op])).closed = true := by
  rw [run_snoc, step_command cfg op hcmd hopen]
  exact closed_runCommand_reload_in_tx (ctx := op.toCtx cfg) (s := (run cfg ops).fresh) op.body hks hns hin
    (idle_run_all cfg ops).cont

/-! Non-vacuity -/

def demoOps : List Op :=
  [ { body := .qs .w [0, 1], ord := [1, 0], faults := [] },
    { body := .begin, ord := [0, 1], faults := [{ k := .b, slice := 9, mode := .e }] } ]
def demoMid : List Op :=
  [ { body := .qu .w, ord := [0, 1], faults := [{ k := .x, slice := 0, mode := .e }] },
    { body := .commit, ord := [1, 0], faults := [{ k := .c, slice := 1, mode := .e }] },
    { body := .ping, ord := [0, 1], faults := [] } ]

example : (run { ks := true, user := .w, fb := true } demoOps).ksConns = [(1, 0), (0, 1)] := by decide +kernel
example : (run { ks := true, user := .w, fb := true } (demoOps ++ demoMid)).ksConns = [(1, 0), (0, 1)] := by decide +kernel
example : (run { ks := true, user := .w, fb := true } demoOps).closed = false ∧
    (run { ks := true, user := .w, fb := true } demoOps).nsCur ≤ (run { ks := true, user := .w, fb := true } demoOps).nsOld := by decide +kernel
example : ∀ op ∈ demoMid, op.body.isCommand = true := by decide +kernel
/-- a statement timeout outside a transaction: the lost connection 1 (slice 0) is closed and replaced by connection 2,
    the connection of slice 1 stays pinned -/
def lostMid : List Op :=
  [ { body := .commit, ord := [0, 1], faults := [] },
    { body := .qu .w, ord := [0, 1], faults := [{ k := .x, slice := 0, mode := .t }] },
    { body := .qu .w, ord := [0, 1], faults := [] } ]
example : (run { ks := true, user := .w, fb := true } (demoOps ++ lostMid)).ksConns = [(1, 0), (0, 2)] ∧
    (run { ks := true, user := .w, fb := true } (demoOps ++ lostMid)).closed = false ∧
    isClosed 1 (run { ks := true, user := .w, fb := true } (demoOps ++ lostMid)).w = true := by decide +kernel
/-- the same timeout inside the transaction ends the session -/
example : (run { ks := true, user := .w, fb := true } (demoOps ++ lostMid.drop 1)).closed = true := by decide +kernel

/-- a reload outside a transaction: the old connection 0 is closed and given back, connection 1 takes over -/
def reloadOps : List Op :=
  [ { body := .qu .w, ord := [0, 1], faults := [] },
    { body := .nsc, ord := [], faults := [] } ]
example : (run { ks := true, user := .w, fb := true } reloadOps).nsCur > (run { ks := true, user := .w, fb := true } reloadOps).nsOld ∧
    (run { ks := true, user := .w, fb := true } reloadOps).ksConns = [(0, 0)] := by decide +kernel
example : ((run { ks := true, user := .w, fb := true }
    (reloadOps ++ [{ body := .qu .w, ord := [0, 1], faults := [] }])).w.conns.map fun c => (c.closed, c.returns)) =
    [(true, 1), (false, 0)] := by decide +kernel

end GaeaVerif.C23
