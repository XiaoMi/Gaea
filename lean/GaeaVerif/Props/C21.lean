import GaeaVerif.Lemmas.PreviewC21With
import GaeaVerif.Gen.Consts
/-
  C21 — Read-only users cannot change data or schema.

  Theorems about `Model/PreviewC21.lean` (parser.Preview, PreviewMainStatement,
  withMainStatement, StripLeadingComments, SplitMarginComments,
  isSQLNotAllowedByUser, checkSQLAllowed, doQuery, handleQuery,
  handleStmtExecute with bound parameters), instantiated with
  the keyword tables the translator extracts from the source on every run
  (`Gen.c21…`).  The tie to the Go code is the correspondence check
  `gvh run C21` plus those generated facts.
-/
namespace GaeaVerif.C21
open GaeaVerif GaeaVerif.LexC17 GaeaVerif.PreviewC21

/-- The tables of the current source, as extracted by the translator. -/
def genTables : Tables :=
  { sw1 := Gen.c21Switch1, sw2 := Gen.c21Switch2, sw3 := Gen.c21Switch3,
    unknown := Gen.c21StmtUnknown, comment := Gen.c21StmtComment, withK := Gen.c21StmtWith,
    notAllowed := Gen.c21NotAllowed }

/-- The hand-written tables of the model (what the driver runs) are those of the source. -/
theorem tables_eq : genTables = PreviewC21.tables := by rfl

/-- `unicode.Letter` of the Go release in use is the table of the model. -/
theorem letterRanges_eq : Gen.c21LetterRanges = UnicodeC21.letterRanges := by rfl

/-- The only runes ≥ 0x80 whose `unicode.ToLower` is ASCII are the two `lowerRune` knows. -/
theorem lowerToAscii_eq : Gen.c21LowerToAscii = [(0x130, 0x69), (0x212A, 0x6B)] := by decide

theorem lowerRune_special : ∀ p ∈ Gen.c21LowerToAscii, lowerRune p.1 = p.2 := by decide

/-- `unicode.IsSpace` is `isSpace`. -/
theorem spaces_eq (r : Nat) : r ∈ Gen.c21Spaces ↔ isSpace r = true := by
  constructor
  · intro h
    simp only [Gen.c21Spaces, List.mem_cons, List.mem_nil_iff, or_false] at h
    repeat' rcases h with h | h
    all_goals rfl
  · intro h
    -- the two ranges of `isSpace`, value by value
    have e1 : (0x09 ≤ r ∧ r ≤ 0x0D) ↔ (r = 9 ∨ r = 10 ∨ r = 11 ∨ r = 12 ∨ r = 13) := by omega
    have e2 : (0x2000 ≤ r ∧ r ≤ 0x200A) ↔ (r = 8192 ∨ r = 8193 ∨ r = 8194 ∨ r = 8195 ∨ r = 8196 ∨ r = 8197 ∨
        r = 8198 ∨ r = 8199 ∨ r = 8200 ∨ r = 8201 ∨ r = 8202) := by omega
    simp only [isSpace, Bool.or_eq_true, Bool.and_eq_true, decide_eq_true_eq, e1, e2] at h
    repeat' rcases h with h | h
    all_goals decide

theorem paths_shape : Gen.c21DoQueryChecksFirst = true ∧ Gen.c21CheckShape = true ∧ Gen.c21PathsShape = true ∧
    Gen.c21MainShape = true ∧ Gen.c21PlanChecksTree = true := by decide

/-- `stmtTypeOfNode` (the kind a parsed tree is checked as in `getPlan`): every
    node type it knows — INSERT/REPLACE, UPDATE, DELETE, LOAD DATA, PREPARE,
    EXECUTE and the ten DDL statements of the grammar — maps to a refused kind. -/
theorem node_kinds_refused : Gen.c21NodeKinds.all (fun e => Gen.c21NotAllowed.contains e.2) = true ∧
    Gen.c21NodeKinds.map (·.1) =
      ["ast.InsertStmt", "ast.InsertStmt", "ast.UpdateStmt", "ast.DeleteStmt", "ast.LoadDataStmt", "ast.PrepareStmt",
       "ast.ExecuteStmt", "ast.CreateDatabaseStmt", "ast.DropDatabaseStmt", "ast.CreateTableStmt", "ast.DropTableStmt",
       "ast.RenameTableStmt", "ast.CreateViewStmt", "ast.CreateIndexStmt", "ast.DropIndexStmt", "ast.AlterTableStmt",
       "ast.TruncateTableStmt"] := by decide +kernel

/-- Statement kinds by name, for readability of the statements below. -/
theorem rejected_kinds :
    Gen.c21NotAllowed.map (fun k => (Gen.c21StmtKinds.find? (·.2 = k)).map (·.1)) =
      [some "StmtDelete", some "StmtInsert", some "StmtUpdate", some "StmtReplace", some "StmtDDL", some "StmtLoad",
       some "StmtCallProc", some "StmtPrepare", some "StmtExecute", some "StmtWith"] := by
  decide +kernel

/-- A kind the read-only check refuses as it is: `isSQLNotAllowedByUser` rejects
    it and `checkSQLAllowed` does not look further (it is neither StmtComment
    nor StmtWith). -/
def Final (T : Tables) (kind : Nat) : Prop :=
  T.notAllowed.contains kind = true ∧ kind ≠ T.comment ∧ kind ≠ T.withK

instance (T : Tables) (kind : Nat) : Decidable (Final T kind) := by unfold Final; infer_instance

theorem refused_kw_facts : ∀ k ∈ refusedKeywords, ∃ kind, kwKind genTables k = some kind ∧ Final genTables kind := by
  decide +kernel

theorem with_kw_fact : kwKind genTables kwWith = some genTables.withK := by decide

theorem sw2_keys_long : genTables.sw2.all (fun e => decide (2 ≤ e.1.length)) = true := by decide

theorem comment_not_rejected : genTables.notAllowed.contains genTables.comment = false := by decide

theorem with_rejected : genTables.notAllowed.contains genTables.withK = true := by decide

theorem with_ne_comment : genTables.withK ≠ genTables.comment := by decide

/-- An ASCII spelling, in any letter case, of a refused keyword. -/
structure Kw (kw : Bytes) : Prop where
  letters : ∀ b ∈ kw, isAsciiLetterB b = true
  refused : kw.map asciiLower ∈ refusedKeywords

theorem Kw.ne {kw : Bytes} (h : Kw kw) : kw ≠ [] := by
  intro e
  have := h.refused
  rw [e] at this
  revert this; decide

theorem Kw.stops {kw : Bytes} (h : Kw kw) : Stops kw := stops_of_letters kw h.ne h.letters

/-- A keyword followed by the rest of the statement: `kw` is an ASCII spelling
    (any letter case) of one of the refused keywords (INSERT, REPLACE, UPDATE,
    DELETE, CREATE, ALTER, DROP, TRUNCATE, RENAME, LOAD, CALL, PREPARE,
    EXECUTE), `rest` is empty or starts with an ASCII byte that ends a word and
    ends with an ASCII byte that is not white space. -/
structure KwText (kw rest : Bytes) : Prop where
  letters : ∀ b ∈ kw, isAsciiLetterB b = true
  isWrite : kw.map asciiLower ∈ refusedKeywords
  stop : KwStop rest
  ending : rest = [] ∨ ∃ s b, rest = s ++ [b] ∧ b.toNat < 0x80 ∧ isSpace b.toNat = false

theorem KwText.kw {kw rest : Bytes} (h : KwText kw rest) : Kw kw := ⟨h.letters, h.isWrite⟩

theorem KwText.stable {kw rest : Bytes} (h : KwText kw rest) : ∀ n, stripLoop n (kw ++ rest) = kw ++ rest :=
  h.kw.stops.stable rest

/-- Trailing ASCII white space after the statement. -/
abbrev Tail (tail : Bytes) : Prop := AsciiWs tail

theorem KwText.stop_tail {kw rest tail : Bytes} (h : KwText kw rest) (ht : Tail tail) : KwStop (rest ++ tail) := by
  by_cases hr : rest = []
  · subst hr
    refine headSat_iff.mpr fun c hc => ?_
    have hc' := ht c (List.mem_of_mem_head? hc)
    exact ⟨hc'.1, by simp [isWordEnd, hc'.2]⟩
  · exact HeadSat.append h.stop hr tail

theorem check_eq_main (T : Tables) (sql : Bytes) :
    checkSQLAllowed T false sql = T.notAllowed.contains (previewMainStatement T sql) := by
  simp only [checkSQLAllowed, isSQLNotAllowedByUser, Bool.false_eq_true, if_false, previewMainStatement, previewMainLoop]
  by_cases h1 : preview T sql = T.comment
  · rw [if_pos (Or.inl h1), if_pos h1]
  · by_cases h2 : preview T sql = T.withK
    · rw [if_pos (Or.inr h2), if_neg h1, if_pos h2]
    · rw [if_neg (fun h => h.elim h1 h2), if_neg h1, if_neg h2]

theorem previewMainLoop_final {T : Tables} (n : Nat) (sql : Bytes) (h : Final T (preview T sql)) :
    previewMainLoop T n sql = preview T sql := by
  cases n with
  | zero => rfl
  | succ n => simp only [previewMainLoop]; rw [if_neg h.2.1, if_neg h.2.2]

theorem preview_kw {ts : List Trivia} {kw rest : Bytes} (hts : ∀ t ∈ ts, t.ok = true ∧ t.isXopen = false) (h : Kw kw)
    (hr : KwStop rest) : Final genTables (preview genTables (renderTrivia ts ++ (kw ++ rest))) := by
  obtain ⟨kind, hk, hfin⟩ := refused_kw_facts _ h.refused
  obtain ⟨m, hm⟩ := stripLeadingComments_trivia ts kw rest hts h.stops
  rw [preview, hm, previewTrimmed_kw genTables sw2_keys_long kw _ kind h.ne h.letters (hr.take m) hk]
  exact hfin

/-- The code of the comment does not start with a blank, a digit or `M`
    (those would belong to the version number / the blanks after it). -/
def CodeStart (y : Bytes) : Prop :=
  ∀ c, y.head? = some c → isBlankB c = false ∧ isDigitB c = false ∧ c.toNat ≠ 0x4D

theorem CodeStart.append {y : Bytes} (h : CodeStart y) (hne : y ≠ []) (r : Bytes) : CodeStart (y ++ r) := by
  obtain ⟨c, t, rfl⟩ := List.exists_cons_of_ne_nil hne
  exact h

theorem specCodeStartLen_xopen (v bl y : Bytes) (hv : isVersion v = true)
    (hbl : ∀ b ∈ bl, isBlankB b = true) (hy : CodeStart y) :
    specCodeStartLen (0x2F :: 0x2A :: 0x21 :: (v ++ bl ++ y)) = 3 + v.length + bl.length := by
  have hblank : spanLen isBlankB (bl ++ y) = bl.length :=
    spanLen_run isBlankB bl y hbl (headSat_iff.mpr fun c hc => (hy c hc).1)
  have hafter : ∀ c, (bl ++ y).head? = some c → isDigitB c = false ∧ c.toNat ≠ 0x4D := by
    intro c hc
    cases bl with
    | nil => exact (hy c hc).2
    | cons b t =>
      obtain rfl : b = c := Option.some.inj hc
      have := hbl b List.mem_cons_self
      simp only [isBlankB, Bool.or_eq_true, decide_eq_true_eq] at this
      simp only [isDigitB, isDigit, Bool.and_eq_false_iff, decide_eq_false_iff_not]
      omega
  -- the version is `ds`, after an `M` (`m = 1`) or not (`m = 0`)
  have key : ∀ (m : Nat) (ds : Bytes), (∀ b ∈ ds, isDigitB b = true) →
      (5 ≤ ds.length ∧ ds.length ≤ 6 ∨ ds.length = 0 ∧ m = 0) →
      (v ++ bl ++ y).drop m = ds ++ (bl ++ y) → v.length = m + ds.length →
      (v ++ bl ++ y = [] ∧ m = 0 ∨ ∃ b r, v ++ bl ++ y = b :: r ∧ m = if b.toNat = 0x4D then 1 else 0) →
      specCodeStartLen (0x2F :: 0x2A :: 0x21 :: (v ++ bl ++ y)) = 3 + v.length + bl.length := by
    intro m ds hds hlen hdrop hvl hhead
    have hd : spanLen isDigitB (ds ++ (bl ++ y)) = ds.length :=
      spanLen_run isDigitB ds _ hds (headSat_iff.mpr fun c hc => (hafter c hc).1)
    have hvv : (if ds.length ≥ 5 then m + min ds.length 6 else 0) = v.length := by
      rcases hlen with ⟨h5, h6⟩ | h0
      · rw [if_pos h5]; omega
      · rw [if_neg (by omega)]; omega
    have hrest : (v ++ bl ++ y).drop v.length = bl ++ y := by rw [List.append_assoc, List.drop_left]
    simp only [specCodeStartLen, List.drop_succ_cons, List.drop_zero]
    generalize v ++ bl ++ y = t at hdrop hhead hrest ⊢
    rcases hhead with ⟨rfl, rfl⟩ | ⟨b, r, rfl, rfl⟩ <;> simp only [hdrop, hd, hvv, hrest, hblank]
  cases v with
  | nil =>
    refine key 0 [] (fun _ h => nomatch h) (Or.inr ⟨rfl, rfl⟩) rfl rfl ?_
    cases h : bl ++ y with
    | nil => exact Or.inl ⟨by simpa using h, rfl⟩
    | cons c t => exact Or.inr ⟨c, t, by simpa using h, by rw [if_neg (hafter c (by rw [h]; rfl)).2]⟩
  | cons b t =>
    simp only [isVersion, Bool.or_eq_true, decide_eq_true_eq, Bool.and_eq_true, List.all_eq_true, reduceCtorEq, false_or] at hv
    by_cases hM : b.toNat = 0x4D
    · simp only [hM, if_true] at hv
      exact key 1 t hv.2 (Or.inl (by omega)) (by simp) (by simp; omega) (Or.inr ⟨b, _, rfl, by rw [if_pos hM]⟩)
    · simp only [hM, if_false] at hv
      exact key 0 (b :: t) hv.2 (Or.inl (by omega)) (by simp) (by simp) (Or.inr ⟨b, _, rfl, by rw [if_neg hM]⟩)

/-- The opening of an executable comment, `/*!`, version and blanks, in front of its code `y`. -/
def xopen (v bl y : Bytes) : Bytes := 0x2F :: 0x2A :: 0x21 :: (v ++ bl ++ y)

theorem stops_xopen {v bl y : Bytes} (hy : EndsSolid y) : Stops (xopen v bl y) := by
  refine ⟨?_, fun r n => ?_⟩
  · have := solid_front (c := [0x2F, 0x2A, 0x21] ++ (v ++ bl)) (b := 0x2F) rfl (by decide) (by decide) hy
    simpa [xopen] using this
  · rw [show xopen v bl y ++ r = 0x2F :: 0x2A :: 0x21 :: (v ++ bl ++ y ++ r) by simp [xopen]]
    cases n with
    | zero => rfl
    | succ n =>
      simp only [stripLoop]
      rw [if_pos (by rfl), if_pos (by decide)]
      split
      · rfl
      · rw [if_pos (by rfl)]

/-- A round of the loop enters an executable comment: `Preview` answers StmtComment and `specCodeStart` is dropped. -/
theorem previewMainLoop_xopen (T : Tables) (n : Nat) {sql v bl y : Bytes} (h : stripLeadingComments sql = xopen v bl y)
    (hv : isVersion v = true) (hbl : ∀ b ∈ bl, isBlankB b = true) (hy : CodeStart y) :
    previewMainLoop T (n + 1) sql = previewMainLoop T n y := by
  have hpre : isPrefixB cSlashStarBang (xopen v bl y) = true := rfl
  have hdrop : (xopen v bl y).drop (specCodeStartLen (xopen v bl y)) = y := by
    rw [xopen, specCodeStartLen_xopen v bl _ hv hbl hy,
      show (0x2F : UInt8) :: 0x2A :: 0x21 :: (v ++ bl ++ y) = ((0x2F : UInt8) :: 0x2A :: 0x21 :: v ++ bl) ++ y by simp,
      List.drop_left' (by simp; omega)]
  rw [previewMainLoop_comment _ _ h (by simp only [previewTrimmed, hpre, if_true])]
  simp only [dropSpecCodeStart, hpre, if_true, hdrop]

theorem refused_three : ∀ k ∈ refusedKeywords, 3 ≤ k.length := by decide

theorem Kw.mainStart {kw : Bytes} (h : Kw kw) (rest : Bytes) : MainStart (kw ++ rest) := by
  obtain ⟨b, t, rfl⟩ := List.exists_cons_of_ne_nil h.ne
  exact ⟨⟨b, t ++ rest, rfl, h.letters b (by simp)⟩,
    isAsWord_kw _ rest (by have := refused_three _ h.refused; simpa using this) h.letters⟩

/-- The word WITH in any letter case. -/
def IsWith (w : Bytes) : Prop := (∀ b ∈ w, isAsciiLetterB b = true) ∧ w.map asciiLower = kwWith

theorem IsWith.ne {w : Bytes} (h : IsWith w) : w ≠ [] := by
  intro e; have := h.2; rw [e] at this; revert this; decide

theorem IsWith.ident {w : Bytes} (h : IsWith w) : (WTok.word w).ok = true := by
  simp only [WTok.ok, Bool.and_eq_true, decide_eq_true_eq, List.all_eq_true]
  exact ⟨h.ne, fun b hb => (letter_facts b (h.1 b hb)).1⟩

theorem stops_with {w y : Bytes} (hw : IsWith w) (hy : EndsSolid y) : Stops (w ++ y) := by
  have hs := stops_of_letters w hw.ne hw.1
  obtain ⟨b, t, e, hb, hsb⟩ := hs.solid.first
  refine ⟨solid_front e hb hsb hy, fun r n => ?_⟩
  rw [List.append_assoc]; exact hs.stable _ n

/-- A round of the loop follows a WITH clause to its main statement: `Preview`
    answers StmtWith and `withMainStatement` finds what follows the pieces. -/
theorem previewMainLoop_with (n : Nat) {sql w : Bytes} {ctes : List WTok} {main : Bytes}
    (h : stripLeadingComments sql = w ++ (renderW ctes ++ main))
    (hw : IsWith w) (hok : ∀ t ∈ ctes, t.ok = true) (hwf : wfW 0 false (.word w :: ctes) = true) (hm : MainStart main) :
    previewMainLoop genTables (n + 1) sql = previewMainLoop genTables n main := by
  generalize hZ : w ++ (renderW ctes ++ main) = Z at h
  have hwf' := hwf
  simp only [wfW, Bool.and_eq_true, Bool.or_eq_true, Bool.not_eq_true', isComma, Bool.false_eq_true, or_false, true_or,
    true_and] at hwf'
  obtain ⟨c, tl, hR, hnext⟩ := word_boundary w ctes main hwf'.1
  have hstop : KwStop (renderW ctes ++ main) := by
    rw [hR]
    refine HeadSat.cons ?_
    simp only [isIdentByte, isLetter, isDigit, Bool.or_eq_false_iff, Bool.and_eq_false_iff, decide_eq_false_iff_not] at hnext
    refine ⟨by omega, ?_⟩
    simp only [isWordEnd, isIdentChar, isLetter, isDigit, isIdentExtend, Bool.or_eq_true, Bool.not_eq_true',
      Bool.or_eq_false_iff, Bool.and_eq_false_iff, decide_eq_false_iff_not]
    right; omega
  have hprev : previewTrimmed genTables Z = genTables.withK := by
    rw [← hZ]
    exact previewTrimmed_kw genTables sw2_keys_long w _ _ hw.ne hw.1 hstop (by rw [hw.2]; exact with_kw_fact)
  have htrim : trimLeftFunc (fun r => !isLetterU r) Z.length Z = Z := by
    obtain ⟨b, t, e⟩ := List.exists_cons_of_ne_nil hw.ne
    rw [← hZ, e, List.cons_append]
    exact trimLeft_letter b _ (hw.1 b (by rw [e]; simp)) _
  have hscan : withMainStatement Z = some main := by
    have e : renderW (.word w :: ctes) ++ main = Z := by rw [← hZ]; simp [renderW, WTok.render]
    have := withMainLoop_toks (.word w :: ctes) 0 false main (Z.length + 1)
      (List.forall_mem_cons.mpr ⟨hw.ident, hok⟩)
      hwf hm (by rw [← e]; simp)
    rwa [e] at this
  exact previewMainLoop_withK _ _ h with_ne_comment hprev (by rw [htrim, hscan])

/-- Beginnings of texts, up to and including a refused keyword, from which `PreviewMainStatement` gets to that
    keyword in `d` rounds: leading trivia and then the keyword, or an executable comment `/*!NNNNN` or a WITH
    clause around such a beginning, nested in any way.  `withMain` asks `MainStart` of `main` followed by any text,
    because the loop meets `main` with what stripping has left of the rest of the statement behind it. -/
inductive Heads : Nat → Bytes → Prop
  | kw {ts : List Trivia} {kw : Bytes} : (∀ t ∈ ts, t.ok = true ∧ t.isXopen = false) → Kw kw → Heads 0 (renderTrivia ts ++ kw)
  | xopen {d : Nat} {ts : List Trivia} {v bl y : Bytes} : (∀ t ∈ ts, t.ok = true ∧ t.isXopen = false) → isVersion v = true →
      (∀ b ∈ bl, isBlankB b = true) → CodeStart y → Heads d y → Heads (d + 1) (renderTrivia ts ++ xopen v bl y)
  | withMain {d : Nat} {ts : List Trivia} {w : Bytes} {ctes : List WTok} {main : Bytes} :
      (∀ t ∈ ts, t.ok = true ∧ t.isXopen = false) → IsWith w → (∀ t ∈ ctes, t.ok = true) →
      wfW 0 false (.word w :: ctes) = true → (∀ rest, MainStart (main ++ rest)) → Heads d main →
      Heads (d + 1) (renderTrivia ts ++ (w ++ (renderW ctes ++ main)))

theorem Heads.ends {d : Nat} {P : Bytes} (h : Heads d P) : EndsSolid P := by
  induction h with
  | kw _ h => exact EndsSolid.append_left _ h.stops.solid.last
  | xopen _ _ _ _ _ ih => exact EndsSolid.append_left _ (stops_xopen ih).solid.last
  | withMain _ _ _ _ _ _ ih => exact EndsSolid.append_left _ (EndsSolid.append_left _ (EndsSolid.append_left _ ih))

theorem Heads.final {d : Nat} {P : Bytes} (h : Heads d P) :
    ∀ n, d ≤ n → ∀ rest, KwStop rest → Final genTables (previewMainLoop genTables n (P ++ rest)) := by
  induction h with
  | kw hts h =>
    intro n _ rest hr
    rw [List.append_assoc, previewMainLoop_final n _ (preview_kw hts h hr)]
    exact preview_kw hts h hr
  | @xopen _ ts v bl y hts hv hbl hy hin ih =>
    intro n hn rest hr
    obtain ⟨n, rfl⟩ : ∃ m, n = m + 1 := ⟨n - 1, by omega⟩
    obtain ⟨m, hm⟩ := stripLeadingComments_trivia ts (C21.xopen v bl y) rest hts (stops_xopen hin.ends)
    have hne : y ≠ [] := by obtain ⟨s, x, rfl, _⟩ := hin.ends; simp
    rw [List.append_assoc, previewMainLoop_xopen _ n (y := y ++ rest.take m) (by rw [hm]; simp [C21.xopen]) hv hbl
      (hy.append hne _)]
    exact ih n (by omega) _ (hr.take m)
  | @withMain _ ts w ctes main hts hw hok hwf hmain hin ih =>
    intro n hn rest hr
    obtain ⟨n, rfl⟩ : ∃ m, n = m + 1 := ⟨n - 1, by omega⟩
    obtain ⟨m, hm⟩ := stripLeadingComments_trivia ts (w ++ (renderW ctes ++ main)) rest hts
      (stops_with hw (EndsSolid.append_left _ hin.ends))
    rw [List.append_assoc, previewMainLoop_with n (main := main ++ rest.take m) (by rw [hm]; simp) hw hok hwf (hmain _)]
    exact ih n (by omega) _ (hr.take m)

/-- Every wrapper is at least a byte long, so the rounds `PreviewMainStatement` allows itself suffice. -/
theorem Heads.depth_le {d : Nat} {P : Bytes} (h : Heads d P) : d ≤ P.length := by
  induction h with
  | kw _ _ => exact Nat.zero_le _
  | xopen _ _ _ _ _ ih => simp only [C21.xopen, List.length_cons, List.length_append]; omega
  | withMain _ hw _ _ _ _ ih =>
    have := List.length_pos_iff.mpr hw.ne
    simp only [List.length_append]; omega

theorem Heads.rejected {d : Nat} {P : Bytes} (h : Heads d P) {rest : Bytes} (hr : KwStop rest) :
    checkSQLAllowed genTables false (P ++ rest) = true := by
  rw [check_eq_main]
  exact (h.final _ (by have := h.depth_le; simp only [List.length_append]; omega) rest hr).1

theorem rejects_kw (ts : List Trivia) (kw rest : Bytes) (hts : ∀ t ∈ ts, t.ok = true ∧ t.isXopen = false) (h : Kw kw)
    (hr : KwStop rest) : checkSQLAllowed genTables false (renderTrivia ts ++ (kw ++ rest)) = true := by
  simpa using (Heads.kw hts h).rejected hr

/-- **readonly_rejects (plain and commented statements; also CALL, and PREPARE /
    EXECUTE sent as queries).** `checkSQLAllowed` returns the read-only error
    for every such text. -/
theorem readonly_rejects (ts : List Trivia) (kw rest tail : Bytes)
    (hts : ∀ t ∈ ts, t.ok = true ∧ t.isXopen = false) (h : KwText kw rest) (ht : Tail tail) :
    checkSQLAllowed genTables false (renderTrivia ts ++ (kw ++ rest) ++ tail) = true := by
  simpa using rejects_kw ts kw (rest ++ tail) hts h.kw (h.stop_tail ht)

/-- **readonly_rejects (executable comments).** A write statement inside a
    leading `/*!NNNNN … */` comment — which `Preview` classifies as a comment
    but the parser and MySQL execute — is rejected as well: leading trivia,
    `/*!`, an optional version number, blanks, more trivia, the keyword. -/
theorem readonly_rejects_special (ts1 ts2 : List Trivia) (v bl kw rest tail : Bytes)
    (hts1 : ∀ t ∈ ts1, t.ok = true ∧ t.isXopen = false) (hts2 : ∀ t ∈ ts2, t.ok = true ∧ t.isXopen = false)
    (hv : isVersion v = true) (hbl : ∀ b ∈ bl, isBlankB b = true)
    (hy : CodeStart (renderTrivia ts2 ++ (kw ++ rest))) (h : KwText kw rest) (ht : Tail tail) :
    checkSQLAllowed genTables false
      (renderTrivia ts1 ++ (0x2F :: 0x2A :: 0x21 :: (v ++ bl ++ (renderTrivia ts2 ++ (kw ++ rest)))) ++ tail) = true := by
  have hy' : CodeStart (renderTrivia ts2 ++ kw) := by
    intro c hc
    refine hy c ?_
    rw [← List.append_assoc]
    cases hl : renderTrivia ts2 ++ kw with
    | nil => rw [hl] at hc; simp at hc
    | cons a t => rw [hl] at hc; exact hc
  simpa [xopen] using (Heads.xopen hts1 hv hbl hy' (.kw hts2 h.kw)).rejected (h.stop_tail ht)

/-- **readonly_rejects (WITH).** Leading white space and comments, the word
    WITH, the common table expressions — any pieces (words, quoted texts without
    backslash, comments, parentheses, other characters) with balanced
    parentheses, where every parenthesis that closes at the outermost level is
    followed by AS or a comma, except the last —, then a statement that starts
    with a refused keyword: `checkSQLAllowed` returns the read-only error. -/
theorem readonly_rejects_with (ts : List Trivia) (w : Bytes) (ctes : List WTok) (kw rest tail : Bytes)
    (hts : ∀ t ∈ ts, t.ok = true ∧ t.isXopen = false) (hw : IsWith w)
    (hok : ∀ t ∈ ctes, t.ok = true) (hwf : wfW 0 false (.word w :: ctes) = true)
    (h : KwText kw rest) (ht : Tail tail) :
    checkSQLAllowed genTables false (renderTrivia ts ++ (w ++ (renderW ctes ++ (kw ++ rest))) ++ tail) = true := by
  simpa [renderTrivia] using
    (Heads.withMain hts hw hok hwf h.kw.mainStart (.kw (ts := []) nofun h.kw)).rejected (h.stop_tail ht)

/-- **A WITH statement passes only when its main statement was found and passes.**
    For every text that previews as WITH: if the read-only check lets it
    through, `withMainStatement` found a main statement (on the text from its
    first letter) and `PreviewMainStatement` of that statement is a kind the
    check does not reject.  In particular every WITH statement whose main
    statement cannot be told (unclosed quote or comment, a backslash inside
    quotes, a `/*!` comment, nothing after the last parenthesis) is refused. -/
theorem with_passes_only_through_main (sql : Bytes) (hprev : preview genTables sql = genTables.withK)
    (hpass : checkSQLAllowed genTables false sql = false) :
    ∃ main, withMainStatement (trimLeftFunc (fun r => !isLetterU r) (stripLeadingComments sql).length (stripLeadingComments sql)) = some main ∧
      genTables.notAllowed.contains (previewMainLoop genTables sql.length main) = false := by
  rw [check_eq_main] at hpass
  simp only [previewMainStatement, previewMainLoop, hprev, if_true] at hpass
  rw [if_neg with_ne_comment] at hpass
  cases hm : withMainStatement (trimLeftFunc (fun r => !isLetterU r) (stripLeadingComments sql).length (stripLeadingComments sql)) with
  | none => rw [hm] at hpass; simp only [with_rejected] at hpass; exact absurd hpass (by simp)
  | some main => rw [hm] at hpass; exact ⟨main, rfl, hpass⟩

/-- Texts the read-only check rejects. -/
def Rejected (sql : Bytes) : Prop := checkSQLAllowed genTables false sql = true

/-- **doQuery.** A rejected text gets the read-only error as the first thing
    `doQuery` does: the outcome carries nothing of what follows the check
    (planning, backend) and does not depend on it. -/
theorem doQuery_rejects (planned : Bytes → Option Nat) (rest : Bytes → Bool) (sql : Bytes) (h : Rejected sql) :
    doQuery genTables false planned rest sql = .rejected := by
  unfold Rejected at h
  simp only [doQuery, h, if_true]

/-- **Plans built from the parsed tree.** Whatever `Preview` made of the text:
    when `getPlan` builds the plan from the tree the parser returns and that
    tree is a statement of a refused kind, `doQuery` returns the read-only error
    (before the plan is built, let alone executed). -/
theorem planned_tree_checked (planned : Bytes → Option Nat) (rest : Bytes → Bool) (sql : Bytes) (kind : Nat)
    (hp : planned sql = some kind) (hk : genTables.notAllowed.contains kind = true) :
    doQuery genTables false planned rest sql = .rejected := by
  simp only [doQuery, hp, isSQLNotAllowedByUser, Bool.false_eq_true, if_false, hk, if_true]
  split <;> rfl

theorem reject_before_backend (T : Tables) (aw : Bool) (planned : Bytes → Option Nat) (rest rest' : Bytes → Bool) (sql : Bytes)
    (h : doQuery T aw planned rest sql = .rejected) : doQuery T aw planned rest' sql = .rejected := by
  simp only [doQuery] at h ⊢
  split at h
  · rename_i hc; rw [if_pos hc]
  · rename_i hc
    rw [if_neg hc]
    split at h
    · split at h
      · rename_i hk; rw [if_pos hk]
      · exact absurd h (by simp)
    · exact absurd h (by simp)

/-- Only texts that passed the check are handed to what follows it. -/
theorem passed_not_rejected (planned : Bytes → Option Nat) (rest : Bytes → Bool) (sql : Bytes) (ok : Bool)
    (h : doQuery genTables false planned rest sql = .passed ok) : ¬ Rejected sql := by
  intro hr; rw [doQuery_rejects planned rest sql hr] at h; exact absurd h (by simp)

/-- … and, when the plan is built from the parsed tree, only trees of a kind that is not refused. -/
theorem passed_tree_not_refused (planned : Bytes → Option Nat) (rest : Bytes → Bool) (sql : Bytes) (ok : Bool) (kind : Nat)
    (hp : planned sql = some kind) (h : doQuery genTables false planned rest sql = .passed ok) :
    genTables.notAllowed.contains kind = false := by
  cases hk : genTables.notAllowed.contains kind with
  | false => rfl
  | true => rw [planned_tree_checked planned rest sql kind hp hk] at h; exact absurd h (by simp)

/-- **handleQuery, single statement** (also the path of `handleStmtExecute`):
    the text, without trailing `;`, goes through `doQuery`. -/
theorem handleQuery_single (aw : Bool) (planned : Bytes → Option Nat) (rest : Bytes → Bool) (sql : Bytes) :
    handleQuery genTables aw false planned rest sql =
      [(trimRightSemi sql, doQuery genTables aw planned rest (trimRightSemi sql))] := rfl

theorem handleStmtExecute_eq (aw multi : Bool) (planned : Bytes → Option Nat) (rest : Bytes → Bool) (sql : Bytes) :
    handleStmtExecute genTables aw multi planned rest sql = handleQuery genTables aw multi planned rest sql := rfl

/-- **Every path.** Whatever the text and whichever way it comes in (query,
    multi-statement query, prepared statement, with or without multi-statement
    support), every text that reaches `doQuery` and is `Rejected` gets the
    read-only error; so nothing rejected reaches the backend. -/
theorem readonly_all_paths (multi : Bool) (planned : Bytes → Option Nat) (rest : Bytes → Bool) (sql : Bytes) :
    ∀ e ∈ handleStmtExecute genTables false multi planned rest sql,
      e.2 = doQuery genTables false planned rest e.1 ∧ (Rejected e.1 → e.2 = .rejected) ∧
      (∀ ok, e.2 = .passed ok → ¬ Rejected e.1) := by
  intro e he
  have hdq : e.2 = doQuery genTables false planned rest e.1 := by
    cases multi with
    | false =>
      simp only [handleStmtExecute, handleQuery, Bool.false_eq_true, if_false, List.mem_singleton] at he
      rw [he]
    | true =>
      simp only [handleStmtExecute, handleQuery, if_true, List.mem_map] at he
      obtain ⟨s, _, rfl⟩ := he
      rfl
  refine ⟨hdq, fun hr => by rw [hdq]; exact doQuery_rejects planned rest _ hr, fun ok hok => ?_⟩
  rw [hdq] at hok
  exact passed_not_rejected planned rest _ ok hok

/-- **Inside a multi-statement query.** A rejected piece makes its `doQuery`
    fail, so the loop of `doMultiStmts` stops there: nothing after it is
    executed (C17 `multi_stops_at_first_error`). -/
theorem multi_stops_at_rejected (planned : Bytes → Option Nat) (rest : Bytes → Bool) (pieces : List Bytes) (p : Bytes)
    (pre post : List Bytes)
    (hp : pieces = pre ++ p :: post) (hr : Rejected p)
    (hpre : ∀ q ∈ pre, (doQuery genTables false planned rest q).noError = true) :
    (runPieces (fun s => (doQuery genTables false planned rest s).noError) pieces).executed = pre ++ [p] ∧
    (runPieces (fun s => (doQuery genTables false planned rest s).noError) pieces).failed = true := by
  subst hp
  induction pre with
  | nil =>
    simp [runPieces, doQuery_rejects planned rest p hr, QueryOut.noError]
  | cons q t ih =>
    have hq := hpre q (by simp)
    simp only [List.cons_append, runPieces, hq, if_true]
    have := ih (fun q' h' => hpre q' (by simp [h']))
    exact ⟨by rw [this.1], this.2⟩

/-- Users with write permission are never refused by this check. -/
theorem readwrite_never_rejected (T : Tables) (sql : Bytes) : checkSQLAllowed T true sql = false := by
  simp [checkSQLAllowed, isSQLNotAllowedByUser]

/-- The text `GetRewriteSQL` makes starts with the statement's first item
    (which is not a `?`), whatever is bound. -/
theorem rewrite_keeps_first_item (nbe : Bool) (args : List StmtBind.Arg) (first : Bytes) (items : List Bytes) (sql : Bytes)
    (hq : first ≠ [StmtLex.cQMark]) (h : StmtBind.getRewriteSQL nbe (first :: items) args = .ok sql) :
    ∃ r, sql = first ++ r := by
  simp only [StmtBind.getRewriteSQL, StmtBind.rewriteLoop, hq, if_false] at h
  cases hr : StmtBind.rewriteLoop nbe args items 0 with
  | ok r =>
    rw [hr] at h
    simp only [bind, StmtBind.O.bind, StmtBind.O.ok.injEq] at h
    exact ⟨r, h.symm⟩
  | err _ | panic => rw [hr] at h; simp [bind, StmtBind.O.bind] at h

/-- The last character of the text that is not ASCII white space is an ASCII character. -/
def EndsAscii (sql : Bytes) : Prop :=
  ∀ s b tail, sql = s ++ [b] ++ tail → (∀ x ∈ tail, isAsciiWs x = true) → isAsciiWs b = false → b.toNat < 0x80

/-- `readonly_rejects_bound` for every bound text: the last character of the text plays no part. -/
theorem rejects_bound (nbe : Bool) (ts : List Trivia) (kw r0 : Bytes) (items : List Bytes) (args : List StmtBind.Arg)
    (sql : Bytes) (hts : ∀ t ∈ ts, t.ok = true ∧ t.isXopen = false) (h : Kw kw) (hr0 : r0 ≠ []) (hstop : KwStop r0)
    (hrw : StmtBind.getRewriteSQL nbe ((renderTrivia ts ++ (kw ++ r0)) :: items) args = .ok sql) :
    checkSQLAllowed genTables false (trimRightSemi sql) = true := by
  obtain ⟨r, hsql⟩ := rewrite_keeps_first_item nbe args _ items sql (by
    intro e
    have := congrArg List.length e
    have := List.length_pos_iff.mpr h.ne
    have := List.length_pos_iff.mpr hr0
    simp only [List.length_append, List.length_cons, List.length_nil] at *
    omega) hrw
  have hP : ∃ s b, renderTrivia ts ++ kw = s ++ [b] ∧ b.toNat ≠ 0x3B := by
    rcases List.eq_nil_or_concat kw with e | ⟨init, x, e⟩
    · exact absurd e h.ne
    · rw [List.concat_eq_append] at e
      have hx := isAsciiLetterB_range x (h.letters x (by rw [e]; simp))
      exact ⟨renderTrivia ts ++ init, x, by rw [e]; simp, by omega⟩
  have htrim : trimRightSemi sql = renderTrivia ts ++ (kw ++ trimRightSemi (r0 ++ r)) := by
    rw [hsql, show renderTrivia ts ++ (kw ++ r0) ++ r = (renderTrivia ts ++ kw) ++ (r0 ++ r) by simp,
      trimRightSemi_append _ _ hP, List.append_assoc]
  rw [htrim]
  exact rejects_kw ts kw _ hts h ((HeadSat.append hstop hr0 r).of_prefix (trimRightSemi_prefix _))

/-- **readonly_rejects (prepared statement with bound parameters).** A prepared
    statement of the binary protocol whose text, up to its first `?`, is leading
    trivia, a refused keyword and at least one more character that ends the
    word: whatever values are bound (and whatever the escaping mode), the text
    `handleStmtExecute` hands to `handleQuery` is refused once its final
    semicolons are trimmed, as `handleQuery` does. -/
theorem readonly_rejects_bound (nbe : Bool) (ts : List Trivia) (kw r0 : Bytes) (items : List Bytes) (args : List StmtBind.Arg)
    (sql : Bytes) (hts : ∀ t ∈ ts, t.ok = true ∧ t.isXopen = false)
    (hletters : ∀ b ∈ kw, isAsciiLetterB b = true) (hkw : kw.map asciiLower ∈ refusedKeywords)
    (hr0 : r0 ≠ []) (hstop : KwStop r0)
    (hrw : StmtBind.getRewriteSQL nbe ((renderTrivia ts ++ (kw ++ r0)) :: items) args = .ok sql)
    (hend : EndsAscii (trimRightSemi sql)) :
    checkSQLAllowed genTables false (trimRightSemi sql) = true :=
  rejects_bound nbe ts kw r0 items args sql hts ⟨hletters, hkw⟩ hr0 hstop hrw

/-- The same on the path itself: such a prepared statement, executed with any
    bound values by a read-only user, is refused before anything else happens. -/
theorem bound_execute_rejected (nbe : Bool) (planned : Bytes → Option Nat) (rest' : Bytes → Bool) (ts : List Trivia) (kw r0 : Bytes) (items : List Bytes)
    (args : List StmtBind.Arg) (sql : Bytes) (hts : ∀ t ∈ ts, t.ok = true ∧ t.isXopen = false)
    (hletters : ∀ b ∈ kw, isAsciiLetterB b = true) (hkw : kw.map asciiLower ∈ refusedKeywords)
    (hr0 : r0 ≠ []) (hstop : KwStop r0)
    (hrw : StmtBind.getRewriteSQL nbe ((renderTrivia ts ++ (kw ++ r0)) :: items) args = .ok sql)
    (hend : EndsAscii (trimRightSemi sql)) :
    handleStmtExecuteBound genTables false false planned rest' nbe ((renderTrivia ts ++ (kw ++ r0)) :: items) args =
      some [(trimRightSemi sql, .rejected)] := by
  have h := readonly_rejects_bound nbe ts kw r0 items args sql hts hletters hkw hr0 hstop hrw hend
  simp only [handleStmtExecuteBound, hrw, handleQuery, Bool.false_eq_true, if_false, doQuery, h, if_true]

/-- `; /* c; */ ;-- x` newline `# y` newline, to stand in front of the `DrOp table t` of the next examples. -/
def exTrivia : List Trivia :=
  [.ws [59, 32], .cblock [32, 99, 59, 32], .ws [32, 59], .cdash [32, 120], .chash [32, 121]]

example : (∀ t ∈ exTrivia, t.ok = true ∧ t.isXopen = false) := by decide

example : KwText [68, 114, 79, 112] [32, 116, 97, 98, 108, 101, 32, 116] :=
  ⟨by decide, by decide, HeadSat.cons ⟨by decide, by decide⟩, Or.inr ⟨[32, 116, 97, 98, 108, 101, 32], 0x74, rfl, by decide, by decide⟩⟩

example : isVersion [52, 48, 49, 48, 49] = true ∧ CodeStart (renderTrivia [] ++ ([68, 114, 79, 112] ++ [32, 116, 97, 98, 108, 101, 32, 116])) := by
  refine ⟨by decide, ?_⟩
  intro c hc
  simp [renderTrivia] at hc
  subst hc
  decide

/-- What follows the word WITH in `WITH x AS (select ')') ,/* ) */y (a) as-- (` newline `(select 1-1) `. -/
def exCtes : List WTok :=
  [.blank (.ws [32]), .word [120], .blank (.ws [32]), .word [65, 83], .blank (.ws [32]), .lpar,
   .word [115, 101, 108, 101, 99, 116], .blank (.ws [32]), .quoted 0x27 [0x29], .rpar, .blank (.ws [32]), .sym 0x2C,
   .blank (.cblock [32, 41, 32]), .word [121], .blank (.ws [32]), .lpar, .word [97], .rpar, .blank (.ws [32]), .word [97, 115],
   .blank (.cdash [32, 40]), .lpar, .word [115, 101, 108, 101, 99, 116], .blank (.ws [32]), .word [49], .sym 0x2D, .word [49], .rpar,
   .blank (.ws [32])]

example : IsWith [87, 105, 84, 104] := ⟨by decide, by decide⟩

example : (∀ t ∈ exCtes, t.ok = true) ∧ wfW 0 false (.word [87, 105, 84, 104] :: exCtes) = true := by decide +kernel

/-- `call p()`, `Prepare s`, `EXECUTE s` are refused like the write statements. -/
example : KwText [99, 97, 108, 108] [32, 112, 40, 41] ∧ KwText [80, 114, 101, 112, 97, 114, 101] [32, 115] ∧
    KwText [69, 88, 69, 67, 85, 84, 69] [32, 115] :=
  ⟨⟨by decide, by decide, HeadSat.cons ⟨by decide, by decide⟩, Or.inr ⟨[32, 112, 40], 0x29, rfl, by decide, by decide⟩⟩,
   ⟨by decide, by decide, HeadSat.cons ⟨by decide, by decide⟩, Or.inr ⟨[32], 0x73, rfl, by decide, by decide⟩⟩,
   ⟨by decide, by decide, HeadSat.cons ⟨by decide, by decide⟩, Or.inr ⟨[32], 0x73, rfl, by decide, by decide⟩⟩⟩

/-- `delete from t where a = ?` bound to the string `x'; -- `: the rewritten text ends in the closing quote. -/
example : StmtBind.getRewriteSQL false
      [[100, 101, 108, 101, 116, 101, 32, 102, 114, 111, 109, 32, 116, 32, 119, 104, 101, 114, 101, 32, 97, 32, 61, 32], [0x3F]]
      [.bytes [120, 39, 59, 32, 45, 45, 32]] =
    .ok [100, 101, 108, 101, 116, 101, 32, 102, 114, 111, 109, 32, 116, 32, 119, 104, 101, 114, 101, 32, 97, 32, 61, 32,
      39, 120, 39, 39, 59, 32, 45, 45, 32, 39] := by decide +kernel

/-- A WITH statement that is let through: `with x as (select 1) select 2`. -/
example : preview genTables [119, 105, 116, 104, 32, 120, 32, 97, 115, 32, 40, 115, 101, 108, 101, 99, 116, 32, 49, 41, 32,
      115, 101, 108, 101, 99, 116, 32, 50] = genTables.withK ∧
    checkSQLAllowed genTables false [119, 105, 116, 104, 32, 120, 32, 97, 115, 32, 40, 115, 101, 108, 101, 99, 116, 32, 49, 41, 32,
      115, 101, 108, 101, 99, 116, 32, 50] = false := by decide +kernel

end GaeaVerif.C21
