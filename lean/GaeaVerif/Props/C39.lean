import GaeaVerif.Model.ResultStream
import GaeaVerif.Model.ResultSession
import GaeaVerif.Gen.Consts
/-
  C39 — Results are complete or an error, never silently truncated.

  Theorems about `Model/ResultStream.lean` (one result set on its way from a
  backend to the client or to the merge) and, in the second half of the file,
  about `Model/ResultSession.lean` (whole sessions: answers of several
  results, transactions and keep-session pinning, statement deadlines, clients
  that stop reading, sharded statements from above the planner).  Tie to the
  code: correspondence `gvh run C39` against scripted backends through the real
  DirectConnection, connection pool, SessionExecutor, planner/merge,
  Session.Run and ClientConn; `Gen.maxPayloadLen`.
  All statements hold for every backend stream / answer (any length, any row
  sizes, ending any way), every chunk threshold `T`, every row limit
  `maxRows`, every client behaviour `b` and every session history — no bound
  anywhere.

  Every stream is some rows and then a tail that does not begin with a row, in
  one way only (`exists_rows_tail`, `rows_split`); `readRows_rows` says what the
  reader does with such a stream, and `readRows_spec` (what each return of the
  reader tells about the stream it has read) follows from it.  The sharded path
  does not depend on the chunk threshold: `execShard_rows` gives the outcome of
  a shard from its rows, the limit and the tail alone, and the theorems about
  shards are read off it.  The streaming path does depend on it (how many rows
  reach the client before a failure, which read meets a silent backend): what
  every outcome guarantees is the invariant `StreamInv`, extended chunk by chunk
  from `readRows_spec`; what becomes of a complete result at a client that takes
  all of its packets is `streamMore_rows` / `unshard_rows`, from `readRows_rows`.
-/
namespace GaeaVerif.C39
open GaeaVerif GaeaVerif.ResultStream GaeaVerif.ResultSession

def rowsOf (rs : List Row) : List Pkt := rs.map Pkt.row

@[simp] theorem rowsOf_nil : rowsOf [] = [] := rfl
@[simp] theorem rowsOf_cons (r : Row) (rs : List Row) : rowsOf (r :: rs) = .row r :: rowsOf rs := rfl
@[simp] theorem rowsOf_append (a b : List Row) : rowsOf (a ++ b) = rowsOf a ++ rowsOf b := by
  simp [rowsOf]
@[simp] theorem rowsOf_length (a : List Row) : (rowsOf a).length = a.length := by simp [rowsOf]

def NoRow (tl : List Pkt) : Prop := ∀ r, tl.head? ≠ some (.row r)

theorem noRow_eof (p : List Pkt) : NoRow (.eof :: p) := nofun
theorem noRow_err (p : List Pkt) : NoRow (.err :: p) := nofun

theorem exists_rows_tail (s : List Pkt) : ∃ rows tl, s = rowsOf rows ++ tl ∧ NoRow tl := by
  induction s with
  | nil => exact ⟨[], [], rfl, nofun⟩
  | cons p s ih =>
    cases p with
    | row r => obtain ⟨rows, tl, h1, h2⟩ := ih; exact ⟨r :: rows, tl, congrArg _ h1, h2⟩
    | _ => exact ⟨[], _, rfl, nofun⟩

theorem rows_split : ∀ {a b : List Row} {t1 t2 : List Pkt}, NoRow t1 → NoRow t2 →
    rowsOf a ++ t1 = rowsOf b ++ t2 → a = b ∧ t1 = t2
  | [], [], _, _, _, _, h => ⟨rfl, h⟩
  | [], r :: _, _, _, h1, _, h => absurd (congrArg List.head? h) (h1 r)
  | r :: _, [], _, _, _, h2, h => absurd (congrArg List.head? h).symm (h2 r)
  | r :: a, r' :: b, _, _, h1, h2, h => by
    simp only [rowsOf_cons, List.cons_append, List.cons.injEq, Pkt.row.injEq] at h
    obtain ⟨e1, e2⟩ := rows_split h1 h2 h.2
    exact ⟨by rw [h.1, e1], e2⟩

/-- `s` is a complete backend result: the rows `rows`, the closing EOF, then
    whatever the backend sends next (`rest`; nothing for a MySQL server). -/
def Complete (s : List Pkt) (rows : List Row) (rest : List Pkt) : Prop :=
  s = rowsOf rows ++ .eof :: rest

theorem Complete.eq {s rest : List Pkt} {rows : List Row} (h : Complete s rows rest) :
    s = rowsOf rows ++ .eof :: rest := h

theorem Complete.rows (new : List Row) {s rest : List Pkt} {rows : List Row} (h : Complete s rows rest) :
    Complete (rowsOf new ++ s) (new ++ rows) rest := by
  simp [Complete, h.eq]

/-- `p` is what is left of `s` right behind the packet (EOF or ERR) that
    closed the result: `s` is rows, that packet, then `p`. -/
def Behind (s p : List Pkt) : Prop :=
  ∃ rws t, s = rowsOf rws ++ t :: p ∧ (t = Pkt.eof ∨ t = Pkt.err)

theorem Behind.rows (new : List Row) {s p : List Pkt} (h : Behind s p) : Behind (rowsOf new ++ s) p :=
  let ⟨rws, t, h1, h2⟩ := h
  ⟨new ++ rws, t, by simp [h1], h2⟩

/-- The row limit admits a result of `n` rows (`maxRows ≤ 0`: no limit). -/
def Within (maxRows : Int) (n : Nat) : Prop := maxRows ≤ 0 ∨ (n : Int) ≤ maxRows

/-- `Within` is the negation of the test `readResultRows` and `writeOKResultStream` make. -/
theorem within_iff {m : Int} {n : Nat} : Within m n ↔ ¬ (m > 0 ∧ (n : Int) > m) := by
  unfold Within; omega

theorem not_within_iff {m : Int} {n : Nat} : ¬ Within m n ↔ m > 0 ∧ (n : Int) > m := by
  unfold Within; omega

theorem within_zero (m : Int) : Within m 0 := by
  unfold Within; omega

theorem Within.mono {m : Int} {a b : Nat} (h : Within m b) (hab : a ≤ b) : Within m a := by
  unfold Within at *; omega

theorem Within.le {m : Int} {n : Nat} (h : Within m n) (hm : m > 0) : (n : Int) ≤ m := by
  unfold Within at h; omega

/-! ### readResultRows -/

theorem drain_rows : ∀ (rows : List Row) (tail : List Pkt),
    drainResults (rowsOf rows ++ tail) = drainResults tail
  | [], _ => rfl
  | _ :: rs, tail => drain_rows rs tail

theorem drain_ok : ∀ {s rest : List Pkt}, drainResults s = .ok rest →
    ∃ rws, s = rowsOf rws ++ .eof :: rest
  | [], _, h | .err :: _, _, h | .stall :: _, _, h => by simp [drainResults] at h
  | .eof :: t, rest, h => ⟨[], by simpa [drainResults] using h⟩
  | .row r :: t, rest, h =>
    have ⟨rws, h1⟩ := drain_ok (s := t) (rest := rest) h
    ⟨r :: rws, congrArg _ h1⟩

theorem readRows_rows (T : Nat) (m : Int) :
    ∀ (rows : List Row) (tail : List Pkt) (acc : List Row) (n buf : Nat), Within m n →
      (Within m (n + rows.length) ∧ ∃ buf', readRows T m (rowsOf rows ++ tail) acc n buf =
          readRows T m tail (rows.reverse ++ acc) (n + rows.length) buf') ∨
      (∃ pre post, rows = pre ++ post ∧ pre ≠ [] ∧ Within m (n + pre.length) ∧
          readRows T m (rowsOf rows ++ tail) acc n buf =
            .ok (pre.reverse ++ acc) true (rowsOf post ++ tail)) ∨
      (¬ Within m (n + rows.length) ∧ readRows T m (rowsOf rows ++ tail) acc n buf =
          match drainResults tail with
          | .ok rest => .errLimit rest
          | .failed => .errLimitDrain
          | .stalled => .stalled) := by
  intro rows
  induction rows with
  | nil => intro tail acc n buf hw; exact .inl ⟨hw, buf, rfl⟩
  | cons r rs ih =>
    intro tail acc n buf hw
    have e : n + (rs.length + 1) = n + 1 + rs.length := by omega
    simp only [rowsOf_cons, List.cons_append, readRows, List.length_cons, e]
    by_cases hlim : m > 0 ∧ ((n + 1 : Nat) : Int) > m
    · rw [if_pos hlim, drain_rows]
      exact .inr (.inr ⟨fun h => within_iff.mp (h.mono (by omega)) hlim, rfl⟩)
    · rw [if_neg hlim]
      by_cases hb : buf + r.size > T
      · rw [if_pos hb]
        exact .inr (.inl ⟨[r], rs, rfl, by simp, within_iff.mpr hlim, rfl⟩)
      · rw [if_neg hb]
        rcases ih tail (r :: acc) (n + 1) (buf + r.size) (within_iff.mpr hlim) with
          ⟨hw', buf', h⟩ | ⟨pre, post, rfl, _, hw', h⟩ | ⟨hw', h⟩
        · exact .inl ⟨hw', buf', by simpa using h⟩
        · exact .inr (.inl ⟨r :: pre, post, rfl, by simp,
            by rwa [List.length_cons, ← Nat.add_assoc, Nat.add_right_comm], by simpa using h⟩)
        · exact .inr (.inr ⟨hw', h⟩)

theorem readRows_spec {T : Nat} {m : Int} (s : List Pkt) (acc : List Row) (n buf : Nat) (hw : Within m n) :
    match readRows T m s acc n buf with
    | .ok acc' more rest => ∃ new, acc' = new.reverse ++ acc ∧
        s = rowsOf new ++ (if more then rest else .eof :: rest) ∧ (more = true → new ≠ []) ∧
        Within m (n + new.length)
    | .errBackend rest => ∃ rws, s = rowsOf rws ++ .err :: rest
    | .errLimit rest => ∃ rws, s = rowsOf rws ++ .eof :: rest
    | _ => True := by
  obtain ⟨rows, tl, rfl, htl⟩ := exists_rows_tail s
  rcases readRows_rows T m rows tl acc n buf hw with ⟨hw', buf', h⟩ | ⟨pre, post, rfl, hpre, hwp, h⟩ | ⟨_, h⟩ <;>
    rw [h]
  -- all rows were read: the return is decided by the packet that follows them
  · match tl, htl with
    | [], _ | .stall :: _, _ => trivial
    | .eof :: rest, _ => exact ⟨rows, rfl, rfl, nofun, hw'⟩
    | .err :: rest, _ => exact ⟨rows, rfl⟩
    | .row r :: _, htl => exact absurd rfl (htl r)
  · exact ⟨pre, rfl, by simp, fun _ => hpre, hwp⟩
  · cases hd : drainResults tl with
    | ok rest => obtain ⟨rws, h'⟩ := drain_ok hd; exact ⟨rows ++ rws, by simp [h']⟩
    | _ => trivial

/-- The connection after a read that did not succeed, as the loops over the chunks leave it. -/
def errFate : Read → Fate
  | .errBackend rest | .errLimit rest => .pooled rest
  | _ => .closed

theorem readRows_errFate {T : Nat} {m : Int} {s : List Pkt} {acc : List Row} {n buf : Nat} {r : Read}
    (hw : Within m n) (hr : readRows T m s acc n buf = r) (p : List Pkt) (hp : errFate r = .pooled p) :
    Behind s p := by
  have hs := readRows_spec (T := T) s acc n buf hw
  rw [hr] at hs
  cases r with
  | errBackend rest => cases hp; obtain ⟨rws, h⟩ := hs; exact ⟨rws, .err, h, .inr rfl⟩
  | errLimit rest => cases hp; obtain ⟨rws, h⟩ := hs; exact ⟨rws, .eof, h, .inl rfl⟩
  | _ => cases hp

theorem length_rev_append (new acc : List Row) : (new.reverse ++ acc).length = acc.length + new.length := by
  rw [List.length_append, List.length_reverse, Nat.add_comm]

/-- A chunk that left rows pending was not empty: the loops get on. -/
theorem chunk_fuel {pre post : List Row} {fuel : Nat} (hpre : pre ≠ [])
    (hf : (pre ++ post).length < fuel + 1) : post.length < fuel := by
  have := List.length_pos_iff.mpr hpre
  rw [List.length_append] at hf; omega

/-! ### sharded statements -/

def Shard.fate? : Shard → Option Fate
  | .ok _ f => some f
  | .errLimit f => some f
  | .errBackend f => some f
  | _ => none

/-- How a shard ends whose rows `rows`, within the limit, are followed by `tl`. -/
def shardEnd (rows : List Row) : List Pkt → Shard
  | .eof :: rest => .ok rows (.pooled rest)
  | .err :: rest => .errBackend (.pooled rest)
  | .stall :: _ => .stalled
  | _ => .errConn

/-- How a shard ends whose rows exceed the limit: by what draining the rest of the result gives
    (if the backend falls silent meanwhile, the statement ends by its time-out). -/
def shardOver : Drain → Shard
  | .ok rest => .errLimit (.pooled rest)
  | .failed => .errLimit .closed
  | .stalled => .stalled

theorem fetchAll_rows (T : Nat) (m : Int) :
    ∀ (fuel : Nat) (rows : List Row) (tl : List Pkt) (acc : List Row),
      rows.length < fuel → Within m acc.length →
      (Within m (acc.length + rows.length) → NoRow tl →
        fetchAll T m fuel (rowsOf rows ++ tl) acc acc.length = shardEnd (acc.reverse ++ rows) tl) ∧
      (¬ Within m (acc.length + rows.length) →
        fetchAll T m fuel (rowsOf rows ++ tl) acc acc.length = shardOver (drainResults tl)) := by
  intro fuel
  induction fuel with
  | zero => intro rows tl acc h; omega
  | succ fuel ih =>
    intro rows tl acc hf hw
    rw [fetchAll]
    rcases readRows_rows T m rows tl acc acc.length 0 hw with
      ⟨hw', buf', h⟩ | ⟨pre, post, rfl, hpre, hwp, h⟩ | ⟨hnw, h⟩
    · refine ⟨fun _ htl => ?_, fun hnw => absurd hw' hnw⟩
      rw [h]
      match tl, htl with
      | [], _ | .err :: _, _ | .stall :: _, _ => rfl
      | .eof :: _, _ => simp [readRows, shardEnd]
      | .row r :: _, htl => exact absurd rfl (htl r)
    · obtain ⟨ih1, ih2⟩ := ih post tl _ (chunk_fuel hpre hf) (length_rev_append pre acc ▸ hwp)
      rw [List.length_append, ← Nat.add_assoc, ← length_rev_append]
      simp only [h, ↓reduceIte]
      exact ⟨fun hw' htl => by rw [ih1 hw' htl]; simp, ih2⟩
    · refine ⟨fun hw' => absurd hw' hnw, fun _ => ?_⟩
      rw [h]
      cases drainResults tl <;> rfl

/-- **The execution of a shard does not depend on the chunk threshold.** -/
theorem execShard_rows (T : Nat) (m : Int) (rows : List Row) (tl : List Pkt) :
    (Within m rows.length → NoRow tl → execShard T m (rowsOf rows ++ tl) = shardEnd rows tl) ∧
    (¬ Within m rows.length → execShard T m (rowsOf rows ++ tl) = shardOver (drainResults tl)) := by
  have h := fetchAll_rows T m ((rowsOf rows ++ tl).length + 1) rows tl [] (Nat.lt_succ_of_le (by simp))
    (within_zero m)
  rwa [List.length_nil, Nat.zero_add] at h

theorem execShard_eq (T : Nat) (m : Int) (s : List Pkt) :
    ∃ rows tl, s = rowsOf rows ++ tl ∧
      (Within m rows.length ∧ execShard T m s = shardEnd rows tl ∨
        ¬ Within m rows.length ∧ execShard T m s = shardOver (drainResults tl)) := by
  obtain ⟨rows, tl, rfl, htl⟩ := exists_rows_tail s
  refine ⟨rows, tl, rfl, ?_⟩
  by_cases hw : Within m rows.length
  · exact .inl ⟨hw, (execShard_rows T m rows tl).1 hw htl⟩
  · exact .inr ⟨hw, (execShard_rows T m rows tl).2 hw⟩

/-- **C39 (sharded, never truncated).** Whatever the backend stream, the chunk
    threshold and the limit: if a shard's execution returns rows, they are all
    the rows of a *complete* backend result, in order (the stream is those
    rows, then the EOF), within the limit, and the connection goes back to the
    pool with nothing of the result unread. -/
theorem execShard_ok (T : Nat) (m : Int) (s : List Pkt) (rows : List Row) (fate : Fate)
    (h : execShard T m s = .ok rows fate) :
    ∃ rest, Complete s rows rest ∧ fate = .pooled rest ∧ (m > 0 → (rows.length : Int) ≤ m) := by
  obtain ⟨rws, tl, rfl, ⟨hw, e⟩ | ⟨_, e⟩⟩ := execShard_eq T m s <;> rw [e] at h
  · match tl, h with
    | .eof :: rest, h => cases h; exact ⟨rest, rfl, rfl, hw.le⟩
  · cases hd : drainResults tl <;> rw [hd] at h <;> cases h

/-- **A recycled connection is clean (sharded).** -/
theorem execShard_fate_clean (T : Nat) (m : Int) (s p : List Pkt)
    (h : Shard.fate? (execShard T m s) = some (.pooled p)) : Behind s p := by
  obtain ⟨rws, tl, rfl, ⟨_, e⟩ | ⟨_, e⟩⟩ := execShard_eq T m s <;> rw [e] at h
  · match tl, h with
    | .eof :: rest, h => cases h; exact ⟨rws, .eof, rfl, .inl rfl⟩
    | .err :: rest, h => cases h; exact ⟨rws, .err, rfl, .inr rfl⟩
  · cases hd : drainResults tl <;> rw [hd] at h <;> cases h
    -- the drain stopped behind the closing EOF
    obtain ⟨rws', h'⟩ := drain_ok hd
    exact h' ▸ Behind.rows rws ⟨rws', .eof, rfl, .inl rfl⟩

/-- The loop terminates: the `fuel` outcome is unreachable. -/
theorem execShard_fuel (T : Nat) (m : Int) (s : List Pkt) : execShard T m s ≠ .fuel := by
  obtain ⟨rws, tl, rfl, ⟨_, e⟩ | ⟨_, e⟩⟩ := execShard_eq T m s <;> rw [e]
  · unfold shardEnd; split <;> nofun
  · cases drainResults tl <;> nofun

theorem execShard_complete (T : Nat) (m : Int) (rows : List Row) (rest : List Pkt)
    (hw : Within m rows.length) :
    execShard T m (rowsOf rows ++ .eof :: rest) = .ok rows (.pooled rest) :=
  (execShard_rows T m rows _).1 hw (noRow_eof rest)

theorem execShard_over (T : Nat) (m : Int) (hm : m > 0) (rows : List Row) (tail : List Pkt)
    (h : (rows.length : Int) > m) :
    execShard T m (rowsOf rows ++ tail) = shardOver (drainResults tail) :=
  (execShard_rows T m rows tail).2 fun hw => by have := hw.le hm; omega

theorem executeSQLs_nil (T : Nat) (m : Int) : executeSQLs T m [] = some [] := rfl

theorem executeSQLs_cons (T : Nat) (m : Int) (s : List Pkt) (ss : List (List Pkt)) :
    executeSQLs T m (s :: ss) =
      match execShard T m s, executeSQLs T m ss with
      | .ok rows _, some rss => some (rows :: rss)
      | _, _ => none := by
  simp only [executeSQLs, List.map_cons, List.all_cons]
  by_cases hall : (List.map (execShard T m) ss).all Shard.isOk = true
  · cases hs : execShard T m s <;> simp [Shard.isOk, Shard.rows, hall]
  · cases hs : execShard T m s <;> simp [Shard.isOk, hall]

/-- `P` holds of every shard and its returned rows. -/
inductive ShardWise (P : List Pkt → List Row → Prop) : List (List Pkt) → List (List Row) → Prop
  | nil : ShardWise P [] []
  | cons {s : List Pkt} {rows : List Row} {ss : List (List Pkt)} {rss : List (List Row)} :
      P s rows → ShardWise P ss rss → ShardWise P (s :: ss) (rows :: rss)

/-- **C39, sharded statements (`shard_complete_or_error`).** If `ExecuteSQLs`
    returns results at all, then it returns one row list per shard, and for
    every shard these are exactly the rows of a complete backend result (rows,
    then EOF), within the limit; otherwise the statement fails. Nothing is
    ever cut short. -/
theorem shard_complete_or_error (T : Nat) (m : Int) :
    ∀ (shards : List (List Pkt)) (rss : List (List Row)),
      executeSQLs T m shards = some rss →
      ShardWise (fun s rows => ∃ rest, Complete s rows rest ∧ (m > 0 → (rows.length : Int) ≤ m))
        shards rss := by
  intro shards
  induction shards with
  | nil => intro rss h; cases h; exact .nil
  | cons s ss ih =>
    intro rss h
    rw [executeSQLs_cons] at h
    split at h
    · rename_i rows fate rss' hs hss
      cases h
      obtain ⟨rest, h1, _, h3⟩ := execShard_ok T m s rows fate hs
      exact .cons ⟨rest, h1, h3⟩ (ih _ hss)
    · cases h

/-- **C39, sharded statements, delivered in full.** When every shard's backend
    result is complete and within the limit, `ExecuteSQLs` returns all rows of
    all shards (whatever their sizes). -/
theorem shard_delivered_in_full (T : Nat) (m : Int) (parts : List (List Row × List Pkt))
    (hw : ∀ p ∈ parts, Within m p.1.length) :
    executeSQLs T m (parts.map fun p => rowsOf p.1 ++ .eof :: p.2) = some (parts.map (·.1)) := by
  induction parts with
  | nil => rfl
  | cons p ps ih =>
    rw [List.map_cons, executeSQLs_cons, execShard_complete T m p.1 p.2 (hw p (by simp)),
      ih (fun q hq => hw q (by simp [hq]))]
    rfl

/-- **C39, sharded statements, row limit (`row_limit` in DESIGN.md).** If some shard's
    backend sends more rows than the limit, the statement fails. -/
theorem shard_row_limit (T : Nat) (m : Int) (hm : m > 0) :
    ∀ (shards : List (List Pkt)) (rows : List Row) (tail : List Pkt),
      rowsOf rows ++ tail ∈ shards → (rows.length : Int) > m →
      executeSQLs T m shards = none := by
  intro shards
  induction shards with
  | nil => intro rows tail hin; simp at hin
  | cons s ss ih =>
    intro rows tail hin h
    rw [executeSQLs_cons]
    rcases List.mem_cons.mp hin with rfl | hi
    · rw [execShard_over T m hm rows tail h]
      cases drainResults tail <;> rfl
    · rw [ih rows tail hi h]
      cases execShard T m s <;> rfl

example : executeSQLs 10 2 [[.row ⟨0, 6⟩, .row ⟨1, 6⟩, .eof], [.row ⟨0, 20⟩, .eof]] =
    some [[⟨0, 6⟩, ⟨1, 6⟩], [⟨0, 20⟩]] := by decide
example : executeSQLs 10 2 [[.row ⟨0, 6⟩, .row ⟨1, 6⟩, .row ⟨2, 6⟩, .eof]] = none := by decide
example : executeSQLs 10 (-1) [[.row ⟨0, 6⟩, .row ⟨1, 6⟩]] = none := by decide

/-! ### unsharded statements: streaming to the client -/

@[simp] theorem errFin_ne (b : Option Nat) (k : ErrKind) : errFin b k ≠ .eof ∧ errFin b k ≠ .fuel := by
  unfold errFin; split <;> simp

@[simp] theorem errFin_none (k : ErrKind) : errFin none k = .err k := by
  simp [errFin, accepts]

@[simp] theorem accepts_none (n : Nat) : accepts none n = true := rfl

@[simp] theorem spend_none (n : Nat) : spend none n = none := rfl

theorem accepts_mono {b : Option Nat} {n n' : Nat} (h : accepts b n = true) (hn : n' ≤ n) :
    accepts b n' = true := by
  cases b with
  | none => rfl
  | some k => simp only [accepts, decide_eq_true_eq] at h ⊢; omega

/-- A client that takes `a + n` packets takes `n` more after `a` were written.  (Not an equation:
    once the budget is overdrawn, `spend` leaves 0, which still "takes" `n = 0` packets.) -/
theorem accepts_spend {b : Option Nat} {a n : Nat} (h : accepts b (a + n) = true) :
    accepts (spend b a) n = true := by
  cases b with
  | none => rfl
  | some k => simp only [accepts, spend, Option.map_some, decide_eq_true_eq] at h ⊢; omega

theorem errFin_accepts {b : Option Nat} (k : ErrKind) (h : accepts b 1 = true) : errFin b k = .err k := by
  rw [errFin, if_pos h]

/-- What streaming guarantees of the client's view `c` of the backend stream
    `s`, `sent` being the rows written before and `d` their count against the
    limit, whatever the client still takes. -/
structure StreamInv (m : Int) (s : List Pkt) (sent : List Row) (d : Nat) (c : Client) : Prop where
  rows : ∃ new rest, c.rows = sent ++ new ∧ s = rowsOf new ++ rest ∧
    (c.fin = .eof → ∃ rest', Complete s new rest' ∧ c.fate = .pooled rest' ∧ Within m (d + new.length))
  fate : ∀ p, c.fate = .pooled p → Behind s p
  fuel : c.fin ≠ .fuel

theorem StreamInv.stop {m : Int} {s : List Pkt} {sent : List Row} {d : Nat} {c : Client}
    (h1 : c.rows = sent) (h2 : c.fin ≠ .eof) (h3 : c.fin ≠ .fuel) (h4 : ∀ p, c.fate = .pooled p → Behind s p) :
    StreamInv m s sent d c :=
  ⟨⟨[], s, by simp [h1], rfl, fun h => absurd h h2⟩, h4, h3⟩

theorem StreamInv.chunk {m : Int} {s rest : List Pkt} {sent new : List Row} {d : Nat} {c : Client}
    (hs : s = rowsOf new ++ rest) (h : StreamInv m rest (sent ++ new) (d + new.length) c) :
    StreamInv m s sent d c where
  rows := by
    obtain ⟨new2, rest2, f1, f2, f3⟩ := h.rows
    refine ⟨new ++ new2, rest2, by simp [f1], by simp [hs, f2], fun hf => ?_⟩
    obtain ⟨rest', g1, g2, g3⟩ := f3 hf
    exact ⟨rest', hs ▸ g1.rows new, g2, by rwa [Nat.add_assoc, ← List.length_append] at g3⟩
  fate p hp := hs ▸ (h.fate p hp).rows new
  fuel := h.fuel

theorem StreamInv.last {m : Int} {s rest : List Pkt} {sent new : List Row} {d : Nat}
    (hs : s = rowsOf new ++ .eof :: rest) (hw : Within m (d + new.length)) :
    StreamInv m s sent d ⟨sent ++ new, .eof, .pooled rest⟩ :=
  ⟨⟨new, .eof :: rest, rfl, hs, fun _ => ⟨rest, hs, rfl, hw⟩⟩,
    fun p hp => by cases hp; exact ⟨new, .eof, hs, .inl rfl⟩, by simp⟩

/-- The write of the chunk `new` failed. -/
theorem StreamInv.cut {m : Int} {s rest : List Pkt} {sent new : List Row} {d : Nat} {f : Fate} (k : Nat)
    (hs : s = rowsOf new ++ rest) (hf : ∀ p, f = .pooled p → Behind s p) :
    StreamInv m s sent d ⟨sent ++ new.take k, .closed, f⟩ :=
  ⟨⟨new.take k, rowsOf (new.drop k) ++ rest, rfl,
    by rw [hs, ← List.append_assoc, ← rowsOf_append, List.take_append_drop], by simp⟩, hf, by simp⟩

/-- A stream given up at a chunk leaves a connection that is closed (rows pending) or stands
    behind the closing EOF. -/
theorem behind_of_chunk {s rest : List Pkt} {new : List Row} {more : Bool}
    (hs : s = rowsOf new ++ (if more = true then rest else .eof :: rest)) (p : List Pkt)
    (hp : (if more = true then Fate.closed else .pooled rest) = .pooled p) : Behind s p := by
  cases more <;> simp at hp hs
  exact hp ▸ ⟨new, .eof, hs, .inl rfl⟩

theorem streamMore_inv (T : Nat) (m : Int) :
    ∀ (fuel : Nat) (s : List Pkt) (outRev : List Row) (d : Nat) (b : Option Nat), s.length < fuel →
      StreamInv m s outRev.reverse d (streamMore T m fuel s outRev d b) := by
  intro fuel
  induction fuel with
  | zero => intro s _ _ _ h; omega
  | succ fuel ih =>
    intro s outRev d b hf
    rw [streamMore]
    have hs := readRows_spec (T := T) s [] 0 0 (within_zero m)
    cases hr : readRows T m s [] 0 0 <;> simp only [hr] at hs ⊢
    case ok chunkRev more rest =>
      obtain ⟨new, rfl, e2, e3, _⟩ := hs
      simp only [List.append_nil, List.length_reverse, List.reverse_reverse]
      by_cases hlim : m > 0 ∧ ((d + new.length : Nat) : Int) > m
      · rw [if_pos hlim]
        exact .stop rfl (by simp) (by simp) (behind_of_chunk e2)
      · rw [if_neg hlim]
        by_cases hacc : accepts b (new.length + (if more = true then 0 else 1)) = true
        · rw [if_pos hacc]
          cases more with
          | true =>
            simp only [if_true] at e2 ⊢
            have := ih rest (new.reverse ++ outRev) (d + new.length) (spend b (new.length + 0)) (by
              have := List.length_pos_iff.mpr (e3 rfl)
              rw [e2, List.length_append, rowsOf_length] at hf
              omega)
            exact .chunk e2 (by simpa using this)
          | false => simpa using StreamInv.last (sent := outRev.reverse) e2 (within_iff.mpr hlim)
        · rw [if_neg hacc]
          exact .cut _ e2 (behind_of_chunk e2)
    -- the reader failed
    all_goals exact .stop rfl (by simp) (by simp) (readRows_errFate (within_zero m) hr)

theorem sendResult_inv (T : Nat) (m : Int) {s : List Pkt} {rowsRev : List Row} {more : Bool}
    {rest : List Pkt} (b : Option Nat) (hr : readRows T m s [] 0 0 = .ok rowsRev more rest) :
    StreamInv m s [] 0 (sendResult T m rowsRev more rest b) := by
  have hs := readRows_spec (T := T) s [] 0 0 (within_zero m)
  simp only [hr] at hs
  obtain ⟨new, rfl, e2, _, e4⟩ := hs
  unfold sendResult
  simp only [List.append_nil, List.length_reverse, List.reverse_reverse]
  by_cases hacc : accepts b (headerPackets + new.length + (if more = true then 0 else 1)) = true
  · rw [if_pos hacc]
    cases more with
    | true =>
      simp only [if_true] at e2 ⊢
      have := streamMore_inv T m (rest.length + 1) rest new.reverse new.length
        (spend b (headerPackets + new.length + 0)) (Nat.lt_succ_self _)
      exact .chunk e2 (by simpa using this)
    | false => simpa using StreamInv.last (sent := []) e2 e4
  · rw [if_neg hacc]
    exact StreamInv.cut (sent := []) _ e2 (behind_of_chunk e2)

theorem unshard_inv (T : Nat) (m : Int) (s : List Pkt) (b : Option Nat) :
    StreamInv m s [] 0 (unshard T m s b) := by
  rw [unshard]
  cases hr : readRows T m s [] 0 0 <;> simp only
  case ok rowsRev more rest => exact sendResult_inv T m b hr
  -- the reader failed
  all_goals exact .stop rfl (by simp) (by simp) (readRows_errFate (within_zero m) hr)

theorem StreamInv.whole {m : Int} {s : List Pkt} {c : Client} (h : StreamInv m s [] 0 c) :
    (∃ rest, s = rowsOf c.rows ++ rest) ∧
    (c.fin = .eof → ∃ rest', Complete s c.rows rest' ∧ c.fate = .pooled rest' ∧
      (m > 0 → (c.rows.length : Int) ≤ m)) := by
  obtain ⟨new, rest, h1, h2, h3⟩ := h.rows
  rw [List.nil_append] at h1
  rw [h1]
  exact ⟨⟨rest, h2⟩, fun hf => let ⟨rest', g1, g2, g3⟩ := h3 hf; ⟨rest', g1, g2, by simpa using g3.le⟩⟩

/-- **C39, unsharded statements (`unshard_complete`).** For every backend
    stream, threshold and limit, and whatever the client does (`b`: it keeps
    reading, or its connection breaks after any number of packets): the rows
    the client receives are, in order, the first packets of the backend's answer
    (nothing invented, duplicated or reordered); and if the client is sent the
    closing EOF — i.e. is told the result is complete — then they are *all*
    rows of a complete backend result (the stream is exactly those rows
    followed by the backend's EOF), their number respects the limit, and the
    backend connection returns to the pool standing right behind that EOF.
    Otherwise the client gets an error packet or a closed connection, never a
    shortened result presented as complete. -/
theorem unshard_complete (T : Nat) (m : Int) (s : List Pkt) (b : Option Nat) :
    (∃ rest, s = rowsOf (unshard T m s b).rows ++ rest) ∧
    ((unshard T m s b).fin = .eof → ∃ rest', Complete s (unshard T m s b).rows rest' ∧
      (unshard T m s b).fate = .pooled rest' ∧ (m > 0 → ((unshard T m s b).rows.length : Int) ≤ m)) :=
  (unshard_inv T m s b).whole

/-- **A recycled connection is clean (unsharded).** A backend connection that
    goes back to the pool after an unsharded statement stands right behind the
    packet that closed the result: no row of it is left for the next statement
    to trip over (otherwise it has been closed) — whether the result was
    delivered, refused for its size, or the client went away in the middle. -/
theorem unshard_fate_clean (T : Nat) (m : Int) (s p : List Pkt) (b : Option Nat)
    (h : (unshard T m s b).fate = .pooled p) : Behind s p :=
  (unshard_inv T m s b).fate p h

/-- The loop terminates: the `fuel` outcome is unreachable. -/
theorem unshard_fuel (T : Nat) (m : Int) (s : List Pkt) (b : Option Nat) : (unshard T m s b).fin ≠ .fuel :=
  (unshard_inv T m s b).fuel

/-- A complete result on its way to a client that takes all of it (`b`: its rows and the closing
    EOF; any client, `none` included): delivered in full when the running count stays within the
    limit, ended by the limit error otherwise. -/
theorem streamMore_rows (T : Nat) (m : Int) :
    ∀ (fuel : Nat) (rows : List Row) (rest : List Pkt) (outRev : List Row) (d : Nat) (b : Option Nat),
      rows.length < fuel → accepts b (rows.length + 1) = true →
      (Within m (d + rows.length) → streamMore T m fuel (rowsOf rows ++ .eof :: rest) outRev d b =
        ⟨outRev.reverse ++ rows, .eof, .pooled rest⟩) ∧
      (¬ Within m (d + rows.length) →
        (streamMore T m fuel (rowsOf rows ++ .eof :: rest) outRev d b).fin = .err .limit) := by
  intro fuel
  induction fuel with
  | zero => intro rows rest outRev d b h; omega
  | succ fuel ih =>
    intro rows rest outRev d b hf hacc
    have hacc1 : accepts b 1 = true := accepts_mono hacc (by omega)
    rw [streamMore]
    rcases readRows_rows T m rows (.eof :: rest) [] 0 0 (within_zero m) with
      ⟨_, buf', h⟩ | ⟨pre, post, rfl, hpre, _, h⟩ | ⟨hnw, h⟩
    · simp only [h, readRows, List.append_nil, List.length_reverse]
      -- every chunk is within the limit on its own: the running count decides
      exact ⟨fun hw => by rw [if_neg (within_iff.mp hw)]; simp [hacc],
        fun hnw => by rw [if_pos (not_within_iff.mp hnw)]; exact errFin_accepts _ hacc1⟩
    · rw [List.length_append] at hacc
      rw [List.length_append, ← Nat.add_assoc]
      simp only [h, List.append_nil, List.length_reverse]
      by_cases hwp : Within m (d + pre.length)
      · rw [if_neg (within_iff.mp hwp), if_pos (accepts_mono hacc (by simp only [↓reduceIte]; omega))]
        simp only [↓reduceIte]
        -- the client still takes the rows to come and the EOF
        obtain ⟨ih1, ih2⟩ := ih post rest (pre.reverse ++ outRev) (d + pre.length) (spend b (pre.length + 0))
          (chunk_fuel hpre hf) (accepts_spend (by rwa [Nat.add_zero, ← Nat.add_assoc]))
        exact ⟨fun hw => by rw [ih1 hw]; simp, ih2⟩
      · rw [if_pos (not_within_iff.mp hwp)]
        exact ⟨fun hw => absurd (hw.mono (Nat.le_add_right _ _)) hwp, fun _ => errFin_accepts _ hacc1⟩
    · exact ⟨fun hw => absurd (hw.mono (by omega)) hnw, fun _ => by simp [h, drainResults, errFin_accepts _ hacc1]⟩

theorem unshard_rows (T : Nat) (m : Int) (rows : List Row) (rest : List Pkt) (b : Option Nat)
    (hb : accepts b (headerPackets + rows.length + 1) = true) :
    (Within m rows.length → unshard T m (rowsOf rows ++ .eof :: rest) b = ⟨rows, .eof, .pooled rest⟩) ∧
    (¬ Within m rows.length → (unshard T m (rowsOf rows ++ .eof :: rest) b).fin = .err .limit) := by
  have hb1 : accepts b 1 = true := accepts_mono hb (by omega)
  rw [unshard]
  rcases readRows_rows T m rows (.eof :: rest) [] 0 0 (within_zero m) with
    ⟨hw, buf', h⟩ | ⟨pre, post, rfl, hpre, _, h⟩ | ⟨hnw, h⟩
  · rw [Nat.zero_add] at hw
    exact ⟨fun _ => by simp [h, readRows, sendResult, hb], fun hnw => absurd hw hnw⟩
  · rw [List.length_append] at hb ⊢
    obtain ⟨h1, h2⟩ := streamMore_rows T m ((rowsOf post ++ Pkt.eof :: rest).length + 1) post rest pre.reverse
      pre.length (spend b (headerPackets + pre.length + 0)) (Nat.lt_succ_of_le (by simp))
      (accepts_spend (by rw [← Nat.add_assoc] at hb; rwa [Nat.add_zero, ← Nat.add_assoc]))
    simp only [h, sendResult, ↓reduceIte, List.append_nil, List.length_reverse]
    rw [if_pos (accepts_mono hb (by omega))]
    exact ⟨fun hw => by rw [h1 hw]; simp, h2⟩
  · rw [Nat.zero_add] at hnw
    exact ⟨fun hw => absurd hw hnw, fun _ => by simp [h, drainResults, errFin_accepts _ hb1]⟩

/-- **C39, unsharded statements, delivered in full (`row_limit` in
    DESIGN.md, second half).** A complete backend result with no more rows than the limit (or
    with no limit) reaches a client that keeps reading in full — all rows in
    order, then the EOF — whatever its size and however many chunks it is
    streamed in; the backend connection returns to the pool right behind the
    result. -/
theorem unshard_delivered_in_full (T : Nat) (m : Int) (rows : List Row) (rest : List Pkt)
    (hw : Within m rows.length) :
    unshard T m (rowsOf rows ++ .eof :: rest) none = ⟨rows, .eof, .pooled rest⟩ :=
  (unshard_rows T m rows rest none rfl).1 hw

/-- **C39, unsharded statements, row limit (`row_limit` in DESIGN.md, first half).** A
    complete backend result with more rows than the limit ends at the client
    with the limit error — also when no single 16 MiB chunk reaches the limit. -/
theorem unshard_row_limit (T : Nat) (m : Int) (hm : m > 0) (rows : List Row) (rest : List Pkt)
    (h : (rows.length : Int) > m) :
    (unshard T m (rowsOf rows ++ .eof :: rest) none).fin = .err .limit :=
  (unshard_rows T m rows rest none rfl).2 fun hw => by have := hw.le hm; omega

/-- **C39, a result over the limit is never presented as complete**, whatever
    the client does: it ends with the limit error, or — when the client's
    connection breaks first — with a closed connection. -/
theorem unshard_over_limit_never_complete (T : Nat) (m : Int) (hm : m > 0) (rows : List Row) (rest : List Pkt)
    (b : Option Nat) (h : (rows.length : Int) > m) :
    (unshard T m (rowsOf rows ++ .eof :: rest) b).fin ≠ .eof := by
  intro hfin
  obtain ⟨rest', g1, _, g3⟩ := (unshard_complete T m _ b).2 hfin
  have hl := g3 hm
  rw [← (rows_split (noRow_eof _) (noRow_eof _) g1.eq).1] at hl
  omega

example : unshard 10 (-1) [.row ⟨0, 6⟩, .row ⟨1, 6⟩, .row ⟨2, 6⟩, .eof] none =
    ⟨[⟨0, 6⟩, ⟨1, 6⟩, ⟨2, 6⟩], .eof, .pooled []⟩ := by decide
example : unshard 10 3 [.row ⟨0, 6⟩, .row ⟨1, 6⟩, .row ⟨2, 6⟩, .eof] none =
    ⟨[⟨0, 6⟩, ⟨1, 6⟩, ⟨2, 6⟩], .eof, .pooled []⟩ := by decide
-- two chunks of two rows, limit 3: the first chunk is delivered, then the limit error
example : unshard 10 3 [.row ⟨0, 6⟩, .row ⟨1, 6⟩, .row ⟨2, 6⟩, .row ⟨3, 6⟩, .eof] none =
    ⟨[⟨0, 6⟩, ⟨1, 6⟩], .err .limit, .closed⟩ := by decide
-- the backend connection is lost inside the second chunk
example : unshard 10 (-1) [.row ⟨0, 6⟩, .row ⟨1, 6⟩, .row ⟨2, 6⟩] none =
    ⟨[⟨0, 6⟩, ⟨1, 6⟩], .closed, .closed⟩ := by decide
-- the client's connection breaks after 7 packets (header, rows 0-1, row 2): the second chunk is
-- not written, the backend connection is closed with row 3 and the EOF unread
example : unshard 10 (-1) [.row ⟨0, 6⟩, .row ⟨1, 6⟩, .row ⟨2, 6⟩, .row ⟨3, 6⟩, .row ⟨4, 6⟩, .eof] (some 7) =
    ⟨[⟨0, 6⟩, ⟨1, 6⟩, ⟨2, 6⟩], .closed, .closed⟩ := by decide

/-! ### at the constant of the source -/

/-- **C39 at `mysql.MaxPayloadLen`** (the threshold of the current source;
    any threshold would do — the theorems above do not depend on it). For
    every row limit and backend stream: (1) the client receives the leading
    rows of the backend's answer; (2) a closing EOF means they are all rows of
    a complete backend result, within the limit — both whatever the client does
    (`b`); (3) a complete result within the limit is delivered in full with its
    EOF to a client that keeps reading; (4) a complete result over the limit
    ends with the limit error. -/
theorem C39_unsharded (m : Int) (s : List Pkt) :
    (∀ b, ∃ rest, s = rowsOf (unshard Gen.maxPayloadLen m s b).rows ++ rest) ∧
    (∀ b, (unshard Gen.maxPayloadLen m s b).fin = .eof →
      ∃ rest', Complete s (unshard Gen.maxPayloadLen m s b).rows rest' ∧
        (m > 0 → ((unshard Gen.maxPayloadLen m s b).rows.length : Int) ≤ m)) ∧
    (∀ rows rest, Complete s rows rest → Within m rows.length →
      (unshard Gen.maxPayloadLen m s none).rows = rows ∧ (unshard Gen.maxPayloadLen m s none).fin = .eof) ∧
    (∀ rows rest, Complete s rows rest → m > 0 → (rows.length : Int) > m →
      (unshard Gen.maxPayloadLen m s none).fin = .err .limit) := by
  refine ⟨fun b => (unshard_complete Gen.maxPayloadLen m s b).1, ?_, ?_, ?_⟩
  · intro b hf
    obtain ⟨rest', g1, _, g3⟩ := (unshard_complete Gen.maxPayloadLen m s b).2 hf
    exact ⟨rest', g1, g3⟩
  · intro rows rest hc hw
    obtain rfl := hc.eq
    rw [unshard_delivered_in_full _ m rows rest hw]
    exact ⟨rfl, rfl⟩
  · intro rows rest hc hm hl
    obtain rfl := hc.eq
    exact unshard_row_limit _ m hm rows rest hl

/-- **C39 at `mysql.MaxPayloadLen`, sharded statements.** -/
theorem C39_sharded (m : Int) (shards : List (List Pkt)) :
    (∀ rss, executeSQLs Gen.maxPayloadLen m shards = some rss →
      ShardWise (fun s rows => ∃ rest, Complete s rows rest ∧ (m > 0 → (rows.length : Int) ≤ m)) shards rss) ∧
    (∀ rows tail, m > 0 → rowsOf rows ++ tail ∈ shards → (rows.length : Int) > m →
      executeSQLs Gen.maxPayloadLen m shards = none) :=
  ⟨fun rss h => shard_complete_or_error _ m shards rss h,
   fun rows tail hm hin h => shard_row_limit _ m hm shards rows tail hin h⟩

/-! ### the column definitions of a streamed result (translator fact, harness/extract/c39fields.go)

  `writeOKResultStream` keeps `globalFields := rs.Resultset.Fields` across
  `rs.Free()` and uses it for every following chunk, while `mysql.ResultPool`
  hands the same `*Result` — whose `Fields` `Reset` has only truncated, so it
  still points to the same array — to whichever session asks next.  The
  streaming session's columns (and with them the binary encoding of its rows)
  stay its own because no function of the result-handling packages stores an
  element of a `Fields` slice it has not made itself in the same function
  (`X.Fields = make(…)` / a Resultset just allocated; for the slice of a
  parameter: made by every caller): the array behind `globalFields` is never
  written after `readResultColumns` has filled it.  A deterministic probe
  (GOMAXPROCS(1), GC off) shows the same `*Result` coming back with
  `len/cap(Fields) = 0/2` on the array `globalFields` points to, and
  `globalFields` intact after `readResultSet`-style and
  `createShow…Result`-style reuse — and overwritten by a hypothetical
  `append(r.Fields, …)`, which is what this fact excludes. -/

/-- **C39/C38 (a streamed result keeps its own column definitions).** -/
theorem streamed_columns_never_written_in_place :
    Gen.c39FieldsWrittenInPlace = [] ∧ Gen.c39FieldsWriters ≠ [] := by decide

/-! ## Whole sessions (`Model/ResultSession.lean`)

  Transactions and keep-session pinning, multi-result answers, statement
  time-outs, clients that stop reading, the binary protocol (same functions: the
  model has no protocol parameter) and sharded statements from above the
  planner. -/

/-! ### what the client is shown of an answer -/

/-- `vs` is what a client may be shown of the results `rs` of an answer, in
    order: every result it is told is complete (an OK packet, or a result set
    closed by an EOF) is the corresponding result of the backend — for a result
    set: *all* rows of a complete backend result (`Complete`), within the row
    limit, with the backend's more-results flag — and at most the last result
    it sees is cut short (`ended = none`), holding leading rows of the backend's
    result and nothing else. -/
inductive Shown (m : Int) : List RView → List Res → Prop
  | nil (rs : List Res) : Shown m [] rs
  | okp (more : Bool) {vs : List RView} {rs : List Res} :
      Shown m vs rs → Shown m (.okp more :: vs) (.okp more :: rs)
  | full (more : Bool) {rows : List Row} {body rest : List Pkt} {vs : List RView} {rs : List Res} :
      Complete body rows rest → (m > 0 → (rows.length : Int) ≤ m) → Shown m vs rs →
      Shown m (.rs rows (some more) :: vs) (.set more body :: rs)
  | part (more : Bool) {rows : List Row} {body tail : List Pkt} (rs : List Res) :
      body = rowsOf rows ++ tail → Shown m [.rs rows none] (.set more body :: rs)

/-- `vs` is the whole answer: every result up to (and including) the first one
    that announces no further result, each in full. -/
inductive Finished (m : Int) : List RView → List Res → Prop
  | okp (rs : List Res) : Finished m [.okp false] (.okp false :: rs)
  | okpMore {vs : List RView} {rs : List Res} :
      Finished m vs rs → Finished m (.okp true :: vs) (.okp true :: rs)
  | set {rows : List Row} {body rest : List Pkt} (rs : List Res) :
      Complete body rows rest → (m > 0 → (rows.length : Int) ≤ m) →
      Finished m [.rs rows (some false)] (.set false body :: rs)
  | setMore {rows : List Row} {body rest : List Pkt} {vs : List RView} {rs : List Res} :
      Complete body rows rest → (m > 0 → (rows.length : Int) ≤ m) → Finished m vs rs →
      Finished m (.rs rows (some true) :: vs) (.set true body :: rs)

theorem Finished.shown {m : Int} : ∀ {vs : List RView} {rs : List Res}, Finished m vs rs → Shown m vs rs := by
  intro vs rs h
  induction h with
  | okp rs => exact .okp false (.nil _)
  | okpMore _ ih => exact .okp true ih
  | set rs hc hl => exact .full false hc hl (.nil _)
  | setMore hc hl _ ih => exact .full true hc hl ih

@[simp] theorem sErrFin_ne_done (b : Option Nat) (k : SErr) : sErrFin b k ≠ .done := by
  unfold sErrFin; split <;> simp

theorem timedOut_views (first armed : Bool) (acc : List RView) (b : Option Nat) :
    (timedOut first armed acc b).views = acc.reverse ∧ (timedOut first armed acc b).fin ≠ .done ∧
    (timedOut first armed acc b).conn = .closed := by
  unfold timedOut; split <;> simp

/-- What `unResults` guarantees. -/
def UnSound (m : Int) (rs : List Res) (acc : List RView) (o : StmtOut) : Prop :=
  ∃ vs, o.views = acc.reverse ++ vs ∧ Shown m vs rs ∧ (o.fin = .done → Finished m vs rs)

theorem UnSound.none {m : Int} {rs : List Res} {acc : List RView} {o : StmtOut}
    (h1 : o.views = acc.reverse) (h2 : o.fin ≠ .done) : UnSound m rs acc o :=
  ⟨[], by simp [h1], .nil _, fun h => absurd h h2⟩

theorem unResults_sound (T : Nat) (m : Int) (armed : Bool) :
    ∀ (rs : List Res) (first : Bool) (b : Option Nat) (acc : List RView),
      UnSound m rs acc (unResults T m armed first rs b acc) := by
  intro rs
  induction rs with
  | nil => intro first b acc; exact UnSound.none rfl nofun
  | cons r rs ih =>
    intro first b acc
    have hto := timedOut_views first armed acc b
    cases r with
    | stall0 => exact UnSound.none hto.1 hto.2.1
    | errp => exact UnSound.none rfl (sErrFin_ne_done b .backend)
    | okp more =>
      rw [unResults]
      by_cases hacc : accepts b 1 = true
      · rw [if_pos hacc]
        cases more with
        | true =>
          obtain ⟨vs, h1, h2, h3⟩ := ih false (spend b 1) (.okp true :: acc)
          exact ⟨.okp true :: vs, by simp [h1], .okp true h2, fun h => .okpMore (h3 h)⟩
        | false => exact ⟨[.okp false], by simp, .okp false (.nil _), fun _ => .okp _⟩
      · rw [if_neg hacc]
        exact UnSound.none rfl (by simp)
    | set more body =>
      rw [unResults]
      cases hr : readRows T m body [] 0 0 with
      | ok rowsRev moreRows rest =>
        obtain ⟨⟨rest', e1⟩, e2⟩ := (sendResult_inv T m b hr).whole
        simp only
        split
        · rename_i hfin
          obtain ⟨rest'', g1, _, g3⟩ := e2 hfin
          cases more with
          | true =>
            obtain ⟨vs, h1, h2, h3⟩ := ih false
              (spend b (headerPackets + (sendResult T m rowsRev moreRows rest b).rows.length + 1))
              (.rs (sendResult T m rowsRev moreRows rest b).rows (some true) :: acc)
            exact ⟨_ :: vs, by simp [h1], .full true g1 g3 h2, fun h => .setMore g1 g3 (h3 h)⟩
          | false => exact ⟨[.rs _ (some false)], by simp, .full false g1 g3 (.nil _), fun _ => .set _ g1 g3⟩
        · by_cases hacc : accepts b 1 = true
          · rw [if_pos hacc]
            exact ⟨[.rs _ none], by simp, .part more rs e1, fun h => absurd h (by dsimp only; split <;> simp)⟩
          · rw [if_neg hacc]
            exact UnSound.none rfl (by dsimp only; split <;> simp)
      | errConn | errBackend rest => exact UnSound.none rfl (by simp)
      | errLimit rest =>
        cases more with
        | true =>
          simp only [if_true]
          cases drainMore rs with
          | stalled => exact UnSound.none hto.1 hto.2.1
          | _ => exact UnSound.none rfl (by simp)
        | false => exact UnSound.none rfl (by simp)
      | errLimitDrain =>
        cases afterFirstErr body <;> exact UnSound.none rfl (by simp)
      | stalled => exact UnSound.none hto.1 hto.2.1

/-! ### answers as a MySQL server sends them, and the state of the connection afterwards -/

/-- How a result set ends on the wire. -/
inductive BodyEnd where
  /-- the closing EOF -/
  | eof
  /-- an ERR packet (error during execution, KILL QUERY) -/
  | err
  /-- nothing more: the connection is lost -/
  | cut
  /-- silence -/
  | stall
  deriving DecidableEq

def bodyOf (rows : List Row) : BodyEnd → List Pkt
  | .eof => rowsOf rows ++ [.eof]
  | .err => rowsOf rows ++ [.err]
  | .cut => rowsOf rows
  | .stall => rowsOf rows ++ [.stall]

/-- A well-formed answer: results flagged "more" are followed by a result; an
    OK packet or result set without the flag, an ERR packet, a lost connection
    or silence ends the answer; nothing follows the packet that closes a result
    set. -/
inductive WF : List Res → Prop
  | okpLast : WF [.okp false]
  | okpMore {rs : List Res} : WF rs → WF (.okp true :: rs)
  | errp : WF [.errp]
  | stall0 : WF [.stall0]
  | setLast (rows : List Row) (e : BodyEnd) : WF [.set false (bodyOf rows e)]
  | setMore (rows : List Row) {rs : List Res} : WF rs → WF (.set true (bodyOf rows .eof) :: rs)
  | setEnd (rows : List Row) (e : BodyEnd) : e ≠ .eof → WF [.set true (bodyOf rows e)]

/-- The connection is closed, or nothing is unread on it. -/
def CleanAfter (c : ConnAfter) : Prop := c = .closed ∨ ∃ pk, c = .live ⟨[], []⟩ pk

theorem CleanAfter.closed : CleanAfter .closed := .inl rfl
theorem CleanAfter.live (pk : Bool) : CleanAfter (.live ⟨[], []⟩ pk) := .inr ⟨pk, rfl⟩

theorem bodyOf_eq (rows : List Row) (e : BodyEnd) : bodyOf rows e = rowsOf rows ++ bodyOf [] e := by
  cases e <;> simp [bodyOf]

theorem bodyOf_split {rows rws : List Row} {e : BodyEnd} {t : Pkt} {p : List Pkt} (ht : NoRow (t :: p))
    (h : bodyOf rows e = rowsOf rws ++ t :: p) : t :: p = bodyOf [] e :=
  (rows_split ht (by cases e <;> nofun) (h.symm.trans (bodyOf_eq rows e))).2

theorem behind_bodyOf {rows : List Row} {e : BodyEnd} {p : List Pkt} (h : Behind (bodyOf rows e) p) : p = [] := by
  obtain ⟨rws, t, h1, h2⟩ := h
  have := bodyOf_split (by rcases h2 with rfl | rfl <;> nofun) h1
  cases e <;> simp [bodyOf] at this <;> exact this.2

theorem afterFirstErr_rows : ∀ (rows : List Row) (tail : List Pkt),
    afterFirstErr (rowsOf rows ++ tail) = afterFirstErr tail
  | [], _ => rfl
  | _ :: rs, tail => afterFirstErr_rows rs tail

theorem afterFirstErr_bodyOf (rows : List Row) (e : BodyEnd) :
    afterFirstErr (bodyOf rows e) = if e = .err then some [] else none := by
  rw [bodyOf_eq, afterFirstErr_rows]; cases e <;> rfl

theorem drainResults_bodyOf (rows : List Row) (e : BodyEnd) :
    drainResults (bodyOf rows e) = match e with
      | .eof => .ok []
      | .stall => .stalled
      | _ => .failed := by
  rw [bodyOf_eq, drain_rows]; cases e <;> rfl

theorem drainMore_set_bodyOf (more : Bool) (rows : List Row) (e : BodyEnd) (rs : List Res) :
    drainMore (.set more (bodyOf rows e) :: rs) = match e with
      | .eof => if more then drainMore rs else .ok rs
      | .err => .failed rs
      | .cut => .lost
      | .stall => .stalled := by
  simp only [drainMore, drainResults_bodyOf, afterFirstErr_bodyOf]; cases e <;> rfl

theorem drainMore_wf : ∀ {rs : List Res}, WF rs →
    drainMore rs = .ok [] ∨ drainMore rs = .failed [] ∨ drainMore rs = .lost ∨ drainMore rs = .stalled := by
  intro rs h
  induction h with
  | okpLast | errp | stall0 => simp [drainMore]
  | okpMore _ ih => simpa [drainMore] using ih
  | setLast rows e => rw [drainMore_set_bodyOf]; cases e <;> simp
  | setMore rows _ ih => simpa [drainMore_set_bodyOf] using ih
  | setEnd rows e he => rw [drainMore_set_bodyOf]; cases e <;> simp at he ⊢

/-- The result-set case of `unResults_clean`, once for the three `WF` constructors that put a set in
    front: `hrs` — a set that does not announce a complete successor is the last result (`setLast`,
    `setEnd`); `hcont` — the connection is clean after the results that follow; `hdrain` — draining
    them (after a limit error) leaves nothing unread (`drainMore_wf`). -/
theorem unResults_clean_set (T : Nat) (m : Int) (armed : Bool) (rows : List Row) (e : BodyEnd) (more : Bool)
    (rs : List Res) (hrs : rs = [] ∨ (more = true ∧ e = .eof))
    (hcont : ∀ b acc, CleanAfter (unResults T m armed false rs b acc).conn)
    (hdrain : drainMore rs = .ok [] ∨ drainMore rs = .failed [] ∨ drainMore rs = .lost ∨ drainMore rs = .stalled)
    (first : Bool) (b : Option Nat) (acc : List RView) :
    CleanAfter (unResults T m armed first (.set more (bodyOf rows e) :: rs) b acc).conn := by
  have hto : CleanAfter (timedOut first armed acc b).conn := .inl (timedOut_views first armed acc b).2.2
  have hlast : more = false → rs = [] := fun h => hrs.resolve_right (by simp [h])
  rw [unResults]
  have hs := readRows_spec (T := T) (bodyOf rows e) [] 0 0 (within_zero m)
  cases hr : readRows T m (bodyOf rows e) [] 0 0 <;> simp only [hr] at hs ⊢
  case ok rowsRev moreRows rest =>
    have hp : ∀ p, (sendResult T m rowsRev moreRows rest b).fate = .pooled p → p = [] :=
      fun p hf => behind_bodyOf ((sendResult_inv T m b hr).fate p hf)
    split
    · cases more with
      | true => exact hcont _ _
      | false =>
        cases hf : (sendResult T m rowsRev moreRows rest b).fate with
        | closed => exact .closed
        | pooled p => rw [hp p hf, hlast rfl]; exact .live _
    · cases hf : (sendResult T m rowsRev moreRows rest b).fate with
      | closed => exact .closed
      | pooled p =>
        cases more with
        | true => exact .closed
        | false => rw [hp p hf, hlast rfl]; exact .live _
  case errConn => exact .closed
  case errBackend rest =>
    obtain ⟨rws, h⟩ := hs
    have := bodyOf_split (noRow_err _) h
    cases e <;> simp [bodyOf] at this
    rw [this, hrs.resolve_right (by simp)]; exact .live _
  case errLimit rest =>
    obtain ⟨rws, h⟩ := hs
    have := bodyOf_split (noRow_eof _) h
    cases e <;> simp [bodyOf] at this
    subst this
    cases more with
    | true =>
      rcases hdrain with h | h | h | h <;> simp only [h, if_true]
      · exact .live _
      · exact .live _
      · exact .closed
      · exact hto
    | false => rw [hlast rfl]; exact .live _
  case errLimitDrain =>
    rw [afterFirstErr_bodyOf]
    by_cases he : e = .err
    · rw [if_pos he, hrs.resolve_right (by simp [he])]; exact .live _
    · rw [if_neg he]; exact .closed
  case stalled => exact hto

theorem unResults_clean (T : Nat) (m : Int) (armed : Bool) :
    ∀ {rs : List Res}, WF rs → ∀ (first : Bool) (b : Option Nat) (acc : List RView),
      CleanAfter (unResults T m armed first rs b acc).conn := by
  intro rs h
  induction h with
  | okpLast => intro first b acc; rw [unResults]; split <;> exact .live _
  | okpMore _ ih =>
    intro first b acc
    simp only [unResults]
    split
    · exact ih _ _ _
    · exact .closed
  | errp => intro first b acc; exact .live _
  | stall0 => intro first b acc; exact .inl (timedOut_views first armed acc b).2.2
  | setLast rows e =>
    exact unResults_clean_set T m armed rows e false [] (.inl rfl) (fun _ _ => .closed) (.inr (.inr (.inl rfl)))
  | setEnd rows e he =>
    exact unResults_clean_set T m armed rows e true [] (.inl rfl) (fun _ _ => .closed) (.inr (.inr (.inl rfl)))
  | setMore rows hwf ih =>
    exact unResults_clean_set T m armed rows .eof true _ (.inr ⟨rfl, rfl⟩) (ih false) (drainMore_wf hwf)

/-! ### sharded statements from above the planner -/

/-- The rows returned for the statements of a slice are, statement by statement,
    all rows of a complete backend result within the limit. -/
inductive TablesDone (m : Int) : List TRes → List (List Row) → Prop
  | nil : TablesDone m [] []
  | cons {body rest : List Pkt} {rows : List Row} {ts : List TRes} {rss : List (List Row)} :
      Complete body rows rest → (m > 0 → (rows.length : Int) ≤ m) → TablesDone m ts rss →
      TablesDone m (.set body :: ts) (rows :: rss)

theorem execSlice_ok (T : Nat) (m : Int) (armed : Bool) :
    ∀ (ts : List TRes) (acc rss : List (List Row)) (c : ConnAfter),
      execSlice T m armed ts acc = (.ok rss, c) → ∃ new, rss = acc.reverse ++ new ∧ TablesDone m ts new := by
  intro ts
  induction ts with
  | nil =>
    intro acc rss c h
    simp only [execSlice, Prod.mk.injEq, SliceOut.ok.injEq] at h
    exact ⟨[], by simp [h.1], .nil⟩
  | cons t ts ih =>
    intro acc rss c h
    cases t with
    | errp => simp [execSlice] at h
    | stall0 => simp only [execSlice] at h; split at h <;> simp at h
    | set body =>
      rw [execSlice] at h
      -- the outcomes of the shard, in the order of `execSlice`: rows with the connection pooled (1) or
      -- closed (2), the limit error likewise (3, 4), the backend's error (5, 6), connection lost (7),
      -- silence (8), out of fuel (9)
      split at h
      case h_1 rows rest hs =>
        obtain ⟨_, g1, _, g3⟩ := execShard_ok T m body rows _ hs
        split at h
        · simp only [Prod.mk.injEq, SliceOut.ok.injEq] at h
          exact ⟨[rows], by simp [← h.1], .cons g1 g3 .nil⟩
        · split at h
          · obtain ⟨new, e1, e2⟩ := ih (rows :: acc) rss c h
            exact ⟨rows :: new, by simp [e1], .cons g1 g3 e2⟩
          · simp at h
      -- every other outcome of the shard is an error
      case h_4 => split at h <;> simp at h
      case h_8 => split at h <;> simp at h
      all_goals simp at h

/-- A sub-table's answer as a MySQL server sends it. -/
def TWF : TRes → Prop
  | .errp => True
  | .stall0 => True
  | .set body => ∃ rows e, body = bodyOf rows e

/-- The statements of a slice never run into each other's packets, and the
    connection is closed or clean afterwards. -/
theorem execSlice_clean (T : Nat) (m : Int) (armed : Bool) :
    ∀ (ts : List TRes) (acc : List (List Row)), (∀ t ∈ ts, TWF t) →
      (execSlice T m armed ts acc).1 ≠ .desync ∧ CleanAfter (execSlice T m armed ts acc).2 := by
  intro ts
  induction ts with
  | nil => intro acc _; exact ⟨by simp [execSlice], .live _⟩
  | cons t ts ih =>
    intro acc hwf
    cases t with
    | errp => exact ⟨by simp [execSlice], .live _⟩
    | stall0 => simp only [execSlice]; split <;> exact ⟨by simp, .closed⟩
    | set body =>
      obtain ⟨rows, e, rfl⟩ := hwf (.set body) (by simp)
      have hp : ∀ {p}, Shard.fate? (execShard T m (bodyOf rows e)) = some (.pooled p) → p = [] :=
        fun h => behind_bodyOf (execShard_fate_clean T m _ _ h)
      rw [execSlice]
      split
      case h_1 rws rest hs =>
        obtain rfl := hp (p := rest) (by rw [hs]; rfl)
        split
        · exact ⟨by simp, .live _⟩
        · exact ih _ fun t ht => hwf t (by simp [ht])
      case h_3 rest hs => obtain rfl := hp (p := rest) (by rw [hs]; rfl); exact ⟨by simp, .live _⟩
      case h_4 =>
        rw [afterFirstErr_bodyOf]
        by_cases he : e = .err
        · rw [if_pos he]; exact ⟨by simp, .live _⟩
        · rw [if_neg he]; exact ⟨by simp, .closed⟩
      case h_5 rest hs => obtain rfl := hp (p := rest) (by rw [hs]; rfl); exact ⟨by simp, .live _⟩
      case h_8 => split <;> exact ⟨by simp, .closed⟩
      all_goals exact ⟨by simp, .closed⟩

theorem sqClient_done (outs : List SliceOut) (b : Option Nat) (hnd : ∀ o ∈ outs, o ≠ .desync)
    (h : (sqClient outs b).2 = .done) :
    (∀ o ∈ outs, ∃ rows, o = .ok rows) ∧
    (sqClient outs b).1 = [.rs (outs.map fun o => o.rows.flatten).flatten (some false)] := by
  unfold sqClient at h ⊢
  by_cases hh : outs.any SliceOut.isHang = true
  · rw [if_pos hh] at h; simp at h
  · rw [if_neg hh] at h ⊢
    cases he : outs.filterMap SliceOut.err? with
    | cons k ks => rw [he] at h; simp at h
    | nil =>
      rw [he] at h
      simp only at h ⊢
      by_cases hacc : accepts b (headerPackets + ((outs.map fun o => o.rows.flatten).flatten).length + 1) = true
      · rw [if_pos hacc]
        refine ⟨?_, rfl⟩
        intro o ho
        cases o with
        | ok rows => exact ⟨rows, rfl⟩
        | err k =>
          have : k ∈ outs.filterMap SliceOut.err? := List.mem_filterMap.mpr ⟨_, ho, rfl⟩
          rw [he] at this; simp at this
        | hang =>
          exfalso; apply hh
          exact List.any_eq_true.mpr ⟨_, ho, rfl⟩
        | desync => exact absurd rfl (hnd _ ho)
      · rw [if_neg hacc] at h
        split at h <;> simp at h

/-! ### whole sessions: no statement ever starts on a connection with unread packets -/

/-- The live connection of a slice, if any, has nothing unread. -/
def SlClean (s : Sl) : Prop := ∀ l, s.conn = some l → l = ⟨[], []⟩

def SessClean (ss : Sess) : Prop := SlClean ss.s0 ∧ SlClean ss.s1 ∧ ss.desync = false

/-- The backends answer the statement with well-formed answers. -/
def StmtWF : Stmt → Prop
  | .un answer _ => WF answer
  | .sq t0 t1 _ => (∀ t ∈ t0, TWF t) ∧ (∀ t ∈ t1, TWF t)
  | .mq pieces _ => ∀ r ∈ pieces, WF [r]
  | _ => True

theorem SlClean.fit {s : Sl} (h : SlClean s) : s.fit = true := by
  unfold Sl.fit
  cases hc : s.conn with
  | none => rfl
  | some l => rw [h l hc]; rfl

theorem SlClean.pinnedFit {s : Sl} (h : SlClean s) : s.pinnedFit = true := by
  unfold Sl.pinnedFit; rw [h.fit]; simp

theorem SlClean.endTx {s : Sl} (h : SlClean s) (ks : Bool) : SlClean (s.endTx ks) := by
  unfold Sl.endTx; split
  · exact h
  · exact h

theorem SlClean.after {s : Sl} (pin : Bool) {ca : ConnAfter} (hc : CleanAfter ca) : SlClean (s.after pin ca).1 := by
  unfold Sl.after
  rcases hc with hc | ⟨pk, hc⟩
  · subst hc; intro l hl; simp at hl
  · subst hc
    simp only
    split
    · intro l hl; simp at hl; exact hl.symm
    · split
      · intro l hl; simp at hl
      · intro l hl; simp at hl; exact hl.symm

/-- The statements of a multi-statement packet never run into each other's
    packets, and slice-0's connection is clean afterwards. -/
theorem mqLoop_clean (T : Nat) (m : Int) (armed pin : Bool) :
    ∀ (pieces : List Res) (s0 : Sl) (b : Option Nat) (acc : List RView),
      SlClean s0 → (∀ r ∈ pieces, WF [r]) →
      SlClean (mqLoop T m armed pin pieces s0 b acc).sl ∧ (mqLoop T m armed pin pieces s0 b acc).desync = false := by
  intro pieces
  induction pieces with
  | nil => intro s0 b acc h _; exact ⟨h, rfl⟩
  | cons r rest ih =>
    intro s0 b acc h hw
    have hc : CleanAfter (unStmt T m armed [r] b).conn := unResults_clean T m armed (hw r (by simp)) true b []
    have ha : SlClean (s0.after pin (unStmt T m armed [r] b).conn).1 := SlClean.after pin hc
    simp only [mqLoop, h.fit, Bool.not_true, Bool.false_eq_true, if_false]
    cases rest with
    | nil => exact ⟨ha, rfl⟩
    | cons r' rest' =>
      simp only
      split
      · exact ih _ _ _ ha (fun x hx => hw x (by simp [hx]))
      · exact ⟨ha, rfl⟩

theorem sqStep_clean (ss : Sess) (r0 r1 : Option (SliceOut × ConnAfter)) (b : Option Nat)
    (hc : SessClean ss)
    (h0 : ∀ r, r0 = some r → r.1 ≠ .desync ∧ CleanAfter r.2)
    (h1 : ∀ r, r1 = some r → r.1 ≠ .desync ∧ CleanAfter r.2) :
    SessClean (sqStep ss r0 r1 b).1 := by
  obtain ⟨c0, c1, hd⟩ := hc
  have hno : (List.any (List.map (fun x => x.1) (r0.toList ++ r1.toList)) SliceOut.isDesync) = false := by
    rw [Bool.eq_false_iff]
    intro h
    obtain ⟨o, ho, he⟩ := List.any_eq_true.mp h
    have he' : o = SliceOut.desync := by cases o <;> simp [SliceOut.isDesync] at he ⊢
    subst he'
    simp only [List.map_append, List.mem_append, List.mem_map, Option.mem_toList] at ho
    rcases ho with ⟨x, hx, hx1⟩ | ⟨x, hx, hx1⟩
    · exact (h0 x hx).1 hx1
    · exact (h1 x hx).1 hx1
  simp only [sqStep, hno, Bool.false_eq_true, if_false]
  refine ⟨?_, ?_, hd⟩
  · cases r0 with
    | none => exact c0
    | some r => exact SlClean.after _ (h0 r rfl).2
  · cases r1 with
    | none => exact c1
    | some r => exact SlClean.after _ (h1 r rfl).2

theorem step_dead {T : Nat} {m : Int} {armed : Bool} {ss : Sess} {st : Stmt}
    (hg : (!ss.alive || ss.desync) = true) : step T m armed ss st = (ss, none) := by
  unfold step; rw [if_pos hg]

theorem step_clean (T : Nat) (m : Int) (armed : Bool) (ss : Sess) (st : Stmt)
    (hc : SessClean ss) (hw : StmtWF st) : SessClean (step T m armed ss st).1 := by
  have ⟨h0, h1, hd⟩ := hc
  by_cases hg : (!ss.alive || ss.desync) = true
  · rw [step_dead hg]; exact hc
  · unfold step
    rw [if_neg hg]
    cases st with
    | begin =>
      simp only [h0.pinnedFit, h1.pinnedFit, Bool.and_self, if_true]
      exact ⟨h0, h1, hd⟩
    | commit | rollback =>
      simp only [h0.pinnedFit, h1.pinnedFit, Bool.and_self, if_true]
      exact ⟨h0.endTx _, h1.endTx _, hd⟩
    | un answer b =>
      simp only [h0.fit, Bool.not_true, Bool.false_eq_true, if_false]
      refine ⟨SlClean.after _ ?_, h1, hd⟩
      exact unResults_clean T m armed hw true b []
    | mq pieces b =>
      obtain ⟨g1, g2⟩ := mqLoop_clean T m armed (ss.tx || ss.ks) pieces ss.s0 b [] h0 hw
      simp only [g2, Bool.false_eq_true, if_false]
      exact ⟨g1, h1, hd⟩
    | sq t0 t1 b =>
      simp only [h0.fit, h1.fit, Bool.not_true, Bool.and_false, Bool.or_self, Bool.false_eq_true, if_false]
      apply sqStep_clean _ _ _ _ hc
      · intro r hr
        split at hr
        · cases hr
        · cases hr; exact execSlice_clean T m armed t0 [] hw.1
      · intro r hr
        split at hr
        · cases hr
        · cases hr; exact execSlice_clean T m armed t1 [] hw.2

theorem run_clean (T : Nat) (m : Int) (armed : Bool) :
    ∀ (sts : List Stmt) (ss : Sess) (acc : List Answer), SessClean ss → (∀ st ∈ sts, StmtWF st) →
      SessClean (run T m armed ss sts acc).1 := by
  intro sts
  induction sts with
  | nil => intro ss acc hc _; simpa [run] using hc
  | cons st sts ih =>
    intro ss acc hc hw
    have h1 := step_clean T m armed ss st hc (hw st (by simp))
    have hws : ∀ st ∈ sts, StmtWF st := fun s hs => hw s (by simp [hs])
    simp only [run]
    cases hs : step T m armed ss st with
    | mk ss' oa =>
      rw [hs] at h1
      cases oa with
      | some a | none => exact ih ss' _ h1 hws

theorem SessClean.init (ks : Bool) : SessClean (Sess.init ks) := by
  refine ⟨?_, ?_, rfl⟩ <;> intro l hl <;> simp [Sess.init] at hl

theorem SlClean.final_packets {s : Sl} (h : SlClean s) (ks : Bool) :
    (s.final ks).2 = none ∨ (s.final ks).2 = some 0 := by
  unfold Sl.final
  cases hc : s.conn with
  | none => exact .inl rfl
  | some l =>
    rw [h l hc]
    simp only
    split
    · exact .inl rfl
    · exact .inr rfl

/-! ### the statements of a session, as the client sees them -/

/-- **C39, unsharded statements in a session (`stmt_complete_or_error`).** For
    every answer of the backend (any number of results, each ending any way),
    every row limit, with or without a statement deadline, inside or outside a
    transaction (the statement does not depend on it), and whatever the client
    does: what the client is shown is, result by result and in order, what the
    backend sent — a result it is told is complete holds *all* rows of a
    complete backend result, within the limit, and carries the backend's
    more-results flag; only the last one can be cut short (then an ERR packet
    or a closed connection follows, never an EOF) — and if the answer ends as
    finished (`done`), every result up to the first one that announces no
    further result was delivered in full. -/
theorem stmt_complete_or_error (T : Nat) (m : Int) (armed : Bool) (answer : List Res) (b : Option Nat) :
    Shown m (unStmt T m armed answer b).views answer ∧
    ((unStmt T m armed answer b).fin = .done → Finished m (unStmt T m armed answer b).views answer) := by
  obtain ⟨vs, h1, h2, h3⟩ := unResults_sound T m armed answer true b []
  simp only [List.reverse_nil, List.nil_append] at h1
  unfold unStmt
  rw [h1]
  exact ⟨h2, h3⟩

/-- **The fate of the connection (`stmt_connection_clean`).** After an
    unsharded statement answered with a well-formed answer the backend
    connection is closed, or nothing of the answer is unread on it — for every
    limit, deadline and client behaviour (row limit exceeded in any result of a
    multi-result answer, client gone in the middle of a stream, …). -/
theorem stmt_connection_clean (T : Nat) (m : Int) (armed : Bool) (answer : List Res) (b : Option Nat)
    (hw : WF answer) : CleanAfter (unStmt T m armed answer b).conn :=
  unResults_clean T m armed hw true b []

theorem step_some {T : Nat} {m : Int} {armed : Bool} {ss ss' : Sess} {st : Stmt} {a : Answer}
    (h : step T m armed ss st = (ss', some a)) :
    match st with
    | .un answer b =>
      a.views = (unStmt T m armed answer b).views ∧ a.fin = (unStmt T m armed answer b).fin
    | .sq t0 t1 b =>
      sqStep ss (if t0.isEmpty then none else some (execSlice T m armed t0 []))
        (if t1.isEmpty then none else some (execSlice T m armed t1 [])) b = (ss', some a)
    | .mq pieces b =>
      a.views = (mqLoop T m armed (ss.tx || ss.ks) pieces ss.s0 b []).views ∧
      a.fin = (mqLoop T m armed (ss.tx || ss.ks) pieces ss.s0 b []).fin
    | _ => True := by
  by_cases hg : (!ss.alive || ss.desync) = true
  · rw [step_dead hg] at h; cases h
  · cases st with
    | un answer b =>
      by_cases hf : (!ss.s0.fit) = true
      · simp only [step, hg, hf, if_true] at h; cases h
      · simp only [step, hg, hf] at h; cases h; exact ⟨rfl, rfl⟩
    | sq t0 t1 b =>
      by_cases hf : ((!t0.isEmpty && !ss.s0.fit) || (!t1.isEmpty && !ss.s1.fit)) = true
      · simp only [step, hg, hf, if_true] at h; cases h
      · simp only [step, hg, hf] at h; exact h
    | mq pieces b =>
      by_cases hd : (mqLoop T m armed (ss.tx || ss.ks) pieces ss.s0 b []).desync = true
      · simp only [step, hg, hd, if_true] at h; cases h
      · simp only [step, hg, hd] at h; cases h; exact ⟨rfl, rfl⟩
    | _ => trivial

/-- **C39 for every unsharded statement of every session.** -/
theorem session_un_complete_or_error (T : Nat) (m : Int) (armed : Bool) (ss ss' : Sess) (answer : List Res)
    (b : Option Nat) (a : Answer) (h : step T m armed ss (.un answer b) = (ss', some a)) :
    Shown m a.views answer ∧ (a.fin = .done → Finished m a.views answer) := by
  obtain ⟨e1, e2⟩ := step_some h
  rw [e1, e2]
  exact stmt_complete_or_error T m armed answer b

/-- **A transaction whose connection was closed ends the session** (time-out,
    stream given up with packets unread, connection lost): no later statement
    of the transaction runs on another connection. -/
theorem tx_closed_connection_ends_session (T : Nat) (m : Int) (armed : Bool) (ss : Sess) (answer : List Res)
    (b : Option Nat) (halive : ss.alive = true) (hd : ss.desync = false) (hfit : ss.s0.fit = true)
    (htx : ss.tx = true) (hc : (unStmt T m armed answer b).conn = .closed) :
    (step T m armed ss (.un answer b)).1.alive = false := by
  unfold step
  simp only [halive, hd, hfit, htx, hc, Sl.after, Bool.not_true, Bool.or_self, Bool.false_eq_true, if_false,
    Bool.true_or, Bool.true_and, Bool.or_true, Bool.not_true]

theorem sqStep_answer (ss ss' : Sess) (r0 r1 : Option (SliceOut × ConnAfter)) (b : Option Nat) (a : Answer)
    (h : sqStep ss r0 r1 b = (ss', some a)) :
    (∀ o ∈ List.map (fun x => x.1) (r0.toList ++ r1.toList), o ≠ .desync) ∧
    a.views = (sqClient (List.map (fun x => x.1) (r0.toList ++ r1.toList)) b).1 ∧
    a.fin = (sqClient (List.map (fun x => x.1) (r0.toList ++ r1.toList)) b).2 := by
  simp only [sqStep] at h
  by_cases hd : List.any (List.map (fun x => x.1) (r0.toList ++ r1.toList)) SliceOut.isDesync = true
  · rw [if_pos hd] at h; cases h
  · rw [if_neg hd] at h
    cases h
    exact ⟨fun o ho he => hd (List.any_eq_true.mpr ⟨o, ho, he ▸ rfl⟩), rfl, rfl⟩

theorem slice_done (T : Nat) (m : Int) (armed : Bool) (ts : List TRes) (r : Option (SliceOut × ConnAfter))
    (hr : (if ts.isEmpty then none else some (execSlice T m armed ts [])) = r)
    (hok : ∀ x ∈ r.toList, ∃ rows, x.1 = SliceOut.ok rows) :
    ∃ rss, TablesDone m ts rss ∧ (r.toList.map fun x => x.1.rows.flatten).flatten = rss.flatten := by
  by_cases hts : ts.isEmpty = true
  · rw [if_pos hts] at hr
    subst hr
    exact ⟨[], List.isEmpty_iff.mp hts ▸ .nil, rfl⟩
  · rw [if_neg hts] at hr
    subst hr
    obtain ⟨rows, hrows⟩ := hok (execSlice T m armed ts []) (by simp)
    obtain ⟨new, e1, e2⟩ := execSlice_ok T m armed ts [] rows (execSlice T m armed ts []).2 (by rw [← hrows])
    exact ⟨new, e2, by simp [hrows, SliceOut.rows, e1]⟩

/-- **C39, sharded statements from above the planner.**
    If the client is told that the result of `SELECT … FROM t [WHERE …]` over
    the routed sub-tables is complete, then every sub-table's backend result was
    complete (rows, then EOF) and within the row limit, and the client's rows
    are exactly all rows of all sub-tables, slice by slice in table order. A
    slice that answered with an error, lost its connection or fell silent makes
    the whole statement fail — the rows of the other slices are never delivered
    alone. -/
theorem session_sq_complete_or_error (T : Nat) (m : Int) (armed : Bool) (ss ss' : Sess) (t0 t1 : List TRes)
    (b : Option Nat) (a : Answer) (h : step T m armed ss (.sq t0 t1 b) = (ss', some a)) (hf : a.fin = .done) :
    ∃ rss0 rss1, TablesDone m t0 rss0 ∧ TablesDone m t1 rss1 ∧
      a.views = [.rs (rss0.flatten ++ rss1.flatten) (some false)] := by
  obtain ⟨hnd, hv, hfin⟩ := sqStep_answer _ _ _ _ _ _ (step_some h)
  obtain ⟨hall, hviews⟩ := sqClient_done _ b hnd (hfin.symm.trans hf)
  obtain ⟨rss0, d0, f0⟩ := slice_done T m armed t0 _ rfl fun x hx =>
    hall x.1 (List.mem_map_of_mem (List.mem_append_left _ hx))
  obtain ⟨rss1, d1, f1⟩ := slice_done T m armed t1 _ rfl fun x hx =>
    hall x.1 (List.mem_map_of_mem (List.mem_append_right _ hx))
  refine ⟨rss0, rss1, d0, d1, ?_⟩
  rw [hv, hviews, ← f0, ← f1]
  simp only [List.map_append, List.map_map, List.flatten_append]
  rfl

/-! ### multi-statement packets split by the proxy (`doMultiStmts`) -/

/-- `vs` is what a client may be shown of the answers to the statements `ps` of
    one packet, in order: every result it is told is complete is the result of
    the corresponding statement — for a result set all rows of a complete
    backend result, within the limit — and at most the last one it sees is cut
    short. -/
inductive PiecesShown (m : Int) : List RView → List Res → Prop
  | nil (ps : List Res) : PiecesShown m [] ps
  | okp (f more : Bool) {vs : List RView} {ps : List Res} :
      PiecesShown m vs ps → PiecesShown m (.okp f :: vs) (.okp more :: ps)
  | full (f more : Bool) {rows : List Row} {body rest : List Pkt} {vs : List RView} {ps : List Res} :
      Complete body rows rest → (m > 0 → (rows.length : Int) ≤ m) → PiecesShown m vs ps →
      PiecesShown m (.rs rows (some f) :: vs) (.set more body :: ps)
  | part (more : Bool) {rows : List Row} {body tail : List Pkt} (ps : List Res) :
      body = rowsOf rows ++ tail → PiecesShown m [.rs rows none] (.set more body :: ps)

/-- `vs` is the whole answer to the packet: the result of every statement, each
    in full, SERVER_MORE_RESULTS_EXISTS on all of them but the last. -/
inductive PiecesDone (m : Int) : List RView → List Res → Prop
  | lastOkp : PiecesDone m [.okp false] [.okp false]
  | lastSet {rows : List Row} {body rest : List Pkt} :
      Complete body rows rest → (m > 0 → (rows.length : Int) ≤ m) →
      PiecesDone m [.rs rows (some false)] [.set false body]
  | okp {vs : List RView} {ps : List Res} :
      PiecesDone m vs ps → PiecesDone m (.okp true :: vs) (.okp false :: ps)
  | set {rows : List Row} {body rest : List Pkt} {vs : List RView} {ps : List Res} :
      Complete body rows rest → (m > 0 → (rows.length : Int) ≤ m) → PiecesDone m vs ps →
      PiecesDone m (.rs rows (some true) :: vs) (.set false body :: ps)

theorem piecesShown_flagMore {m : Int} {vs : List RView} {r : Res} (ps : List Res) (h : Shown m vs [r]) :
    PiecesShown m (flagMore vs) (r :: ps) ∧ PiecesShown m vs (r :: ps) := by
  cases h with
  | nil => exact ⟨.nil _, .nil _⟩
  | okp more h' => cases h'; exact ⟨.okp true more (.nil _), .okp more more (.nil _)⟩
  | full more hc hl h' => cases h'; exact ⟨.full true more hc hl (.nil _), .full more more hc hl (.nil _)⟩
  | part more _ hb => exact ⟨.part more ps hb, .part more ps hb⟩

/-- The finished answer to one statement is one result, in full and without the flag. -/
theorem piecesDone_finished {m : Int} {vs : List RView} {r : Res} (h : Finished m vs [r]) :
    PiecesDone m vs [r] ∧ ∀ {vs' ps}, PiecesShown m vs' ps →
      PiecesShown m (flagMore vs ++ vs') (r :: ps) ∧
      (PiecesDone m vs' ps → PiecesDone m (flagMore vs ++ vs') (r :: ps)) := by
  cases h with
  | okp _ => exact ⟨.lastOkp, fun h => ⟨.okp true false h, .okp⟩⟩
  | okpMore h' | setMore _ _ h' => cases h'
  | set _ hc hl => exact ⟨.lastSet hc hl, fun h => ⟨.full true false hc hl h, .set hc hl⟩⟩

theorem mqLoop_sound (T : Nat) (m : Int) (armed pin : Bool) :
    ∀ (pieces : List Res) (s0 : Sl) (b : Option Nat) (acc : List RView),
      ∃ vs, (mqLoop T m armed pin pieces s0 b acc).views = acc ++ vs ∧ PiecesShown m vs pieces ∧
        (pieces ≠ [] → (mqLoop T m armed pin pieces s0 b acc).fin = .done → PiecesDone m vs pieces) := by
  intro pieces
  induction pieces with
  | nil => intro s0 b acc; exact ⟨[], by simp [mqLoop], .nil _, fun h => absurd rfl h⟩
  | cons r rest ih =>
    intro s0 b acc
    obtain ⟨hs, hf⟩ := stmt_complete_or_error T m armed [r] b
    rw [mqLoop]
    by_cases hfit : (!s0.fit) = true
    -- a statement that finds its connection unfit writes nothing and ends the answer with `closed`
    · rw [if_pos hfit]; exact ⟨[], by simp, .nil _, fun _ h => nomatch h⟩
    · rw [if_neg hfit]
      cases rest with
      | nil => exact ⟨_, rfl, (piecesShown_flagMore [] hs).2, fun _ hdone => (piecesDone_finished (hf hdone)).1⟩
      | cons r' rest' =>
        simp only
        by_cases hdone : (unStmt T m armed [r] b).fin = .done
        · rw [if_pos hdone]
          obtain ⟨vs, e1, e2, e3⟩ := ih (s0.after pin (unStmt T m armed [r] b).conn).1
            (spend b (viewsPackets (unStmt T m armed [r] b).views)) (acc ++ flagMore (unStmt T m armed [r] b).views)
          obtain ⟨g1, g2⟩ := (piecesDone_finished (hf hdone)).2 e2
          exact ⟨_, by rw [e1, List.append_assoc], g1, fun _ hd2 => g2 (e3 (by simp) hd2)⟩
        · rw [if_neg hdone]
          exact ⟨_, rfl, (piecesShown_flagMore _ hs).1, fun _ h => absurd h hdone⟩

/-- **C39, a packet of several statements (`doMultiStmts`).** Whatever the
    backend answers to each statement, for every limit, deadline, client
    behaviour, inside or outside a transaction: the client is shown, statement
    by statement and in order, results that are — when presented as complete —
    all rows of that statement's complete backend result within the limit, at
    most the last one cut short (and then followed by an error or a closed
    connection: a failing statement ends the answer); and if the answer ends as
    finished, it holds the full result of *every* statement of the packet, with
    SERVER_MORE_RESULTS_EXISTS on all of them but the last. -/
theorem session_mq_complete_or_error (T : Nat) (m : Int) (armed : Bool) (ss ss' : Sess) (pieces : List Res)
    (b : Option Nat) (a : Answer) (h : step T m armed ss (.mq pieces b) = (ss', some a)) :
    PiecesShown m a.views pieces ∧ (pieces ≠ [] → a.fin = .done → PiecesDone m a.views pieces) := by
  obtain ⟨e1, e2⟩ := step_some h
  obtain ⟨vs, g1, g2, g3⟩ := mqLoop_sound T m armed (ss.tx || ss.ks) pieces ss.s0 b []
  rw [e1, e2, g1]
  exact ⟨g2, g3⟩

/-- **C39, whole sessions: no statement ever reads another statement's packets
    (`session_never_desyncs`).** For every history of a session — statements in
    and outside transactions, with or without keep-session, with or without a
    statement deadline, any row limit, unsharded and sharded statements, clients
    that stop reading anywhere — over backends that answer with well-formed
    answers: no command is ever sent on a backend connection that still holds
    unread packets (also not the ROLLBACK of `Session.Close`), and every
    connection that is back in its pool at the end has nothing unread. -/
theorem session_never_desyncs (T : Nat) (m : Int) (armed : Bool) (ks : Bool) (sts : List Stmt)
    (hw : ∀ st ∈ sts, StmtWF st) :
    (run T m armed (Sess.init ks) sts []).1.desync = false ∧
    (run T m armed (Sess.init ks) sts []).1.closeFit = true ∧
    (((run T m armed (Sess.init ks) sts []).1.s0.final ks).2 = none ∨
      ((run T m armed (Sess.init ks) sts []).1.s0.final ks).2 = some 0) ∧
    (((run T m armed (Sess.init ks) sts []).1.s1.final ks).2 = none ∨
      ((run T m armed (Sess.init ks) sts []).1.s1.final ks).2 = some 0) := by
  obtain ⟨h0, h1, hd⟩ := run_clean T m armed sts (Sess.init ks) [] (SessClean.init ks) hw
  refine ⟨hd, ?_, h0.final_packets ks, h1.final_packets ks⟩
  unfold Sess.closeFit
  rw [h0.pinnedFit, h1.pinnedFit]; rfl

/-! ### examples -/

-- a transaction, chunks of two rows (T = 10, rows of 6 bytes), limit 3: the second chunk takes the
-- result over the limit while rows are still pending: limit error, the connection is closed, the
-- session ends and the third statement is not executed
example : (run 10 3 false (Sess.init false)
    [.begin,
     .un [.set false [.row ⟨0, 6⟩, .row ⟨1, 6⟩, .row ⟨2, 6⟩, .row ⟨3, 6⟩, .row ⟨4, 6⟩, .row ⟨5, 6⟩, .eof]] none,
     .un [.set false [.row ⟨0, 6⟩, .eof]] none] []).2 =
    [⟨[.okp false], .done, true⟩, ⟨[.rs [⟨0, 6⟩, ⟨1, 6⟩] none], .err .limit, false⟩] := by decide

-- two results, the second one of two chunks: both are delivered in full, the first with the flag
example : unStmt 10 (-1) false
    [.set true [.row ⟨0, 6⟩, .eof], .set false [.row ⟨1, 6⟩, .row ⟨2, 6⟩, .row ⟨3, 6⟩, .eof]] none =
    ⟨[.rs [⟨0, 6⟩] (some true), .rs [⟨1, 6⟩, ⟨2, 6⟩, ⟨3, 6⟩] (some false)], .done, .live ⟨[], []⟩ false⟩ := by decide

-- the first result of three is over the limit: the other two are drained, the connection stays usable
example : unStmt 10 1 false
    [.set true [.row ⟨0, 6⟩, .row ⟨1, 6⟩, .eof], .set true [.row ⟨2, 6⟩, .eof], .okp false] none =
    ⟨[], .err .limit, .live ⟨[], []⟩ false⟩ := by decide

-- the backend falls silent after one row: with a deadline the statement fails, the connection is closed
example : unStmt 10 (-1) true [.set false [.row ⟨0, 6⟩, .stall]] none = ⟨[], .err .timeout, .closed⟩ := by decide

-- the client's connection breaks after 7 packets of a three-chunk result: connection closed
example : unStmt 10 (-1) false
    [.set false [.row ⟨0, 6⟩, .row ⟨1, 6⟩, .row ⟨2, 6⟩, .row ⟨3, 6⟩, .row ⟨4, 6⟩, .eof]] (some 7) =
    ⟨[.rs [⟨0, 6⟩, ⟨1, 6⟩, ⟨2, 6⟩] none], .closed, .closed⟩ := by decide

-- a sharded statement over two sub-tables of slice-0 and one of slice-1
example : (step 10 (-1) false (Sess.init false)
    (.sq [.set [.row ⟨0, 6⟩, .eof], .set [.row ⟨1, 6⟩, .row ⟨2, 6⟩, .eof]] [.set [.row ⟨3, 6⟩, .eof]] none)).2 =
    some ⟨[.rs [⟨0, 6⟩, ⟨1, 6⟩, ⟨2, 6⟩, ⟨3, 6⟩] (some false)], .done, true⟩ := by decide

-- … one of which answers with an ERR packet after its rows: error, nothing is delivered
example : (step 10 (-1) false (Sess.init false)
    (.sq [.set [.row ⟨0, 6⟩, .eof], .set [.row ⟨1, 6⟩, .err]] [.set [.row ⟨3, 6⟩, .eof]] none)).2 =
    some ⟨[], .err .backend, true⟩ := by decide

example : WF [.set true (bodyOf [⟨0, 6⟩] .eof), .okp false] := .setMore _ .okpLast

-- a packet of two statements, the first answer of two chunks: both delivered, the flag on the first
example : (step 10 (-1) false (Sess.init false)
    (.mq [.set false [.row ⟨0, 6⟩, .row ⟨1, 6⟩, .row ⟨2, 6⟩, .eof], .set false [.row ⟨3, 6⟩, .eof]] none)).2 =
    some ⟨[.rs [⟨0, 6⟩, ⟨1, 6⟩, ⟨2, 6⟩] (some true), .rs [⟨3, 6⟩] (some false)], .done, true⟩ := by decide

-- … with row limit 3 the first statement fails between its chunks: error, the second one is not run
example : (step 10 3 false (Sess.init false)
    (.mq [.set false [.row ⟨0, 6⟩, .row ⟨1, 6⟩, .row ⟨2, 6⟩, .row ⟨3, 6⟩, .row ⟨4, 6⟩, .eof],
          .set false [.row ⟨5, 6⟩, .eof]] none)).2 =
    some ⟨[.rs [⟨0, 6⟩, ⟨1, 6⟩] none], .err .limit, true⟩ := by decide

end GaeaVerif.C39
