import GaeaVerif.Model.Packet
import GaeaVerif.Gen.Consts
/-
  C11 — MySQL packets arrive intact and correctly sequenced.

  Theorems about `Model/Packet.lean` (the tie to /repo/mysql/conn.go is the
  correspondence check `gvh run C11` and the extracted constant
  `Gen.maxPacketSize`).  Everything is proved for every frame limit `M`,
  every payload, every starting sequence id and every continuation of the byte
  stream, then instantiated at the constant of the source.
-/
namespace GaeaVerif.C11
open GaeaVerif GaeaVerif.Packet

/-- **The framing rule of the property.** `Train M s fs`: the frames `fs` are
    one packet for frame limit `M` whose first sequence id is `s`: every frame
    but the last carries exactly `M` bytes, the last fewer than `M` (possibly
    none), the length field of each frame is the length of its body, and the
    sequence ids go up by one per frame (mod 256). -/
inductive Train (M : Nat) : UInt8 → List Frame → Prop
  | last {s : UInt8} {body : Bytes} :
      body.length < M → Train M s [⟨body.length, s, body⟩]
  | full {s : UInt8} {body : Bytes} {fs : List Frame} :
      body.length = M → Train M (s + 1) fs → Train M s (⟨M, s, body⟩ :: fs)

theorem add_one_add (s : UInt8) (n : Nat) : s + 1 + UInt8.ofNat n = s + UInt8.ofNat (n + 1) := by
  rw [UInt8.ofNat_add, UInt8.add_assoc, UInt8.add_comm 1]
  rfl

theorem header_length (l : Nat) (q : UInt8) : (header l q).length = 4 := by
  simp [header, leBytes_length]

theorem header_eq (l : Nat) (q : UInt8) :
    ∃ b0 b1 b2, header l q = [b0, b1, b2, q] ∧ leBytes l 3 = [b0, b1, b2] := by
  refine ⟨UInt8.ofNat (l % 256), UInt8.ofNat (l / 256 % 256), UInt8.ofNat (l / 256 / 256 % 256), ?_, ?_⟩ <;>
    simp [header, leBytes]

theorem encode_length (f : Frame) : f.encode.length = 4 + f.body.length := by
  simp [Frame.encode, header_length]

theorem wire_length_ge (fs : List Frame) : fs.length ≤ (wire fs).length := by
  induction fs with
  | nil => simp [wire]
  | cons f fs ih => simp only [wire, List.length_append, List.length_cons, encode_length]; omega

theorem wire_append (a b : List Frame) : wire (a ++ b) = wire a ++ wire b := by
  induction a with
  | nil => rfl
  | cons f fs ih => simp [wire, ih, List.append_assoc]

theorem bodies_append (a b : List Frame) : bodies (a ++ b) = bodies a ++ bodies b := by
  induction a with
  | nil => rfl
  | cons f fs ih => simp [bodies, ih, List.append_assoc]

theorem readFull_append (a b : Bytes) : readFull (a ++ b) a.length = some (a, b) := by
  simp [readFull]

theorem readFull_some {s d rest : Bytes} {n : Nat} (h : readFull s n = some (d, rest)) :
    s = d ++ rest ∧ d.length = n := by
  unfold readFull at h
  split at h
  · simp only [Option.some.injEq, Prod.mk.injEq] at h
    obtain ⟨rfl, rfl⟩ := h
    refine ⟨(List.take_append_drop n s).symm, ?_⟩
    simp [List.length_take]; omega
  · cases h

/-! ### what a `Train` says, frame by frame -/

theorem Train.ne_nil {M : Nat} {s : UInt8} {fs : List Frame} (h : Train M s fs) : fs ≠ [] := by
  cases h <;> simp

/-- Frame `i` of a packet: its id is `s + i`, its length field is the length
    of its body and at most `M`; it is full iff it is not the last. -/
theorem Train.frame {M : Nat} {s : UInt8} {fs : List Frame} (h : Train M s fs)
    (i : Nat) (hi : i < fs.length) :
    fs[i].seq = s + UInt8.ofNat i ∧ fs[i].len = fs[i].body.length ∧ fs[i].len ≤ M ∧
    (i + 1 < fs.length → fs[i].len = M) ∧ (i + 1 = fs.length → fs[i].len < M) := by
  induction h generalizing i with
  | last hb =>
    simp only [List.length_cons, List.length_nil] at hi
    have : i = 0 := by omega
    subst this
    simp; omega
  | @full s body fs hb ht ih =>
    cases i with
    | zero =>
      have := ht.ne_nil
      have : 0 < fs.length := List.length_pos_iff.mpr this
      simp [hb]; omega
    | succ j =>
      simp only [List.length_cons] at hi
      have := ih j (by omega)
      simp only [List.getElem_cons_succ, List.length_cons]
      rw [add_one_add] at this
      refine ⟨this.1, this.2.1, this.2.2.1, ?_, ?_⟩
      · intro h; exact this.2.2.2.1 (by omega)
      · intro h; exact this.2.2.2.2 (by omega)

theorem Train.count {M : Nat} {s : UInt8} {fs : List Frame} (h : Train M s fs) (hM : 0 < M) :
    fs.length = (bodies fs).length / M + 1 ∧
    ∃ l, fs.getLast? = some l ∧ l.body.length = (bodies fs).length % M := by
  induction h with
  | @last s body hb =>
    simp [bodies, Nat.div_eq_of_lt hb, Nat.mod_eq_of_lt hb]
  | @full s body fs hb ht ih =>
    obtain ⟨h1, l, h2, h3⟩ := ih
    have hne := ht.ne_nil
    refine ⟨?_, l, ?_, ?_⟩
    · simp only [List.length_cons, bodies, List.length_append, hb]
      rw [Nat.add_div_left _ hM]; omega
    · rw [List.getLast?_cons_of_ne_nil hne]; exact h2
    · simp only [bodies, List.length_append, hb]
      rw [Nat.add_mod_left]; exact h3

/-! ### Conn.WritePacket -/

theorem slice_ok (d : Bytes) (lo n : Nat) (h : lo + n ≤ d.length) :
    slice d lo (lo + n) = .ok ((d.drop lo).take n) := by
  unfold slice
  rw [if_pos ⟨by omega, h⟩]
  congr 2; omega

theorem writeLoop_spec (M : Nat) (hM : 0 < M) (data : Bytes) :
    ∀ (fuel index length : Nat) (seq : UInt8), length < fuel → index + length ≤ data.length →
      ∃ fs, writeLoop M fuel data index length seq = .ok (fs, seq + UInt8.ofNat fs.length) ∧
        Train M seq fs ∧ bodies fs = (data.drop index).take length := by
  intro fuel
  induction fuel with
  | zero => intro _ _ _ h; omega
  | succ fuel ih =>
    intro index length seq hf hlen
    unfold writeLoop
    by_cases hgt : length > M
    · simp only [hgt, if_true]
      rw [slice_ok data index M (by omega)]
      have hne : ¬ (length - M = 0) := by omega
      simp only [hne, if_false]
      obtain ⟨fs, h1, h2, h3⟩ := ih (index + M) (length - M) (seq + 1) (by omega) (by omega)
      rw [h1]
      have hbl : ((data.drop index).take M).length = M := by
        simp [List.length_take]; omega
      refine ⟨_ :: fs, ?_, Train.full hbl h2, ?_⟩
      · simp only [List.length_cons]; rw [add_one_add]
      · simp only [bodies, h3]
        have : length = M + (length - M) := by omega
        rw [this, List.take_add, List.drop_drop]
        congr 3 <;> omega
    · simp only [hgt, if_false]
      rw [slice_ok data index length hlen]
      simp only [Nat.sub_self, if_true]
      have hbl : ((data.drop index).take length).length = length := by
        simp [List.length_take]; omega
      by_cases heq : length = M
      · -- exactly M bytes left: a full frame and the empty terminator
        simp only [heq, if_true]
        rw [heq] at hbl
        refine ⟨[⟨M, seq, (data.drop index).take M⟩, ⟨0, seq + 1, []⟩], ?_, ?_, ?_⟩
        · congr 2; rw [UInt8.add_assoc]; rfl
        · exact Train.full hbl (Train.last (body := []) hM)
        · simp [bodies]
      · simp only [heq, if_false]
        refine ⟨[⟨length, seq, (data.drop index).take length⟩], ?_, ?_, ?_⟩
        · simp
        · have := Train.last (M := M) (s := seq) (body := (data.drop index).take length) (by rw [hbl]; omega)
          rw [hbl] at this; exact this
        · simp [bodies]

/-- **C11 (writer).** For every frame limit `M > 0`, payload and starting
    sequence id, `WritePacket` succeeds (no panic, the loop terminates), emits
    a correctly framed packet (`Train`: frames of exactly `M` bytes closed by
    a shorter, possibly empty, frame; ids `seq, seq+1, …` mod 256) whose bodies
    concatenate to the payload, and leaves `c.sequence` one past the last id
    used. -/
theorem write_frames (M : Nat) (hM : 0 < M) (p : Bytes) (s : UInt8) :
    ∃ fs, writePacket M p s = .ok (fs, s + UInt8.ofNat fs.length) ∧
      Train M s fs ∧ bodies fs = p := by
  obtain ⟨fs, h1, h2, h3⟩ := writeLoop_spec M hM p (p.length + 1) 0 p.length s (by omega) (by omega)
  exact ⟨fs, h1, h2, by simpa using h3⟩

example : writePacket 3 [1, 2, 3, 4, 5, 6] 254 =
    .ok ([⟨3, 254, [1, 2, 3]⟩, ⟨3, 255, [4, 5, 6]⟩, ⟨0, 0, []⟩], 1) := by decide
example : writePacket 3 [1, 2, 3, 4] 7 = .ok ([⟨3, 7, [1, 2, 3]⟩, ⟨1, 8, [4]⟩], 9) := by decide

/-- The writer never panics and never runs out of fuel. -/
theorem writePacket_ok (M : Nat) (hM : 0 < M) (p : Bytes) (s : UInt8) :
    writePacket M p s ≠ .panic ∧ writePacket M p s ≠ .fail := by
  obtain ⟨fs, h, _⟩ := write_frames M hM p s
  rw [h]; exact ⟨by simp, by simp⟩

/-- Number of frames: `len/M + 1`; so a payload of exactly `k·M` bytes is
    written as `k` full frames and one empty frame, and the empty payload as
    one empty frame. -/
theorem write_frame_count (M : Nat) (hM : 0 < M) (p : Bytes) (s : UInt8) :
    ∃ fs s', writePacket M p s = .ok (fs, s') ∧ fs.length = p.length / M + 1 ∧
      ∃ l, fs.getLast? = some l ∧ l.body.length = p.length % M := by
  obtain ⟨fs, h1, h2, h3⟩ := write_frames M hM p s
  have := h2.count hM
  rw [h3] at this
  exact ⟨fs, _, h1, this⟩

theorem write_exact_multiple (M : Nat) (hM : 0 < M) (p : Bytes) (s : UInt8) (k : Nat)
    (hk : p.length = k * M) :
    ∃ fs s', writePacket M p s = .ok (fs, s') ∧ fs.length = k + 1 ∧
      ∃ l, fs.getLast? = some l ∧ l.body = [] := by
  obtain ⟨fs, s', h1, h2, l, h3, h4⟩ := write_frame_count M hM p s
  refine ⟨fs, s', h1, ?_, l, h3, ?_⟩
  · rw [h2, hk, Nat.mul_div_cancel _ hM]
  · rw [hk, Nat.mul_mod_left] at h4
    exact List.eq_nil_of_length_eq_zero h4

example : ∃ p : Bytes, p.length = 2 * 3 ∧ p ≠ [] := ⟨[1, 2, 3, 4, 5, 6], rfl, by simp⟩

/-! ### the readers -/

theorem readHeaderFrom_header (l : Nat) (hl : l < 2 ^ 24) (q s : UInt8) (tail : Bytes) :
    readHeaderFrom ⟨s, header l q ++ tail⟩ =
      if q ≠ s then .error .invalidSeq else .ok (l, ⟨s + 1, tail⟩) := by
  obtain ⟨b0, b1, b2, h1, h2⟩ := header_eq l q
  rw [h1]
  simp only [readHeaderFrom, List.cons_append, List.nil_append]
  rw [← h2, leNat_leBytes 3 l (by simpa using hl)]

theorem readOnePacket_frame (body : Bytes) (hl : body.length < 2 ^ 24) (s : UInt8) (tail : Bytes) :
    readOnePacket ⟨s, (⟨body.length, s, body⟩ : Frame).encode ++ tail⟩ = .ok (body, ⟨s + 1, tail⟩) := by
  unfold readOnePacket
  simp only [Frame.encode, List.append_assoc]
  rw [readHeaderFrom_header _ hl]
  simp only [ne_eq, not_true_eq_false, if_false]
  by_cases h0 : body.length = 0
  · have : body = [] := List.eq_nil_of_length_eq_zero h0
    subst this; simp
  · simp only [h0, if_false, readFull_append]

theorem readHeaderFrom_ok {c c1 : Conn} {l : Nat} (h : readHeaderFrom c = .ok (l, c1)) :
    c.input = header l c.seq ++ c1.input ∧ c1.seq = c.seq + 1 ∧ l < 2 ^ 24 := by
  unfold readHeaderFrom at h
  split at h
  · rename_i b0 b1 b2 b3 rest hin
    split at h
    · cases h
    · rename_i hseq
      simp only [ne_eq, Decidable.not_not] at hseq
      simp only [Except.ok.injEq, Prod.mk.injEq] at h
      obtain ⟨rfl, rfl⟩ := h
      refine ⟨?_, rfl, ?_⟩
      · rw [hin, header]
        have := leBytes_leNat [b0, b1, b2]
        simp only [List.length_cons, List.length_nil] at this
        rw [this, hseq]; rfl
      · have := leNat_lt [b0, b1, b2]
        simpa using this
  · cases h

theorem readOnePacket_ok {c c1 : Conn} {d : Bytes} (h : readOnePacket c = .ok (d, c1)) :
    c.input = (⟨d.length, c.seq, d⟩ : Frame).encode ++ c1.input ∧ c1.seq = c.seq + 1 ∧
      d.length < 2 ^ 24 := by
  unfold readOnePacket at h
  split at h
  · cases h
  · rename_i length c0 hh
    obtain ⟨h1, h2, h3⟩ := readHeaderFrom_ok hh
    split at h
    · rename_i h0
      simp only [Except.ok.injEq, Prod.mk.injEq] at h
      obtain ⟨rfl, rfl⟩ := h
      subst h0
      simp [Frame.encode, h1, h2]
    · split at h
      · cases h
      · rename_i d' rest hr
        simp only [Except.ok.injEq, Prod.mk.injEq] at h
        obtain ⟨rfl, rfl⟩ := h
        obtain ⟨e1, e2⟩ := readFull_some hr
        subst e2
        simp [Frame.encode, h1, h2, h3, e1]

theorem readOnePacket_length {c c1 : Conn} {d : Bytes} (h : readOnePacket c = .ok (d, c1)) :
    c.input.length = 4 + d.length + c1.input.length := by
  rw [(readOnePacket_ok h).1]; simp [encode_length]

theorem readMore_fuel_irrel (M : Nat) : ∀ (fuel fuel' : Nat) (data : Bytes) (c : Conn),
    c.input.length < fuel → c.input.length < fuel' → readMore M fuel data c = readMore M fuel' data c := by
  intro fuel
  induction fuel with
  | zero => intro _ _ _ h; omega
  | succ fuel ih =>
    intro fuel' data c h h'
    obtain ⟨fuel', rfl⟩ : ∃ k, fuel' = k + 1 := ⟨fuel' - 1, by omega⟩
    rw [readMore, readMore]
    cases h1 : readOnePacket c with
    | error e => rfl
    | ok r =>
      have := readOnePacket_length h1
      simp only
      split
      · rfl
      · split
        · rfl
        · exact ih _ _ _ (by omega) (by omega)

/-- `M > 0` is needed: the loop stops on an empty frame, `readPacket` only on
    a first frame shorter than `M`. -/
theorem readPacket_eq_readMore (M : Nat) (hM : 0 < M) (c : Conn) :
    readPacket M c = readMore M (c.input.length + 1) [] c := by
  rw [readPacket, readMore]
  cases h1 : readOnePacket c with
  | error e => rfl
  | ok r =>
    have := readOnePacket_length h1
    simp only [List.nil_append]
    by_cases h0 : r.1.length = 0
    · rw [if_pos (by omega), if_pos h0, List.eq_nil_of_length_eq_zero h0]
    · rw [if_neg h0]
      split
      · rfl
      · exact readMore_fuel_irrel M _ _ _ _ (by omega) (by omega)

theorem readOnePacket_ne_fuel (c : Conn) : readOnePacket c ≠ .error .fuel := by
  intro h
  unfold readOnePacket at h
  split at h
  · rename_i h2
    cases h
    unfold readHeaderFrom at h2
    split at h2
    · split at h2 <;> cases h2
    · cases h2
  · split at h
    · cases h
    · split at h <;> cases h

theorem readMore_ne_fuel (M : Nat) : ∀ (fuel : Nat) (data : Bytes) (c : Conn),
    c.input.length < fuel → readMore M fuel data c ≠ .error .fuel := by
  intro fuel
  induction fuel with
  | zero => intro _ _ h; omega
  | succ fuel ih =>
    intro data c hf
    unfold readMore
    split
    · rename_i e h1
      intro h
      cases h
      exact readOnePacket_ne_fuel c h1
    · rename_i next c1 h1
      have := readOnePacket_length h1
      split
      · nofun
      · split
        · nofun
        · exact ih _ _ (by omega)

theorem readPacket_fuel (M : Nat) (c : Conn) : readPacket M c ≠ .error .fuel := by
  unfold readPacket
  split
  · rename_i e h1
    intro h
    cases h
    exact readOnePacket_ne_fuel c h1
  · split
    · nofun
    · exact readMore_ne_fuel M _ _ _ (by omega)

theorem readMore_full (M : Nat) (hM : 0 < M) (hM24 : M < 2 ^ 24) {body : Bytes} (hb : body.length = M) (s : UInt8)
    (tail : Bytes) (fuel : Nat) (data : Bytes) :
    readMore M (fuel + 1) data ⟨s, (⟨M, s, body⟩ : Frame).encode ++ tail⟩
      = readMore M fuel (data ++ body) ⟨s + 1, tail⟩ := by
  subst hb
  rw [readMore, readOnePacket_frame body hM24]
  simp only
  rw [if_neg (by omega), if_neg (by omega)]

theorem readMore_train (M : Nat) (hM : 0 < M) (hM24 : M < 2 ^ 24) {s : UInt8} {fs : List Frame}
    (h : Train M s fs) :
    ∀ (fuel : Nat) (data rest : Bytes), fs.length ≤ fuel →
      readMore M fuel data ⟨s, wire fs ++ rest⟩ =
        .ok (data ++ bodies fs, ⟨s + UInt8.ofNat fs.length, rest⟩) := by
  induction h with
  | @last s body hb =>
    intro fuel data rest hf
    obtain ⟨fuel, rfl⟩ : ∃ k, fuel = k + 1 := ⟨fuel - 1, by simp at hf; omega⟩
    simp only [wire, List.append_nil]
    rw [readMore, readOnePacket_frame body (by omega)]
    by_cases h0 : body.length = 0
    · simp [List.eq_nil_of_length_eq_zero h0, bodies]
    · simp [h0, hb, bodies]
  | @full s body fs hb ht ih =>
    intro fuel data rest hf
    obtain ⟨fuel, rfl⟩ : ∃ k, fuel = k + 1 := ⟨fuel - 1, by simp at hf; omega⟩
    simp only [wire, List.append_assoc]
    rw [readMore_full M hM hM24 hb, ih fuel (data ++ body) rest (by simpa using hf)]
    simp [bodies, List.append_assoc, add_one_add]

/-- **C11 (reader, completeness).** -/
theorem readPacket_train (M : Nat) (hM : 0 < M) (hM24 : M < 2 ^ 24) {s : UInt8} {fs : List Frame}
    (h : Train M s fs) (rest : Bytes) :
    readPacket M ⟨s, wire fs ++ rest⟩ = .ok (bodies fs, ⟨s + UInt8.ofNat fs.length, rest⟩) := by
  rw [readPacket_eq_readMore M hM, readMore_train M hM hM24 h _ [] rest
    (by have := wire_length_ge fs; simp only [List.length_append]; omega)]
  rfl

/-- **Both readers agree** on every stream (for `M > 0`): `ReadEphemeralPacket`
    (pooled buffer below `M`, concatenating path otherwise) returns what
    `ReadPacket` returns, so every reader theorem holds for both. -/
theorem readEphemeralPacket_eq (M : Nat) (hM : 0 < M) (c : Conn) :
    readEphemeralPacket M c = readPacket M c := by
  unfold readEphemeralPacket readPacket readOnePacket
  cases hh : readHeaderFrom c with
  | error e => rfl
  | ok r =>
    obtain ⟨length, c1⟩ := r
    simp only
    by_cases h0 : length = 0
    · simp [h0, hM]
    · simp only [h0, if_false]
      cases hr : readFull c1.input length with
      | none => by_cases hl : length < M <;> simp [hl]
      | some r =>
        obtain ⟨d, rest⟩ := r
        have hd := (readFull_some hr).2
        by_cases hl : length < M <;> simp [hl, hd]

/-- **C11 (round trip).** For every frame limit `0 < M < 2^24`, payload `p`
    (any length: empty, below, at, above and several times `M`), starting id
    `s` and continuation `rest` of the stream: what `WritePacket` puts on the
    wire is read back by `ReadPacket` and by `ReadEphemeralPacket` as exactly
    `p`, nothing of `rest` is consumed, and the reader's expected id ends where
    the writer's id ended. -/
theorem read_write (M : Nat) (hM : 0 < M) (hM24 : M < 2 ^ 24) (p : Bytes) (s : UInt8) (rest : Bytes) :
    ∃ fs s', writePacket M p s = .ok (fs, s') ∧
      readPacket M ⟨s, wire fs ++ rest⟩ = .ok (p, ⟨s', rest⟩) ∧
      readEphemeralPacket M ⟨s, wire fs ++ rest⟩ = .ok (p, ⟨s', rest⟩) := by
  obtain ⟨fs, h1, h2, h3⟩ := write_frames M hM p s
  have := readPacket_train M hM hM24 h2 rest
  rw [h3] at this
  exact ⟨fs, _, h1, this, by rw [readEphemeralPacket_eq M hM]; exact this⟩

example : readPacket 3 ⟨254, wire [⟨3, 254, [1, 2, 3]⟩, ⟨3, 255, [4, 5, 6]⟩, ⟨0, 0, []⟩] ++ [9]⟩ =
    .ok ([1, 2, 3, 4, 5, 6], ⟨1, [9]⟩) := by rfl

/-! ### the reader accepts nothing else -/

/-- a frame shorter than `M` is a whole packet (`Train.last`) -/
theorem sound_last {M : Nat} {c c1 : Conn} {d : Bytes} (h1 : readOnePacket c = .ok (d, c1)) (hlt : d.length < M) :
    ∃ fs, Train M c.seq fs ∧ c.input = wire fs ++ c1.input ∧ d = bodies fs ∧
      c1.seq = c.seq + UInt8.ofNat fs.length := by
  obtain ⟨e1, e2, _⟩ := readOnePacket_ok h1
  exact ⟨[⟨d.length, c.seq, d⟩], Train.last hlt, by simpa [wire] using e1, by simp [bodies], by simpa using e2⟩

theorem readMore_sound (M : Nat) (hM : 2 ^ 24 - 1 ≤ M) :
    ∀ (fuel : Nat) (data : Bytes) (c c' : Conn) (p : Bytes),
      readMore M fuel data c = .ok (p, c') →
      ∃ fs, Train M c.seq fs ∧ c.input = wire fs ++ c'.input ∧ p = data ++ bodies fs ∧
        c'.seq = c.seq + UInt8.ofNat fs.length := by
  intro fuel
  induction fuel with
  | zero => intro _ _ _ _ h; cases h
  | succ fuel ih =>
    intro data c c' p h
    unfold readMore at h
    split at h
    · cases h
    · rename_i next c1 h1
      have e3 := (readOnePacket_ok h1).2.2
      split at h
      · rename_i h0
        cases h
        obtain ⟨fs, t, i1, i2, i3⟩ := sound_last (M := M) h1 (by omega)
        exact ⟨fs, t, i1, by rw [← i2, List.eq_nil_of_length_eq_zero h0, List.append_nil], i3⟩
      · split at h
        · rename_i hlt
          cases h
          obtain ⟨fs, t, i1, i2, i3⟩ := sound_last h1 hlt
          exact ⟨fs, t, i1, by rw [← i2], i3⟩
        · obtain ⟨e1, e2, _⟩ := readOnePacket_ok h1
          have hl : next.length = M := by omega
          obtain ⟨fs, t, i1, i2, i3⟩ := ih _ _ _ _ h
          refine ⟨⟨M, c.seq, next⟩ :: fs, Train.full hl (by rw [← e2]; exact t), ?_, ?_, ?_⟩
          · rw [e1, i1, hl]; simp [wire, List.append_assoc]
          · rw [i2]; simp [bodies, List.append_assoc]
          · rw [i3, e2]; simp only [List.length_cons]; rw [add_one_add]

/-- **C11 (reader, soundness).** With the frame limit at (or above) the
    largest value of the 3-byte length field: whenever `ReadPacket` delivers a
    payload, the bytes it consumed are exactly the wire form of one correctly
    framed packet starting at the expected id — every frame, the empty ones
    included, carries the next id (an unexpected id is never accepted), all
    frames are complete — the payload is the concatenation of the bodies in
    order, and the expected id advanced by the number of frames. -/
theorem readPacket_sound (M : Nat) (hM : 2 ^ 24 - 1 ≤ M) (c c' : Conn) (p : Bytes)
    (h : readPacket M c = .ok (p, c')) :
    ∃ fs, Train M c.seq fs ∧ c.input = wire fs ++ c'.input ∧ p = bodies fs ∧
      c'.seq = c.seq + UInt8.ofNat fs.length := by
  rw [readPacket_eq_readMore M (by omega)] at h
  exact readMore_sound M hM _ [] c c' p h

theorem readEphemeralPacket_sound (M : Nat) (hM : 2 ^ 24 - 1 ≤ M) (c c' : Conn) (p : Bytes)
    (h : readEphemeralPacket M c = .ok (p, c')) :
    ∃ fs, Train M c.seq fs ∧ c.input = wire fs ++ c'.input ∧ p = bodies fs ∧
      c'.seq = c.seq + UInt8.ofNat fs.length := by
  rw [readEphemeralPacket_eq M (by omega)] at h
  exact readPacket_sound M hM c c' p h

/-! ### unexpected sequence ids are rejected -/

/-- **C11 (rejection, one frame).** A frame header whose sequence byte is not
    the expected id is rejected with `invalid sequence`, whatever its length
    field — zero included (the pinned code skipped the check for empty frames;
    repaired by the `fix:` commit recorded in known/C11.json). -/
theorem readHeaderFrom_rejects (s b0 b1 b2 b3 : UInt8) (rest : Bytes) (h : b3 ≠ s) :
    readHeaderFrom ⟨s, b0 :: b1 :: b2 :: b3 :: rest⟩ = .error .invalidSeq := by
  simp [readHeaderFrom, h]

example : readHeaderFrom ⟨5, [0, 0, 0, 9, 1, 2]⟩ = .error .invalidSeq := by rfl

/-- A run of full frames with ids `s, s+1, …`. -/
inductive FullRun (M : Nat) : UInt8 → List Frame → Prop
  | nil {s : UInt8} : FullRun M s []
  | cons {s : UInt8} {body : Bytes} {fs : List Frame} :
      body.length = M → FullRun M (s + 1) fs → FullRun M s (⟨M, s, body⟩ :: fs)

theorem readOnePacket_rejects (f : Frame) {s : UInt8} (hne : f.seq ≠ s) (rest : Bytes) :
    readOnePacket ⟨s, f.encode ++ rest⟩ = .error .invalidSeq := by
  obtain ⟨b0, b1, b2, h1, _⟩ := header_eq f.len f.seq
  simp [readOnePacket, Frame.encode, h1, readHeaderFrom, hne]

theorem readMore_rejects (M : Nat) (hM : 0 < M) (hM24 : M < 2 ^ 24) {s : UInt8} {pre : List Frame}
    (h : FullRun M s pre) (f : Frame) (hf : f.seq ≠ s + UInt8.ofNat pre.length) (rest : Bytes) :
    ∀ (fuel : Nat) (data : Bytes), pre.length < fuel →
      readMore M fuel data ⟨s, wire pre ++ (f.encode ++ rest)⟩ = .error .invalidSeq := by
  induction h with
  | @nil s =>
    intro fuel data hfu
    obtain ⟨fuel, rfl⟩ : ∃ k, fuel = k + 1 := ⟨fuel - 1, by omega⟩
    rw [wire, List.nil_append, readMore, readOnePacket_rejects f (by simpa using hf)]
  | @cons s body fs hb ht ih =>
    intro fuel data hfu
    obtain ⟨fuel, rfl⟩ : ∃ k, fuel = k + 1 := ⟨fuel - 1, by omega⟩
    simp only [wire, List.append_assoc]
    rw [readMore_full M hM hM24 hb]
    apply ih
    · simp only [List.length_cons] at hf
      rw [add_one_add]; exact hf
    · simp only [List.length_cons] at hfu; omega

/-- **C11 (rejection, anywhere in a packet).** If the first frame, or a
    continuation frame after any number of correctly numbered full frames,
    carries an unexpected id — whatever its length, empty terminator included
    — both readers return the `invalid sequence` error (no payload). -/
theorem read_rejects (M : Nat) (hM : 0 < M) (hM24 : M < 2 ^ 24) {s : UInt8} {pre : List Frame}
    (h : FullRun M s pre) (f : Frame) (hf : f.seq ≠ s + UInt8.ofNat pre.length) (rest : Bytes) :
    readPacket M ⟨s, wire pre ++ (f.encode ++ rest)⟩ = .error .invalidSeq ∧
    readEphemeralPacket M ⟨s, wire pre ++ (f.encode ++ rest)⟩ = .error .invalidSeq := by
  have key : readPacket M ⟨s, wire pre ++ (f.encode ++ rest)⟩ = .error .invalidSeq := by
    rw [readPacket_eq_readMore M hM]
    exact readMore_rejects M hM hM24 h f hf rest _ []
      (by have := wire_length_ge pre; simp only [List.length_append]; omega)
  exact ⟨key, by rw [readEphemeralPacket_eq M hM]; exact key⟩

example : FullRun 3 254 [⟨3, 254, [1, 2, 3]⟩, ⟨3, 255, [4, 5, 6]⟩] :=
  FullRun.cons rfl (FullRun.cons rfl FullRun.nil)
example : readPacket 3 ⟨254, wire [⟨3, 254, [1, 2, 3]⟩, ⟨3, 255, [4, 5, 6]⟩, ⟨0, 7, []⟩]⟩ =
    .error .invalidSeq := by rfl

/-! ### at the constant of the source -/

/-- The frame limit of mysql/conn.go (regenerated from the source on every
    run) is the largest value of the 3-byte length field — the only value for
    which both `read_write` (needs `M < 2^24`) and `readPacket_sound` (needs
    `2^24-1 ≤ M`) hold. -/
theorem frame_limit_is_protocol_limit : Gen.maxPacketSize = 2 ^ 24 - 1 := by decide

/-- **C11 at `MaxPacketSize`.** Any payload written as one MySQL packet is
    read back byte-for-byte by both readers, in frames of at most
    `MaxPacketSize` bytes with consecutive ids, `len/MaxPacketSize + 1` of
    them (so an exact multiple ends with an empty frame). -/
theorem C11_write_read (p : Bytes) (s : UInt8) (rest : Bytes) :
    ∃ fs s', writePacket Gen.maxPacketSize p s = .ok (fs, s') ∧
      Train Gen.maxPacketSize s fs ∧ bodies fs = p ∧ s' = s + UInt8.ofNat fs.length ∧
      fs.length = p.length / Gen.maxPacketSize + 1 ∧
      readPacket Gen.maxPacketSize ⟨s, wire fs ++ rest⟩ = .ok (p, ⟨s', rest⟩) ∧
      readEphemeralPacket Gen.maxPacketSize ⟨s, wire fs ++ rest⟩ = .ok (p, ⟨s', rest⟩) := by
  have hM : 0 < Gen.maxPacketSize := by decide
  have hM24 : Gen.maxPacketSize < 2 ^ 24 := by decide
  obtain ⟨fs, h1, h2, h3⟩ := write_frames _ hM p s
  have hr := readPacket_train _ hM hM24 h2 rest
  have hc := (h2.count hM).1
  rw [h3] at hr hc
  exact ⟨fs, _, h1, h2, h3, rfl, hc, hr, by rw [readEphemeralPacket_eq _ hM]; exact hr⟩

/-- **C11 at `MaxPacketSize`, reader side.** Whatever either reader accepts is
    a correctly sequenced, complete packet, delivered intact. -/
theorem C11_read_sound (c c' : Conn) (p : Bytes)
    (h : readPacket Gen.maxPacketSize c = .ok (p, c') ∨
         readEphemeralPacket Gen.maxPacketSize c = .ok (p, c')) :
    ∃ fs, Train Gen.maxPacketSize c.seq fs ∧ c.input = wire fs ++ c'.input ∧ p = bodies fs ∧
      c'.seq = c.seq + UInt8.ofNat fs.length := by
  have hM : 2 ^ 24 - 1 ≤ Gen.maxPacketSize := by decide
  cases h with
  | inl h => exact readPacket_sound _ hM c c' p h
  | inr h => exact readEphemeralPacket_sound _ hM c c' p h

end GaeaVerif.C11
