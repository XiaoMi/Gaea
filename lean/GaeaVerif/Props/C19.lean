import GaeaVerif.Lemmas.SessConnsInv
/-
  C19 — Backend connections are returned exactly once and never leaked.

  The model (Model/SessionConns.lean) runs an arbitrary sequence of client
  commands, disconnects and namespace reloads (`run cfg ops`) against a backend
  world whose ledger records, for every connection a pool ever handed out, how
  often it was given back (`returns`), whether it was touched after it was
  given back (`uar`) and whether it was given back while a statement was still
  in flight (`rif`).  Every operation carries its own fault script (any backend
  call may fail; a statement may time out or stream its result) and its own
  map-iteration order; the theorems quantify over all of them, for every
  configuration (keep-session or not, every kind of user, with and without
  fallback to the master).  No theorem of this file has a hypothesis on the
  faults: a statement timeout on the sharded path closes the connection too
  (fix e307c15 of the finding shard-timeout-conn-returned-in-flight).

  The theorems are consequences of one invariant (`Idle`, Lemmas/SessConnsInv):
  between two commands the connections that are out are exactly the ones the
  session holds in `txConns` / `ksConns`, one per slice.
-/
namespace GaeaVerif.C19
open GaeaVerif.SessionConns

/-- No connection is ever given back twice — for every configuration and every
    history of commands, faults, timeouts, reloads and iteration orders. -/
theorem returned_once (cfg : Cfg) (ops : List Op) :
    ∀ c ∈ (run cfg ops).w.conns, c.returns ≤ 1 := by
  intro c hc
  have h := (idle_run_all cfg ops).ledger
  obtain ⟨i, hcn⟩ := List.mem_iff_getElem?.1 hc
  by_cases hm : i ∈ (held (run cfg ops)).vals
  · obtain ⟨cn, hcn', h0⟩ := h.get hm
    rw [hcn] at hcn'; cases hcn'; omega
  · have := h.ret i c hcn hm; omega

/-- No backend call (and no close) ever reaches a connection after it was given
    back to its pool: the session never uses a connection another session may
    have been given. -/
theorem no_use_after_return (cfg : Cfg) (ops : List Op) :
    ∀ c ∈ (run cfg ops).w.conns, c.uar = false :=
  fun c hc => ((idle_run_all cfg ops).conn_flags c hc).1

/-- Between two commands the connections that are out (taken and not given
    back) are exactly those the session holds in its two maps: nothing leaks,
    nothing the session still holds was given back. -/
theorem ledger_inv (cfg : Cfg) (ops : List Op) (id : Nat) (c : Conn)
    (hc : (run cfg ops).w.conns[id]? = some c) :
    c.returns = 0 ↔ id ∈ (held (run cfg ops)).vals := by
  have h := (idle_run_all cfg ops).ledger
  refine ⟨h.mem_of_out hc, fun hm => ?_⟩
  obtain ⟨cn, hcn, h0⟩ := h.get hm
  rw [hc] at hcn; cases hcn; exact h0

/-- The session holds at most one connection per slice, and holds no connection twice. -/
theorem held_distinct (cfg : Cfg) (ops : List Op) :
    (held (run cfg ops)).vals.Nodup ∧ (held (run cfg ops)).keys.Nodup :=
  ⟨(idle_run_all cfg ops).ledger.nodupC, (idle_run_all cfg ops).ledger.nodupS⟩

/-- When the session has ended (quit, disconnect, error that closes it) it holds
    nothing and every connection it ever took was given back exactly once.
    (`ConnectionPool.Put` resets a reused connection and a closed one takes its
    transaction with it, so no backend transaction is left open.) -/
theorem end_clean (cfg : Cfg) (ops : List Op) (hcl : (run cfg ops).closed = true) :
    (run cfg ops).txConns = [] ∧ (run cfg ops).ksConns = [] ∧
    ∀ c ∈ (run cfg ops).w.conns, c.returns = 1 :=
  ⟨((idle_run_all cfg ops).clean hcl).1, ((idle_run_all cfg ops).clean hcl).2, (idle_run_all cfg ops).returned hcl⟩

/-- No connection is ever given back while one of its statements is still in
    flight, and between two commands no statement is in flight at all - for
    every configuration and every history, statement timeouts on both execution
    paths included: a timeout closes the connection before anything else happens
    to it (`executeUnshardSQLInSlice`; `executeMultipleSQLInSlice` since fix
    e307c15). -/
theorem no_return_in_flight (cfg : Cfg) (ops : List Op) :
    ∀ c ∈ (run cfg ops).w.conns, c.inflight = false ∧ c.rif = false :=
  fun c hc => let ⟨i, hi⟩ := List.mem_iff_getElem?.1 hc; (idle_run_all cfg ops).ledger.quiet rfl i c hi

/-- the history of the former known finding `shard-timeout-conn-returned-in-flight`:
    a sharded read outside a transaction, the statement on slice 1 times out -/
def inFlightOps : List Op :=
  [{ body := .qs .r [0, 1], ord := [0, 1], faults := [{ k := .x, slice := 1, mode := .t }] }]

/-- On that history the repaired code (e307c15) closes the connection of slice 1
    before it gives it back: it goes back closed, not in flight (the pinned tree
    gave it back open with the worker still waiting on it). -/
theorem timeout_conn_closed_before_return :
    ((run { ks := false, user := .w, fb := true } inFlightOps).w.conns.map fun c => (c.closed, c.returns, c.rif)) =
      [(false, 1, false), (true, 1, false)] := by
  decide +kernel

/-! Non-vacuity: the hypotheses are satisfiable on non-trivial histories. -/

/-- a two-slice transaction that loses a connection to a timeout, then commits and quits -/
def demoOps : List Op :=
  [ { body := .begin, ord := [0, 1], faults := [] },
    { body := .qs .w [0, 1], ord := [1, 0], faults := [] },
    { body := .qu .w, ord := [0, 1], faults := [{ k := .x, slice := 0, mode := .t }] },
    { body := .qu .w, ord := [0, 1], faults := [] },
    { body := .commit, ord := [0, 1], faults := [{ k := .c, slice := 0, mode := .e }] },
    { body := .quit, ord := [0, 1], faults := [] } ]

example : (run { ks := false, user := .w, fb := true } demoOps).closed = true := by decide +kernel
example : ((run { ks := false, user := .w, fb := true } demoOps).w.conns.map (·.returns)) = [1, 1] := by decide +kernel
/-- the timeout of the third command closed the session (the transaction lost its connection):
    both connections of the transaction were given back once, nothing else was ever taken -/
example : (run { ks := false, user := .w, fb := true } (demoOps.take 3)).closed = true := by decide +kernel
example : ((run { ks := false, user := .w, fb := true } demoOps).w.conns.map (·.inflight)) = [false, false] := by decide +kernel

/-- a statement answered with a further result pending and no rows pending
    (SERVER_MORE_RESULTS_EXISTS: a stored procedure call): the connection stays
    with the response writer, which reads the result from it, and is given back
    once, afterwards (the seeded change C19-3 dropped the `MoreResultsExist` half
    of `recycleBackendConn`'s guard: returned first, read afterwards, returned again) -/
def moreResultsOps : List Op :=
  [{ body := .qu .r, ord := [0, 1], faults := [{ k := .x, slice := 0, mode := .mres }] }]

example : (run { ks := false, user := .w, fb := true } moreResultsOps).w.trace.reverse =
    [.get true 0 (some 0), .call .U 0 .ok, .call .X 0 .mres, .call .N 0 .ok, .recycle 0] := by decide +kernel
example : ((run { ks := false, user := .w, fb := true } moreResultsOps).w.conns.map
    fun c => (c.returns, c.uar, c.moreRes, c.closed)) = [(1, false, false, false)] := by decide +kernel

end GaeaVerif.C19
