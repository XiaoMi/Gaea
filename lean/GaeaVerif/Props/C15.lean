import GaeaVerif.Lemmas.StmtRelex
import GaeaVerif.Lemmas.StmtFloat
import GaeaVerif.Props.C12
import GaeaVerif.Props.C14
/-
  C15 — Binding parameters preserves their values and cannot change the statement.

  Theorems about `Model/StmtBind.lean` (bindStmtArgs, util.ItoString, escapeSQL
  as repaired, Stmt.GetRewriteSQL; tied to the code by `gvh run C15`) against
  the lexical grammar `Model/StmtLex.lean` in both sql_modes (`nbe` = the
  session has set NO_BACKSLASH_ESCAPES):

    string_param_roundtrip    every byte string, both modes, whatever follows: the rendered
                              parameter is read as exactly one string literal that denotes
                              exactly the bound bytes, and lexing continues right behind it
    int_param_roundtrip       every integer: `[-]digits` denoting exactly that integer
    null_param                NULL
    bind_string_value, bind_int_value
                              the bound value is the value in the packet (length-encoded
                              bytes; little-endian two's complement / unsigned of each width)
    C15_rewrite_structure     both modes, every template and all fitting arguments: the
                              statement produced is, token by token, the template with each
                              placeholder replaced by one literal of its argument
    C15_default_mode, C15_no_backslash_escapes_mode
                              the same, from `CalcParams`' own items
    argFits_float, argFits_all, C15_rewrite_structure_full (+ C15_default_mode_full, C15_no_backslash_escapes_mode_full)
                              every float is rendered as a bare word (theorems about
                              `Model/StmtGoFloat.lean`, the model of Go's `%v`), so `ArgFits` holds of
                              every argument and the structure theorem needs no hypothesis about the
                              arguments (`FitsShape`: one argument per placeholder, no glue)
    float_param_numeric_literal, bound_float_finite
                              a finite float is rendered as `[-] digits [. digits] [e ± digits]`, and
                              `bindStmtArgs` only ever binds finite doubles (NaN / ±Inf refused)
    float_param_within_half_ulp, float_param_zero, float_param_sign
                              the literal denotes a decimal inside the rounding interval of the bound
                              double (between the midpoints to its neighbours) — proved on the model
                              of Go's shortest formatting, digit selection and `%e` / `%f` layout included
    ReadsNearestDouble        named assumption (not proved; the server is not modelled): the server
                              converts a numeric literal to the nearest double, ties to even
    float_param_roundtrip     under that assumption the literal is read back as exactly the bound double
-/
namespace GaeaVerif.C15
open GaeaVerif GaeaVerif.StmtLex GaeaVerif.StmtBind GaeaVerif.StmtCalcParams

/-- **string_param_roundtrip.**  Wherever the lexer stands in SQL (inside or
    outside `/*! */`), with either sql_mode: the rendering of a byte-string
    parameter (strings, blobs, decimals, dates, times …) is read as exactly one
    string literal, which denotes exactly the bound bytes, and lexing goes on
    right behind it as if nothing had happened — for every value, whatever
    follows (that is not a quote glued to it). -/
theorem string_param_roundtrip (nbe : Bool) (b rest : Bytes) (hrest : rest.head? ≠ some cSQuote)
    (n : Nat) (v : Bool) :
    lexF nbe (n + 1) v (renderArg nbe (.bytes b) ++ rest) =
        (lexF nbe n v rest).map (Tok.str cSQuote (escapeSQL nbe b) :: ·)
      ∧ strValue nbe cSQuote (escapeSQL nbe b) = b :=
  lex_rendered_string nbe b rest hrest n v

/-! ### NULL and integers -/

theorem null_param (nbe : Bool) : renderArg nbe .null = [0x4e, 0x55, 0x4c, 0x4c] := rfl

/-- `StmtFloat.IsDig` by definition, as `digitsVal` below is `StmtFloat.digVal`: `natDigits_spec` is stated on those. -/
def isDigit (c : UInt8) : Prop := 0x30 ≤ c ∧ c ≤ 0x39

/-- Value of a string of decimal digits. -/
def digitsVal : Bytes → Nat := fun bs => bs.foldl (fun a c => a * 10 + (c.toNat - 48)) 0

/-- Value of `[-]digits`. -/
def intVal : Bytes → Int
  | 0x2d :: ds => -(digitsVal ds : Int)
  | ds => (digitsVal ds : Int)

/-- **int_param_roundtrip.**  An integer parameter of any width and signedness
    is rendered as an optional minus sign and decimal digits — no byte that
    could open a literal, a comment or a placeholder — and that numeral denotes
    exactly the bound integer. -/
theorem int_param_roundtrip (nbe : Bool) (v : Int) :
    intVal (renderArg nbe (.int v)) = v ∧
      (∀ c ∈ renderArg nbe (.int v), isDigit c ∨ c = 0x2d) := by
  obtain ⟨⟨h3, h2⟩, h1⟩ := natDigits_spec v.natAbs
  show intVal (fmtInt v) = v ∧ ∀ c ∈ fmtInt v, isDigit c ∨ c = 0x2d
  unfold fmtInt
  split
  · exact ⟨by show -(digitsVal _ : Int) = v; rw [show digitsVal _ = _ from h1]; omega,
      fun c hc => (List.mem_cons.mp hc).elim .inr (fun hc => .inl (h2 c hc))⟩
  · refine ⟨?_, fun c hc => .inl (h2 c hc)⟩
    -- the first digit is not a minus sign, so the numeral is read as unsigned
    obtain ⟨c, ds, hd⟩ := List.exists_cons_of_ne_nil h3
    have hc : c ≠ 0x2d := fun e => absurd (e ▸ h2 c (by simp [hd])).1 (by decide)
    have : intVal (c :: ds) = (digitsVal (c :: ds) : Int) := by
      unfold intVal
      split
      · rename_i heq; exact absurd (List.cons.inj heq).1 hc
      · rfl
    rw [hd, this, ← hd, show digitsVal _ = _ from h1]; omega

/-! ### decoding the packet: the bound value is the value the client sent -/

/-- A string / blob / decimal / … parameter sent as a length-encoded string is
    bound as exactly those bytes (any length-encoded string, anywhere in the
    values area). -/
theorem bind_string_value (tp : UInt8) (htp : isStringType tp = true) (u : Bool) (pre suf b : Bytes)
    (hb : b.length < 2 ^ 63) :
    bindOne tp u (pre ++ LenEnc.appendLenEncStringBytes b ++ suf) pre.length =
      .ok (.bytes b, (pre.length : Int) + LenEnc.lenEncIntSize b.length + b.length) := by
  have hlen : ¬ (((pre ++ LenEnc.appendLenEncStringBytes b ++ suf).length : Int) < (pre.length : Int) + 1) := by
    have : (LenEnc.appendLenEncStringBytes b).length ≥ 1 := by
      unfold LenEnc.appendLenEncStringBytes
      rw [List.length_append, C12.appendLenEncInt_length]
      unfold LenEnc.lenEncIntSize; repeat' split <;> omega
    simp only [List.length_append]; omega
  -- no other branch of the `switch` takes a string type
  have ne : ∀ x, isStringType x = false → tp ≠ x := fun x hx e => by rw [e, hx] at htp; cases htp
  unfold bindOne
  rw [if_neg (ne 6 rfl), if_neg (ne 1 rfl), if_neg (fun h => h.elim (ne 2 rfl) (ne 13 rfl)),
    if_neg (fun h => h.elim (ne 9 rfl) (ne 3 rfl)), if_neg (ne 8 rfl), if_neg (ne 4 rfl), if_neg (ne 5 rfl),
    if_neg (fun h => h.elim (ne 10 rfl) (ne 14 rfl)), if_neg (ne 11 rfl),
    if_neg (fun h => h.elim (ne 7 rfl) (ne 12 rfl)), if_pos htp, if_neg hlen,
    C12.lenenc_str_roundtrip pre suf b hb]
  rfl

/-- A fixed-width integer parameter is bound as the integer whose `w` little-endian
    bytes the client sent: read unsigned when the unsigned flag is set, as a
    two's-complement number otherwise. -/
theorem bind_int_value (w : Nat) (u : Bool) (pre suf : Bytes) (x : Nat) (hx : x < 256 ^ w) :
    bindInt (pre ++ leBytes x w ++ suf) pre.length w u =
      .ok (if u then .int x else .int (if x < 2 ^ (8 * w - 1) then (x : Int) else (x : Int) - 2 ^ (8 * w)),
           (pre.length : Int) + w) := by
  unfold bindInt
  have hl := leBytes_length x w
  rw [if_neg (by simp only [List.length_append, hl]; omega)]
  have := goSlice_append pre (leBytes x w) suf
  rw [hl] at this
  rw [this]
  simp only [ofR, bind, R.bind, signedLE, leNat_leBytes w x hx, hl]

/-! ### integers and NULL are bare words -/

open StmtFloat in
theorem argFits_int (nbe : Bool) (v : Int) : ArgFits nbe (.int v) := by
  have h : UNumLit (natDigits v.natAbs) :=
    ⟨natDigits v.natAbs, [], [], by simp, (natDigits_spec _).1, .inl rfl, .inl rfl⟩
  refine numLit_word (fmtInt v) ?_
  unfold fmtInt
  split
  · exact .inr ⟨_, rfl, h⟩
  · exact .inl h

theorem argFits_null (nbe : Bool) : ArgFits nbe .null := by
  show Word [0x4e, 0x55, 0x4c, 0x4c]
  exact ⟨by simp, Or.inl (by decide), Or.inl (by decide), Or.inl (by decide), Or.inl (by decide), trivial⟩

theorem argFits_bytes (nbe : Bool) (b : Bytes) : ArgFits nbe (.bytes b) := trivial

/-! ### the rewritten statement, lexical element by lexical element -/

theorem cutItems_pieces (toks : List Tok) : ∀ (pre cur : Bytes),
    cutItems (pre ++ cur ++ rawOf toks) pre.length (paramOffsets (pre.length + cur.length) toks) = pieces cur toks :=
  StmtLex.cutItems_pieces toks

/-- **C15_rewrite_structure.**  In either sql_mode: let `toks` be the lexical
    elements of the template and let the arguments fit it (`Fits`: one per
    placeholder; each a byte string — every string, blob, decimal, date and time
    parameter — or rendered as a bare word — NULL and every integer,
    `argFits_null`, `argFits_int`; floats by hypothesis —; no placeholder glued
    to a `'…'` literal or to another placeholder).  Then the statement
    `GetRewriteSQL` produces is, lexical element by lexical element, the
    template with each placeholder replaced by the literal of its argument
    (`substToks`): one `'…'` string literal whose value is exactly the bound
    bytes (`strValue_escape`), or the bare word.  No element of the template
    changes, none appears, none disappears: no value can alter the statement. -/
theorem C15_rewrite_structure (nbe : Bool) (text : Bytes) (toks : List Tok) (args : List Arg)
    (hl : lex nbe text = some toks) (hfit : Fits nbe toks args) :
    getRewriteSQL nbe (cutItems text 0 (paramOffsets 0 toks)) args = .ok (rawOf (substToks nbe toks args)) ∧
    lex nbe (rawOf (substToks nbe toks args)) = some (substToks nbe toks args) := by
  have hraw := lex_raw nbe text toks hl
  have hne := lexF_raw_ne_nil _ _ _ _ _ hl
  have hq := lexF_raw_ne_qmark _ _ _ _ _ hl
  constructor
  · have h1 := cutItems_pieces toks [] []
    simp only [List.nil_append, List.length_nil, Nat.add_zero, hraw] at h1
    rw [h1]
    have := rewrite_pieces nbe args toks [] 0 (by simpa using hfit) hne hq (by decide)
    simpa [getRewriteSQL] using this
  · have h := lexes_subst (Lexes.of_lexF hl) args hfit
    exact h.lex

/-- Every string literal that stands for an argument denotes exactly the bound bytes. -/
theorem litToks_value (nbe : Bool) (b : Bytes) :
    litToks nbe (.bytes b) = [Tok.str cSQuote (escapeSQL nbe b)] ∧ strValue nbe cSQuote (escapeSQL nbe b) = b :=
  ⟨rfl, strValue_escape nbe b⟩

/-- In the default sql_mode, from `CalcParams`' own result (C14): the statement
    executed for a template and fitting arguments is the template with each
    placeholder replaced by the literal of its argument, and nothing else. -/
theorem C15_default_mode (text : Bytes) (toks : List Tok) (args : List Arg)
    (hl : lex false text = some toks) (hfit : Fits false toks args) :
    ∃ n offs items, calcParams text = .ok (n, offs, items) ∧
      getRewriteSQL false items args = .ok (rawOf (substToks false toks args)) ∧
      lex false (rawOf (substToks false toks args)) = some (substToks false toks args) := by
  exact ⟨_, _, _, C14.calcParams_of_lex hl, C15_rewrite_structure false text toks args hl hfit⟩

/-- With NO_BACKSLASH_ESCAPES set, for templates that read the same in both
    modes (`CalcParams` itself always reads the template in the default mode;
    a template without a backslash inside a literal is such a template). -/
theorem C15_no_backslash_escapes_mode (text : Bytes) (toks : List Tok) (args : List Arg)
    (hl : lex true text = some toks) (hsame : lex false text = lex true text) (hfit : Fits true toks args) :
    ∃ n offs items, calcParams text = .ok (n, offs, items) ∧
      getRewriteSQL true items args = .ok (rawOf (substToks true toks args)) ∧
      lex true (rawOf (substToks true toks args)) = some (substToks true toks args) := by
  exact ⟨_, _, _, C14.calcParams_of_lex (hsame.trans hl), C15_rewrite_structure true text toks args hl hfit⟩

/-! ### the statements are not vacuous; the probed defect of the pinned tree -/

/-- `\' OR 1=1 -- ` — the value of the probed injection. -/
def inj : Bytes := [0x5c, 0x27, 0x20, 0x4f, 0x52, 0x20, 0x31, 0x3d, 0x31, 0x20, 0x2d, 0x2d, 0x20]

/-- `?,?` lexes to placeholder, comma, placeholder; any byte string and any
    integer fit it: the hypotheses of `C15_rewrite_structure` are satisfiable. -/
example : lex true [0x3f, 0x2c, 0x3f] = some [.param, .other 0x2c, .param] := by decide +kernel
example (b : Bytes) (v : Int) : Fits true [.param, .other 0x2c, .param] [.bytes b, .int v] :=
  ⟨trivial, by simp [isQ], argFits_int true v, by simp, trivial⟩

/-- With NO_BACKSLASH_ESCAPES the value is rendered `'\'' OR 1=1 -- '`, without it `'\\'' OR 1=1 -- '`: one
    literal each, denoting the value. -/
example : renderArg true (.bytes inj) = [0x27, 0x5c, 0x27, 0x27, 0x20, 0x4f, 0x52, 0x20, 0x31, 0x3d, 0x31, 0x20, 0x2d, 0x2d, 0x20, 0x27] := by decide +kernel
example : renderArg false (.bytes inj) = [0x27, 0x5c, 0x5c, 0x27, 0x27, 0x20, 0x4f, 0x52, 0x20, 0x31, 0x3d, 0x31, 0x20, 0x2d, 0x2d, 0x20, 0x27] := by decide +kernel
example : lex true (renderArg true (.bytes inj)) = some [.str cSQuote (escapeSQL true inj)] := by decide +kernel
example : lex false (renderArg false (.bytes inj)) = some [.str cSQuote (escapeSQL false inj)] := by decide +kernel

/-- What the pinned `escapeSQL` did (a backslash before every backslash and quote, in every mode). -/
def pinnedEscape : Bytes → Bytes
  | [] => []
  | c :: rest => if c = cBackslash ∨ c = cSQuote then cBackslash :: c :: pinnedEscape rest else c :: pinnedEscape rest

/-- **Witness of the repaired defect.**  Under NO_BACKSLASH_ESCAPES the pinned
    rendering `'\\\' OR 1=1 -- '` is not one literal: it is the literal `\\\` followed by
    ` OR 1=1 ` and a comment. -/
theorem pinned_escape_witness :
    lex true (cSQuote :: pinnedEscape inj ++ [cSQuote]) =
      some [.str cSQuote [0x5c, 0x5c, 0x5c], .other 0x20, .other 0x4f, .other 0x52, .other 0x20, .other 0x31,
            .other 0x3d, .other 0x31, .other 0x20, .lineComment [0x2d, 0x2d, 0x20, 0x27]] := by decide +kernel

/-- Integers of every width: `bind_int_value` and `int_param_roundtrip` on -128 sent as TINYINT. -/
example : bindInt [0x80] 0 1 false = .ok (.int (-128), 1) := by decide +kernel
example : renderArg false (.int (-128)) = [0x2d, 0x31, 0x32, 0x38] := by decide +kernel

/-! ### float parameters -/

open GaeaVerif.StmtGoFloat GaeaVerif.StmtFloat in
/-- **float_param_numeric_literal.**  A finite FLOAT / DOUBLE argument is
    rendered as a numeric literal — an optional minus sign, digits, optionally
    `.` and digits, optionally `e`, a sign and digits; it starts with a digit, or
    with `-` and a digit (so it is none of `NaN`, `+Inf`, `-Inf`, which the pinned
    code wrote into the statement). -/
theorem float_param_numeric_literal (nbe dbl : Bool) (bits : Nat) (hf : finite dbl bits = true) :
    NumLit (renderArg nbe (.float dbl bits)) ∧
    ((∃ c r, renderArg nbe (.float dbl bits) = c :: r ∧ IsDig c) ∨
     (∃ c r, renderArg nbe (.float dbl bits) = 0x2d :: c :: r ∧ IsDig c)) :=
  ⟨fmtV_numLit dbl bits hf, numLit_head _ (fmtV_numLit dbl bits hf)⟩

open GaeaVerif.StmtGoFloat GaeaVerif.StmtFloat in
/-- Every float argument is rendered as a bare word: what `C15_rewrite_structure`
    assumes of floats (`ArgFits`) holds. -/
theorem argFits_float (nbe dbl : Bool) (bits : Nat) : ArgFits nbe (.float dbl bits) :=
  fmtV_word dbl bits

theorem argFits_all (nbe : Bool) : ∀ a : Arg, ArgFits nbe a
  | .null => argFits_null nbe
  | .int v => argFits_int nbe v
  | .float d bits => argFits_float nbe d bits
  | .bytes b => argFits_bytes nbe b

/-- The template and the argument list fit in shape: one argument per
    placeholder, no placeholder glued to a `'…'` literal or to another
    placeholder.  Nothing is asked of the arguments themselves. -/
def FitsShape : List Tok → List Arg → Prop
  | [], _ => True
  | t :: ts, as =>
    match t, as with
    | .param, [] => False
    | .param, _ :: as' => ts.head?.map isQ ≠ some true ∧ FitsShape ts as'
    | .str q _, _ => (q = cSQuote → ts.head? ≠ some .param) ∧ FitsShape ts as
    | _, _ => FitsShape ts as

theorem fits_of_shape (nbe : Bool) : ∀ (toks : List Tok) (args : List Arg), FitsShape toks args → Fits nbe toks args
  | [], _, _ => trivial
  | t :: ts, as, h => by
    cases t with
    | param =>
      cases as with
      | nil => exact h
      | cons a as' => exact ⟨argFits_all nbe a, h.1, fits_of_shape nbe ts as' h.2⟩
    | str q s => exact ⟨h.1, fits_of_shape nbe ts as h.2⟩
    | _ => exact fits_of_shape nbe ts as h

/-- **C15_rewrite_structure_full.**  `C15_rewrite_structure` without any
    hypothesis about the arguments: in either sql_mode, for every template and
    every argument list of every type (NULL, integers, floats, byte strings)
    with one argument per placeholder — no placeholder glued to a `'…'` literal
    or to another placeholder —, the statement `GetRewriteSQL` produces is,
    lexical element by lexical element, the template with each placeholder
    replaced by the literal of its argument. -/
theorem C15_rewrite_structure_full (nbe : Bool) (text : Bytes) (toks : List Tok) (args : List Arg)
    (hl : lex nbe text = some toks) (hfit : FitsShape toks args) :
    getRewriteSQL nbe (cutItems text 0 (paramOffsets 0 toks)) args = .ok (rawOf (substToks nbe toks args)) ∧
    lex nbe (rawOf (substToks nbe toks args)) = some (substToks nbe toks args) :=
  C15_rewrite_structure nbe text toks args hl (fits_of_shape nbe toks args hfit)

/-- `C15_default_mode` without a hypothesis about the arguments. -/
theorem C15_default_mode_full (text : Bytes) (toks : List Tok) (args : List Arg)
    (hl : lex false text = some toks) (hfit : FitsShape toks args) :
    ∃ n offs items, calcParams text = .ok (n, offs, items) ∧
      getRewriteSQL false items args = .ok (rawOf (substToks false toks args)) ∧
      lex false (rawOf (substToks false toks args)) = some (substToks false toks args) :=
  C15_default_mode text toks args hl (fits_of_shape false toks args hfit)

/-- `C15_no_backslash_escapes_mode` without a hypothesis about the arguments. -/
theorem C15_no_backslash_escapes_mode_full (text : Bytes) (toks : List Tok) (args : List Arg)
    (hl : lex true text = some toks) (hsame : lex false text = lex true text) (hfit : FitsShape toks args) :
    ∃ n offs items, calcParams text = .ok (n, offs, items) ∧
      getRewriteSQL true items args = .ok (rawOf (substToks true toks args)) ∧
      lex true (rawOf (substToks true toks args)) = some (substToks true toks args) :=
  C15_no_backslash_escapes_mode text toks args hl hsame (fits_of_shape true toks args hfit)

/-- every template/argument pair of the earlier example fits in shape too -/
example (b : Bytes) (f : Nat) : FitsShape [.param, .other 0x2c, .param] [.bytes b, .float true f] :=
  ⟨by simp [isQ], by simp, trivial⟩

/-- `?,?` with the double 0.1 and the string `a'b`: what `GetRewriteSQL` writes -/
example : getRewriteSQL false (cutItems [0x3f, 0x2c, 0x3f] 0 (paramOffsets 0 [.param, .other 0x2c, .param]))
    [.float true 0x3FB999999999999A, .bytes [0x61, 0x27, 0x62]] =
    .ok [0x30, 0x2e, 0x31, 0x2c, 0x27, 0x61, 0x27, 0x27, 0x62, 0x27] := by decide +kernel

/-! ### after the repair no NaN or infinity is ever bound -/

theorem finite_mk (sign e frac : Nat) (he : e < 2047) (hf : frac < 2 ^ 52) :
    StmtGoFloat.finite true (sign * 2 ^ 63 + e * 2 ^ 52 + frac) = true := by
  have : sign * 2 ^ 63 + e * 2 ^ 52 + frac = 2 ^ 52 * (e + 2048 * sign) + frac := by omega
  simp only [StmtGoFloat.finite, StmtGoFloat.expField, StmtGoFloat.mantbits, StmtGoFloat.expbits, if_true,
    decide_eq_true_eq]
  rw [this, Nat.mul_add_div (by decide), Nat.div_eq_of_lt hf, Nat.add_zero, Nat.add_mul_mod_self_left,
    Nat.mod_eq_of_lt (by omega)]
  omega

theorem f32to64_finite (bits b64 : Nat) (h : f32to64 bits = some b64) : StmtGoFloat.finite true b64 = true := by
  unfold f32to64 at h
  simp only at h
  have he : bits / 2 ^ 23 % 256 < 256 := Nat.mod_lt _ (by decide)
  have hm : bits % 2 ^ 23 < 2 ^ 23 := Nat.mod_lt _ (by decide)
  generalize bits / 2 ^ 31 % 2 = sign at h
  generalize bits / 2 ^ 23 % 256 = e at h he
  generalize bits % 2 ^ 23 = m at h hm
  split at h
  · cases h
  · split at h
    · split at h
      · cases h; simpa using finite_mk sign 0 0 (by decide) (by decide)
      · rename_i hm0
        cases h
        -- subnormal float32: m = 2^k + r with r < 2^k, k < 23
        have hk1 : 2 ^ m.log2 ≤ m := Nat.log2_self_le hm0
        have hk2 : m < 2 ^ (m.log2 + 1) := Nat.lt_log2_self
        have hk : m.log2 < 23 := by
          rcases Nat.lt_or_ge m.log2 23 with h | h
          · exact h
          · have : 2 ^ 23 ≤ 2 ^ m.log2 := Nat.pow_le_pow_right (by decide) h
            omega
        generalize m.log2 = k at hk1 hk2 hk
        refine finite_mk sign _ _ (by omega) ?_
        have h1 : m - 2 ^ k < 2 ^ k := by rw [Nat.pow_succ] at hk2; omega
        have h2 := Nat.mul_lt_mul_of_pos_right h1 (Nat.pos_of_ne_zero (by simp) : 0 < 2 ^ (52 - k))
        rwa [← Nat.pow_add, show k + (52 - k) = 52 by omega] at h2
    · cases h
      exact finite_mk sign _ _ (by omega) (by omega)

/-- What `bindStmtArgs` may store for a parameter. -/
def Bound : Arg → Prop
  | .float d bits => d = true ∧ StmtGoFloat.finite true bits = true
  | _ => True

theorem bindInt_bound {pv : Bytes} {pos : Int} {w : Nat} {u : Bool} {r : Arg × Int}
    (h : bindInt pv pos w u = .ok r) : Bound r.1 := by
  unfold bindInt at h
  split at h
  · cases h
  · obtain ⟨b, _, hb⟩ := R.bind_eq_ok (ofR_eq_ok h)
    cases hb; dsimp only; split <;> trivial

theorem bindTemporal_bound {f : Nat → Bytes → O Bytes} {pv : Bytes} {pos : Int} {r : Arg × Int}
    (h : bindTemporal f pv pos = .ok r) : Bound r.1 := by
  unfold bindTemporal at h
  split at h
  · cases h
  · obtain ⟨nb, _, h⟩ := O.bind_eq_ok h
    dsimp only at h
    split at h
    · cases h
    · obtain ⟨d, _, h⟩ := O.bind_eq_ok h
      obtain ⟨t, _, h⟩ := O.bind_eq_ok h
      cases h; trivial

theorem bindOne_bound (tp : UInt8) (u : Bool) (pv : Bytes) (pos : Int) :
    ∀ r, bindOne tp u pv pos = .ok r → Bound r.1 := by
  fun_cases bindOne tp u pv pos <;> intro r h
  case case1 => cases h; trivial
  case case7 =>
    -- FLOAT: widened, unless it is a NaN or an infinity
    obtain ⟨b, _, h⟩ := O.bind_eq_ok h
    split at h
    · cases h; exact ⟨rfl, f32to64_finite _ _ ‹_›⟩
    · cases h
  case case9 =>
    -- DOUBLE
    obtain ⟨b, _, h⟩ := O.bind_eq_ok h
    split at h
    · cases h
    · cases h
      exact ⟨rfl, by
        simpa [StmtGoFloat.finite, StmtGoFloat.expField, StmtGoFloat.mantbits, StmtGoFloat.expbits] using ‹¬ _›⟩
  case case14 =>
    obtain ⟨⟨v, p, isNull⟩, _, h⟩ := O.bind_eq_ok h
    cases h; dsimp only; split <;> trivial
  case case2 | case3 | case4 | case5 => exact bindInt_bound h
  case case10 | case11 | case12 => exact bindTemporal_bound h
  all_goals cases h

/-- **bound_float_finite.**  Whatever the packet, the value `bindStmtArgs`
    stores for a FLOAT or DOUBLE parameter is a finite float64: NaN and the
    infinities are refused (fix aa6cf9f), and a FLOAT is widened to the double
    it denotes.  So `float_param_numeric_literal` applies to every float
    argument a client can bind. -/
theorem bound_float_finite (tp : UInt8) (u : Bool) (pv : Bytes) (pos : Int) (d : Bool) (bits : Nat) (p : Int)
    (h : bindOne tp u pv pos = .ok (.float d bits, p)) :
    d = true ∧ StmtGoFloat.finite true bits = true :=
  bindOne_bound tp u pv pos _ h

/-- the hypothesis of `bound_float_finite` is satisfiable: the DOUBLE 0.1, and
    a FLOAT widened to the double it denotes; an infinity is refused -/
example : bindOne 5 false [0x9a, 0x99, 0x99, 0x99, 0x99, 0x99, 0xb9, 0x3f] 0 = .ok (.float true 0x3FB999999999999A, 8) := by
  decide +kernel
example : bindOne 4 false [0xcd, 0xcc, 0xcc, 0x3d] 0 = .ok (.float true 0x3FB99999A0000000, 4) := by decide +kernel
example : bindOne 5 false [0, 0, 0, 0, 0, 0, 0xf0, 0x7f] 0 = .err .badFloat := by decide +kernel

/-! ### the value of a float parameter -/

open GaeaVerif.StmtGoFloat GaeaVerif.StmtFloat in
/-- **float_param_within_half_ulp.**  The literal written for a finite
    non-zero float argument is its sign and a numeric literal that denotes a
    decimal `M × 10^E` (`readUNum`) lying between the midpoints to the two
    neighbouring floats, a midpoint itself only when the float's mantissa is
    even (`WithinHalfUlp`): exactly the decimals that rounding to nearest, ties
    to even, maps back to this float. -/
theorem float_param_within_half_ulp (nbe dbl : Bool) (bits : Nat) (hf : finite dbl bits = true)
    (hm : (mantExp dbl bits).1 ≠ 0) :
    renderArg nbe (.float dbl bits) = (if negative dbl bits then [0x2d] else []) ++ fmtMagnitude dbl bits ∧
    ∃ M E, readUNum (fmtMagnitude dbl bits) = some (M, E) ∧ WithinHalfUlp dbl bits M E := by
  refine ⟨?_, float_literal_within_half_ulp dbl bits hm⟩
  show fmtV dbl bits = _
  unfold fmtV; rw [if_pos hf]

open GaeaVerif.StmtGoFloat in
/-- … and a zero is written `0` or `-0`. -/
theorem float_param_zero (nbe dbl : Bool) (bits : Nat) (hf : finite dbl bits = true)
    (hm : (mantExp dbl bits).1 = 0) :
    renderArg nbe (.float dbl bits) = (if negative dbl bits then [0x2d] else []) ++ [0x30] := by
  show fmtV dbl bits = _
  unfold fmtV fmtMagnitude; rw [if_pos hf, if_pos hm]

open GaeaVerif.StmtGoFloat GaeaVerif.StmtFloat in
/-- **Named assumption `ReadsNearestDouble`** (the `float_roundtrip` assumption
    of DESIGN.md; not proved — the server's reader of numeric literals is not
    part of the model): `read`, the function from the text of an unsigned
    numeric literal to the bits of the double the MySQL server takes it for,
    rounds correctly.  Whenever the text denotes the decimal `M × 10^E`
    (`readUNum`) and that decimal lies inside the rounding interval of a finite
    non-zero double (`WithinHalfUlp`: between the midpoints to its neighbours, a
    midpoint only for an even mantissa), the server reads that double.  This is
    IEEE 754 round-to-nearest-even conversion, which MySQL's `my_strtod`
    implements.  (The intervals of different doubles do not overlap — neighbours
    share a midpoint and differ in the parity of their mantissa — so the demand
    can be met; that is argued here, not proved.) -/
def ReadsNearestDouble (read : Bytes → Option Nat) : Prop :=
  ∀ (text : Bytes) (M : Nat) (E : Int) (bits : Nat),
    bits < 2 ^ 63 → finite true bits = true → (mantExp true bits).1 ≠ 0 →
    readUNum text = some (M, E) → WithinHalfUlp true bits M E → read text = some bits

open GaeaVerif.StmtGoFloat GaeaVerif.StmtFloat in
/-- **float_param_roundtrip** (under the named assumption): a server that
    converts numeric literals with correct rounding reads the literal of every
    finite non-zero double argument back as exactly that double — the magnitude
    from the digits, the sign from the `-` in front (`float_param_within_half_ulp`).
    Together with `bound_float_finite` (every bound FLOAT / DOUBLE is such a
    double, or a zero: `float_param_zero`) this is the value half of C15 for
    floats; the structure half is `C15_rewrite_structure_full`. -/
theorem float_param_roundtrip (read : Bytes → Option Nat) (hread : ReadsNearestDouble read)
    (bits : Nat) (hb : bits < 2 ^ 63) (hf : finite true bits = true) (hm : (mantExp true bits).1 ≠ 0) :
    read (fmtMagnitude true bits) = some bits := by
  obtain ⟨M, E, h1, h2⟩ := float_literal_within_half_ulp true bits hm
  exact hread _ M E bits hb hf hm h1 h2

open GaeaVerif.StmtGoFloat GaeaVerif.StmtFloat in
/-- The magnitude printed does not depend on the sign bit: a negative double is
    `-` followed by the literal of its absolute value. -/
theorem float_param_sign (bits : Nat) (hb : bits < 2 ^ 63) :
    fmtMagnitude true (bits + 2 ^ 63) = fmtMagnitude true bits ∧
    negative true (bits + 2 ^ 63) = true ∧ negative true bits = false := by
  -- the sign bit lies above the exponent and fraction fields: 2^63 = 2^11 * 2^52
  have e63 : (2 : Nat) ^ 63 = 2 ^ 11 * 2 ^ 52 := by decide
  have he : expField true (bits + 2 ^ 63) = expField true bits := by
    simp only [expField, mantbits, expbits, if_true]
    rw [e63, Nat.add_mul_div_right _ _ (by decide), Nat.add_mod_right]
  have hfr : fracField true (bits + 2 ^ 63) = fracField true bits := by
    simp only [fracField, mantbits, if_true]
    rw [e63, Nat.add_mul_mod_self_right]
  refine ⟨?_, ?_, ?_⟩
  · have hme : mantExp true (bits + 2 ^ 63) = mantExp true bits := by unfold mantExp; rw [he, hfr]
    unfold fmtMagnitude shortestOf; rw [hme]
  · simp only [negative, mantbits, expbits, if_true, decide_eq_true_eq]
    rw [Nat.add_div_right _ (by decide), Nat.div_eq_of_lt hb]
  · simp only [negative, mantbits, expbits, if_true, decide_eq_false_iff_not]
    rw [Nat.div_eq_of_lt hb]; decide

section FloatExamples
open GaeaVerif.StmtGoFloat GaeaVerif.StmtFloat

/-- 0.1, 1.5, -1e+20, 5e-324 (the smallest subnormal) and the largest double:
    what is written, and what `readUNum` takes it for -/
example : fmtV true 0x3FB999999999999A = [0x30, 0x2e, 0x31] ∧ readUNum [0x30, 0x2e, 0x31] = some (1, -1) := by decide +kernel
example : fmtV true 0x3FF8000000000000 = [0x31, 0x2e, 0x35] := by decide +kernel
example : fmtV true 0xC415AF1D78B58C40 = [0x2d, 0x31, 0x65, 0x2b, 0x32, 0x30] ∧
    readUNum [0x31, 0x65, 0x2b, 0x32, 0x30] = some (1, 20) := by decide +kernel
set_option maxRecDepth 100000 in
example : fmtV true 1 = [0x35, 0x65, 0x2d, 0x33, 0x32, 0x34] ∧
    readUNum [0x35, 0x65, 0x2d, 0x33, 0x32, 0x34] = some (5, -324) := by decide +kernel

instance (lo up : Nat) (inc : Bool) (x : Nat) : Decidable (InB lo up inc x) := by unfold InB; infer_instance
instance (dbl : Bool) (bits M : Nat) (E : Int) : Decidable (WithinHalfUlp dbl bits M E) := by
  unfold WithinHalfUlp; infer_instance

/-- `WithinHalfUlp` says something: 0.1 = 1 × 10^-1 lies in the rounding interval
    of the double 0x3FB999999999999A, and in that of neither neighbour; 0.3 does
    not lie in the interval of the double nearest to 0.1 + 0.2 -/
example : WithinHalfUlp true 0x3FB999999999999A 1 (-1) ∧ ¬ WithinHalfUlp true 0x3FB9999999999999 1 (-1) ∧
    ¬ WithinHalfUlp true 0x3FB999999999999B 1 (-1) ∧ ¬ WithinHalfUlp true 0x3FD3333333333334 3 (-1) := by decide +kernel

/-- the hypotheses of `float_param_roundtrip` are satisfiable -/
example : (0x3FB999999999999A : Nat) < 2 ^ 63 ∧ finite true 0x3FB999999999999A = true ∧
    (mantExp true 0x3FB999999999999A).1 ≠ 0 := by decide +kernel

/-- NaN and the infinities are words, not numbers: the reason they are refused when bound -/
example : fmtV true 0x7FF8000000000000 = [0x4e, 0x61, 0x4e] ∧ finite true 0x7FF8000000000000 = false ∧
    readUNum [0x4e, 0x61, 0x4e] = none := by decide +kernel

end FloatExamples

end GaeaVerif.C15
