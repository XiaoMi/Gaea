import GaeaVerif.Model.GlobalStmt
import GaeaVerif.Lemmas.ShardLayoutLemmas
import GaeaVerif.Lemmas.GlobalTreeLemmas
/-
  C04 — Global tables: writes reach every copy, reads touch one copy, database
  names are rewritten to the physical database of the copy.
  Theorems about `Model/GlobalStmt.lean` and the layout part of
  `Model/ShardLayout.lean`; the tie to proxy/plan and proxy/router is `gvh run C04`.
-/
namespace GaeaVerif.C04
open GaeaVerif GaeaVerif.Layout GaeaVerif.Global GaeaVerif.GlobalTree

/-- where a produced statement is sent -/
def target {α : Type} (t : Target α) : String × String := (t.slice, t.db)

theorem planGlobal_ok (pinned : Bool) (valid : List String) (sess : String) (rules : List Rule) (s : Stmt) (first pick : Nat)
    (out : List (Target (List Chain))) (h : planGlobal pinned valid sess rules s first pick = .ok out) :
    ∃ r is, rules[first]? = some r ∧ globalRouteIndexes s.kind r pick = .ok is ∧
      generateShardingSQLs r (restoreAll pinned (mkEnv valid sess rules s) (textNames s)) is = .ok out := by
  revert h
  fun_cases planGlobal pinned valid sess rules s first pick <;> intro h
  case case4 r hr is hi => exact ⟨r, is, hr, hi, h⟩
  all_goals cases h

theorem planGlobal_first_mem {pinned : Bool} (valid : List String) (sess : String) (rules : List Rule) (s : Stmt)
    (first pick : Nat) (out : List (Target (List Chain))) (h : planGlobal pinned valid sess rules s first pick = .ok out) :
    ∃ r, rules[first]? = some r ∧ r ∈ rules := by
  obtain ⟨r, _, hr, _⟩ := planGlobal_ok _ _ _ _ _ _ _ _ h
  exact ⟨r, hr, List.mem_of_getElem? hr⟩

theorem globalRouteIndexes_write (kind : StmtKind) (r : Rule) (pick : Nat) (is : List Int) (hk : kind ≠ .select)
    (h : globalRouteIndexes kind r pick = .ok is) : is = r.idxs := by
  rw [globalRouteIndexes, if_neg hk] at h
  cases h; rfl

theorem globalRouteIndexes_select (r : Rule) (pick : Nat) (is : List Int)
    (h : globalRouteIndexes .select r pick = .ok is) :
    r.idxs.length ≠ 0 ∧ is = [((pick % r.idxs.length : Nat) : Int)] := by
  rw [globalRouteIndexes, if_pos rfl] at h
  split at h <;> cases h
  exact ⟨‹_›, rfl⟩

/-- **C04 (writes reach every copy).** For every valid global-table
    configuration (any number of slices and copies per slice, databases listed
    or implicit, in a namespace with any slice list), every INSERT / UPDATE /
    DELETE over global tables that the planner accepts produces exactly one
    statement per configured copy, in copy order, each filed under the slice
    and physical database of that copy. -/
theorem global_write_all (ns valid : List String) (sess : String) (cfg : GlobalCfg) (r : Rule) (rules : List Rule) (s : Stmt)
    (first pick : Nat) (out : List (Target (List Chain)))
    (hv : ValidCfg cfg) (hr : parseGlobalRule false ns cfg = some r) (hfirst : rules[first]? = some r)
    (hk : s.kind ≠ .select) (h : planGlobal false valid sess rules s first pick = .ok out) :
    out.map target = copies cfg := by
  obtain ⟨r', is, hr', hi, hgen⟩ := planGlobal_ok _ _ _ _ _ _ _ _ h
  cases hfirst.symm.trans hr'
  cases globalRouteIndexes_write _ _ _ _ hk hi
  have hidx := parseGlobalRule_idxs false ns cfg r hv hr
  have hf := generateShardingSQLs_spec _ _ _ _ hgen
  have hlen : out.length = totalTables cfg.locations := by
    rw [← hf.length_eq, hidx, List.length_map, List.length_range]
  -- entry by entry: the `j`-th statement is the one for table `j`, filed under the `j`-th copy
  apply List.ext_getElem?
  intro j
  by_cases hj : j < totalTables cfg.locations
  · have hi : r.idxs[j]? = some (j : Int) := by
      rw [hidx, List.getElem?_map, List.getElem?_range hj]; rfl
    obtain ⟨t, ht, sql, _, htar⟩ := hf.get j _ hi
    obtain ⟨c, hc, hto⟩ := targetOf_copy ns cfg r hv hr sql j hj
    cases hto.symm.trans htar
    rw [List.getElem?_map, ht, hc]; rfl
  · rw [List.getElem?_eq_none (by rw [List.length_map]; omega),
      List.getElem?_eq_none (by rw [copies_length cfg hv]; omega)]

/-- **C04 (reads touch one copy).** For every valid configuration, every value
    of the random pick and every choice of the table whose layout is used, an
    accepted SELECT over global tables is exactly one statement, and it is
    filed under the slice and physical database of a configured copy (the
    copy with the picked index). -/
theorem global_read_one (ns valid : List String) (sess : String) (cfg : GlobalCfg) (r : Rule) (rules : List Rule) (s : Stmt)
    (first pick : Nat) (out : List (Target (List Chain)))
    (hv : ValidCfg cfg) (hr : parseGlobalRule false ns cfg = some r) (hfirst : rules[first]? = some r)
    (hk : s.kind = .select) (h : planGlobal false valid sess rules s first pick = .ok out) :
    ∃ t, out = [t] ∧ (copies cfg)[pick % totalTables cfg.locations]? = some (target t) ∧ target t ∈ copies cfg := by
  obtain ⟨r', is, hr', hi, hgen⟩ := planGlobal_ok _ _ _ _ _ _ _ _ h
  cases hfirst.symm.trans hr'
  rw [hk] at hi
  obtain ⟨hz, rfl⟩ := globalRouteIndexes_select _ _ _ hi
  have hidx := parseGlobalRule_idxs false ns cfg r hv hr
  rw [hidx, List.length_map, List.length_range] at hgen hz
  cases generateShardingSQLs_spec _ _ _ _ hgen with
  | cons hab hrest =>
    cases hrest
    obtain ⟨sql, _, htar⟩ := hab
    obtain ⟨c, hc, hto⟩ := targetOf_copy ns cfg r hv hr sql _ (Nat.mod_lt pick (Nat.pos_of_ne_zero hz))
    cases hto.symm.trans htar
    exact ⟨_, rfl, hc, List.mem_of_getElem? hc⟩

/-! ### Database names -/

/-- what a name must look like in the statement sent to database `db`: a schema
    qualifier, where the original has one, is `db` -/
def specChains (db : String) (n : Name) : List Chain :=
  match n.pos with
  | .tableRef => ((if n.schema = "" then [] else [db]) ++ [n.table]) :: (if n.alias = "" then [] else [[n.alias]])
  | .setColumn => [[n.name]]
  | .insColumn => [[n.name]]
  | .insValue => [[n.name]]
  | _ => [(if n.schema = "" then [] else [db]) ++ (if n.table = "" then [] else [n.table]) ++ [n.name]]

theorem restoreSchema_spec (r : Rule) (schema : String) (i : Int) (db : String) (c : Chain)
    (hk : r.kind = .global) (hdb : DbOf r i db) (h : restoreSchema r schema i = .ok c) :
    c = if schema = "" then [] else [db] := by
  unfold restoreSchema at h
  split at h
  · next hs => cases h; rw [if_pos hs]
  · next hs =>
    rw [if_neg hs]
    simp only [hk] at h
    rcases hdb with hd | ⟨hd, _⟩
    · rw [hd] at h; cases h; rfl
    · rw [hd] at h; cases h  -- `targetOf` files under "" what the decorators refuse

theorem lookupTable_mem (tables : List (String × String × Rule)) (q : String) (r : Rule)
    (h : lookupTable tables q = some r) : ∃ t ∈ tables, t.2.2 = r := by
  revert h
  fun_cases lookupTable tables q <;> intro h
  case case1 t ht => exact ⟨t, List.mem_of_find?_eq_some ht, Option.some.inj h⟩
  case case2 t ht => exact ⟨t, List.mem_of_find?_eq_some ht, Option.some.inj h⟩
  case case3 => cases h

theorem mkEnv_rules (valid : List String) (sess : String) (rules : List Rule) (s : Stmt) (r : Rule)
    (hall : ∀ r' ∈ rules, r' = r) : ∀ t ∈ (mkEnv valid sess rules s).tables, t.2.2 = r := by
  intro t ht
  simp only [mkEnv, List.mem_map] at ht
  obtain ⟨⟨n, r'⟩, hmem, rfl⟩ := ht
  exact hall r' (List.of_mem_zip hmem).2

theorem resolve_spec (env : Env) (n : Name) :
    match resolve env n with
    | .plain => n.schema = "" ∧ n.table = ""
    | .rule r => ∃ t ∈ env.tables, t.2.2 = r
    | .error => True := by
  fun_cases resolve env n
  case case1 h => exact h
  case case4 r hl => exact lookupTable_mem _ _ _ hl
  all_goals trivial

theorem specChains_column (db : String) (n : Name) (h1 : n.pos ≠ .tableRef) (h2 : n.pos ≠ .insColumn)
    (h3 : n.pos ≠ .insValue) (h4 : n.pos ≠ .setColumn) :
    specChains db n = [(if n.schema = "" then [] else [db]) ++ (if n.table = "" then [] else [n.table]) ++ [n.name]] := by
  fun_cases specChains db n
  case case5 => rfl
  all_goals contradiction

theorem restoreName_spec (env : Env) (r : Rule) (n : Name) (i : Int) (db : String) (cs : List Chain)
    (hk : r.kind = .global) (henv : ∀ t ∈ env.tables, t.2.2 = r) (hdb : DbOf r i db)
    (h : restoreName false env n i = .ok cs) : cs = specChains db n := by
  revert h
  fun_cases restoreName false env n i <;> intro h
  case case1 hp r' hl =>  -- a table reference
    obtain ⟨t, ht, rfl⟩ := lookupTable_mem _ _ _ hl
    rw [henv t ht] at h
    unfold restoreTableName at h
    split at h <;> cases h
    next sc hs => rw [specChains, hp, restoreSchema_spec r n.schema i db sc hk hdb hs, hk]
  case case3 hf => cases hf  -- cases 3, 5, 9: the planner before the repairs
  case case4 hp _ => cases h; rw [specChains, hp]
  case case5 hf => cases hf
  case case6 hp _ => cases h; rw [specChains, hp]
  case case8 hp _ => cases h; rw [specChains, hp]
  case case9 hf => cases hf.1
  case case10 hres h1 h2 h3 h4 _ =>  -- a column without qualifier
    cases h
    have hq := resolve_spec env n
    rw [hres] at hq
    rw [specChains_column db n h1 h2 h3 h4, plainChain, hq.1, hq.2]
    rfl
  case case11 r' hres h1 h2 h3 h4 _ =>  -- a column that is looked up and decorated
    have hq := resolve_spec env n
    rw [hres] at hq
    obtain ⟨t, ht, rfl⟩ := hq
    rw [henv t ht] at h
    unfold restoreColumnName at h
    split at h <;> cases h
    next sc hs => rw [specChains_column db n h1 h2 h3 h4, restoreSchema_spec r n.schema i db sc hk hdb hs, hk]
  all_goals cases h

theorem restoreAll_spec (env : Env) (r : Rule) (names : List Name) (i : Int) (db : String) (sql : List Chain)
    (hk : r.kind = .global) (henv : ∀ t ∈ env.tables, t.2.2 = r) (hdb : DbOf r i db)
    (h : restoreAll false env names i = .ok sql) :
    sql = names.flatMap (specChains db) := by
  fun_induction restoreAll false env names i generalizing sql with
  | case1 => cases h; rfl
  | case2 n ns i cs hcs rest hrest ih =>
    cases h
    rw [restoreName_spec env r n i db cs hk henv hdb hcs, ih rest hdb hrest, List.flatMap_cons]
  | _ => cases h

/-- the schema qualifier a chain of a name carries, if any: `db`.`table` for a
    table reference, `db`.`table`.`column` (or `db`.`table`.*) otherwise -/
def schemaQualifier (n : Name) (c : Chain) : Option String :=
  match n.pos, c with
  | .tableRef, [d, _] => some d
  | .tableRef, _ => none
  | _, [d, _, _] => some d
  | _, _ => none

/-- stated on the list itself, the chains of a table reference: `specChains` and `printRef` build the same one -/
theorem tableChains_qualifier (db schema table alias d x : String)
    (h : [d, x] ∈ ((if schema = "" then [] else [db]) ++ [table]) :: (if alias = "" then [] else [[alias]])) :
    d = db := by
  rcases List.mem_cons.mp h with h | h
  · by_cases hs : schema = ""
    · rw [if_pos hs] at h; cases h
    · rw [if_neg hs] at h; exact (List.cons.inj h).1
  · split at h
    · cases h
    · cases List.mem_singleton.mp h

theorem columnChain_qualifier (db schema table name d x y : String)
    (h : [d, x, y] = (if schema = "" then [] else [db]) ++ (if table = "" then [] else [table]) ++ [name]) :
    d = db := by
  by_cases hs : schema = ""
  · rw [if_pos hs] at h; split at h <;> cases h
  · rw [if_neg hs] at h; exact (List.cons.inj h).1

/-- `specChains db` says what the property says: whatever schema qualifier a
    name is printed with is `db` -/
theorem specChains_qualifier (db : String) (n : Name) (c : Chain) (d : String)
    (hc : c ∈ specChains db n) (hd : schemaQualifier n c = some d) : d = db := by
  revert hd
  fun_cases schemaQualifier n c <;> intro hd
  case case1 d' x hp =>
    cases hd
    rw [specChains, hp] at hc
    exact tableChains_qualifier db _ _ _ d x hc
  case case3 d' x y hp =>
    cases hd
    revert hc
    fun_cases specChains db n <;> intro hc
    case case1 hp' => exact absurd hp' hp
    case case5 => exact columnChain_qualifier db _ _ _ d x y (List.mem_singleton.mp hc)
    all_goals cases List.mem_singleton.mp hc
  all_goals cases hd

/-- **C04 (database names).** For every valid or invalid configuration the
    router accepts, every statement over global tables that share their layout
    and every accepted plan: the statement sent to a copy whose physical
    database is `db` is, name by name in text order, the original statement
    (with the GROUP BY / ORDER BY fields the planner appends, and with the
    qualifiers of SET / INSERT columns removed) in which every schema qualifier
    is `db` (`specChains`, see `specChains_qualifier`): table references, columns
    in select fields, wildcard fields, comparison / IN / BETWEEN operands,
    columns inside compared functions and arithmetic, columns below LIKE /
    IS NULL / NOT, GROUP BY / ORDER BY items and the fields appended for them,
    UPDATE SET columns and values, INSERT columns.  There is no hypothesis on
    the positions; the planner before the `fix:` commits listed at
    `pinnedUntouched` and `restoreName` printed some of them as written
    (`pinned := true`, see the `pinned_…_witness` theorems). -/
theorem global_db_rewrite (ns valid : List String) (sess : String) (cfg : GlobalCfg) (r : Rule) (rules : List Rule)
    (s : Stmt) (first pick : Nat) (out : List (Target (List Chain)))
    (hr : parseGlobalRule false ns cfg = some r) (hall : ∀ r' ∈ rules, r' = r)
    (h : planGlobal false valid sess rules s first pick = .ok out) :
    ∀ t ∈ out, t.sql = (textNames s).flatMap (specChains t.db) := by
  have hk := (parseGlobalRule_some _ _ _ _ hr).1
  obtain ⟨r', is, hr', _, hgen⟩ := planGlobal_ok _ _ _ _ _ _ _ _ h
  cases hall r' (List.mem_of_getElem? hr')
  intro t ht
  obtain ⟨i, _, sql, hsql, htar⟩ := (generateShardingSQLs_spec _ _ _ _ hgen).exists_left t ht
  obtain ⟨rfl, _, hdb⟩ := targetOf_ok _ _ _ _ htar
  exact restoreAll_spec _ r _ i t.db _ hk (mkEnv_rules valid sess rules s r hall) hdb hsql

/-- **C04 (database names), as the property words it.** In every statement
    sent to a copy, every schema qualifier is the physical database of that copy. -/
theorem global_db_rewrite_qualifiers (ns valid : List String) (sess : String) (cfg : GlobalCfg) (r : Rule) (rules : List Rule)
    (s : Stmt) (first pick : Nat) (out : List (Target (List Chain)))
    (hr : parseGlobalRule false ns cfg = some r) (hall : ∀ r' ∈ rules, r' = r)
    (h : planGlobal false valid sess rules s first pick = .ok out) :
    ∀ t ∈ out, ∃ printed : Name → List Chain, t.sql = (textNames s).flatMap printed ∧
      ∀ n ∈ textNames s, ∀ c ∈ printed n, ∀ d, schemaQualifier n c = some d → d = t.db := by
  intro t ht
  exact ⟨specChains t.db, global_db_rewrite ns valid sess cfg r rules s first pick out hr hall h t ht,
    fun n _ c hc d hd => specChains_qualifier t.db n c d hc hd⟩

/-! ### Non-vacuity, and the defects repaired in the pinned tree -/

/-- namespace `[slice-0, slice-1, slice-2]`; a global table with one copy on
    slice-2 and two on slice-1, in the physical databases db_p0 … db_p2 -/
def exNs : List String := ["slice-0", "slice-1", "slice-2"]

def exCfg : GlobalCfg :=
  { db := "db_g", locations := [1, 2], slices := ["slice-2", "slice-1"], databases := ["db_p0", "db_p1", "db_p2"] }

def exRule : Rule :=
  { kind := .global, db := "db_g", slices := ["slice-2", "slice-1"], idxs := [0, 1, 2],
    t2s := [(0, 0), (1, 1), (2, 1)], dbs := ["db_p0", "db_p1", "db_p2"] }

theorem exCfg_valid : ValidCfg exCfg := ⟨by decide, by decide, by decide⟩

/-- the hypotheses of the three theorems are satisfiable -/
example : parseGlobalRule false exNs exCfg = some exRule ∧
    copies exCfg = [("slice-2", "db_p0"), ("slice-1", "db_p1"), ("slice-1", "db_p2")] := by decide +kernel

def nm (pos : Pos) (schema table name : String) : Name :=
  { pos := pos, schema := schema, table := table, name := name, alias := "", whole := false }

/-- ``UPDATE `db_g`.`ga` SET `db_g`.`ga`.`a` = 1 WHERE `db_g`.`ga`.`id` = 2 ORDER BY `ga`.`b` `` -/
def exUpdate : Stmt :=
  { kind := .update, fields := [], «from» := [nm .tableRef "db_g" "ga" ""],
    tail := [nm .setColumn "db_g" "ga" "a", nm .condOperand "db_g" "ga" "id", nm .byItem "" "ga" "b"] }

/-- a write: three statements, one per copy, every schema qualifier rewritten -/
example : planGlobal false ["db_g"] "db_g" [exRule] exUpdate 0 0 =
    .ok [⟨"slice-2", "db_p0", [["db_p0", "ga"], ["a"], ["db_p0", "ga", "id"], ["ga", "b"]]⟩,
         ⟨"slice-1", "db_p1", [["db_p1", "ga"], ["a"], ["db_p1", "ga", "id"], ["ga", "b"]]⟩,
         ⟨"slice-1", "db_p2", [["db_p2", "ga"], ["a"], ["db_p2", "ga", "id"], ["ga", "b"]]⟩] ∧
    exUpdate.kind ≠ .select := by
  decide +kernel

/-- ``SELECT `x`.`a` FROM `db_g`.`ga` AS `x` WHERE `x`.`id` IS NULL `` -/
def exSelect : Stmt :=
  { kind := .select, fields := [{ nm .selField "" "x" "a" with whole := true }],
    «from» := [{ nm .tableRef "db_g" "ga" "" with alias := "x" }], tail := [nm .condOther "" "x" "id"] }

/-- a read with pick 1: one statement, on the second copy -/
example : planGlobal false ["db_g"] "db_g" [exRule] exSelect 0 1 =
    .ok [⟨"slice-1", "db_p1", [["x", "a"], ["db_p1", "ga"], ["x"], ["x", "id"]]⟩] := by decide +kernel

/-- does some statement still name a database other than the one it is sent to? -/
def keepsForeignDb (dbs : List String) : R (List (Target (List Chain))) → Bool
  | .ok out => out.any fun t => t.sql.any fun c =>
      match c with
      | h :: _ :: _ => dbs.contains h && h != t.db
      | _ => false
  | _ => false

def exWildcard : Stmt :=
  { kind := .select, fields := [nm .selWildcard "db_g" "ga" "*"], «from» := [nm .tableRef "" "ga" ""], tail := [] }

/-- **Defect of the pinned tree (repaired by 81799b0)**, known finding
    `database-name-not-rewritten-in-wildcard-field`:
    ``SELECT `db_g`.`ga`.* FROM `ga` `` kept `db_g` in the statement sent to db_p0. -/
theorem pinned_wildcard_field_keeps_logical_db_witness :
    planGlobal true ["db_g"] "db_g" [exRule] exWildcard 0 0 = .ok [⟨"slice-2", "db_p0", [["db_g", "ga", "*"], ["ga"]]⟩] ∧
    keepsForeignDb ["db_g"] (planGlobal true ["db_g"] "db_g" [exRule] exWildcard 0 0) = true ∧
    planGlobal false ["db_g"] "db_g" [exRule] exWildcard 0 0 = .ok [⟨"slice-2", "db_p0", [["db_p0", "ga", "*"], ["ga"]]⟩] := by
  decide +kernel

def exNested : Stmt :=
  { kind := .delete, fields := [], «from» := [nm .tableRef "" "ga" ""], tail := [nm .condNested "db_g" "ga" "c"] }

/-- **Defect of the pinned tree (repaired by 98a59c2)**, known finding
    `database-name-not-rewritten-in-nested-condition-column`:
    ``DELETE FROM `ga` WHERE ABS(`db_g`.`ga`.`c`) = 1 `` kept `db_g` on every copy. -/
theorem pinned_nested_condition_column_keeps_logical_db_witness :
    keepsForeignDb ["db_g"] (planGlobal true ["db_g"] "db_g" [exRule] exNested 0 0) = true ∧
    planGlobal true ["db_g"] "db_g" [exRule] exNested 0 0 =
      .ok [⟨"slice-2", "db_p0", [["ga"], ["db_g", "ga", "c"]]⟩, ⟨"slice-1", "db_p1", [["ga"], ["db_g", "ga", "c"]]⟩,
           ⟨"slice-1", "db_p2", [["ga"], ["db_g", "ga", "c"]]⟩] ∧
    planGlobal false ["db_g"] "db_g" [exRule] exNested 0 0 =
      .ok [⟨"slice-2", "db_p0", [["ga"], ["db_p0", "ga", "c"]]⟩, ⟨"slice-1", "db_p1", [["ga"], ["db_p1", "ga", "c"]]⟩,
           ⟨"slice-1", "db_p2", [["ga"], ["db_p2", "ga", "c"]]⟩] := by
  decide +kernel

def exSetValue : Stmt :=
  { kind := .update, fields := [], «from» := [nm .tableRef "" "ga" ""],
    tail := [nm .setColumn "" "" "a", nm .setValue "db_g" "ga" "b"] }

/-- **Defect of the pinned tree (repaired by 5e2a917)**, known finding
    `database-name-not-rewritten-in-update-set-value`:
    ``UPDATE `ga` SET `a` = `db_g`.`ga`.`b`+1 `` kept `db_g` in the assigned value. -/
theorem pinned_update_set_value_keeps_logical_db_witness :
    keepsForeignDb ["db_g"] (planGlobal true ["db_g"] "db_g" [exRule] exSetValue 0 0) = true ∧
    keepsForeignDb ["db_g"] (planGlobal false ["db_g"] "db_g" [exRule] exSetValue 0 0) = false := by
  decide +kernel

def exAppended : Stmt :=
  { kind := .select, fields := [{ nm .selField "" "" "a" with whole := true }], «from» := [nm .tableRef "" "ga" ""],
    tail := [nm .byItem "db_g" "ga" "b"] }

/-- **Defect of the pinned tree (repaired by 646f58e)**, known finding
    `database-name-not-rewritten-in-appended-by-field`:
    ``SELECT `a` FROM `ga` ORDER BY `db_g`.`ga`.`b` `` appended the undecorated
    `db_g`.`ga`.`b` to the select list (the ORDER BY item itself was rewritten). -/
theorem pinned_appended_by_field_keeps_logical_db_witness :
    planGlobal true ["db_g"] "db_g" [exRule] exAppended 0 2 =
      .ok [⟨"slice-1", "db_p2", [["a"], ["db_g", "ga", "b"], ["ga"], ["db_p2", "ga", "b"]]⟩] ∧
    planGlobal false ["db_g"] "db_g" [exRule] exAppended 0 2 =
      .ok [⟨"slice-1", "db_p2", [["a"], ["db_p2", "ga", "b"], ["ga"], ["db_p2", "ga", "b"]]⟩] := by
  decide +kernel

def accepted {α : Type} : R α → Bool
  | .ok _ => true
  | _ => false

/-- the hypotheses of `global_db_rewrite` are satisfiable on statements with
    names at the four repaired positions -/
example : (∀ r' ∈ [exRule], r' = exRule) ∧ parseGlobalRule false exNs exCfg = some exRule ∧
    accepted (planGlobal false ["db_g"] "db_g" [exRule] exWildcard 0 0) ∧ accepted (planGlobal false ["db_g"] "db_g" [exRule] exNested 0 0) ∧
    accepted (planGlobal false ["db_g"] "db_g" [exRule] exSetValue 0 0) ∧ accepted (planGlobal false ["db_g"] "db_g" [exRule] exAppended 0 0) := by
  refine ⟨by simp, by decide +kernel, by decide +kernel, by decide +kernel, by decide +kernel, by decide +kernel⟩

/-- **Defect of the pinned tree (repaired by c29cd53)**: with the rule's slices
    replaced by the namespace's, the copies configured on slice-2, slice-1,
    slice-1 were addressed on slice-0, slice-1, slice-1. -/
theorem pinned_namespace_slices_witness :
    (match parseGlobalRule true exNs exCfg with
     | some r => (planGlobal false ["db_g"] "db_g" [r] exUpdate 0 0 |> fun o =>
         match o with | .ok out => out.map target | _ => [])
     | none => []) = [("slice-0", "db_p0"), ("slice-1", "db_p1"), ("slice-1", "db_p2")] ∧
    copies exCfg = [("slice-2", "db_p0"), ("slice-1", "db_p1"), ("slice-1", "db_p2")] := by
  decide +kernel

/-- **Defect of the pinned tree (repaired by 116abc1)**: the column list of an
    INSERT into a global table kept its qualifiers. -/
theorem pinned_insert_column_keeps_logical_db_witness :
    keepsForeignDb ["db_g"] (planGlobal true ["db_g"] "db_g" [exRule]
      { kind := .insert, fields := [], «from» := [nm .tableRef "db_g" "ga" ""], tail := [nm .insColumn "db_g" "ga" "a"] } 0 0) = true ∧
    keepsForeignDb ["db_g"] (planGlobal false ["db_g"] "db_g" [exRule]
      { kind := .insert, fields := [], «from» := [nm .tableRef "db_g" "ga" ""], tail := [nm .insColumn "db_g" "ga" "a"] } 0 0) = false := by
  decide +kernel

/-! ### Statements as trees: the planner's handlers inside the model -/

theorem planStmt_shard (router : List RouterRule) (valid : List String) (sess : String) (s : TStmt)
    (first pick : Nat) (out : List (Target (List Chain)))
    (h : planStmt router valid sess s first pick = .ok (.shard out)) :
    checker router sess s.tables = .shard ∧ rejected s = false ∧
      ∃ rules, resolveRefs router valid sess s.tables = some rules ∧
        planGlobal false valid sess rules (skeleton s) first pick = .ok out := by
  revert h
  fun_cases planStmt router valid sess s first pick <;> intro h
  case case5 hc hrej rules hres out' hp =>
    cases h
    exact ⟨hc, Bool.not_eq_true _ ▸ hrej, rules, hres, hp⟩
  all_goals cases h

theorem planStmt_unshard (router : List RouterRule) (valid : List String) (sess : String) (s : TStmt)
    (first pick : Nat) (h : planStmt router valid sess s first pick = .ok .unshard) :
    checker router sess s.tables = .unshard := by
  revert h
  fun_cases planStmt router valid sess s first pick <;> intro h
  case case2 hc => exact hc
  all_goals cases h

theorem checker_unshard (router : List RouterRule) (sess : String) (ts : List TableRef)
    (h : checker router sess ts = .unshard) :
    ∀ t ∈ ts, getShardRule router (effectiveDB sess t) t.table = none := by
  fun_induction checker router sess ts with
  | case1 => exact fun _ h => nomatch h
  | case4 t ts _ hnone ih =>
    exact List.forall_mem_cons.mpr ⟨Option.not_isSome_iff_eq_none.mp hnone, ih h⟩
  | _ => cases h

/-- **C04 (a statement on a global table is planned on the copies).** If
    `BuildPlan` answers with an unshard plan (the statement is sent once, to the
    default slice, as it is), then no table of the statement has a shard rule in
    the database it stands in: its own schema qualifier, or the session's
    database when it has none.  In particular the session's database never
    overrides a qualifier. -/
theorem stmt_unshard_names_no_global (router : List RouterRule) (valid : List String) (sess : String) (s : TStmt)
    (first pick : Nat) (h : planStmt router valid sess s first pick = .ok .unshard) :
    ∀ t ∈ s.tables, getShardRule router (effectiveDB sess t) t.table = none :=
  checker_unshard router sess s.tables (planStmt_unshard router valid sess s first pick h)

/-- **C04 (writes reach every copy), on statement trees.** For every session
    database, every statement tree and every choice `first` of the table whose
    layout the planner takes: if the statement's tables share the layout of a
    valid configuration, an accepted INSERT / UPDATE / DELETE is planned as
    exactly one statement per configured copy, in copy order. -/
theorem stmt_write_all (ns valid : List String) (sess : String) (cfg : GlobalCfg) (r : Rule)
    (router : List RouterRule) (s : TStmt) (first pick : Nat) (out : List (Target (List Chain)))
    (hv : ValidCfg cfg) (hr : parseGlobalRule false ns cfg = some r)
    (hall : ∀ rules, resolveRefs router valid sess s.tables = some rules → ∀ r' ∈ rules, r' = r)
    (hk : s.kind ≠ .select) (h : planStmt router valid sess s first pick = .ok (.shard out)) :
    out.map target = copies cfg := by
  obtain ⟨_, _, rules, hres, hp⟩ := planStmt_shard router valid sess s first pick out h
  obtain ⟨r', hf, hm⟩ := planGlobal_first_mem valid sess rules (skeleton s) first pick out hp
  rw [hall rules hres r' hm] at hf
  exact global_write_all ns valid sess cfg r rules (skeleton s) first pick out hv hr hf hk hp

/-- **C04 (reads touch one copy), on statement trees.** Under the same
    hypotheses an accepted SELECT is exactly one statement, on the configured
    copy with the picked index, for every value of the random pick. -/
theorem stmt_read_one (ns valid : List String) (sess : String) (cfg : GlobalCfg) (r : Rule)
    (router : List RouterRule) (s : TStmt) (first pick : Nat) (out : List (Target (List Chain)))
    (hv : ValidCfg cfg) (hr : parseGlobalRule false ns cfg = some r)
    (hall : ∀ rules, resolveRefs router valid sess s.tables = some rules → ∀ r' ∈ rules, r' = r)
    (hk : s.kind = .select) (h : planStmt router valid sess s first pick = .ok (.shard out)) :
    ∃ t, out = [t] ∧ (copies cfg)[pick % totalTables cfg.locations]? = some (target t) ∧ target t ∈ copies cfg := by
  obtain ⟨_, _, rules, hres, hp⟩ := planStmt_shard router valid sess s first pick out h
  obtain ⟨r', hf, hm⟩ := planGlobal_first_mem valid sess rules (skeleton s) first pick out hp
  rw [hall rules hres r' hm] at hf
  exact global_read_one ns valid sess cfg r rules (skeleton s) first pick out hv hr hf hk hp

theorem specChains_eq_printRef (db : String) (n : Name) : specChains db n = printRef db (nameRef n) := by
  obtain ⟨pos, schema, table, name, alias, whole⟩ := n
  cases pos <;> rfl

/-- **C04 (database names), on statement trees, for every expression tree.**
    Whatever the shape of the statement's conditions and values (any nesting of
    AND / OR, comparisons, other operators, IN, BETWEEN, parentheses, function
    calls …), the statement sent to a copy whose physical database is `db` is
    the listing `refs` of *all* table and column names of the statement (a
    listing that knows nothing about the planner's handlers) printed by
    `printRef db`: as written, every schema qualifier replaced by `db`.  Hence
    no handler of the planner leaves a name out. -/
theorem stmt_db_rewrite (ns valid : List String) (sess : String) (cfg : GlobalCfg) (r : Rule)
    (router : List RouterRule) (s : TStmt) (first pick : Nat) (out : List (Target (List Chain)))
    (hr : parseGlobalRule false ns cfg = some r)
    (hall : ∀ rules, resolveRefs router valid sess s.tables = some rules → ∀ r' ∈ rules, r' = r)
    (h : planStmt router valid sess s first pick = .ok (.shard out)) :
    ∀ t ∈ out, t.sql = (refs s).flatMap (printRef t.db) := by
  obtain ⟨_, _, rules, hres, hp⟩ := planStmt_shard router valid sess s first pick out h
  intro t ht
  rw [global_db_rewrite ns valid sess cfg r rules (skeleton s) first pick out hr (hall rules hres) hp t ht,
    ← map_textNames s, List.flatMap_map]
  congr 1
  funext n
  exact specChains_eq_printRef t.db n

/-- the schema qualifier a printed name carries, if any -/
def refQualifier (r : Ref) (c : Chain) : Option String :=
  match r.kind, c with
  | .table, [d, _] => some d
  | .column, [d, _, _] => some d
  | _, _ => none

/-- `printRef db` prints no schema qualifier but `db` -/
theorem printRef_qualifier (db : String) (r : Ref) (c : Chain) (d : String)
    (hc : c ∈ printRef db r) (hd : refQualifier r c = some d) : d = db := by
  revert hd
  fun_cases refQualifier r c <;> intro hd
  case case1 d' x hk =>
    cases hd
    rw [printRef, hk] at hc
    exact tableChains_qualifier db _ _ _ d x hc
  case case2 d' x y hk =>
    cases hd
    rw [printRef, hk] at hc
    exact columnChain_qualifier db _ _ _ d x y (List.mem_singleton.mp hc)
  case case3 => cases hd

/-! ### Non-vacuity of the tree theorems, and the defects of the pinned tree in nested expressions -/

def exOther : Rule :=
  { kind := .global, db := "db_o", slices := ["slice-0"], idxs := [0], t2s := [(0, 0)], dbs := ["db_o"] }

/-- the router of the examples: the global tables db_g.ga and db_g.gb with the
    layout `exRule`, and db_o.oz with one copy on slice-0 (`exOther`) -/
def exRouter : List RouterRule :=
  [⟨"db_g", "ga", exRule⟩, ⟨"db_g", "gb", exRule⟩, ⟨"db_o", "oz", exOther⟩]

def cg (name : String) : Expr := .col ⟨"db_g", "ga", name⟩

def tr (schema table : String) : TableRef := { schema := schema, table := table, alias := "", on := none }

/-- ``DELETE FROM `ga` WHERE (`db_g`.`ga`.`a` IN (`db_g`.`ga`.`b`, 2) AND ABS(`db_g`.`ga`.`c`) BETWEEN 1 AND `db_g`.`ga`.`d`)
      OR (`db_g`.`ga`.`e` + 1) * 2 OR `db_g`.`ga`.`f` ``: columns in an IN list, below a
    function on the left of BETWEEN, in a BETWEEN bound, below arithmetic at
    the root of a condition, and as a condition of its own -/
def exDeleteTree : TStmt :=
  { kind := .delete, fields := [], tables := [tr "" "ga"], cols := [], rows := [], sets := [], ondup := [],
    «where» := some (.logic (.logic (.paren (.logic (.inList (cg "a") (.node (cg "b") .val))
        (.between (.node (cg "c") .val) .val (cg "d")))) (.binop (.paren (.binop (cg "e") .val)) .val)) (cg "f")),
    groupBy := [], having := none, orderBy := [] }

/-- every one of its six columns is met by a handler: the skeleton lists them
    with their positions -/
example : ((skeleton exDeleteTree).tail.map fun n => (n.pos, n.name)) =
    [(.condOperand, "a"), (.condInItem, "b"), (.condBetweenNested, "c"), (.condBetweenBound, "d"),
     (.condBinopNested, "e"), (.condRoot, "f")] := by decide +kernel

/-- the hypotheses of `stmt_write_all` / `stmt_db_rewrite` hold for it, from a
    session that has selected the other logical database and names the table
    with its schema: three statements, every qualifier rewritten -/
example : planStmt exRouter ["db_g", "db_o"] "db_o" { exDeleteTree with tables := [tr "db_g" "ga"] } 0 0 =
    .ok (.shard [⟨"slice-2", "db_p0", [["db_p0", "ga"], ["db_p0", "ga", "a"], ["db_p0", "ga", "b"], ["db_p0", "ga", "c"],
                    ["db_p0", "ga", "d"], ["db_p0", "ga", "e"], ["db_p0", "ga", "f"]]⟩,
                 ⟨"slice-1", "db_p1", [["db_p1", "ga"], ["db_p1", "ga", "a"], ["db_p1", "ga", "b"], ["db_p1", "ga", "c"],
                    ["db_p1", "ga", "d"], ["db_p1", "ga", "e"], ["db_p1", "ga", "f"]]⟩,
                 ⟨"slice-1", "db_p2", [["db_p2", "ga"], ["db_p2", "ga", "a"], ["db_p2", "ga", "b"], ["db_p2", "ga", "c"],
                    ["db_p2", "ga", "d"], ["db_p2", "ga", "e"], ["db_p2", "ga", "f"]]⟩]) ∧
    resolveRefs exRouter ["db_g", "db_o"] "db_o" [tr "db_g" "ga"] = some [exRule] := by decide +kernel

/-- the shared-layout hypothesis of the tree theorems holds for it -/
example : ∀ rules, resolveRefs exRouter ["db_g", "db_o"] "db_o" [tr "db_g" "ga"] = some rules →
    ∀ r' ∈ rules, r' = exRule := by
  intro rules h
  have h' : resolveRefs exRouter ["db_g", "db_o"] "db_o" [tr "db_g" "ga"] = some [exRule] := by decide +kernel
  rw [h'] at h
  simp only [Option.some.injEq] at h
  subst h
  simp

/-- the same statement without the qualifier names db_o.ga, which has no rule:
    an unshard plan, and `stmt_unshard_names_no_global` applies -/
example : planStmt exRouter ["db_g", "db_o"] "db_o" exDeleteTree 0 0 = .ok .unshard := by decide +kernel

/-- without a session database an unqualified table name is rejected -/
example : planStmt exRouter ["db_g", "db_o"] "" exDeleteTree 0 0 = .fail := by decide +kernel

/-- **Defects of the pinned tree (repaired by 159d8de, 4d9baa7, 5569888, 706cba5)**:
    of the six columns of `exDeleteTree` only `a` was rewritten. -/
theorem pinned_condition_columns_keep_logical_db_witness :
    planGlobal true ["db_g"] "db_g" [exRule] (skeleton exDeleteTree) 0 0 =
      .ok [⟨"slice-2", "db_p0", [["ga"], ["db_p0", "ga", "a"], ["db_g", "ga", "b"], ["db_g", "ga", "c"], ["db_g", "ga", "d"],
              ["db_g", "ga", "e"], ["db_g", "ga", "f"]]⟩,
           ⟨"slice-1", "db_p1", [["ga"], ["db_p1", "ga", "a"], ["db_g", "ga", "b"], ["db_g", "ga", "c"], ["db_g", "ga", "d"],
              ["db_g", "ga", "e"], ["db_g", "ga", "f"]]⟩,
           ⟨"slice-1", "db_p2", [["ga"], ["db_p2", "ga", "a"], ["db_g", "ga", "b"], ["db_g", "ga", "c"], ["db_g", "ga", "d"],
              ["db_g", "ga", "e"], ["db_g", "ga", "f"]]⟩] ∧
    keepsForeignDb ["db_g"] (planGlobal false ["db_g"] "db_g" [exRule] (skeleton exDeleteTree) 0 0) = false := by
  decide +kernel

/-- ``SELECT `a` FROM `ga` ORDER BY MAX(`db_g`.`ga`.`b`) `` -/
def exByAggTree : TStmt :=
  { kind := .select, fields := [.expr (.col ⟨"", "", "a"⟩)], tables := [tr "" "ga"], cols := [], rows := [], sets := [],
    ondup := [], «where» := none, groupBy := [], having := none, orderBy := [.agg (.node (cg "b") .val)] }

/-- **Defect of the pinned tree (repaired by 983b024)**: the aggregate function
    of an ORDER BY item, and the field appended for it, kept `db_g`. -/
theorem pinned_by_aggregate_keeps_logical_db_witness :
    planGlobal true ["db_g"] "db_g" [exRule] (skeleton exByAggTree) 0 1 =
      .ok [⟨"slice-1", "db_p1", [["a"], ["db_g", "ga", "b"], ["ga"], ["db_g", "ga", "b"]]⟩] ∧
    planStmt exRouter ["db_g"] "db_g" exByAggTree 0 1 =
      .ok (.shard [⟨"slice-1", "db_p1", [["a"], ["db_p1", "ga", "b"], ["ga"], ["db_p1", "ga", "b"]]⟩]) := by
  decide +kernel

/-- ``INSERT INTO `db_g`.`ga` (`a`) VALUES (`db_g`.`ga`.`b` + 1) ON DUPLICATE KEY UPDATE `a` = `db_g`.`ga`.`a` + 1 `` -/
def exInsertTree : TStmt :=
  { kind := .insert, fields := [], tables := [tr "db_g" "ga"], cols := [⟨"", "", "a"⟩], rows := [[.binop (cg "b") .val]],
    sets := [], ondup := [⟨⟨"", "", "a"⟩, .binop (cg "a") .val⟩], «where» := none, groupBy := [], having := none,
    orderBy := [] }

/-- **Defect of the pinned tree (repaired by 25a2427)**: the columns in the
    values of an INSERT into a global table kept `db_g`. -/
theorem pinned_insert_value_keeps_logical_db_witness :
    keepsForeignDb ["db_g"] (planGlobal true ["db_g"] "db_g" [exRule] (skeleton exInsertTree) 0 0) = true ∧
    planStmt exRouter ["db_g"] "db_g" exInsertTree 0 0 =
      .ok (.shard [⟨"slice-2", "db_p0", [["db_p0", "ga"], ["a"], ["b"], ["a"], ["a"]]⟩,
                   ⟨"slice-1", "db_p1", [["db_p1", "ga"], ["a"], ["b"], ["a"], ["a"]]⟩,
                   ⟨"slice-1", "db_p2", [["db_p2", "ga"], ["a"], ["b"], ["a"], ["a"]]⟩]) := by
  decide +kernel

/-- a read through a join of the two global tables, one aliased, with a
    qualified wildcard: one statement on the picked copy -/
example : planStmt exRouter ["db_g"] "db_g"
    { kind := .select, fields := [.wild "db_g" "x", .star],
      tables := [{ schema := "db_g", table := "ga", alias := "x", on := none },
                 { schema := "", table := "gb", alias := "", on := some (.cmp (.col ⟨"", "x", "id"⟩) (.col ⟨"db_g", "gb", "id"⟩)) }],
      cols := [], rows := [], sets := [], ondup := [], «where» := none, groupBy := [], having := none, orderBy := [] } 1 2 =
    .ok (.shard [⟨"slice-1", "db_p2", [["db_p2", "x", "*"], ["db_p2", "ga"], ["x"], ["gb"], ["x", "id"], ["db_p2", "gb", "id"]]⟩]) := by
  decide +kernel

end GaeaVerif.C04
