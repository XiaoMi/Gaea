import GaeaVerif.Model.SequenceC34
import GaeaVerif.Lemmas.Decimal
import GaeaVerif.Lemmas.SplitOn
/-
  C34 — Global sequence values are never issued twice.
  Theorems about `Model/SequenceC34.lean` (tie to /repo/proxy/sequence/mysql.go:
  correspondence check `gvh run C34`).
-/
namespace GaeaVerif.C34
open GaeaVerif GaeaVerif.Sequence GaeaVerif.Dec

theorem parseDigits_eq (l : Bytes) (acc : Nat) :
    parseDigits l acc =
      if ∀ b ∈ l, 48 ≤ b.toNat ∧ b.toNat ≤ 57 then some (acc * 10 ^ l.length + val (·.toNat - 48) l) else none := by
  rw [← foldl_eq]
  induction l generalizing acc with
  | nil => rfl
  | cons c cs ih =>
    rw [parseDigits]
    by_cases hc : 48 ≤ c.toNat ∧ c.toNat ≤ 57
    · rw [if_pos hc, ih]; simp only [List.forall_mem_cons, hc, true_and, List.foldl_cons]
    · rw [if_neg hc, if_neg fun h => hc (h c List.mem_cons_self)]

theorem parseDigits_digits (l : Bytes) (acc n : Nat) (h : parseDigits l acc = some n) :
    ∀ b ∈ l, 48 ≤ b.toNat ∧ b.toNat ≤ 57 := by
  rw [parseDigits_eq] at h
  exact Decidable.by_contra fun hn => nomatch (if_neg hn).symm.trans h

theorem natDigitsAux_eq (f n : Nat) (h : n ≤ f) :
    natDigitsAux f n = (Nat.toDigits 10 n).map fun c => UInt8.ofNat c.toNat := by
  induction f generalizing n with
  | zero => obtain rfl := Nat.le_zero.mp h; rfl
  | succ f ih =>
    rw [natDigitsAux, toDigits_eq]
    by_cases hn : n < 10
    · rw [if_pos hn, if_pos hn, List.map_singleton, Nat.toNat_digitChar_of_lt_ten hn]; rfl
    · rw [if_neg hn, if_neg hn, ih _ (by omega), List.map_append, List.map_singleton,
        Nat.toNat_digitChar_of_lt_ten (Nat.mod_lt n (by decide))]; rfl

theorem natDigits_eq (n : Nat) : natDigits n = (Nat.toDigits 10 n).map fun c => UInt8.ofNat c.toNat :=
  natDigitsAux_eq n n (Nat.le_refl n)

theorem natDigits_digits (n : Nat) : ∀ b ∈ natDigits n, 48 ≤ b.toNat ∧ b.toNat ≤ 57 := by
  intro b hb
  rw [natDigits_eq] at hb
  obtain ⟨k, hk, rfl⟩ := mem_map_toDigits hb
  rw [toNat_byte_digitChar hk]; omega

theorem parseDigits_natDigits (n : Nat) : parseDigits (natDigits n) 0 = some n := by
  rw [parseDigits_eq, if_pos (natDigits_digits n), natDigits_eq, Nat.zero_mul, Nat.zero_add,
    val_map_toDigits (fun k hk => by rw [toNat_byte_digitChar hk, Nat.add_sub_cancel_left]) n]

theorem natDigits_ne_nil (n : Nat) : natDigits n ≠ [] := by
  rw [natDigits_eq]; exact fun h => Nat.toDigits_ne_nil (List.map_eq_nil_iff.mp h)

theorem parseMag_of_digits (neg : Bool) (ds : Bytes) (n : Nat) (hne : ds ≠ [])
    (h : parseDigits ds 0 = some n) :
    parseMag neg ds =
      if neg then (if n ≤ 9223372036854775808 then some (-(n : Int)) else none)
      else (if n < 9223372036854775808 then some (n : Int) else none) := by
  simp only [parseMag, List.isEmpty_iff, hne, ↓reduceIte, h]

theorem digit_not_sign (c : UInt8) (hc : 48 ≤ c.toNat ∧ c.toNat ≤ 57) : (c == 43) = false ∧ (c == 45) = false := by
  constructor <;> (refine beq_eq_false_iff_ne.mpr fun h => ?_; rw [h] at hc; simp at hc)

theorem parseInt_natDigits (n : Nat) :
    parseInt (natDigits n) = if n < 9223372036854775808 then some (n : Int) else none := by
  have hm := parseMag_of_digits false _ n (natDigits_ne_nil n) (parseDigits_natDigits n)
  cases hs : natDigits n with
  | nil => exact absurd hs (natDigits_ne_nil n)
  | cons c rest =>
    obtain ⟨h43, h45⟩ := digit_not_sign c (natDigits_digits n c (hs ▸ List.mem_cons_self))
    simp only [parseInt, h43, h45, Bool.false_eq_true, ↓reduceIte, ← hs, hm]

theorem parseInt_neg_natDigits (n : Nat) :
    parseInt (45 :: natDigits n) = if n ≤ 9223372036854775808 then some (-(n : Int)) else none := by
  have hm := parseMag_of_digits true _ n (natDigits_ne_nil n) (parseDigits_natDigits n)
  have : ((45 : UInt8) == 43) = false := by decide
  simp only [parseInt, this, Bool.false_eq_true, ↓reduceIte, beq_self_eq_true, hm]

theorem parseInt_fmtInt (v : Int) :
    parseInt (fmtInt v) = if minInt64 ≤ v ∧ v ≤ maxInt64 then some v else none := by
  unfold fmtInt
  by_cases hr : minInt64 ≤ v ∧ v ≤ maxInt64
  · rw [if_pos hr]
    simp only [minInt64, maxInt64] at hr
    split
    · rw [parseInt_neg_natDigits, if_pos (by omega)]
      congr 1; omega
    · rw [parseInt_natDigits, if_pos (by omega)]
      congr 1; omega
  · rw [if_neg hr]
    simp only [minInt64, maxInt64] at hr
    split
    · rw [parseInt_neg_natDigits, if_neg (by omega)]
    · rw [parseInt_natDigits, if_neg (by omega)]

theorem fmtInt_no_comma (v : Int) : ∀ b ∈ fmtInt v, b ≠ 44 := by
  rintro b hb rfl
  have hd := natDigits_digits v.natAbs 44
  unfold fmtInt at hb
  split at hb
  · rcases List.mem_cons.mp hb with hb | hb
    · exact absurd hb (by decide)
    · exact absurd (hd hb) (by decide)
  · exact absurd (hd hb) (by decide)

theorem splitComma_eq (s : Bytes) : splitComma s = Split.split 44 s := by
  induction s with
  | nil => rfl
  | cons c cs ih =>
    rw [splitComma, Split.split, ih]
    cases h : Split.split 44 cs with
    | nil => exact absurd h (Split.split_ne_nil 44 cs)
    | cons p ps => simp

/-- What `getSeqFromDB` accepts: exactly two comma-separated fields, both
    int64 decimals, a positive increment, a block that ends inside int64. -/
theorem parseReply_some_iff (ret : Bytes) (c i : Int) :
    parseReply ret = some (c, i) ↔
      ∃ a b, splitComma ret = [a, b] ∧ parseInt a = some c ∧ parseInt b = some i ∧ 0 < i ∧
        c + i ≤ maxInt64 := by
  simp only [parseReply]
  constructor
  · intro h
    split at h
    · cases h
    · next hl =>
      obtain ⟨a, b, hs⟩ : ∃ a b, splitComma ret = [a, b] :=
        match splitComma ret, Decidable.not_not.mp hl with
        | [a, b], _ => ⟨a, b, rfl⟩
      simp only [hs, List.getD_cons_zero, List.getD_cons_succ] at h
      refine ⟨a, b, hs, ?_⟩
      split at h
      · cases h
      · split at h
        · cases h
        · split at h
          · cases h
          · split at h
            · cases h
            · cases h; exact ⟨‹_›, ‹_›, by omega, by omega⟩
  · rintro ⟨a, b, hs, ha, hb, hi, hc⟩
    simp only [hs, List.length_cons, List.length_nil, ne_eq, not_true_eq_false, ↓reduceIte,
      List.getD_cons_zero, List.getD_cons_succ, ha, hb]
    rw [if_neg (by omega), if_neg (by omega)]

/-- `fmtInt c ++ 44 :: fmtInt i` is the reply of `mycat_seq_nextval` for an existing row. -/
theorem parseReply_fmt (c i : Int) :
    parseReply (fmtInt c ++ 44 :: fmtInt i) =
      if minInt64 ≤ c ∧ c ≤ maxInt64 ∧ minInt64 ≤ i ∧ i ≤ maxInt64 ∧ 0 < i ∧ c ≤ maxInt64 - i
      then some (c, i) else none := by
  have hs : splitComma (fmtInt c ++ 44 :: fmtInt i) = [fmtInt c, fmtInt i] := by
    rw [splitComma_eq, Split.split_append_sep (fmtInt_no_comma c), Split.split_no_sep (fmtInt_no_comma i)]
  split
  · next h =>
    exact (parseReply_some_iff _ c i).mpr ⟨_, _, hs, by rw [parseInt_fmtInt, if_pos ⟨h.1, h.2.1⟩],
      by rw [parseInt_fmtInt, if_pos ⟨h.2.2.1, h.2.2.2.1⟩], h.2.2.2.2.1, by omega⟩
  · next h =>
    refine Option.eq_none_iff_forall_ne_some.mpr fun ⟨c', i'⟩ hp => h ?_
    obtain ⟨a, b, hab, ha, hb, hi, hc⟩ := (parseReply_some_iff _ c' i').mp hp
    cases hs.symm.trans hab
    rw [parseInt_fmtInt] at ha hb
    split at ha <;> split at hb <;> cases ha <;> cases hb
    exact ⟨‹_ ∧ _›.1, ‹_ ∧ _›.2, by omega, by omega, hi, by omega⟩

/-- The stored function's default for a missing row is rejected. -/
theorem parseReply_missing_row :
    parseReply (fmtInt (-999999999) ++ [44, 110, 117, 108, 108]) = none := by
  refine Option.eq_none_iff_forall_ne_some.mpr fun ⟨c, i⟩ hp => ?_
  obtain ⟨a, b, hab, _, hb, _⟩ := (parseReply_some_iff _ c i).mp hp
  rw [splitComma_eq, Split.split_append_sep (fmtInt_no_comma _), Split.split_no_sep (by decide)] at hab
  cases hab
  exact nomatch hb.symm.trans (by decide : parseInt [110, 117, 108, 108] = none)

theorem parseMag_some (neg : Bool) (ds : Bytes) (v : Int) (h : parseMag neg ds = some v) :
    ds ≠ [] ∧ (∀ b ∈ ds, 48 ≤ b.toNat ∧ b.toNat ≤ 57) ∧ minInt64 ≤ v ∧ v ≤ maxInt64 := by
  have hne : ds ≠ [] := by rintro rfl; cases h
  cases hp : parseDigits ds 0 with
  | none => simp only [parseMag, hp] at h; split at h <;> cases h
  | some n =>
    rw [parseMag_of_digits neg ds n hne hp] at h
    refine ⟨hne, parseDigits_digits ds 0 n hp, ?_⟩
    simp only [minInt64, maxInt64]
    cases neg <;> simp only [Bool.false_eq_true, ↓reduceIte] at h <;> split at h <;> cases h <;> omega

/-- Only an optional sign followed by at least one decimal digit parses, and
    only to an int64 (so `null`, `x`, an empty field, `1e3`, `0x10`, `1_000`,
    `9223372036854775808` are errors). -/
theorem parseInt_some (s : Bytes) (v : Int) (h : parseInt s = some v) :
    (∃ c rest, s = c :: rest ∧
      ((c = 43 ∨ c = 45) ∧ rest ≠ [] ∧ (∀ b ∈ rest, 48 ≤ b.toNat ∧ b.toNat ≤ 57) ∨
       (∀ b ∈ s, 48 ≤ b.toNat ∧ b.toNat ≤ 57))) ∧
    minInt64 ≤ v ∧ v ≤ maxInt64 := by
  cases s with
  | nil => cases h
  | cons c rest =>
    simp only [parseInt] at h
    split at h
    · next h43 =>
      obtain ⟨h1, h2, h3⟩ := parseMag_some _ _ _ h
      exact ⟨⟨c, rest, rfl, .inl ⟨.inl (eq_of_beq h43), h1, h2⟩⟩, h3⟩
    · split at h
      · next h45 =>
        obtain ⟨h1, h2, h3⟩ := parseMag_some _ _ _ h
        exact ⟨⟨c, rest, rfl, .inl ⟨.inr (eq_of_beq h45), h1, h2⟩⟩, h3⟩
      · obtain ⟨_, h2, h3⟩ := parseMag_some _ _ _ h
        exact ⟨⟨c, rest, rfl, .inr h2⟩, h3⟩

/-- The tail of `NextSeq` once a block is cached. -/
def take (s : MySQLSequence) : MySQLSequence × Option Int :=
  ({ s with curr := s.curr + 1 },
   if s.maxLimit > 0 ∧ s.curr + 1 ≥ s.maxLimit then none else some (s.curr + 1))

theorem take_val (s : MySQLSequence) (v : Int) (h : (take s).2 = some v) : v = s.curr + 1 := by
  unfold take at h
  split at h
  · cases h
  · exact (Option.some.inj h).symm

theorem nextSeq_cached (s : MySQLSequence) (r : Reply) (h : s.curr < s.max) : nextSeq s r = take s := by
  have hn : needsFetch s = false := decide_eq_false (by omega)
  simp only [nextSeq, hn, Bool.false_eq_true, ↓reduceIte, take]
  split <;> rfl

theorem nextSeq_fetch (s : MySQLSequence) (r : Reply) (h : s.max ≤ s.curr) :
    nextSeq s r = match getSeqFromDB s r with
      | none => (s, none)
      | some s1 => take s1 := by
  have hn : needsFetch s = true := decide_eq_true (by omega)
  simp only [nextSeq, hn, ↓reduceIte, take]
  cases getSeqFromDB s r with
  | none => rfl
  | some s1 => simp only; split <;> rfl

theorem step_cached (σ : Sys) (op : Op) (h : (σ.seqs op.p).curr < (σ.seqs op.p).max) :
    step σ op =
      ({ table := σ.table, seqs := fun q => if q = op.p then (take (σ.seqs op.p)).1 else σ.seqs q },
       ⟨op.p, (take (σ.seqs op.p)).2, false⟩) := by
  have hn : needsFetch (σ.seqs op.p) = false := decide_eq_false (by omega)
  simp only [step, hn, Bool.false_eq_true, ↓reduceIte, nextSeq_cached _ _ h]

theorem step_fetch (σ : Sys) (op : Op) (h : (σ.seqs op.p).max ≤ (σ.seqs op.p).curr) :
    step σ op =
      match getSeqFromDB (σ.seqs op.p) (dbFetch σ.table op.fault).2 with
      | none => ({ table := (dbFetch σ.table op.fault).1, seqs := σ.seqs }, ⟨op.p, none, true⟩)
      | some s1 =>
        ({ table := (dbFetch σ.table op.fault).1,
           seqs := fun q => if q = op.p then (take s1).1 else σ.seqs q }, ⟨op.p, (take s1).2, true⟩) := by
  have hn : needsFetch (σ.seqs op.p) = true := decide_eq_true (by omega)
  simp only [step, hn, ↓reduceIte, nextSeq_fetch _ _ h]
  cases getSeqFromDB (σ.seqs op.p) (dbFetch σ.table op.fault).2 with
  | none =>
    have : (fun q => if q = op.p then σ.seqs op.p else σ.seqs q) = σ.seqs :=
      funext fun q => by split <;> simp_all
    simp only [this]
  | some s1 => rfl

theorem fetch_cases (s : MySQLSequence) (t : Option Row) (f : Fault)
    (hg : ∀ ret, f = .garbage ret → parseReply ret = none) :
    (getSeqFromDB s (dbFetch t f).2 = none ∧
      ((dbFetch t f).1 = t ∨ ∃ T I, t = some ⟨T, I⟩ ∧ (dbFetch t f).1 = some ⟨T + I, I⟩)) ∨
    ∃ T I, t = some ⟨T, I⟩ ∧ 0 < I ∧ (dbFetch t f).1 = some ⟨T + I, I⟩ ∧
      getSeqFromDB s (dbFetch t f).2 = some { s with max := T + I + I, curr := T + I } := by
  have htab : (nextval t).1 = t ∨ ∃ T I, t = some ⟨T, I⟩ ∧ (nextval t).1 = some ⟨T + I, I⟩ := by
    cases t with
    | none => exact Or.inl rfl
    | some r =>
      simp only [nextval]
      split
      · exact Or.inl rfl
      · exact Or.inr ⟨r.current, r.increment, rfl, rfl⟩
  cases f with
  | errBefore => exact Or.inl ⟨rfl, Or.inl rfl⟩
  | errAfter => exact Or.inl ⟨rfl, htab⟩
  | garbage ret => exact Or.inl ⟨by simp only [dbFetch, getSeqFromDB, hg ret rfl], htab⟩
  | none =>
    cases t with
    | none => exact Or.inl ⟨by simp only [dbFetch, nextval, getSeqFromDB, parseReply_missing_row], htab⟩
    | some r =>
      obtain ⟨T, I⟩ := r
      simp only [dbFetch, nextval] at htab ⊢
      split
      · exact Or.inl ⟨rfl, Or.inl rfl⟩
      · simp only [getSeqFromDB, parseReply_fmt]
        by_cases hc : minInt64 ≤ T + I ∧ T + I ≤ maxInt64 ∧ minInt64 ≤ I ∧ I ≤ maxInt64 ∧ 0 < I ∧
            T + I ≤ maxInt64 - I
        · rw [if_pos hc]; exact Or.inr ⟨T, I, rfl, hc.2.2.2.2.1, rfl, rfl⟩
        · rw [if_neg hc]; exact Or.inl ⟨rfl, Or.inr ⟨T, I, rfl, rfl⟩⟩

/-- `x` is a value the proxy may still hand out from its cached block. -/
def InRange (s : MySQLSequence) (x : Int) : Prop := s.curr < x ∧ x ≤ s.max

/-- Invariant of a system whose row has the positive increment `I`, relative
    to the values `past` handed out so far (with the proxy that did):
    no handed-out value is in any proxy's remaining range; remaining ranges of
    different proxies are disjoint; everything handed out or still cached lies
    at or below `current + increment` (the end of the last block given away);
    a proxy's own past values are below what it will hand out next. -/
def Inv (I : Int) (σ : Sys) (past : List (Nat × Int)) : Prop :=
  ∃ T, σ.table = some ⟨T, I⟩ ∧
    (∀ q v, (q, v) ∈ past → ∀ p, ¬ InRange (σ.seqs p) v) ∧
    (∀ p q, p ≠ q → ∀ x, ¬ (InRange (σ.seqs p) x ∧ InRange (σ.seqs q) x)) ∧
    (∀ q v, (q, v) ∈ past → v ≤ T + I) ∧
    (∀ p x, InRange (σ.seqs p) x → x ≤ T + I) ∧
    (∀ p v, (p, v) ∈ past → (σ.seqs p).curr < (σ.seqs p).max → v ≤ (σ.seqs p).curr)

/-- `past` extended by the value (if any) proxy `p` has just handed out. -/
def addVal (past : List (Nat × Int)) (p : Nat) : Option Int → List (Nat × Int)
  | some v => (p, v) :: past
  | none => past

theorem mem_addVal (past : List (Nat × Int)) (p : Nat) (out : Option Int) (q : Nat) (w : Int) :
    (q, w) ∈ addVal past p out ↔ (q = p ∧ out = some w) ∨ (q, w) ∈ past := by
  cases out <;> simp [addVal, eq_comm]

/-- `hB`: the block `(c, m]` is the rest of proxy `p`'s cached block, or lies wholly above everything
    given away so far — the two cases of `step_inv`. -/
theorem block_free (I : Int) (σ : Sys) (past : List (Nat × Int)) (p : Nat) (T c m : Int)
    (h : Inv I σ past) (ht : σ.table = some ⟨T, I⟩) (hc : c < m)
    (hB : ((σ.seqs p).curr = c ∧ (σ.seqs p).max = m) ∨ T + I ≤ c) :
    (∀ q w, (q, w) ∈ past → ¬ (c < w ∧ w ≤ m)) ∧
    (∀ q x, q ≠ p → InRange (σ.seqs q) x → ¬ (c < x ∧ x ≤ m)) ∧
    (∀ w, (p, w) ∈ past → w ≤ c) := by
  obtain ⟨T0, ht0, ha, hb, hc1, hc2, he⟩ := h
  cases ht0.symm.trans ht
  rcases hB with ⟨rfl, rfl⟩ | hB
  · exact ⟨fun q w hw hin => ha q w hw p hin, fun q x hq hx hin => hb q p hq x ⟨hx, hin⟩,
      fun w hw => he p w hw hc⟩
  · exact ⟨fun q w hw hin => by have := hc1 q w hw; omega,
      fun q x _ hx hin => by have := hc2 q x hx; omega, fun w hw => Int.le_trans (hc1 p w hw) hB⟩

/-- Proxy `p` consumes the first value of such a block and hands it out or not; the row may
    advance, up to the end of the block. -/
theorem inv_take (I : Int) (σ : Sys) (past : List (Nat × Int)) (p : Nat) (T T' c m lim : Int)
    (out : Option Int) (h : Inv I σ past) (ht : σ.table = some ⟨T, I⟩) (hT : T ≤ T') (hc : c < m)
    (hm : m ≤ T' + I)
    (hB : ((σ.seqs p).curr = c ∧ (σ.seqs p).max = m) ∨ T + I ≤ c)
    (hout : ∀ v, out = some v → v = c + 1) :
    Inv I { table := some ⟨T', I⟩, seqs := fun q => if q = p then ⟨c + 1, m, lim⟩ else σ.seqs q }
      (addVal past p out) ∧
    ∀ v, out = some v → (∀ q w, (q, w) ∈ past → w ≠ v) ∧ (∀ w, (p, w) ∈ past → w < v) := by
  obtain ⟨hpast, hother, hown⟩ := block_free I σ past p T c m h ht hc hB
  obtain ⟨T0, ht0, ha, hb, hc1, hc2, he⟩ := h
  cases ht0.symm.trans ht
  -- the value consumed is in the block, and so is what stays cached
  have hval : c < c + 1 ∧ c + 1 ≤ m := ⟨Int.lt_succ c, hc⟩
  have hnew : ∀ q x, InRange (if q = p then ⟨c + 1, m, lim⟩ else σ.seqs q) x →
      (q = p ∧ c + 1 < x ∧ c < x ∧ x ≤ m) ∨ (q ≠ p ∧ InRange (σ.seqs q) x) := by
    intro q x hx
    by_cases hq : q = p
    · rw [if_pos hq] at hx; exact Or.inl ⟨hq, hx.1, Int.lt_trans (Int.lt_succ c) hx.1, hx.2⟩
    · rw [if_neg hq] at hx; exact Or.inr ⟨hq, hx⟩
  refine ⟨⟨T', rfl, ?_, ?_, ?_, ?_, ?_⟩, fun v hv => hout v hv ▸
    ⟨fun q w hw hv => hpast q w hw (hv ▸ hval), fun w hw => Int.lt_add_one_of_le (hown w hw)⟩⟩
  · intro q w hw p' hin
    rcases hnew p' w hin with ⟨_, h1, h2⟩ | ⟨hp, hin⟩ <;>
      rcases (mem_addVal _ _ _ _ _).mp hw with ⟨_, hv⟩ | hw
    · exact Int.lt_irrefl _ (hout w hv ▸ h1)
    · exact hpast q w hw h2
    · exact hother p' w hp hin (hout w hv ▸ hval)
    · exact ha q w hw p' hin
  · intro p1 p2 hne x ⟨h1, h2⟩
    rcases hnew p1 x h1 with ⟨hp1, _, a⟩ | ⟨hp1, h1⟩ <;> rcases hnew p2 x h2 with ⟨hp2, _, b⟩ | ⟨hp2, h2⟩
    · exact hne (hp1.trans hp2.symm)
    · exact hother p2 x hp2 h2 a
    · exact hother p1 x hp1 h1 b
    · exact hb p1 p2 hne x ⟨h1, h2⟩
  · intro q w hw
    rcases (mem_addVal _ _ _ _ _).mp hw with ⟨_, hv⟩ | hw
    · exact hout w hv ▸ Int.le_trans hval.2 hm
    · exact Int.le_trans (hc1 q w hw) (Int.add_le_add_right hT I)
  · intro p' x hin
    rcases hnew p' x hin with ⟨_, _, _, h⟩ | ⟨_, hin⟩
    · exact Int.le_trans h hm
    · exact Int.le_trans (hc2 p' x hin) (Int.add_le_add_right hT I)
  · intro p' w hw
    simp only
    by_cases hp : p' = p
    · rw [if_pos hp]
      intro _
      rcases (mem_addVal _ _ _ _ _).mp hw with ⟨_, hv⟩ | hw
      · exact Int.le_of_eq (hout w hv)
      · exact Int.le_trans (hown w (hp ▸ hw)) (Int.le_of_lt hval.1)
    · rw [if_neg hp]
      rcases (mem_addVal _ _ _ _ _).mp hw with ⟨hpp, _⟩ | hw
      · exact absurd hpp hp
      · exact he p' w hw

/-- The values a step adds to the ones handed out so far. -/
def extend (past : List (Nat × Int)) (e : Ev) : List (Nat × Int) := addVal past e.p e.val

/-- One call keeps the invariant, and a value it returns is new and above
    every value the same proxy returned before. -/
theorem step_inv (I : Int) (hI : 0 < I) (σ : Sys) (past : List (Nat × Int)) (op : Op)
    (hg : ∀ ret, op.fault = .garbage ret → parseReply ret = none) (h : Inv I σ past) :
    Inv I (step σ op).1 (extend past (step σ op).2) ∧ (step σ op).2.p = op.p ∧
    ∀ v, (step σ op).2.val = some v →
      (∀ q w, (q, w) ∈ past → w ≠ v) ∧ (∀ w, (op.p, w) ∈ past → w < v) := by
  have ⟨T, ht, ha, hb, hc1, hc2, he⟩ := h
  by_cases hf : (σ.seqs op.p).curr < (σ.seqs op.p).max
  · rw [step_cached σ op hf]
    obtain ⟨h1, h2⟩ := inv_take I σ past op.p T T _ _ (σ.seqs op.p).maxLimit (take (σ.seqs op.p)).2
      h ht (Int.le_refl T) hf (hc2 op.p _ ⟨hf, Int.le_refl _⟩) (Or.inl ⟨rfl, rfl⟩) (take_val _)
    rw [← ht] at h1
    exact ⟨h1, rfl, h2⟩
  · rw [step_fetch σ op (Int.not_lt.mp hf), ht]
    rcases fetch_cases (σ.seqs op.p) (some ⟨T, I⟩) op.fault hg with
      ⟨hnone, htab⟩ | ⟨T1, I1, hT, _, htab, hsome⟩
    · -- the fetch fails: the proxy is unchanged
      rw [hnone]
      refine ⟨?_, rfl, fun v hv => nomatch hv⟩
      rcases htab with htab | ⟨T1, I1, hT, htab⟩
      · rw [htab]; exact ⟨T, rfl, ha, hb, hc1, hc2, he⟩
      · cases hT
        rw [htab]
        exact ⟨T + I, rfl, ha, hb, fun q v hv => by have := hc1 q v hv; omega,
          fun p x hx => by have := hc2 p x hx; omega, he⟩
    · -- the fetch succeeds: the proxy owns the block (T + I, T + I + I]
      cases hT
      rw [hsome, htab]
      obtain ⟨h1, h2⟩ := inv_take I σ past op.p T (T + I) (T + I) (T + I + I)
        (σ.seqs op.p).maxLimit (take ⟨T + I, T + I + I, (σ.seqs op.p).maxLimit⟩).2
        h ht (by omega) (by omega) (Int.le_refl _) (Or.inr (Int.le_refl _)) (take_val _)
      exact ⟨h1, rfl, h2⟩

/-- Every scripted reply of the history is one `getSeqFromDB` rejects (a
    well-formed reply that does not come from the row is outside the property:
    a database answering `5,5` twice does make two proxies issue 6). -/
def Malformed (ops : List Op) : Prop :=
  ∀ op ∈ ops, ∀ ret, op.fault = .garbage ret → parseReply ret = none

/-- The values proxy `p` handed out, in order. -/
def valuesOf (p : Nat) (vs : List (Nat × Int)) : List Int :=
  (vs.filter (fun x => x.1 == p)).map (·.2)

/-- The row is missing or its increment is not positive. -/
def BadTable (t : Option Row) : Prop := ∀ T I, t = some ⟨T, I⟩ → I ≤ 0

/-- With a missing row or a non-positive increment and no proxy holding a block, a call fetches, is refused
    and leaves things so. -/
theorem step_bad (σ : Sys) (op : Op) (ht : BadTable σ.table)
    (hs : ∀ p, (σ.seqs p).max ≤ (σ.seqs p).curr)
    (hg : ∀ ret, op.fault = .garbage ret → parseReply ret = none) :
    BadTable (step σ op).1.table ∧ (step σ op).1.seqs = σ.seqs ∧ (step σ op).2.val = none := by
  rw [step_fetch σ op (hs op.p)]
  rcases fetch_cases (σ.seqs op.p) σ.table op.fault hg with ⟨hnone, htab⟩ | ⟨T, I, hT, hI, _⟩
  · rw [hnone]
    refine ⟨?_, rfl, rfl⟩
    show BadTable (dbFetch σ.table op.fault).1
    rcases htab with htab | ⟨T, I, hT, htab⟩
    · rw [htab]; exact ht
    · intro T' I' h
      cases htab.symm.trans h
      exact ht T I hT
  · exact absurd (ht T I hT) (Int.not_le.mpr hI)

/-- … so such a system never issues a value. -/
theorem run_bad (ops : List Op) (hm : Malformed ops) (σ : Sys) (ht : BadTable σ.table)
    (hs : ∀ p, (σ.seqs p).max ≤ (σ.seqs p).curr) :
    issued (run σ ops).2 = [] := by
  induction ops generalizing σ with
  | nil => rfl
  | cons op ops ih =>
    obtain ⟨h1, h2, h3⟩ := step_bad σ op ht hs (hm op List.mem_cons_self)
    simp only [run, issued, h3]
    exact ih (fun o ho => hm o (List.mem_cons_of_mem _ ho)) _ h1 (h2 ▸ hs)

/-- Later values differ from earlier ones, and exceed those of the same proxy. -/
def Fresh (a b : Nat × Int) : Prop := a.2 ≠ b.2 ∧ (a.1 = b.1 → a.2 < b.2)

/-- From a state with the invariant (row present, increment positive): the values a run issues are pairwise
    `Fresh`, and fresh against `past`.  The only induction over `run` on this side; the invariant of the final
    state is not returned. -/
theorem run_good (I : Int) (hI : 0 < I) (ops : List Op) (hm : Malformed ops) (σ : Sys)
    (past : List (Nat × Int)) (h : Inv I σ past) :
    (issued (run σ ops).2).Pairwise Fresh ∧ ∀ a ∈ past, ∀ b ∈ issued (run σ ops).2, Fresh a b := by
  induction ops generalizing σ past with
  | nil => exact ⟨List.Pairwise.nil, fun _ _ _ hb => nomatch hb⟩
  | cons op ops ih =>
    obtain ⟨hinv, hp, hnew⟩ := step_inv I hI σ past op (hm op List.mem_cons_self) h
    obtain ⟨ih1, ih2⟩ := ih (fun o ho => hm o (List.mem_cons_of_mem _ ho)) _ _ hinv
    cases hv : (step σ op).2.val with
    | none =>
      simp only [run, issued, hv]
      rw [extend, hv] at ih2
      exact ⟨ih1, ih2⟩
    | some v =>
      simp only [run, issued, hv, hp]
      rw [extend, hv, hp] at ih2
      obtain ⟨hn1, hn2⟩ := hnew v hv
      refine ⟨List.pairwise_cons.mpr ⟨ih2 _ List.mem_cons_self, ih1⟩, fun ⟨q, w⟩ ha b hb => ?_⟩
      rcases List.mem_cons.mp hb with rfl | hb
      · exact ⟨hn1 q w ha, fun hq => hn2 w ((show q = op.p from hq) ▸ ha)⟩
      · exact ih2 _ (List.mem_cons_of_mem _ ha) b hb

theorem init_inv (T I : Int) (limits : Nat → Int) : Inv I (init (some ⟨T, I⟩) limits) [] :=
  ⟨T, rfl, (fun _ _ h => nomatch h), fun _ _ _ _ h => absurd (Int.lt_of_lt_of_le h.1.1 h.1.2) (Int.lt_irrefl _),
    (fun _ _ h => nomatch h), fun _ _ h => absurd (Int.lt_of_lt_of_le h.1 h.2) (Int.lt_irrefl _),
    (fun _ _ h => nomatch h)⟩

/-- **C34, uniqueness.**  Any number of proxies (`Op.p : Nat`), each caching its
    own block, share one sequence row — present or missing, with any current
    value and any increment (positive or not), each proxy with any `maxLimit`.
    For every interleaving of `NextSeq` calls and every fate of the block
    fetches they perform (the query runs; no connection; the reply is lost
    after the row was advanced; a malformed string is read): no value is handed
    out twice, and the values one proxy hands out are strictly increasing. -/
theorem seq_unique (table : Option Row) (limits : Nat → Int) (ops : List Op) (hm : Malformed ops) :
    ((issued (run (init table limits) ops).2).map (·.2)).Nodup ∧
    ∀ p, (valuesOf p (issued (run (init table limits) ops).2)).Pairwise (· < ·) := by
  have hfresh : (issued (run (init table limits) ops).2).Pairwise Fresh := by
    by_cases hbad : BadTable table
    · rw [run_bad ops hm (init table limits) hbad fun _ => Int.le_refl 0]; exact List.Pairwise.nil
    · match table with
      | none => exact absurd (fun _ _ h => nomatch h) hbad
      | some ⟨T, I⟩ =>
        exact (run_good I (Int.not_le.mp fun hI => hbad fun _ _ h => by cases h; exact hI) ops hm _ []
          (init_inv T I limits)).1
  refine ⟨List.pairwise_map.mpr (hfresh.imp fun h => h.1), fun p => ?_⟩
  refine List.pairwise_map.mpr ((hfresh.filter _).imp_of_mem fun ha hb h => h.2 ?_)
  exact (beq_iff_eq.mp (List.mem_filter.mp ha).2).trans (beq_iff_eq.mp (List.mem_filter.mp hb).2).symm

theorem getSeqFromDB_rejected (s : MySQLSequence) (r : Reply)
    (hbad : r = .err ∨ ∃ ret, r = .row ret ∧ parseReply ret = none) : getSeqFromDB s r = none := by
  rcases hbad with rfl | ⟨ret, rfl, hp⟩
  · rfl
  · simp only [getSeqFromDB, hp]

/-- **C34, fail closed (function level).**  When `NextSeq` has to fetch a block
    and the fetch fails — an error, or a string `getSeqFromDB` rejects — it
    returns an error and the proxy's state is unchanged. -/
theorem seq_fail_closed (s : MySQLSequence) (r : Reply) (hneed : s.max ≤ s.curr)
    (hbad : r = .err ∨ ∃ ret, r = .row ret ∧ parseReply ret = none) :
    nextSeq s r = (s, none) := by
  rw [nextSeq_fetch s r hneed, getSeqFromDB_rejected s r hbad]

/-- **C34, fail closed (system level).**  A call that queries the database and
    gets an error or a rejected string produces no value and changes no
    proxy's state. -/
theorem step_fail_closed (σ : Sys) (op : Op) (hneed : (σ.seqs op.p).max ≤ (σ.seqs op.p).curr)
    (hbad : (dbFetch σ.table op.fault).2 = .err ∨
      ∃ ret, (dbFetch σ.table op.fault).2 = .row ret ∧ parseReply ret = none) :
    (step σ op).2 = ⟨op.p, none, true⟩ ∧ (step σ op).1.seqs = σ.seqs := by
  rw [step_fetch σ op hneed, getSeqFromDB_rejected _ _ hbad]
  exact ⟨rfl, rfl⟩

/-! ### the hypotheses are satisfiable, the statements are not vacuous -/

/-- "103,3" -/
example : parseReply [49, 48, 51, 44, 51] = some (103, 3) := by decide +kernel
/-- "-999999999,null", "x,y", "100,0", "100,-2", "7", "1,2,3", "", "9223372036854775807,1" -/
example : parseReply [45, 57, 57, 57, 57, 57, 57, 57, 57, 57, 44, 110, 117, 108, 108] = none := by decide +kernel
example : parseReply [120, 44, 121] = none := by decide +kernel
example : parseReply [49, 48, 48, 44, 48] = none := by decide +kernel
example : parseReply [49, 48, 48, 44, 45, 50] = none := by decide +kernel
example : parseReply [55] = none := by decide +kernel
example : parseReply [49, 44, 50, 44, 51] = none := by decide +kernel
example : parseReply [] = none := by decide +kernel
example : parseReply [57, 50, 50, 51, 51, 55, 50, 48, 51, 54, 56, 53, 52, 55, 55, 53, 56, 48, 55, 44, 49] = none := by decide +kernel

/-- A proxy with an empty cache that is handed the block "103,3" returns 104. -/
example : nextSeq (newMySQLSequence 0) (.row [49, 48, 51, 44, 51]) = (⟨104, 106, 0⟩, some 104) := by decide +kernel
/-- … and with `maxLimit = 104` it fails (but has consumed the value). -/
example : nextSeq (newMySQLSequence 104) (.row [49, 48, 51, 44, 51]) = (⟨104, 106, 104⟩, none) := by decide +kernel

/-- A history satisfying `Malformed` in which values are handed out by two
    proxies around a lost reply and a malformed one. -/
def exampleOps : List Op :=
  [⟨0, .none⟩, ⟨1, .none⟩, ⟨0, .none⟩, ⟨0, .errAfter⟩, ⟨0, .garbage [120, 44, 121]⟩, ⟨1, .none⟩, ⟨0, .none⟩]

example : Malformed exampleOps := by
  intro op hop ret hret
  simp only [exampleOps, List.mem_cons, List.not_mem_nil, or_false] at hop
  rcases hop with h | h | h | h | h | h | h <;> subst h <;> simp at hret
  subst hret
  decide

/-- … and `seq_unique` speaks about non-empty outputs: the values it hands out. -/
example : issued (run (init (some ⟨100, 3⟩) (fun _ => 0)) exampleOps).2 =
    [(0, 104), (1, 107), (0, 105), (0, 106), (1, 108), (0, 113)] := by decide +kernel

end GaeaVerif.C34
