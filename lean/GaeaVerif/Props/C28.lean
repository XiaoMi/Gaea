import GaeaVerif.Model.Health
import GaeaVerif.Model.HealthSpec
import GaeaVerif.Lemmas.Health
import GaeaVerif.Gen.Consts
/-
  C28 — Health checks mark nodes down and up according to the probe history.

  "A master or replica is marked down once it has not passed a health probe for
   the configured down-after period, a replica is also marked down when its
   replication lag exceeds the configured limit or a replication thread is
   stopped, and a node is marked up again after a successful probe (subject to
   C27 for fused replicas); no other event changes a node's status."

  Theorems about `Model/Health.lean` (tied to backend/slice.go, node.go by the
  correspondence check `gvh run C28`), for every configuration, every start
  time and every history of master rounds, replica rounds, fuse calls and clock
  advances — no bound on length, no assumption on the clock.

  * `c28_spec_holds` — the executable reference semantics of the property
    (`Health.judge28`, the same function the check runs on the implementation's
    output) accepts the model on every history, except for one class that only
    arises in a replica round during which the master is down, the replica's own
    probe passed and `show slave status` reports lag or a stopped thread
    (`replica-sync-ignored-master-down`: the maintainers skip the replication
    check during a master outage on purpose — a dead master stops every
    replica's IO thread — and their tests pin it; `_witness`, known/C28.json).
    The second class of the pinned code, `replica-up-without-probe-master-down`,
    was repaired (fix 4cba6eb).
  * `c28_spec_holds_no_bad_sync_in_outage_partial` — no violation at all on
    histories in which no replica round that runs during a master outage reads
    lag or a stopped thread.  (The full statement, without that hypothesis, is
    false of the code: see the witness.)
  * the remaining theorems say what single rounds and histories do, clause by
    clause of the property text, for all states / all histories;
    `replica_up_without_probe_master_down_repaired` replays the input on which
    the pinned code failed.
-/
namespace GaeaVerif.C28
open GaeaVerif GaeaVerif.Health

/-- `CheckRepeat` of backend/slice.go as extracted from the working tree. -/
theorem checkRepeat_tie : Gen.healthCheckRepeat = (checkRepeat : Int) := by decide

/-- The judge's ghost state describes the model state. -/
def Rel28 (s : St) (g : G28) : Prop :=
  g.rep = s.rep.up ∧ g.master = s.master.up ∧ g.lastOkR = s.rep.lastChecked ∧ g.lastOkM = s.master.lastChecked

/-- The class listed in known/C28.json. -/
def Known28 (v : Viol28) : Prop := v = .replicaSyncIgnoredMasterDown

theorem rel28_init (t0 : Int) : Rel28 (St.init t0) (G28.init t0) := by
  simp [Rel28, St.init, G28.init]

theorem step28_master (c : Cfg) (s : St) (g : G28) (now : Int) (p : Probe) (h : Rel28 s g) :
    (judgeMaster28 c g now p (checkBackendMasterStatus c s now p).obs).1 = [] ∧
    Rel28 (checkBackendMasterStatus c s now p) (judgeMaster28 c g now p (checkBackendMasterStatus c s now p).obs).2 := by
  obtain ⟨gr, gm, gor, gom⟩ := g
  obtain ⟨rfl, rfl, rfl, rfl⟩ := h
  rw [master_round]
  cases hm : c.hasMaster
  · simp [judgeMaster28, hm, Rel28, St.obs]
  · cases hok : probeOk c p
    · by_cases hst : now - s.master.lastChecked ≥ c.downAfter <;> cases hu : s.master.up <;>
        simp [judgeMaster28, hm, Rel28, St.obs, lastOkAfter, hok, hst]
    · by_cases hst : 0 ≥ c.downAfter <;> cases hu : s.master.up <;>
        simp [judgeMaster28, hm, Rel28, St.obs, lastOkAfter, hok, hst]

/-- The replication answer a replica round reads while the master is down, its
    own probe having passed, is bad: the only situation in which the model does
    not follow the property text. -/
def badSyncInOutage (c : Cfg) (s : St) (p : Probe) (q : SlaveQ) : Bool :=
  masterDown c s && probeOk c p && (syncSpec c.sbm q == .bad)

theorem step28_replica (c : Cfg) (hs : c.sbm < 9223372036854775808) (s : St) (g : G28) (now : Int)
    (p : Probe) (q : SlaveQ) (h : Rel28 s g) :
    (judgeReplica28 c g now p q (tryRecover c s now p q).obs).1 =
      (if badSyncInOutage c s p q && decide (0 < c.downAfter) && (tryRecover c s now p q).rep.up
       then [.replicaSyncIgnoredMasterDown] else []) ∧
    Rel28 (tryRecover c s now p q) (judgeReplica28 c g now p q (tryRecover c s now p q).obs).2 := by
  obtain ⟨gr, gm, gor, gom⟩ := g
  obtain ⟨rfl, rfl, rfl, rfl⟩ := h
  have hm := (tryRecover_frame c s now p q).1
  have hr := tryRecover_rep c s now p q
  refine ⟨?_, by simp [Rel28, judgeReplica28, St.obs, hr, hm, lastOkAfter]⟩
  -- the replica's new status `u`, by the three things a round can do to it
  have stale := tryRecover_stale c s now p q
  have dead := tryRecover_dead c s now p q
  have alive := tryRecover_alive c s now p q
  simp only [St.obs, hm]
  generalize (tryRecover c s now p q).rep.up = u at stale dead alive ⊢
  cases hok : probeOk c p <;> rw [hok] at stale dead alive <;>
    simp only [lastOkAfter, if_true, if_false, Bool.false_eq_true] at stale dead alive
  · -- failed probe: no replication check
    by_cases hst : now - s.rep.lastChecked ≥ c.downAfter
    · simp [judgeReplica28, badSyncInOutage, hok, stale hst, hst]
    · have := alive (Int.not_le.mp hst) (syncAlive_noconn c s q)
      cases hup : s.rep.up <;> simp [judgeReplica28, badSyncInOutage, this, hst, hok, hup]
  · simp only [Int.sub_self] at stale alive
    by_cases hst : 0 ≥ c.downAfter
    · simp [judgeReplica28, hok, stale hst, hst]
    · cases hsy : syncSpec c.sbm q
      · have := alive (Int.not_le.mp hst) (syncAlive_of_good c hs s q (.inr hsy))
        cases hup : s.rep.up <;> cases hpol : c.policy <;>
          simp [judgeReplica28, badSyncInOutage, this, hst, hok, hup, hsy, allowsRecovery, hpol]
      · -- bad answer: down while the master is up; during an outage the check is skipped (the listed class)
        cases hmd : masterDown c s
        · have := dead ((syncAlive_bad c hs s q hsy).trans hmd)
          simp [judgeReplica28, badSyncInOutage, this, hst, hok, hsy, hmd]
        · have hmd' : obsMasterDown c s.master.up = true := hmd
          cases u <;> simp [judgeReplica28, badSyncInOutage, hst, hok, hsy, hmd, hmd', Int.not_le.mp hst]
      · simp [judgeReplica28, badSyncInOutage, hst, hok, hsy]

theorem step28_fuse (c : Cfg) (s : St) (g : G28) (now : Int) (ce tr : Bool) (h : Rel28 s g) :
    (judgeFuse28 c g ce tr (tryFuse c s now ce tr).obs).1 = [] ∧
    Rel28 (tryFuse c s now ce tr) (judgeFuse28 c g ce tr (tryFuse c s now ce tr).obs).2 := by
  obtain ⟨gr, gm, gor, gom⟩ := g
  obtain ⟨rfl, rfl, rfl, rfl⟩ := h
  rw [tryFuse_eq]
  cases hf : fuseFires c ce tr <;> have hf' : (c.policy != .none && ce && tr) = _ := hf <;>
    cases hu : s.rep.up <;> simp [judgeFuse28, St.obs, Rel28, hf', hu]

/-- One step: every violation the judge reports on the model's own step is the
    listed class and arises in a replica round that runs while the master is
    down, whose own probe passed and whose `show slave status` answer is bad;
    the ghost state keeps describing the model state. -/
theorem step28 (c : Cfg) (hs : c.sbm < 9223372036854775808) (s : St) (g : G28) (e : Ev) (h : Rel28 s g) :
    (∀ v ∈ (judgeStep28 c g e (step c s e).obs).1,
        Known28 v ∧ ∃ now p q, e = .replica now p q ∧ badSyncInOutage c s p q = true) ∧
    Rel28 (step c s e) (judgeStep28 c g e (step c s e).obs).2 := by
  cases e with
  | master now p =>
    have := step28_master c s g now p h
    simp only [judgeStep28, step]
    rw [this.1]
    exact ⟨by simp, this.2⟩
  | replica now p q =>
    have := step28_replica c hs s g now p q h
    simp only [judgeStep28, step]
    rw [this.1]
    refine ⟨fun v hv => ?_, this.2⟩
    split at hv
    · rename_i hb
      simp only [Bool.and_eq_true] at hb
      exact ⟨List.mem_singleton.mp hv, now, p, q, rfl, hb.1.1⟩
    · cases hv
  | fuse now ce tr =>
    have := step28_fuse c s g now ce tr h
    simp only [judgeStep28, step]
    rw [this.1]
    exact ⟨by simp, this.2⟩
  | tick now =>
    obtain ⟨r1, r2, r3, r4⟩ := h
    simp [judgeStep28, step, St.obs, Rel28, r1, r2, r3, r4]

/-- No replica round of the history that runs while the master is down (its own
    probe having passed) reads lag over the limit or a stopped thread. -/
def noBadSyncInOutage (c : Cfg) : St → List Ev → Bool
  | _, [] => true
  | s, e :: es =>
    (match e with
     | .replica _ p q => !badSyncInOutage c s p q
     | _ => true) && noBadSyncInOutage c (step c s e) es

theorem judge28_trace (c : Cfg) (hs : c.sbm < 9223372036854775808) :
    ∀ (evs : List Ev) (s : St) (g : G28), Rel28 s g →
      ∀ v ∈ judge28 c g evs ((trace c s evs).map St.obs), Known28 v ∧ noBadSyncInOutage c s evs = false := by
  intro evs
  induction evs with
  | nil => intro s g _ v hv; simp [judge28] at hv
  | cons e es ih =>
    intro s g h v hv
    simp only [trace, List.map_cons, judge28, List.mem_append] at hv
    have hst := step28 c hs s g e h
    rcases hv with hv | hv
    · obtain ⟨hk, now, p, q, rfl, hd⟩ := hst.1 v hv
      exact ⟨hk, by simp [noBadSyncInOutage, hd]⟩
    · have := ih _ _ hst.2 v hv
      exact ⟨this.1, by simp [noBadSyncInOutage, this.2]⟩

/-- **C28 on every history.**  For every configuration (with `secondsBehindMaster`
    a Go `int`), every start time and every history of master rounds, replica
    rounds, fuse calls and clock advances, the reference semantics of the
    property accepts the statuses the model produces, except for the one
    listed class (`replica-sync-ignored-master-down`). -/
theorem c28_spec_holds (c : Cfg) (hs : c.sbm < 9223372036854775808) (t0 : Int) (evs : List Ev) :
    ∀ v ∈ judge28 c (G28.init t0) evs ((trace c (St.init t0) evs).map St.obs), Known28 v :=
  fun v hv => (judge28_trace c hs evs _ _ (rel28_init t0) v hv).1

example : ∃ c : Cfg, c.sbm < 9223372036854775808 := ⟨⟨false, 0, 12, 5, true, true⟩, by decide⟩

/-- The reference semantics is not vacuous: it rejects a replica that is still
    up after 12 s without a successful probe, one that comes up on a failed
    probe, one that is taken down without a cause, and one that stays up with a
    stopped SQL thread; and accepts the trace the model produces. -/
example :
    let c : Cfg := ⟨false, 0, 12, 5, false, true⟩
    let evs : List Ev := [.replica 1012 ⟨.err, []⟩ .empty, .replica 1016 ⟨.nilConn, []⟩ .empty,
                          .replica 1020 ⟨.conn, []⟩ .empty,
                          .replica 1024 ⟨.conn, []⟩ (.row (.u64 0) (.str "Yes") (.str "No"))]
    judge28 c (G28.init 1000) evs [⟨true, true⟩, ⟨false, true⟩, ⟨true, true⟩, ⟨false, true⟩] = [.replicaNotDownAfterNoAlive] ∧
    judge28 c (G28.init 1000) evs [⟨false, true⟩, ⟨true, true⟩, ⟨true, true⟩, ⟨false, true⟩] = [.replicaNotDownAfterNoAlive] ∧
    judge28 c (G28.init 1000) evs [⟨false, true⟩, ⟨false, true⟩, ⟨false, true⟩, ⟨false, true⟩] = [.replicaNotRestoredAfterProbe] ∧
    judge28 c (G28.init 1000) evs [⟨false, true⟩, ⟨false, true⟩, ⟨true, true⟩, ⟨true, true⟩] = [.replicaSyncFailureNotMarkedDown] ∧
    judge28 c (G28.init 1000) evs [⟨false, true⟩, ⟨false, true⟩, ⟨true, false⟩, ⟨false, false⟩] = [.statusChangedWithoutEvent] ∧
    judge28 c (G28.init 1000) evs ((trace c (St.init 1000) evs).map St.obs) = [] := by decide

example :
    let c : Cfg := ⟨false, 0, 12, 5, false, true⟩
    let evs : List Ev := [.replica 1004 ⟨.conn, []⟩ (.row (.u64 9) (.str "Yes") (.str "Yes")),
                          .replica 1008 ⟨.err, []⟩ .empty, .replica 1012 ⟨.conn, []⟩ .empty, .replica 1013 ⟨.err, []⟩ .empty]
    judge28 c (G28.init 1000) evs [⟨false, true⟩, ⟨true, true⟩, ⟨true, true⟩, ⟨true, true⟩] = [.replicaUpWithoutProbe] ∧
    judge28 c (G28.init 1000) evs [⟨false, true⟩, ⟨false, true⟩, ⟨true, true⟩, ⟨false, true⟩] = [.replicaDownWithoutCause] := by decide

/-- **C28 unless lag or a stopped thread is read during a master outage**
    (`_partial`: the hypothesis excludes the replica rounds that run while the
    master is down, pass their own probe and read a bad `show slave status`
    answer; without it the statement is false of the code, see
    `replica_sync_ignored_master_down_witness`).  On such histories — in
    particular on every history whose replica rounds see the master up, and on
    every history with `secondsBehindMaster = 0` — the reference semantics
    reports no violation at all.

    Full statement (false): `∀ c t0 evs, judge28 c (G28.init t0) evs (…) = []`. -/
theorem c28_spec_holds_no_bad_sync_in_outage_partial (c : Cfg) (hs : c.sbm < 9223372036854775808) (t0 : Int)
    (evs : List Ev) (hm : noBadSyncInOutage c (St.init t0) evs = true) :
    judge28 c (G28.init t0) evs ((trace c (St.init t0) evs).map St.obs) = [] :=
  List.eq_nil_iff_forall_not_mem.mpr fun v hv =>
    Bool.false_ne_true ((judge28_trace c hs evs _ _ (rel28_init t0) v hv).2.symm.trans hm)

/-- master down at 1012; a replica round with a failed probe, one with a passed
    probe and a good answer, and — the master back up at 1022 — one with lag -/
example : noBadSyncInOutage ⟨false, 0, 12, 5, true, true⟩ (St.init 1000)
    [.master 1012 ⟨.err, []⟩, .replica 1013 ⟨.err, []⟩ (.row (.u64 9) (.str "No") (.str "Yes")),
     .replica 1016 ⟨.conn, [⟨.soft, true, true⟩]⟩ (.row (.u64 5) (.str "Yes") (.str "Yes")),
     .master 1022 ⟨.conn, []⟩, .replica 1023 ⟨.conn, []⟩ (.row (.u64 6) (.str "Yes") (.str "Yes"))] = true := by decide

theorem noBadSync_of_sbm_zero (c : Cfg) (h0 : c.sbm = 0) : ∀ (evs : List Ev) (s : St), noBadSyncInOutage c s evs = true := by
  intro evs
  induction evs with
  | nil => intro s; rfl
  | cons e es ih =>
    intro s
    cases e <;> simp [noBadSyncInOutage, badSyncInOutage, syncSpec, h0, ih]

/-- **C28 at full strength** with the replication check switched off
    (`secondsBehindMaster = 0`): no violation on any history. -/
theorem c28_spec_holds_sync_check_off (c : Cfg) (h0 : c.sbm = 0) (t0 : Int) (evs : List Ev) :
    judge28 c (G28.init t0) evs ((trace c (St.init t0) evs).map St.obs) = [] :=
  c28_spec_holds_no_bad_sync_in_outage_partial c (by omega) t0 evs (noBadSync_of_sbm_zero c h0 evs _)

/-- Time of the replica's last successful probe along a history (creation time if none). -/
def lastOkRep (c : Cfg) (t0 : Int) : List Ev → Int
  | [] => t0
  | e :: es =>
    match e with
    | .replica now p _ => lastOkRep c (if probeOk c p then now else t0) es
    | _ => lastOkRep c t0 es

/-- Time of the master's last successful probe along a history. -/
def lastOkMaster (c : Cfg) (t0 : Int) : List Ev → Int
  | [] => t0
  | e :: es =>
    match e with
    | .master now p => lastOkMaster c (if probeOk c p then now else t0) es
    | _ => lastOkMaster c t0 es

theorem run_rep_lastChecked (c : Cfg) : ∀ (evs : List Ev) (s : St),
    (run c s evs).rep.lastChecked = lastOkRep c s.rep.lastChecked evs :=
  run_fold c (·.rep.lastChecked) (lastOkRep c) (fun _ => rfl) fun s e es => by
    cases e with
    | master now p =>
      obtain ⟨m, hm⟩ := master_frame c s now p
      simp only [lastOkRep, step, hm]
    | replica now p q => simp only [lastOkRep, step, tryRecover_rep, lastOkAfter]
    | fuse now ce tr => simp only [lastOkRep, step, (tryFuse_frame c s now ce tr).2]
    | tick now => rfl

theorem run_master_lastChecked (c : Cfg) (hm : c.hasMaster = true) : ∀ (evs : List Ev) (s : St),
    (run c s evs).master.lastChecked = lastOkMaster c s.master.lastChecked evs :=
  run_fold c (·.master.lastChecked) (lastOkMaster c) (fun _ => rfl) fun s e es => by
    cases e with
    | master now p => simp [lastOkMaster, step, master_round, hm, lastOkAfter]
    | replica now p q => simp only [lastOkMaster, step, (tryRecover_frame c s now p q).1]
    | fuse now ce tr => simp only [lastOkMaster, step, (tryFuse_frame c s now ce tr).1]
    | tick now => rfl

/-- **Down after no alive (replica).**  Whatever happened before: after a replica
    round at time `now`, if the replica's last successful probe of the whole
    history (this round included) is `downAfter` seconds or more in the past,
    the replica is down — under every policy and master state. -/
theorem down_after_replica (c : Cfg) (t0 : Int) (evs : List Ev) (now : Int) (p : Probe) (q : SlaveQ)
    (h : now - lastOkRep c t0 (evs ++ [.replica now p q]) ≥ c.downAfter) :
    (run c (St.init t0) (evs ++ [.replica now p q])).rep.up = false := by
  have hl : _ = lastOkRep c t0 _ := run_rep_lastChecked c (evs ++ [.replica now p q]) (St.init t0)
  rw [run_append] at hl ⊢
  refine tryRecover_stale c _ now p q ?_
  rw [← hl, step, tryRecover_rep] at h
  exact h

/-- **Down after no alive (master).** -/
theorem down_after_master (c : Cfg) (hm : c.hasMaster = true) (t0 : Int) (evs : List Ev) (now : Int) (p : Probe)
    (h : now - lastOkMaster c t0 (evs ++ [.master now p]) ≥ c.downAfter) :
    (run c (St.init t0) (evs ++ [.master now p])).master.up = false := by
  have hl := run_master_lastChecked c hm (evs ++ [.master now p]) (St.init t0)
  rw [run_append] at hl ⊢
  rw [show (St.init t0).master.lastChecked = t0 from rfl] at hl
  rw [← hl] at h
  simp only [step, master_round, hm, Bool.not_true, Bool.false_eq_true, if_false] at h ⊢
  exact if_pos h

example : lastOkRep ⟨false, 0, 12, 0, false, true⟩ 1000
    [.replica 1004 ⟨.conn, []⟩ .empty, .replica 1008 ⟨.err, []⟩ .empty, .replica 1016 ⟨.err, []⟩ .empty] = 1004 := by decide

/-- **Lag or a stopped thread marks the replica down** (`_partial`: while the
    master is up; false otherwise, see `replica_sync_ignored_master_down_witness`
    — the one open finding).  For every state: a round whose probe succeeds and
    whose `show slave status` reports lag over the limit or a stopped thread
    leaves the replica down.

    Full statement (false): the same without `hmu`. -/
theorem lag_marks_down_partial (c : Cfg) (hs : c.sbm < 9223372036854775808) (s : St) (now : Int) (p : Probe) (q : SlaveQ)
    (hok : probeOk c p = true) (hbad : syncSpec c.sbm q = .bad) (hmu : masterDown c s = false) :
    (tryRecover c s now p q).rep.up = false :=
  tryRecover_dead c s now p q (hok ▸ (syncAlive_bad c hs s q hbad).trans hmu)

example : syncSpec 5 (.row (.u64 6) (.str "Yes") (.str "Yes")) = .bad := by decide
example : syncSpec 5 (.row (.u64 0) (.str "No") (.str "Yes")) = .bad := by decide

/-- **A node comes up only after a successful probe.**  For every state, every
    policy and whatever the master's state: if a round turns a down replica up,
    its own probe succeeded in that round, less than `downAfter` seconds have
    passed and the replication check did not fail (or was skipped because the
    master is down). -/
theorem up_only_after_successful_probe (c : Cfg) (s : St) (now : Int) (p : Probe) (q : SlaveQ)
    (hdown : s.rep.up = false) (hup : (tryRecover c s now p q).rep.up = true) :
    probeOk c p = true ∧ 0 < c.downAfter ∧ (masterDown c s = true ∨ checkSlaveSyncStatus true c.sbm q = true) := by
  obtain ⟨hok, hd, ha, -⟩ := tryRecover_restores c s now p q hdown hup
  exact ⟨hok, hd, (syncAlive_iff c s true q).mp ha⟩

example : ∃ (c : Cfg) (s : St) (p : Probe) (q : SlaveQ), s.rep.up = false ∧ masterDown c s = true ∧
    (tryRecover c s 1013 p q).rep.up = true :=
  ⟨⟨false, 0, 12, 5, false, true⟩, { St.init 1000 with rep := ⟨false, 1004⟩, master := ⟨false, 1000⟩ }, ⟨.conn, []⟩, .empty,
   by decide, by decide, by decide⟩

/-- **A down replica comes up after a successful probe** (no recovery policy;
    fused replicas under a policy are C27): probe succeeded, `downAfter` is
    positive, the replication check does not fail or is skipped because the
    master is down — the replica is up after the round. -/
theorem restored_after_successful_probe (c : Cfg) (hp : c.policy = .none) (hs : c.sbm < 9223372036854775808)
    (s : St) (now : Int) (p : Probe) (q : SlaveQ)
    (hok : probeOk c p = true) (hd : 0 < c.downAfter)
    (hgood : masterDown c s = true ∨ syncSpec c.sbm q = .good) :
    (tryRecover c s now p q).rep.up = true := by
  rw [tryRecover_passed c s now p q hok hd (syncAlive_of_good c hs s q hgood), allowsRecovery, hp, Bool.or_true]

example : ∃ (c : Cfg) (s : St), c.policy = .none ∧ c.sbm < 9223372036854775808 ∧ 0 < c.downAfter ∧
    probeOk c ⟨.conn, []⟩ = true ∧ (masterDown c s = true ∨ syncSpec c.sbm .empty = .good) :=
  ⟨⟨false, 0, 12, 5, false, true⟩, St.init 1000, by decide, by decide, by decide, by decide, by decide⟩

/-- **Reads keep being served during a master outage** (the maintainers' intent
    behind the master-down branches, as repaired): while the master is down a
    replica whose own probe passes in this round — whatever `show slave status`
    says — is up after the round if it was up, and is restored if it was down
    and its recovery policy allows it (none: at once; hard: cool-down over;
    gradual: count used up). -/
theorem served_during_master_outage (c : Cfg) (s : St) (now : Int) (p : Probe) (q : SlaveQ)
    (hmd : masterDown c s = true) (hok : probeOk c p = true) (hd : 0 < c.downAfter)
    (hallow : s.rep.up = true ∨ c.policy = .none ∨ (c.policy = .hard ∧ now ≥ s.lastFuse + c.cooling) ∨
              (c.policy = .gradual ∧ s.cscc ≤ 0)) :
    (tryRecover c s now p q).rep.up = true := by
  rw [tryRecover_passed c s now p q hok hd ((syncAlive_iff c s true q).mpr (.inl hmd))]
  rcases hallow with hu | hp | ⟨hp, hc⟩ | ⟨hp, hz⟩
  · rw [hu, Bool.true_or]
  · rw [allowsRecovery, hp, Bool.or_true]
  · rw [allowsRecovery, hp, decide_eq_true hc, Bool.or_true]
  · rw [allowsRecovery, hp, decide_eq_true hz, Bool.or_true]

example : ∃ (c : Cfg) (s : St), masterDown c s = true ∧ probeOk c ⟨.conn, []⟩ = true ∧ 0 < c.downAfter ∧
    s.rep.up = false ∧ c.policy = .hard ∧ (1040 : Int) ≥ s.lastFuse + c.cooling :=
  ⟨⟨true, 30, 12, 5, false, true⟩,
   { St.init 1000 with rep := ⟨false, 1000⟩, master := ⟨false, 1000⟩, lastFuse := 1004 },
   by decide, by decide, by decide, by decide, by decide, by decide⟩

/-- **The master comes up after a successful probe and goes down only after
    `downAfter` seconds without one**: the master's status after its round is
    this function of its previous status, the probe and the time. -/
theorem master_restored_after_successful_probe (c : Cfg) (hm : c.hasMaster = true) (s : St) (now : Int) (p : Probe) :
    (checkBackendMasterStatus c s now p).master.up =
      (if now - (if probeOk c p then now else s.master.lastChecked) ≥ c.downAfter then false
       else (s.master.up || probeOk c p)) := by
  simp [master_round, hm, lastOkAfter]

/-- **No other cause takes a replica down**: an up replica whose last successful
    probe is recent enough and whose replication check does not fail stays up. -/
theorem stays_up_without_cause (c : Cfg) (s : St) (now : Int) (p : Probe) (q : SlaveQ)
    (hup : s.rep.up = true)
    (hrecent : now - (if probeOk c p then now else s.rep.lastChecked) < c.downAfter)
    (halive : checkSlaveSyncStatus (probeOk c p) c.sbm q = true) :
    (tryRecover c s now p q).rep.up = true := by
  rw [tryRecover_alive c s now p q hrecent ((syncAlive_iff c s _ q).mpr (.inr halive))]
  simp [hup]

/-- **No other event changes a node's status**: a master round leaves the
    replica alone, a replica round leaves the master alone, a clock advance
    changes nothing, and a TryFuse call changes nothing unless the breaker is
    installed, the error is a connection error and the breaker fires — in
    which case the replica is down. -/
theorem other_events_change_nothing (c : Cfg) (s : St) :
    (∀ now p, (checkBackendMasterStatus c s now p).rep = s.rep) ∧
    (∀ now p q, (tryRecover c s now p q).master = s.master) ∧
    (∀ now, step c s (.tick now) = s) ∧
    (∀ now ce tr, (tryFuse c s now ce tr).master = s.master) ∧
    (∀ now ce tr, ¬(c.policy ≠ .none ∧ ce = true ∧ tr = true) → tryFuse c s now ce tr = s) ∧
    (∀ now, c.policy ≠ .none → (tryFuse c s now true true).rep.up = false) := by
  refine ⟨?_, ?_, ?_, ?_, ?_, ?_⟩
  · intro now p
    obtain ⟨m, hm⟩ := master_frame c s now p
    rw [hm]
  · exact fun now p q => (tryRecover_frame c s now p q).1
  · intro now; rfl
  · intro now ce tr
    exact (tryFuse_frame c s now ce tr).1
  · intro now ce tr h
    rw [tryFuse_eq, if_pos]
    rw [Bool.not_eq_true', Bool.eq_false_iff]
    exact fun hf => h (by simpa [fuseFires, and_assoc] using hf)
  · intro now h
    rw [tryFuse_eq, if_neg (by simpa [fuseFires] using h)]

/-! ### what checkInstanceStatus counts as a passed probe -/

/-- With a health SQL configured, a probe passes as soon as the health SQL
    succeeds on the first attempt. -/
theorem probe_passes_on_health_sql (c : Cfg) (h : c.healthSql = true) (a : Attempt) (as : List Attempt)
    (ha : a.hs = .ok) : probeOk c ⟨.conn, a :: as⟩ = true := by
  simp [probeOk, checkInstanceStatus, checkLoop, h, ha]

/-- No connection, no pass: whatever the attempts would answer. -/
theorem probe_fails_without_connection (c : Cfg) (g : GetCheck) (as : List Attempt) (h : g ≠ .conn) :
    probeOk c ⟨g, as⟩ = false := by
  cases g <;> simp_all [probeOk, checkInstanceStatus]

/-- A failed ping on the first attempt fails the probe unless the health SQL
    already answered. -/
theorem probe_fails_on_ping (c : Cfg) (a : Attempt) (as : List Attempt)
    (hh : (c.healthSql && a.hs == .ok) = false) (hp : a.ping = false) : probeOk c ⟨.conn, a :: as⟩ = false := by
  simp only [probeOk, checkInstanceStatus, checkLoop, List.headD_cons, hh, hp]
  simp

/-- The history on which the pinned code violated the property (class
    `replica-up-without-probe-master-down`, repaired by fix 4cba6eb): the replica
    goes down for lag at 1004 (its probe succeeded); the master is marked down
    at 1012; at 1013 the replica's probe fails — the replica stays down
    (no-recovery policy; the hard policy behaves the same), and the judge
    rejects a replica that comes up. -/
theorem replica_up_without_probe_master_down_repaired :
    ∀ c ∈ ([⟨false, 0, 12, 5, false, true⟩, ⟨true, 30, 12, 5, false, true⟩] : List Cfg),
    let evs : List Ev := [.replica 1004 ⟨.conn, []⟩ (.row (.u64 9) (.str "Yes") (.str "Yes")),
                          .master 1012 ⟨.err, []⟩, .replica 1013 ⟨.err, []⟩ .empty]
    (trace c (St.init 1000) evs).map St.obs = [⟨false, true⟩, ⟨false, false⟩, ⟨false, false⟩] ∧
    probeOk c ⟨.err, []⟩ = false ∧
    judge28 c (G28.init 1000) evs ((trace c (St.init 1000) evs).map St.obs) = [] ∧
    judge28 c (G28.init 1000) evs [⟨false, true⟩, ⟨false, false⟩, ⟨true, false⟩] = [.replicaUpWithoutProbeMasterDown] := by
  decide

/-- The open class.  The master is marked down at 1012; at 1013 the replica's
    probe succeeds and `show slave status` reports 9 s of lag (limit 5) and a
    stopped IO thread — and the replica stays up, under every policy. -/
theorem replica_sync_ignored_master_down_witness :
    ∀ c ∈ ([⟨false, 0, 12, 5, false, true⟩, ⟨true, 30, 12, 5, false, true⟩, ⟨true, 0, 12, 5, false, true⟩] : List Cfg),
    let evs : List Ev := [.master 1012 ⟨.err, []⟩, .replica 1013 ⟨.conn, []⟩ (.row (.u64 9) (.str "No") (.str "Yes"))]
    (trace c (St.init 1000) evs).map St.obs = [⟨true, false⟩, ⟨true, false⟩] ∧
    syncSpec c.sbm (.row (.u64 9) (.str "No") (.str "Yes")) = .bad ∧
    noBadSyncInOutage c (St.init 1000) evs = false ∧
    judge28 c (G28.init 1000) evs ((trace c (St.init 1000) evs).map St.obs) = [.replicaSyncIgnoredMasterDown] := by
  decide

end GaeaVerif.C28
