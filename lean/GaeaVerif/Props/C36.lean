import GaeaVerif.Model.Fingerprint
import GaeaVerif.Model.FingerprintGrammar
import GaeaVerif.Lemmas.FingerprintSteps
import GaeaVerif.Lemmas.FingerprintBlank
import GaeaVerif.Lemmas.SplitOn
import GaeaVerif.Gen.Consts
/-
  C36 — The SQL blacklist ignores literals, spacing, case and comments.

  Theorems about `Model/Fingerprint.lean` (transliteration of
  mysql.GetFingerprint with blankComments, and of parseBlackSqls /
  Namespace.IsSQLAllowed, tied to /repo by the correspondence check
  `gvh run C36`).

  Statements are taken from the token grammar of `Model/FingerprintGrammar.lean`:
  a statement is a sequence of items, each followed by a separator.
  * A *chunk* is text without blanks: word text (keywords, identifiers,
    operators, punctuation), numeric literals (plain, hex, with exponent `e-5` /
    `e+5`, signed, with a leading dot) and quoted strings (backslash escapes,
    doubled quotes, hex/bit strings `x'0F'`) glued together: `select`, `t.id`,
    `a,`, `>=`, `count(*)`, `id=1`, `name>='it''s'`, `f(1,2)`, `5,10`,
    `(a=-1.5e+3`, `a=x'0F'`.
  * A *value list* is `in`/`value`/`values`, a gap, a parenthesised list
    (balanced parentheses, closed quotes) and any number of further rows
    `, ( … )`; a one-row list may be glued to the chunk after it (`(a in (1))`).
  * A separator (behind an item) is a non-empty gap; a gap (inside a value list,
    in front of and behind the statement) is any sequence of white-space characters
    (blank, tab, CR, LF, VT, FF) and complete comments `/* */`, `-- `, `#`:
    a comment may be glued to the tokens around it, stand between `in` and its
    list, between two rows, and inside the parentheses of a list (where it may
    hold quotes and parentheses).
  Two statements are *variants* of each other if they have the same skeleton
  (`Stmt.skeleton`: the lower-cased word text in order, `?` for every literal,
  `in(?+)` for every value list): they differ only in literal values, letter
  case, amount and kind of white space, comments, and the contents and number
  of rows of value lists.

  Everything rests on `fingerprint_eq_joinSp`: the fingerprint of a statement
  of the grammar, of any length, is its skeleton joined by single blanks.
  `blankComments` makes the statement comment-free (`blank_stmt`,
  Lemmas/FingerprintBlank.lean), the state machine writes the normal forms of
  the items of a comment-free statement (`fingerprint_core`: the tokenizer of
  Lemmas/FingerprintTokenizer.lean does so, `core_run`, and the state machine
  follows the tokenizer rule by rule, `run_of_tokenizer` of Lemmas/FingerprintSteps.lean),
  and joining blank-free tokens by single blanks is injective (`joinSp_inj`).

  `_partial`: the property quantifies over every SELECT/INSERT/UPDATE/DELETE
  statement; the theorems cover the grammar above.  NOT covered (correspondence
  and oracle only): the words `null` (as a value) / `asc` / `use` and
  `in`/`value(s)` without a list (also behind `ON DUPLICATE KEY UPDATE`, where
  only the glued form `a=values(a)` is covered), the characters
  `: + - / #` inside word text (arithmetic), a word glued behind a number
  (`1and`), a comma or an operator directly after a value
  list.  Two classes in which the code is known to fail remain open
  (`known/C36.json`, `…_witness` theorems below): optional white space around
  operators and punctuation is significant (`id=1` / `id = 1`, as the expected
  strings of mysql/sql_fingerprint_test.go demand), and the contents of a
  value list are collapsed whatever they are (`a in (1)` / `a in (b)`).
  The model is that of the code after the fix commits of the repository
  worktree listed in known/C36.json (`fixed`); the `…_repaired` theorems record
  the former witnesses.
-/
namespace GaeaVerif.C36
open GaeaVerif.Fingerprint GaeaVerif.FingerprintGrammar GaeaVerif.FingerprintSteps GaeaVerif.FingerprintBlank

/-- **The state machine writes the skeleton of every comment-free statement
    of the grammar**: the normal form of every item, one blank after each
    separator; it does not panic.  The tokenizer does so (`core_run`), and the
    state machine follows the tokenizer (`run_of_tokenizer`). -/
theorem fingerprint_core (s : Stmt) (hcore : s.core = true) :
    run (s.text ++ [' ']) (2 * (s.text ++ [' ']).length + 1) 0 {} (s.text ++ [' ']) =
      .ret (trimTrailing (normAll s.allItems)) := by
  obtain ⟨a', hrun, hout⟩ := core_run s hcore
  rw [run_of_tokenizer hrun, hout]

/-! ### Skeletons determine fingerprints, and are determined by them -/

def TokOK (t : List Char) : Prop := t ≠ [] ∧ ∀ c ∈ t, isSpace c = false

theorem joinSkel_eq (sk : List (List Char)) (h : sk ≠ []) : joinSkel sk = joinSp sk ++ [' '] := by
  induction sk with
  | nil => exact absurd rfl h
  | cons t rest ih =>
    cases rest with
    | nil => simp [joinSkel, joinSp]
    | cons u r => rw [joinSkel, ih (by simp)]; simp [joinSp]

theorem joinSp_last (sk : List (List Char)) (h : sk ≠ []) (hok : ∀ t ∈ sk, TokOK t) :
    ∃ xs c, joinSp sk = xs ++ [c] ∧ isSpace c = false := by
  induction sk with
  | nil => exact absurd rfl h
  | cons t rest ih =>
    cases rest with
    | nil =>
      have ht := hok t (by simp)
      refine ⟨t.dropLast, t.getLast ht.1, ?_, ht.2 _ (List.getLast_mem ht.1)⟩
      simp [joinSp, List.dropLast_concat_getLast]
    | cons u r =>
      obtain ⟨xs, c, h1, h2⟩ := ih (by simp) (fun t ht => hok t (by simp [ht]))
      exact ⟨t ++ ' ' :: xs, c, by simp [joinSp, h1], h2⟩

theorem trim_joinSkel (sk : List (List Char)) (hok : ∀ t ∈ sk, TokOK t) :
    trimTrailing (joinSkel sk) = joinSp sk := by
  cases sk with
  | nil => simp [joinSkel, joinSp, trimTrailing]
  | cons t rest =>
    rw [joinSkel_eq _ (by simp), trimTrailing_snoc_space]
    obtain ⟨xs, c, h1, h2⟩ := joinSp_last (t :: rest) (by simp) hok
    rw [h1, trimTrailing_of_last xs c h2]

theorem ne_blank_of_tokOK {t : List Char} (h : TokOK t) : ∀ c ∈ t, c ≠ ' ' :=
  fun c hc e => by have := h.2 c hc; rw [e] at this; revert this; decide

theorem split_joinSp : ∀ (sk : List (List Char)), sk ≠ [] → (∀ t ∈ sk, TokOK t) → Split.split ' ' (joinSp sk) = sk
  | [t], _, h => Split.split_no_sep (ne_blank_of_tokOK (h t (by simp)))
  | t :: u :: rest, _, h => by
    rw [joinSp, Split.split_append_sep (ne_blank_of_tokOK (h t (by simp))),
      split_joinSp (u :: rest) (by simp) fun x hx => h x (by simp [hx])]

theorem joinSp_inj (a b : List (List Char)) (ha : ∀ t ∈ a, TokOK t) (hb : ∀ t ∈ b, TokOK t)
    (h : joinSp a = joinSp b) : a = b := by
  -- the join of no tokens is empty, that of some tokens is not: its first token is not
  have hnil : ∀ sk : List (List Char), (∀ t ∈ sk, TokOK t) → joinSp sk = [] → sk = [] := by
    intro sk hsk e
    match sk, hsk, e with
    | [], _, _ => rfl
    | [t], hsk, e => exact absurd e (hsk t (by simp)).1
    | t :: u :: rest, hsk, e =>
      cases t with
      | nil => exact absurd rfl (hsk [] (by simp)).1
      | cons _ _ => cases e
  by_cases ea : a = []
  · rw [ea, hnil b hb (by rw [← h, ea]; rfl)]
  · have eb : b ≠ [] := fun e => ea (hnil a ha (by rw [h, e]; rfl))
    rw [← split_joinSp a ea ha, h, split_joinSp b eb hb]

/-! ### Normal forms are blank-free tokens -/

theorem lower_word_tokOK (w : List Char) (h : wordShape w = true) : TokOK (lower w) := by
  refine ⟨fun e => ?_, fun x hx => ?_⟩
  · rw [List.map_eq_nil_iff.mp e] at h; simp [wordShape] at h
  · simp only [lower, List.mem_map] at hx
    obtain ⟨y, hy, rfl⟩ := hx
    exact toLower_space y (isSpace_of_not_bad (wordShape_notBad h y hy))

theorem tokOK_append (a b : List Char) (ha : TokOK a) (hb : ∀ c ∈ b, isSpace c = false) : TokOK (a ++ b) := by
  refine ⟨by simp [ha.1], ?_⟩
  intro c hc
  rcases List.mem_append.mp hc with hc | hc
  · exact ha.2 c hc
  · exact hb c hc

theorem segNorm_tok (x : Seg) (ctx : SegCtx) (rest : List Seg) (h : segsOK ctx (x :: rest) = true) : TokOK x.norm := by
  cases x with
  | w t =>
    simp only [segsOK, Bool.and_eq_true] at h
    exact lower_word_tokOK t h.1.2
  | n _ | s _ | p _ _ => exact ⟨by simp [Seg.norm], by intro c hc; simp [Seg.norm] at hc; subst hc; decide⟩

theorem segsOK_tail (x : Seg) (ctx : SegCtx) (rest : List Seg) (h : segsOK ctx (x :: rest) = true) :
    ∃ ctx', segsOK ctx' rest = true ∧ ctx' ≠ .start := by
  cases x with
  | w t =>
    simp only [segsOK, Bool.and_eq_true] at h
    cases hl : t.getLast? with
    | none => rw [hl] at h; cases h.2
    | some a => rw [hl] at h; exact ⟨_, h.2, by simp⟩
  | n _ | s _ | p _ _ => simp only [segsOK, Bool.and_eq_true] at h; exact ⟨_, h.2, by simp⟩

theorem segsNorm_nospace : ∀ (segs : List Seg) (ctx : SegCtx), segsOK ctx segs = true →
    ∀ c ∈ segsNorm segs, isSpace c = false := by
  intro segs
  induction segs with
  | nil => intro _ _ c hc; simp [segsNorm] at hc
  | cons x rest ih =>
    intro ctx h c hc
    rw [segsNorm_cons] at hc
    rcases List.mem_append.mp hc with hc | hc
    · exact (segNorm_tok x ctx rest h).2 c hc
    · obtain ⟨ctx', h', _⟩ := segsOK_tail x ctx rest h
      exact ih ctx' h' c hc

theorem norm_tokOK (it : Item) (h : it.shapeOK = true) : TokOK it.norm := by
  cases it with
  | chunk segs =>
    cases segs with
    | nil => simp [Item.shapeOK, segsOK] at h
    | cons x rest =>
      simp only [Item.shapeOK] at h
      obtain ⟨ctx', h', _⟩ := segsOK_tail x .start rest h
      simp only [Item.norm, segsNorm_cons]
      exact tokOK_append _ _ (segNorm_tok x .start rest h) (segsNorm_nospace rest ctx' h')
  | vlist kw gap content rows =>
    simp only [Item.shapeOK, kwShape, Bool.and_eq_true] at h
    have hk := lower_word_tokOK kw h.1.1.1.1.1
    simp only [Item.norm]
    apply tokOK_append _ _ hk
    intro c hc
    split at hc <;> simp at hc <;> rcases hc with rfl | rfl | rfl | rfl <;> decide

theorem skelOf_ne_nil : ∀ (its : List (Item × Gap)), its ≠ [] → skelOf its ≠ [] := by
  intro its h
  cases its with
  | nil => exact absurd rfl h
  | cons p rest =>
    obtain ⟨it, g⟩ := p
    simp only [skelOf]
    split
    · split <;> simp
    · simp

theorem skelOf_tokOK : ∀ (its : List (Item × Gap)), (∀ p ∈ its, p.1.shapeOK = true) →
    ∀ t ∈ skelOf its, TokOK t := by
  intro its
  induction its with
  | nil => intro _ t ht; simp [skelOf] at ht
  | cons p rest ih =>
    intro h t ht
    obtain ⟨it, g⟩ := p
    have hn := norm_tokOK it (h (it, g) (by simp))
    have ihr := ih (fun p hp => h p (by simp [hp]))
    simp only [skelOf] at ht
    split at ht
    · split at ht
      · simp only [List.mem_singleton] at ht; subst ht; exact hn
      · rename_i t0 ts hsk
        rcases List.mem_cons.mp ht with ht | ht
        · subst ht
          exact tokOK_append _ _ hn (ihr t0 (by rw [hsk]; simp)).2
        · exact ihr t (by rw [hsk]; simp [ht])
    · rcases List.mem_cons.mp ht with ht | ht
      · subst ht; exact hn
      · exact ihr t ht

theorem normAll_eq : ∀ (its : List (Item × Gap)), sepsOK its = true → normAll its = joinSkel (skelOf its) := by
  intro its
  induction its with
  | nil => intro _; rfl
  | cons p rest ih =>
    intro h
    obtain ⟨it, g⟩ := p
    simp only [sepsOK_cons, Bool.and_eq_true] at h
    obtain ⟨⟨h1, _⟩, h3⟩ := h
    have ihr := ih h3
    simp only [normAll, skelOf]
    cases hg : g.isEmpty with
    | true =>
      rw [hg] at h1
      simp only [if_true, Bool.and_eq_true, Bool.not_eq_true', List.isEmpty_eq_false_iff] at h1
      have hne := skelOf_ne_nil rest h1.2
      cases hsk : skelOf rest with
      | nil => exact absurd hsk hne
      | cons t ts =>
        rw [hsk] at ihr
        simp [ihr, joinSkel]
    | false => simp [ihr, joinSkel]

theorem skeleton_tokOK (s : Stmt) (hok : s.ok = true) : ∀ t ∈ s.skeleton, TokOK t :=
  skelOf_tokOK s.allItems (allItems_shape s hok)

/-! ### The fingerprint of a statement of the grammar -/

/-- **The fingerprint of every statement of the grammar is its skeleton
    joined by single blanks**, and `GetFingerprint` does not panic on it. -/
theorem fingerprint_eq_joinSp (s : Stmt) (hok : s.ok = true) :
    getFingerprint s.text = .ret (joinSp s.skeleton) := by
  obtain ⟨hcore, hskel⟩ := toCore_core s hok
  have hrun := fingerprint_core s.toCore hcore
  obtain ⟨_, _, _, _, _, hseps⟩ := (stmt_core_iff _).mp hcore
  rw [← blank_stmt s hok] at hrun
  rw [getFingerprint_of_run hrun, normAll_eq _ hseps]
  have : skelOf s.toCore.allItems = s.skeleton := hskel
  rw [this, trim_joinSkel _ (skeleton_tokOK s hok)]

/-- `fingerprint_eq_joinSp` with the trailing-blank form of the skeleton. -/
theorem fingerprint_of_stmt (s : Stmt) (hok : s.ok = true) :
    getFingerprint s.text = .ret (trimTrailing (joinSkel s.skeleton)) := by
  rw [fingerprint_eq_joinSp s hok, trim_joinSkel _ (skeleton_tokOK s hok)]

/-- **C36, invariance (partial: the statements of the grammar).**  Two
    statements with the same skeleton — they differ only in literal values,
    letter case, white space, comments (glued or not, around and inside value
    lists) and the contents and rows of value lists — have the same
    fingerprint, and `GetFingerprint` panics on neither. -/
theorem fp_invariant_partial (a b : Stmt) (ha : a.ok = true) (hb : b.ok = true)
    (hsk : a.skeleton = b.skeleton) :
    getFingerprint a.text = getFingerprint b.text ∧ getFingerprint a.text ≠ .panic := by
  rw [fingerprint_eq_joinSp a ha, fingerprint_eq_joinSp b hb, hsk]
  exact ⟨rfl, by simp⟩

/-- **C36, discrimination (partial: the statements of the grammar).**
    Statements with different skeletons (a different identifier, operator,
    keyword, or a different number of items) have different fingerprints. -/
theorem fp_discriminates_partial (a b : Stmt) (ha : a.ok = true) (hb : b.ok = true)
    (hsk : a.skeleton ≠ b.skeleton) :
    getFingerprint a.text ≠ getFingerprint b.text := by
  rw [fingerprint_eq_joinSp a ha, fingerprint_eq_joinSp b hb]
  intro h
  apply hsk
  exact joinSp_inj _ _ (skeleton_tokOK a ha) (skeleton_tokOK b hb) (by simpa using h)

/-! ### The blacklist -/

theorem segsText_ne_nil (segs : List Seg) (ctx : SegCtx) (h : segsOK ctx segs = true) (hne : segs ≠ []) :
    segsText segs ≠ [] := by
  cases segs with
  | nil => exact absurd rfl hne
  | cons x rest =>
    rw [segsText_cons]
    cases x with
    | w t | n t | s t =>
      simp only [segsOK, Bool.and_eq_true] at h
      cases t with
      | nil => simp [wordShape, numShape, strShape] at h
      | cons _ _ => simp [Seg.text]
    | p c t => simp [Seg.text]

theorem stmt_text_ne_nil (s : Stmt) (hok : s.ok = true) : s.text.length ≠ 0 := by
  obtain ⟨_, _, hlast, _⟩ := (stmt_ok_iff s).mp hok
  have : s.last.text ≠ [] := by
    cases hl : s.last with
    | chunk segs =>
      rw [hl] at hlast
      simp only [Item.shapeOK] at hlast
      have hne : segs ≠ [] := by intro e; subst e; simp [segsOK] at hlast
      exact segsText_ne_nil segs .start hlast hne
    | vlist kw gap content rows =>
      simp only [Item.text]
      intro e
      have := congrArg List.length e
      simp at this
  have hpos : 0 < s.last.text.length := List.length_pos_iff.mpr this
  simp only [Stmt.text, List.length_append]
  omega

/-- **C36, blacklist (partial).**  If the (trimmed) blacklist entry is a
    statement of the grammar, every statement of the grammar with the same
    skeleton is rejected — whatever hash function `md5` is. -/
theorem blacklist_rejects_variant_partial (md5 : List Char → List Char) (entry : List Char) (a b : Stmt)
    (ha : a.ok = true) (hb : b.ok = true) (hentry : trimSpace entry = a.text)
    (hsk : a.skeleton = b.skeleton) :
    ∃ m, parseBlackSqls md5 [entry] = some m ∧ isSQLAllowed md5 m b.text = some false := by
  refine ⟨[(md5 (joinSp a.skeleton), joinSp a.skeleton)], ?_, ?_⟩
  · simp [parseBlackSqls, hentry, stmt_text_ne_nil a ha, fingerprint_eq_joinSp a ha]
  · simp [isSQLAllowed, fingerprint_eq_joinSp b hb, hsk]

/-- **C36, blacklist (partial).**  A statement of the grammar whose skeleton
    differs from that of the entry is allowed, provided `md5` does not collide
    on the two fingerprints. -/
theorem blacklist_allows_mutant_partial (md5 : List Char → List Char) (entry : List Char) (a b : Stmt)
    (ha : a.ok = true) (hb : b.ok = true) (hentry : trimSpace entry = a.text)
    (hsk : a.skeleton ≠ b.skeleton)
    (hmd5 : md5 (joinSp a.skeleton) = md5 (joinSp b.skeleton) → joinSp a.skeleton = joinSp b.skeleton) :
    ∃ m, parseBlackSqls md5 [entry] = some m ∧ isSQLAllowed md5 m b.text = some true := by
  refine ⟨[(md5 (joinSp a.skeleton), joinSp a.skeleton)], ?_, ?_⟩
  · simp [parseBlackSqls, hentry, stmt_text_ne_nil a ha, fingerprint_eq_joinSp a ha]
  · have hne : joinSp a.skeleton ≠ joinSp b.skeleton := by
      intro h
      exact hsk (joinSp_inj _ _ (skeleton_tokOK a ha) (skeleton_tokOK b hb) h)
    have : md5 (joinSp a.skeleton) ≠ md5 (joinSp b.skeleton) := fun h => hne (hmd5 h)
    simp [isSQLAllowed, fingerprint_eq_joinSp b hb, this]

/-! ### Non-vacuity: concrete statements of the grammar -/

section Examples

private def sp1 : Gap := [.ws ' ']
/-- `/*a/b */ -- x⏎# y⏎`: the first comment is glued to the token in front of it -/
private def spBusy : Gap := [.mlc "a/b */".toList, .ws ' ', .dash ' ' "x\n".toList, .hash " y\n".toList]
/-- a comment as the only separator -/
private def spGlued : Gap := [.mlc " it's ( */".toList]
private def wd (s : String) : Item := .chunk [.w s.toList]
private def nm (s : String) : Item := .chunk [.n s.toList]
private def st (s : String) : Item := .chunk [.s s.toList]

/-- `select c, count(*) from t where id = 1 and name >= 'x' order by c desc limit 10` -/
private def exA : Stmt :=
  { lead := []
    init := [(wd "select", sp1), (wd "c,", sp1), (wd "count(*)", sp1), (wd "from", sp1), (wd "t", sp1),
             (wd "where", sp1), (wd "id", sp1), (wd "=", sp1), (nm "1", sp1), (wd "and", sp1),
             (wd "name", sp1), (wd ">=", sp1), (st "'x'", sp1), (wd "order", sp1), (wd "by", sp1),
             (wd "c", sp1), (wd "desc", sp1), (wd "limit", sp1)]
    last := nm "10"
    tail := [] }

/-- The same statement with other literals, other letter case, other white
    space, and comments of all three kinds, glued to the tokens or not. -/
private def exB : Stmt :=
  { lead := [.ws ' ', .mlc " lead */".toList]
    init := [(wd "SELECT", spBusy), (wd "c,", spGlued), (wd "COUNT(*)", spBusy), (wd "From", sp1), (wd "t", spBusy),
             (wd "WHERE", [.ws '\x0b']), (wd "id", spGlued), (wd "=", spBusy), (nm "0x1F", spBusy), (wd "AND", sp1),
             (wd "name", sp1), (wd ">=", spGlued), (st "\"it''s \\\" \"\" -- /* no comment */\"", spBusy),
             (wd "ORDER", sp1), (wd "BY", spBusy), (wd "c", sp1), (wd "DESC", [.hash "\n".toList]), (wd "LIMIT", spGlued)]
    last := nm "2.5e+3"
    tail := [.dash '\t' " the end\n".toList, .ws '\x0c'] }

/-- A structural mutant of `exA`: another operator. -/
private def exC : Stmt := { exA with init := exA.init.map fun p => if p.1 = wd "=" then (wd "<>", p.2) else p }

example : exA.text = "select c, count(*) from t where id = 1 and name >= 'x' order by c desc limit 10".toList := by
  rw [String.toList_ofList]; decide +kernel
example : exB.text.take 49 = " /* lead */SELECT/*a/b */ -- x\n# y\nc,/* it's ( */".toList := by
  rw [String.toList_ofList]; decide +kernel
/-- What the examples below use of `exA`, `exB` and `exC`, evaluated together. -/
theorem exABC : (exA.ok = true ∧ exB.ok = true ∧ exC.ok = true) ∧
    (exA.skeleton = exB.skeleton ∧ exA.skeleton ≠ exC.skeleton) := by decide +kernel

example : exA.ok = true ∧ exB.ok = true ∧ exC.ok = true := exABC.1
example : exA.skeleton = exB.skeleton ∧ exA.skeleton ≠ exC.skeleton := exABC.2

/-- The hypotheses of `fp_invariant_partial` are satisfiable by two really
    different texts. -/
example : getFingerprint exA.text = getFingerprint exB.text ∧ exA.text ≠ exB.text :=
  ⟨(fp_invariant_partial exA exB exABC.1.1 exABC.1.2.1 exABC.2.1).1, by decide +kernel⟩

example : getFingerprint exA.text ≠ getFingerprint exC.text :=
  fp_discriminates_partial exA exC exABC.1.1 exABC.1.2.2 exABC.2.2

example : getFingerprint exB.text =
    .ret "select c, count(*) from t where id = ? and name >= ? order by c desc limit ?".toList := by
  rw [fingerprint_eq_joinSp exB exABC.1.2.1, String.toList_ofList]; decide +kernel

example (md5 : List Char → List Char) :
    ∃ m, parseBlackSqls md5 [" \t".toList ++ exA.text ++ "\n".toList] = some m ∧
      isSQLAllowed md5 m exB.text = some false :=
  blacklist_rejects_variant_partial md5 _ exA exB exABC.1.1 exABC.1.2.1 (by decide +kernel) exABC.2.1

/-- `update t set a=1 , name='x' where t.id>=10 and f(1,2)<>5 limit 5,10`: literals glued to word text -/
private def exD : Stmt :=
  { lead := []
    init := [(wd "update", sp1), (wd "t", sp1), (wd "set", sp1), (.chunk [.w "a=".toList, .n "1".toList], sp1),
             (wd ",", sp1), (.chunk [.w "name=".toList, .s "'x'".toList], sp1), (wd "where", sp1),
             (.chunk [.w "t.id>=".toList, .n "10".toList], sp1), (wd "and", sp1),
             (.chunk [.w "f(".toList, .n "1".toList, .w ",".toList, .n "2".toList, .w ")<>".toList, .n "5".toList], sp1),
             (wd "limit", sp1)]
    last := .chunk [.n "5".toList, .w ",".toList, .n "10".toList]
    tail := [] }

/-- The same with other literals (signed, leading dot, `e+`),
    letter case, white space and comments. -/
private def exE : Stmt :=
  { lead := [.hash " batch 7\n".toList]
    init := [(wd "UPDATE", spBusy), (wd "t", sp1), (wd "SET", spGlued), (.chunk [.w "a=".toList, .n "-0x2A".toList], spBusy),
             (wd ",", sp1), (.chunk [.w "NAME=".toList, .p 'x' "'0F'".toList], spBusy), (wd "Where", sp1),
             (.chunk [.w "t.id>=".toList, .n "1e+5".toList], spGlued), (wd "AND", sp1),
             (.chunk [.w "F(".toList, .n ".5".toList, .w ",".toList, .n "+2".toList, .w ")<>".toList, .n "5.".toList], sp1),
             (wd "LIMIT", spBusy)]
    last := .chunk [.n "07".toList, .w ",".toList, .n "1".toList]
    tail := sp1 }

example : exD.text = "update t set a=1 , name='x' where t.id>=10 and f(1,2)<>5 limit 5,10".toList := by
  rw [String.toList_ofList]; decide +kernel
theorem exDE : exD.ok = true ∧ exE.ok = true ∧ exD.skeleton = exE.skeleton ∧ exD.text ≠ exE.text := by
  decide +kernel
example : exD.ok = true ∧ exE.ok = true ∧ exD.skeleton = exE.skeleton ∧ exD.text ≠ exE.text := exDE
example : getFingerprint exE.text = .ret "update t set a=? , name=? where t.id>=? and f(?,?)<>? limit ?,?".toList := by
  rw [fingerprint_eq_joinSp exE exDE.2.1, String.toList_ofList]; decide +kernel

/-- `insert into t (a, b) values (1, 'x)')` -/
private def exF : Stmt :=
  { lead := []
    init := [(wd "insert", sp1), (wd "into", sp1), (wd "t", sp1), (wd "(a,", sp1), (wd "b)", sp1)]
    last := .vlist "values".toList sp1 "1, 'x)'".toList []
    tail := [] }
/-- Several rows, comments between `VALUES` and the list, between the rows
    and inside the parentheses (holding a quote and a parenthesis). -/
private def exG : Stmt :=
  { lead := []
    init := [(wd "INSERT", spBusy), (wd "into", sp1), (wd "t", sp1), (wd "(a,", spBusy), (wd "b)", spGlued)]
    last := .vlist "VALUES".toList [.mlc " v */".toList] "/* it's ( */ '(((', (2 + 3) * 4 -- )\n".toList
      [{ g1 := [.ws ' '], g2 := [.hash " next (\n".toList], content := "'a''b', f(3)".toList },
       { g1 := [], g2 := [], content := "".toList }]
    tail := sp1 }
/-- `select c from t where (a in(1)) or b IN (2, f(3)) order by c`: a one-row list glued to the chunk behind it -/
private def exH : Stmt :=
  { lead := []
    init := [(wd "select", sp1), (wd "c", sp1), (wd "from", sp1), (wd "t", sp1), (wd "where", sp1), (wd "(a", sp1),
             (.vlist "in".toList [] "1".toList [], []), (wd ")", sp1), (wd "or", sp1), (wd "b", sp1),
             (.vlist "IN".toList sp1 "2, f(3)".toList [], sp1), (wd "order", sp1), (wd "by", sp1)]
    last := wd "c"
    tail := [] }

example : exF.text = "insert into t (a, b) values (1, 'x)')".toList := by
  rw [String.toList_ofList]; decide +kernel
example : exG.text.drop 66 =
    "VALUES/* v */(/* it's ( */ '(((', (2 + 3) * 4 -- )\n) ,# next (\n('a''b', f(3)),() ".toList := by
  rw [String.toList_ofList]; decide +kernel
example : exH.text = "select c from t where (a in(1)) or b IN (2, f(3)) order by c".toList := by
  rw [String.toList_ofList]; decide +kernel
theorem exFGH : exF.ok = true ∧ exG.ok = true ∧ exH.ok = true ∧ exF.skeleton = exG.skeleton ∧ exF.text ≠ exG.text := by
  decide +kernel
example : exF.ok = true ∧ exG.ok = true ∧ exH.ok = true ∧ exF.skeleton = exG.skeleton ∧ exF.text ≠ exG.text := exFGH
example : getFingerprint exG.text = .ret "insert into t (a, b) values(?+)".toList := by
  rw [fingerprint_eq_joinSp exG exFGH.2.1, String.toList_ofList]; decide +kernel
example : getFingerprint exH.text = .ret "select c from t where (a in(?+)) or b in(?+) order by c".toList := by
  rw [fingerprint_eq_joinSp exH exFGH.2.2.1, String.toList_ofList]; decide +kernel

/-- `insert into t values (1), (2) on duplicate key update a=values(a), b = 3`:
    behind `ON DUPLICATE KEY UPDATE`, `values(a)` is word text. -/
private def exI : Stmt :=
  { lead := []
    init := [(wd "insert", sp1), (wd "into", sp1), (wd "t", sp1),
             (.vlist "values".toList sp1 "1".toList [{ g1 := [], g2 := sp1, content := "2".toList }], sp1),
             (wd "on", sp1), (wd "duplicate", sp1), (wd "key", sp1), (wd "update", sp1), (wd "a=values(a),", sp1),
             (wd "b", sp1), (wd "=", sp1)]
    last := nm "3"
    tail := [] }
private def exJ : Stmt :=
  { lead := []
    init := [(wd "INSERT", sp1), (wd "INTO", sp1), (wd "t", spGlued),
             (.vlist "VALUES".toList [] " 7 /* one row */".toList [], spBusy),
             (wd "ON", sp1), (wd "DUPLICATE", sp1), (wd "KEY", spGlued), (wd "UPDATE", spBusy), (wd "a=VALUES(a),", sp1),
             (wd "b", sp1), (wd "=", sp1)]
    last := st "'x'"
    tail := sp1 }

example : exI.text = "insert into t values (1), (2) on duplicate key update a=values(a), b = 3".toList := by
  rw [String.toList_ofList]; decide +kernel
theorem exIJ : exI.ok = true ∧ exJ.ok = true ∧ exI.skeleton = exJ.skeleton := by decide +kernel
example : exI.ok = true ∧ exJ.ok = true ∧ exI.skeleton = exJ.skeleton := exIJ
example : getFingerprint exJ.text = .ret "insert into t values(?+) on duplicate key update a=values(a), b = ?".toList := by
  rw [fingerprint_eq_joinSp exJ exIJ.2.1, String.toList_ofList]; decide +kernel

end Examples

/-! ### Facts of the source the model depends on (regenerated on every run) -/

/-- The model fixes `ReplaceNumbersInWords` to the value the source gives it,
    and nothing outside the tests assigns it. -/
theorem replaceNumbersInWords_as_in_source :
    replaceNumbersInWords = Gen.c36ReplaceNumbersInWords ∧ Gen.c36ReplaceNumbersInWordsWrites = 0 := by
  decide

/-- `isSpace` of the model accepts exactly the runes of the source's `isSpace`
    (blank, tab, CR, LF, VT, FF — the white space of `strings.TrimSpace` on
    ASCII text, `isTrimSpace`), and the model has as many parser states as the
    source. -/
theorem isSpace_as_in_source :
    (∀ c : Char, isSpace c = true → c.toNat ∈ Gen.c36SpaceRunes) ∧
      (∀ n ∈ Gen.c36SpaceRunes, isSpace (Char.ofNat n) = true) ∧ Gen.c36StateCount = 18 ∧
      (∀ c : Char, isSpace c = isTrimSpace c) := by
  refine ⟨?_, by decide, by decide, ?_⟩
  · intro c h
    rcases isSpace_cases h with h | h | h | h | h | h <;> subst h <;> decide
  · intro c
    -- the same six tests, the one for `\r` last
    simp only [isSpace, isTrimSpace, Bool.or_right_comm _ (decide (c = '\r'))]

/-! ### Witnesses: shapes on which the current code still fails

Each theorem exhibits, on the model of the current code, a blacklist entry and a
statement that differs from it only in white space (or, for over-blocking, in
structure) on which `IsSQLAllowed` answers wrongly (`known/C36.json` lists the
classes; the same pairs are replayed against the implementation from
`corpus/C36`). -/

/-- `IsSQLAllowed` of `stmt` against the blacklist `[entry]` (md5 := identity). -/
def allowedAgainst (entry stmt : String) : Option Bool :=
  match parseBlackSqls id [entry.toList] with
  | some m => isSQLAllowed id m stmt.toList
  | none => none

/-- `allowedAgainst` on the characters of two literals.  A string literal is `String.ofList` of its characters by
    definition, so rewriting with this equation spares the kernel the UTF-8 decoding that `String.toList` of a
    literal unfolds to; the pairs of one theorem are then evaluated together, sharing what they have in common. -/
theorem allowedAgainst_eq (e s : List Char) :
    allowedAgainst (String.ofList e) (String.ofList s) = (parseBlackSqls id [e]).bind (isSQLAllowed id · s) := by
  rw [allowedAgainst, String.toList_ofList, String.toList_ofList]
  cases parseBlackSqls id [e] <;> rfl

/-- `GetFingerprint` computed with the rules of the tokenizer (`none`: the rules do not cover the text). -/
def fpTrace (t : List Char) : Option (List Char) :=
  (atrace (.clean false [] []) (blankComments t ++ [' '])).map fun a => trimTrailing a.out

theorem fpTrace_sound {t x : List Char} (h : fpTrace t = some x) : getFingerprint t = .ret x := by
  unfold fpTrace at h
  cases ha : atrace (.clean false [] []) (blankComments t ++ [' ']) with
  | none => rw [ha] at h; cases h
  | some a =>
    rw [ha] at h
    cases h
    exact getFingerprint_of_run (run_of_tokenizer (atrace_sound ha))

/-- The right-hand side of `allowedAgainst_eq` computed with `fpTrace`. -/
def allowedTrace (e s : List Char) : Option Bool :=
  if (trimSpace e).length = 0 then none
  else match fpTrace (trimSpace e), fpTrace s with
    | some fe, some fs => some (!decide (fe = fs))
    | _, _ => none

/-- Where the rules of the tokenizer cover entry and statement, the state machine need not be run: a closed
    pair is checked by evaluating `allowedTrace`. -/
theorem allowedTrace_sound {e s : List Char} {b : Bool} (h : allowedTrace e s = some b) :
    (parseBlackSqls id [e]).bind (isSQLAllowed id · s) = some b := by
  unfold allowedTrace at h
  by_cases h0 : (trimSpace e).length = 0
  · rw [if_pos h0] at h; cases h
  · rw [if_neg h0] at h
    cases he : fpTrace (trimSpace e) with
    | none => rw [he] at h; cases h
    | some fe =>
      cases hs : fpTrace s with
      | none => rw [he, hs] at h; cases h
      | some fs =>
        rw [he, hs] at h
        cases h
        simp [parseBlackSqls, h0, fpTrace_sound he, isSQLAllowed, fpTrace_sound hs]

/-- Several pairs, checked by one evaluation. -/
theorem allowedTrace_and {e s : List Char} {b : Bool} {Q R : Prop} (hq : R → Q) (h : allowedTrace e s = some b ∧ R) :
    (parseBlackSqls id [e]).bind (isSQLAllowed id · s) = some b ∧ Q :=
  ⟨allowedTrace_sound h.1, hq h.2⟩

/-- Optional white space is significant (the expected strings of
    mysql/sql_fingerprint_test.go hold both `a = ?` and `b=?`). -/
theorem optional_space_witness :
    allowedAgainst "select c from t where id=1" "select c from t where id = 1" = some true ∧
      allowedAgainst "select a, b from t" "select a,b from t" = some true ∧
      allowedAgainst "select a,b from t" "select a,/* x */b from t" = some true := by
  repeat rw [allowedAgainst_eq]
  exact allowedTrace_and (allowedTrace_and allowedTrace_sound) (by decide +kernel)

/-- Over-blocking: the contents of an `IN (…)` list are collapsed, so a
    statement that compares with another column is rejected by an entry that
    compares with a literal. -/
theorem mutant_rejected_list_content_witness :
    allowedAgainst "select c from t where a in (1)" "select c from t where a in (b)" = some false := by
  rw [allowedAgainst_eq]; exact allowedTrace_sound (by decide +kernel)

/-! ### Former witnesses: shapes the fix commits repaired

The pairs that witnessed the 21 classes open before the fix commits
a52008b … 1311f18, and the shapes 0bbe7bb and 79070a8 repaired (known/C36.json,
`fixed`), on the model of the code after them: the variant is rejected (the last pairs of `literal_spelling_repaired`
and `values_word_without_list_repaired` are mutants, and allowed).  Most are
instances of `blacklist_rejects_variant_partial`; they stand as concrete
regression facts, also replayed from `corpus/C36`. -/

theorem mlc_glued_repaired :
    allowedAgainst "select c from t" "select c/* x */ from t" = some false ∧
    allowedAgainst "select a, b from t" "select a,/* x */ b from t" = some false ∧
    allowedAgainst "select c from t where a in (1) and b = 2" "select c from t where a in (1)/* x */and b = 2"
      = some false ∧
    allowedAgainst "select c from t where a = 1 and b = 2" "select c from t where a = 1/* x */and b = 2"
      = some false := by
  repeat rw [allowedAgainst_eq]
  exact allowedTrace_and (allowedTrace_and (allowedTrace_and allowedTrace_sound)) (by decide +kernel)

theorem hash_glued_repaired :
    allowedAgainst "select c from t" "select c# x\nfrom t" = some false ∧
    allowedAgainst "select a, b from t" "select a,# x\n b from t" = some false ∧
    allowedAgainst "select c from t where a = 1 and b = 2" "select c from t where a = 1# x\nand b = 2" = some false ∧
    allowedAgainst "select c from t where a in (1) and b = 2" "select c from t where a in (1)# x\nand b = 2"
      = some false := by
  repeat rw [allowedAgainst_eq]
  exact allowedTrace_and (allowedTrace_and (allowedTrace_and allowedTrace_sound)) (by decide +kernel)

theorem dash_glued_repaired :
    allowedAgainst "select c from t where a in (1) and b = 2" "select c from t where a in (1)-- x\nand b = 2"
      = some false ∧
    allowedAgainst "delete from t" "delete-- x\nfrom t" = some false ∧
    allowedAgainst "select c from t where a = 1 and b = 2" "select c from t where a = 1-- x\nand b = 2" = some false ∧
    allowedAgainst "select c from t where a in (1) and b = 2" "select c from t where a in (1) -- x\nand b = 2"
      = some false := by
  repeat rw [allowedAgainst_eq]
  exact allowedTrace_and (allowedTrace_and (allowedTrace_and allowedTrace_sound)) (by decide +kernel)

theorem comment_around_list_repaired :
    allowedAgainst "select c from t where a in (1)" "select c from t where a in /* x */ (1)" = some false ∧
    allowedAgainst "select c from t where a in (1)" "select c from t where a in -- x\n(1)" = some false ∧
    allowedAgainst "select c from t where a in (1)" "select c from t where a in # x\n(1)" = some false ∧
    allowedAgainst "select c from t where a in (1, 2)" "select c from t where a in (1, /* it's */ 2)"
      = some false := by
  repeat rw [allowedAgainst_eq]
  exact allowedTrace_and (allowedTrace_and (allowedTrace_and allowedTrace_sound)) (by decide +kernel)

theorem literal_spelling_repaired :
    allowedAgainst "select c from t where a = 'x'" "select c from t where a = 'it''s'" = some false ∧
    allowedAgainst "select c from t where a = 1" "select c from t where a = 1e+5" = some false ∧
    allowedAgainst "select c from t where a = 1" "select c from t where a = .5" = some false ∧
    allowedAgainst "select c from t where a=1" "select c from t where a=x'0F'" = some false ∧
    allowedAgainst "select c from t where a=x'0F'" "select c from t where b=x'0F'" = some true := by
  repeat rw [allowedAgainst_eq]
  exact allowedTrace_and (allowedTrace_and (allowedTrace_and (allowedTrace_and allowedTrace_sound))) (by decide +kernel)

theorem vertical_tab_form_feed_repaired :
    allowedAgainst "select c from t" "\x0bselect c from t" = some false ∧
    allowedAgainst "\x0bselect c from t\x0c" "select\x0cc from\x0bt" = some false := by
  repeat rw [allowedAgainst_eq]
  exact allowedTrace_and allowedTrace_sound (by decide +kernel)

theorem values_rows_blank_repaired :
    allowedAgainst "insert into t values (1), (2) on duplicate key update a=1"
      "insert into t values (1) , (2) on duplicate key update a=1" = some false ∧
    allowedAgainst "insert into t values (1), (2) on duplicate key update a=1"
      "insert into t values (1),(2),(3) on duplicate key update a=1" = some false := by
  repeat rw [allowedAgainst_eq]
  exact allowedTrace_and allowedTrace_sound (by decide +kernel)

/-- 79070a8: a column named `value` (no value list follows the word). -/
theorem values_word_without_list_repaired :
    allowedAgainst "select value from t" "select value  from t" = some false ∧
    allowedAgainst "select a from t where value = 'x'" "select a from t where value = 'y'" = some false ∧
    allowedAgainst "select a from t where value = 5" "select a from t where value = 6" = some false ∧
    allowedAgainst "select a from t where value = 5" "select a from t where value = 5 and b = 1" = some true := by
  -- `value` without a list has no rule in the tokenizer: here the state machine itself is run
  repeat rw [allowedAgainst_eq]
  decide +kernel

end GaeaVerif.C36
