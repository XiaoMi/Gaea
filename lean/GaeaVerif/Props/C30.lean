import GaeaVerif.Model.AuthCheck
import GaeaVerif.Model.AuthSha
import GaeaVerif.Gen.Consts
import GaeaVerif.Props.C29
/-
  C30 — Password checks accept exactly the proofs MySQL would accept.
  Theorems about `Model/AuthCheck.lean` for arbitrary hash functions `H1`, `H256`
  with 20- and 32-byte outputs (tie to mysql/util.go, proxy/server/manager.go and
  Session.handleHandshakeResponse: correspondence check `gvh run C30`, which also
  compares the driver's SHA-1/SHA-256 with Go's crypto).
-/
namespace GaeaVerif.C30
open GaeaVerif GaeaVerif.UserMgr GaeaVerif.AuthCheck

/-! ### Constants of the source (regenerated by `gvh extract` on every run) -/

/-- The model's plugin name, the response length that selects the sha2 check when
    no plugin is named (`checkByPlugin`), and the shape of a stored-hash entry
    (`looksHashed`: prefix `*` = 0x2a, 41 characters) are those of the current source. -/
theorem consts_match_source :
    cachingSHA2Password = Gen.c30CachingSHA2Password.toUTF8.toList
      ∧ Gen.c30Sha2ResponseLen = 32 ∧ Gen.c30HashedPasswordLen = 41
      ∧ Gen.c30HashedPasswordPrefix = "*" := by
  refine ⟨rfl, rfl, rfl, ?_⟩
  decide

/-- The stored-hash predicate `isStoredHashPassword` of the source tests the same
    prefix and length as the model's (`looksHashed`, then `hex.DecodeString`), and
    both clear-text loops (`CheckPassword`, `CheckSha2Password`) call it. -/
theorem stored_hash_predicate_matches_source :
    Gen.c30StoredHashLen = 41 ∧ Gen.c30StoredHashPrefix = "*"
      ∧ Gen.c30CheckPasswordCallsStoredHash = true ∧ Gen.c30CheckSha2PasswordCallsStoredHash = true := by
  refine ⟨rfl, ?_, rfl, rfl⟩
  decide

/-! ### XOR algebra on byte strings -/

theorem xorBytes_length (a b : Bytes) : (xorBytes a b).length = min a.length b.length :=
  List.length_zipWith

theorem xorBytes_comm (a b : Bytes) : xorBytes a b = xorBytes b a :=
  List.zipWith_comm_of_comm UInt8.xor_comm

theorem xorBytes_cancel (a m : Bytes) (h : a.length ≤ m.length) : xorBytes (xorBytes a m) m = a := by
  induction a generalizing m with
  | nil => cases m <;> rfl
  | cons x r ih =>
    cases m with
    | nil => cases h
    | cons y s =>
      show ((x ^^^ y) ^^^ y) :: xorBytes (xorBytes r s) s = x :: r
      rw [ih s (Nat.le_of_succ_le_succ h), UInt8.xor_assoc, UInt8.xor_self, UInt8.xor_zero]

/-- For strings as long as the mask, `r XOR m = s` iff `r = s XOR m`. -/
theorem xorBytes_eq_iff (r s m : Bytes) (hr : r.length = m.length) (hs : s.length = m.length) :
    xorBytes r m = s ↔ r = xorBytes s m :=
  ⟨fun h => by rw [← h, xorBytes_cancel r m (Nat.le_of_eq hr)],
    fun h => by rw [h, xorBytes_cancel s m (Nat.le_of_eq hs)]⟩

/-! ### encoding/hex -/

def isHexDigit (c : UInt8) : Bool := (fromHexChar c).isSome

theorem hexDecode_short (s : Bytes) (h : s.all isHexDigit = false) :
    2 * (hexDecodeString s).length < s.length := by
  induction s using hexDecodeString.induct with
  | case1 a b rest x y hx hy ih =>
    rw [List.all_cons, List.all_cons, isHexDigit, isHexDigit, hx, hy] at h
    rw [hexDecodeString, hx, hy]
    exact Nat.add_lt_add_right (ih h) 2
  | case2 a b rest hn =>
    have : hexDecodeString (a :: b :: rest) = [] := by
      unfold hexDecodeString
      split
      · rename_i x y hx hy; exact absurd hy (hn x y hx)
      · rfl
    rw [this]; exact Nat.succ_pos _
  | case3 s hne =>
    match s, h, hne with
    | [_], _, _ => exact Nat.one_pos
    | a :: b :: rest, _, hne => exact absurd rfl (hne a b rest)

/-- `hex.DecodeString` reports no error iff the length is even and every character
    is a hex digit. -/
theorem hexDecodeOK_eq (s : Bytes) : hexDecodeOK s = (s.length % 2 == 0 && s.all isHexDigit) := by
  induction s using hexDecodeOK.induct with
  | case1 a b rest ih =>
    have : (rest.length + 1 + 1) % 2 = rest.length % 2 := Nat.add_mod_right _ 2
    rw [hexDecodeOK, ih, List.length_cons, List.length_cons, this, List.all_cons, List.all_cons,
      isHexDigit, isHexDigit]
    ac_rfl
  | case2 a => rfl
  | case3 => rfl

/-- Upper-case hex encoding, as MySQL's `PASSWORD()` prints it. -/
def hexDigitUpper (n : UInt8) : UInt8 := if n < 10 then 0x30 + n else 0x41 + (n - 10)
def hexDigitLower (n : UInt8) : UInt8 := if n < 10 then 0x30 + n else 0x61 + (n - 10)

def hexEncodeWith (dig : UInt8 → UInt8) : Bytes → Bytes
  | [] => []
  | b :: r => dig (b >>> 4) :: dig (b &&& 0x0f) :: hexEncodeWith dig r

theorem fromHexChar_digit : ∀ n : Fin 16,
    fromHexChar (hexDigitUpper (.ofNat n)) = some (.ofNat n)
      ∧ fromHexChar (hexDigitLower (.ofNat n)) = some (.ofNat n) := by decide +kernel

theorem byte_nibbles : ∀ n : Fin 256,
    (UInt8.ofNat n >>> 4).toNat < 16 ∧ (UInt8.ofNat n &&& 0x0f).toNat < 16
      ∧ ((UInt8.ofNat n >>> 4) <<< 4) ||| (UInt8.ofNat n &&& 0x0f) = UInt8.ofNat n := by decide +kernel

theorem hexDecode_encode (dig : UInt8 → UInt8) (hd : ∀ n : Fin 16, fromHexChar (dig (.ofNat n)) = some (.ofNat n))
    (bs : Bytes) : hexDecodeString (hexEncodeWith dig bs) = bs := by
  induction bs with
  | nil => rfl
  | cons b r ih =>
    have hb := byte_nibbles ⟨b.toNat, b.toNat_lt⟩
    rw [UInt8.ofNat_toNat] at hb
    have h1 := hd ⟨_, hb.1⟩
    have h2 := hd ⟨_, hb.2.1⟩
    rw [UInt8.ofNat_toNat] at h1 h2
    simp only [hexEncodeWith, hexDecodeString, h1, h2, ih, hb.2.2]

/-- `hex.DecodeString` inverts the upper-case encoding (the form `PASSWORD()` prints)… -/
theorem hexDecode_encodeUpper (bs : Bytes) : hexDecodeString (hexEncodeWith hexDigitUpper bs) = bs :=
  hexDecode_encode _ (fun n => (fromHexChar_digit n).1) bs

/-- …and the lower-case one. -/
theorem hexDecode_encodeLower (bs : Bytes) : hexDecodeString (hexEncodeWith hexDigitLower bs) = bs :=
  hexDecode_encode _ (fun n => (fromHexChar_digit n).2) bs

theorem hexEncode_length (dig : UInt8 → UInt8) (bs : Bytes) : (hexEncodeWith dig bs).length = 2 * bs.length := by
  induction bs with
  | nil => rfl
  | cons b r ih => rw [hexEncodeWith, List.length_cons, List.length_cons, ih]; rfl

/-! ### The primitive functions of mysql/util.go -/

section
variable (H1 H256 : Bytes → Bytes)

/-- `CalcPassword` never panics and computes the protocol's native scramble
    `SHA1(p) XOR SHA1(salt ++ SHA1(SHA1(p)))` (empty for the empty password). -/
theorem calcPassword_eq (hlen : ∀ x, (H1 x).length = 20) (salt p : Bytes) :
    calcPassword H1 salt p = .ok (nativeScramble H1 salt p) := by
  unfold calcPassword nativeScramble xorInto
  by_cases hp : p = []
  · subst hp; rfl
  · rw [if_neg (mt List.length_eq_zero_iff.mp hp), if_neg hp, if_pos (by rw [hlen, hlen]; exact Nat.le_refl _),
      xorBytes_comm]

/-- `CalcCachingSha2Password` never panics and computes
    `SHA256(p) XOR SHA256(SHA256(SHA256(p)) ++ salt)`. -/
theorem calcCachingSha2Password_eq (hlen : ∀ x, (H256 x).length = 32) (salt p : Bytes) :
    calcCachingSha2Password H256 salt p = .ok (sha2Scramble H256 salt p) := by
  unfold calcCachingSha2Password sha2Scramble xorInto
  by_cases hp : p = []
  · subst hp; rfl
  · rw [if_neg (mt List.length_eq_zero_iff.mp hp), if_neg hp, if_pos (by rw [hlen, hlen]; exact Nat.le_refl _)]

theorem nativeScramble_length (hlen : ∀ x, (H1 x).length = 20) (salt p : Bytes) :
    (nativeScramble H1 salt p).length = if p = [] then 0 else 20 := by
  unfold nativeScramble
  split
  · rfl
  · rw [xorBytes_length, hlen, hlen]; rfl

theorem sha2Scramble_length (hlen : ∀ x, (H256 x).length = 32) (salt p : Bytes) :
    (sha2Scramble H256 salt p).length = if p = [] then 0 else 32 := by
  unfold sha2Scramble
  split
  · rfl
  · rw [xorBytes_length, hlen, hlen]; rfl

theorem length_of_eq_scramble {auth s p : Bytes} {n : Nat} (hs : s.length = if p = [] then 0 else n)
    (h : (auth == s) = true) : auth.length = n ∨ (auth = [] ∧ p = []) := by
  cases beq_iff_eq.mp h
  by_cases hp : p = []
  · rw [if_pos hp] at hs; exact Or.inr ⟨List.length_eq_zero_iff.mp hs, hp⟩
  · rw [if_neg hp] at hs; exact Or.inl hs

theorem eq_nativeScramble_length (hlen : ∀ x, (H1 x).length = 20) (salt auth p : Bytes)
    (h : (auth == nativeScramble H1 salt p) = true) : auth.length = 20 ∨ (auth = [] ∧ p = []) :=
  length_of_eq_scramble (nativeScramble_length H1 hlen salt p) h

theorem eq_sha2Scramble_length (hlen : ∀ x, (H256 x).length = 32) (salt auth p : Bytes)
    (h : (auth == sha2Scramble H256 salt p) = true) : auth.length = 32 ∨ (auth = [] ∧ p = []) :=
  length_of_eq_scramble (sha2Scramble_length H256 hlen salt p) h

/-- `CheckHashPassword` (repaired) is MySQL's server-side check against the decoded
    stored hash: the response is 20 bytes long and `SHA1(resp XOR SHA1(salt ++ h)) = h`. -/
theorem checkHashPassword_eq_mysql (hlen : ∀ x, (H1 x).length = 20) (resp salt enc : Bytes) :
    checkHashPassword H1 resp salt enc
      = (decide (enc ≠ []) && mysqlNativeVerify H1 (hexDecodeString enc) salt resp) := by
  unfold checkHashPassword mysqlNativeVerify
  by_cases he : enc = []
  · subst he; rfl
  · rw [if_neg (mt List.length_eq_zero_iff.mp he), decide_eq_true he, Bool.true_and]
    simp only [hlen]
    by_cases hr : resp.length = 20
    · rw [if_neg (not_not_intro hr), hr, beq_self_eq_true, Bool.true_and, Bool.beq_comm]
    · rw [if_pos hr, beq_eq_false_iff_ne.mpr hr, Bool.false_and]

/-- **C30 (stored hash).** For every salt, stored string and response of any
    length: the stored-hash check accepts `resp` iff `resp` is the native scramble
    formed from a 20-byte SHA1-preimage `s1` of the stored hash
    (`resp = s1 XOR SHA1(salt ++ h)`, `SHA1(s1) = h`) — what a client that knows
    `s1 = SHA1(password)` sends, and nothing else. -/
theorem hashed_accept_iff (hlen : ∀ x, (H1 x).length = 20) (resp salt enc : Bytes) :
    checkHashPassword H1 resp salt enc = true ↔
      enc ≠ [] ∧ ∃ s1 : Bytes, s1.length = 20 ∧ H1 s1 = hexDecodeString enc
        ∧ resp = xorBytes s1 (H1 (salt ++ hexDecodeString enc)) := by
  rw [checkHashPassword_eq_mysql H1 hlen]
  simp only [mysqlNativeVerify, Bool.and_eq_true, decide_eq_true_eq, beq_iff_eq]
  -- `s1` is the response with the mask taken off again; both are as long as the mask
  have hcancel : ∀ a : Bytes, a.length = 20 →
      xorBytes (xorBytes a (H1 (salt ++ hexDecodeString enc))) (H1 (salt ++ hexDecodeString enc)) = a
        ∧ (xorBytes a (H1 (salt ++ hexDecodeString enc))).length = 20 :=
    fun a ha => ⟨xorBytes_cancel _ _ (by rw [ha, hlen]; exact Nat.le_refl _), by rw [xorBytes_length, ha, hlen]; rfl⟩
  constructor
  · rintro ⟨he, hl, hh⟩
    exact ⟨he, _, (hcancel resp hl).2, hh, (hcancel resp hl).1.symm⟩
  · rintro ⟨he, s1, hs, hh, rfl⟩
    exact ⟨he, (hcancel s1 hs).2, by rw [(hcancel s1 hs).1]; exact hh⟩

/-- Completeness against the real client: for every non-empty password `p` whose
    double SHA1 is what the stored string decodes to, the scramble the client
    computes is accepted. -/
theorem hashed_accepts_client_scramble (hlen : ∀ x, (H1 x).length = 20) (salt p enc : Bytes)
    (hp : p ≠ []) (he : enc ≠ []) (hd : hexDecodeString enc = H1 (H1 p)) :
    checkHashPassword H1 (nativeScramble H1 salt p) salt enc = true := by
  rw [hashed_accept_iff H1 hlen, hd, nativeScramble, if_neg hp]
  exact ⟨he, H1 p, hlen p, rfl, rfl⟩

/-- In particular for the stored form `*` + upper-case hex of `SHA1(SHA1(p))`. -/
theorem hashed_accepts_password_upper (hlen : ∀ x, (H1 x).length = 20) (salt p : Bytes) (hp : p ≠ []) :
    checkHashPassword H1 (nativeScramble H1 salt p) salt (hexEncodeWith hexDigitUpper (H1 (H1 p))) = true := by
  apply hashed_accepts_client_scramble H1 hlen salt p _ hp
  · intro h
    have := congrArg List.length h
    rw [hexEncode_length, hlen] at this
    cases this
  · exact hexDecode_encodeUpper _

/-- Soundness in MySQL's terms: the clear-text check (comparison with
    `CalcPassword`) only accepts responses MySQL's server-side check accepts for the
    stored value `SHA1(SHA1(p))`. -/
theorem native_scramble_verifies (hlen : ∀ x, (H1 x).length = 20) (salt p : Bytes) (hp : p ≠ []) :
    mysqlNativeVerify H1 (H1 (H1 p)) salt (nativeScramble H1 salt p) = true := by
  rw [mysqlNativeVerify, nativeScramble_length H1 hlen, nativeScramble, if_neg hp, if_neg hp,
    xorBytes_cancel _ _ (by rw [hlen, hlen]; exact Nat.le_refl _)]
  simp

/-- The caching_sha2_password scramble passes the server-side form of that check:
    `SHA256(resp XOR SHA256(SHA256(SHA256(p)) ++ salt)) = SHA256(SHA256(p))`. -/
theorem sha2_scramble_verifies (hlen : ∀ x, (H256 x).length = 32) (salt p : Bytes) (hp : p ≠ []) :
    H256 (xorBytes (sha2Scramble H256 salt p) (H256 (H256 (H256 p) ++ salt))) = H256 (H256 p) := by
  rw [sha2Scramble, if_neg hp, xorBytes_cancel _ _ (by rw [hlen, hlen]; exact Nat.le_refl _)]

end

/-! ### The UserManager loops and the method selection -/

section
variable (H1 H256 : Bytes → Bytes)

/-- What the native branch accepts for one configured string. -/
def nativeOK (salt auth p : Bytes) : Bool :=
  (looksHashed p && checkHashPassword H1 auth salt (p.drop 1)) ||
    (!isStoredHashPassword p && auth == nativeScramble H1 salt p)

/-- What the sha2 branch accepts for one configured string. -/
def sha2OK (salt auth p : Bytes) : Bool := !isStoredHashPassword p && auth == sha2Scramble H256 salt p

/-- What `handleHandshakeResponse` accepts for one configured string. -/
def gaeaAccepts (plugin p salt auth : Bytes) : Bool :=
  if plugin.length = 0 then (if auth.length = 32 then sha2OK H256 salt auth p else nativeOK H1 salt auth p)
  else if plugin = cachingSHA2Password then sha2OK H256 salt auth p
  else nativeOK H1 salt auth p

theorem umCheckPassword_eq (hlen : ∀ x, (H1 x).length = 20) (salt auth : Bytes) (pws : List Bytes) :
    umCheckPassword H1 salt auth pws
      = .ok (pws.find? fun p => !isStoredHashPassword p && auth == nativeScramble H1 salt p) := by
  induction pws with
  | nil => rfl
  | cons p r ih =>
    simp only [umCheckPassword, calcPassword_eq H1 hlen, List.find?_cons, ih]
    cases isStoredHashPassword p <;> cases auth == nativeScramble H1 salt p <;> rfl

theorem umCheckSha2Password_eq (hlen : ∀ x, (H256 x).length = 32) (salt auth : Bytes) (pws : List Bytes) :
    umCheckSha2Password H256 salt auth pws
      = .ok (pws.find? fun p => !isStoredHashPassword p && auth == sha2Scramble H256 salt p) := by
  induction pws with
  | nil => rfl
  | cons p r ih =>
    simp only [umCheckSha2Password, calcCachingSha2Password_eq H256 hlen, List.find?_cons, ih]
    cases isStoredHashPassword p <;> cases auth == sha2Scramble H256 salt p <;> rfl

theorem umCheckHashPassword_eq (salt auth : Bytes) (pws : List Bytes) :
    umCheckHashPassword H1 salt auth pws
      = pws.find? fun p => looksHashed p && checkHashPassword H1 auth salt (p.drop 1) := by
  induction pws with
  | nil => rfl
  | cons p r ih =>
    rw [umCheckHashPassword, List.find?_cons, ih]
    cases looksHashed p && checkHashPassword H1 auth salt (p.drop 1) <;> rfl

/-- Result of a check: the loops never panic; an accepted password is one of the
    list and acceptable; a refusal means no configured password is acceptable. -/
def CheckSpec (ok : Bytes → Bool) (pws : List Bytes) (res : R (Option Bytes)) : Prop :=
  ∃ r, res = .ok r ∧ (∀ p, r = some p → p ∈ pws ∧ ok p = true) ∧ (r = none → ∀ p ∈ pws, ok p = false)

theorem find_checkSpec (ok : Bytes → Bool) (pws : List Bytes) : CheckSpec ok pws (.ok (pws.find? ok)) :=
  ⟨_, rfl, fun _ h => ⟨List.mem_of_find?_eq_some h, List.find?_some h⟩,
    fun h p hp => Bool.eq_false_iff.mpr (List.find?_eq_none.mp h p hp)⟩

theorem checkNative_spec (hlen : ∀ x, (H1 x).length = 20) (salt auth : Bytes) (pws : List Bytes) :
    CheckSpec (nativeOK H1 salt auth) pws (checkNative H1 salt auth pws) := by
  unfold checkNative
  rw [umCheckHashPassword_eq]
  cases hf : pws.find? (fun p => looksHashed p && checkHashPassword H1 auth salt (p.drop 1)) with
  | some p =>
    have hok := List.find?_some hf
    refine ⟨some p, rfl, fun q hq => ?_, nofun⟩
    cases hq
    exact ⟨List.mem_of_find?_eq_some hf, by simp only [nativeOK, hok, Bool.true_or]⟩
  | none =>
    rw [umCheckPassword_eq H1 hlen]
    obtain ⟨r, hr, hsome, hnone⟩ :=
      find_checkSpec (fun p => !isStoredHashPassword p && auth == nativeScramble H1 salt p) pws
    refine ⟨r, hr, fun q hq => ?_, fun hq p hp => ?_⟩
    · have hok : (!isStoredHashPassword q && auth == nativeScramble H1 salt q) = true := (hsome q hq).2
      exact ⟨(hsome q hq).1, by rw [nativeOK, hok, Bool.or_true]⟩
    · have h1 : (looksHashed p && checkHashPassword H1 auth salt (p.drop 1)) = false :=
        Bool.eq_false_iff.mpr (List.find?_eq_none.mp hf p hp)
      have h2 : (!isStoredHashPassword p && auth == nativeScramble H1 salt p) = false := hnone hq p hp
      rw [nativeOK, h1, h2, Bool.or_self]

theorem checkSha2_spec (hlen : ∀ x, (H256 x).length = 32) (salt auth : Bytes) (pws : List Bytes) :
    CheckSpec (sha2OK H256 salt auth) pws (umCheckSha2Password H256 salt auth pws) := by
  rw [umCheckSha2Password_eq H256 hlen]
  exact find_checkSpec _ pws

theorem checkByPlugin_spec (h1 : ∀ x, (H1 x).length = 20) (h256 : ∀ x, (H256 x).length = 32)
    (plugin salt auth : Bytes) (pws : List Bytes) :
    CheckSpec (fun p => gaeaAccepts H1 H256 plugin p salt auth) pws (checkByPlugin H1 H256 plugin salt auth pws) := by
  unfold checkByPlugin gaeaAccepts
  by_cases hp : plugin.length = 0
  · simp only [hp, if_true]
    by_cases ha : auth.length = 32
    · simp only [ha, if_true]; exact checkSha2_spec H256 h256 salt auth pws
    · simp only [ha, if_false]; exact checkNative_spec H1 h1 salt auth pws
  · simp only [hp, if_false]
    by_cases hc : plugin = cachingSHA2Password
    · simp only [hc, if_true]; exact checkSha2_spec H256 h256 salt auth pws
    · simp only [hc, if_false]; exact checkNative_spec H1 h1 salt auth pws

end

/-! ### The code's acceptance against the reference semantics -/

section
variable (H1 H256 : Bytes → Bytes)

theorem isHashedEntry_eq (p : Bytes) : isHashedEntry p = (looksHashed p && (p.drop 1).all isHexDigit) := by
  rw [isHashedEntry, looksHashed, Bool.and_comm (p.length == 41)]
  rfl

theorem looksHashed_length {p : Bytes} (h : looksHashed p = true) : p.length = 41 := by
  rw [looksHashed, Bool.and_eq_true] at h
  exact beq_iff_eq.mp h.2

theorem isHashedEntry_parts (p : Bytes) (h : isHashedEntry p = true) :
    looksHashed p = true ∧ (p.drop 1).length = 40 ∧ (p.drop 1).all isHexDigit = true ∧ p ≠ [] := by
  rw [isHashedEntry_eq, Bool.and_eq_true] at h
  have hl := looksHashed_length h.1
  exact ⟨h.1, by rw [List.length_drop, hl], h.2, fun e => by rw [e] at hl; cases hl⟩

theorem checkHash_nonhex (hlen : ∀ x, (H1 x).length = 20) (salt auth p : Bytes)
    (hl : looksHashed p = true) (hn : isHashedEntry p = false) :
    checkHashPassword H1 auth salt (p.drop 1) = false := by
  rw [isHashedEntry_eq, hl, Bool.true_and] at hn
  have hshort := hexDecode_short (p.drop 1) hn
  rw [List.length_drop, looksHashed_length hl] at hshort
  rw [checkHashPassword_eq_mysql H1 hlen, mysqlNativeVerify]
  -- the decoded bytes are fewer than a digest has
  have : (H1 (xorBytes auth (H1 (salt ++ hexDecodeString (p.drop 1)))) == hexDecodeString (p.drop 1)) = false := by
    rw [beq_eq_false_iff_ne]
    intro e
    have := congrArg List.length e
    rw [hlen] at this
    omega
  rw [this, Bool.and_false, Bool.and_false]

/-- The predicate of the source (`isStoredHashPassword`: prefix, length, then
    `hex.DecodeString` without error) singles out exactly the stored-hash entries of
    the reference semantics: `*` followed by 40 hex digits. -/
theorem isStoredHashPassword_eq (p : Bytes) : isStoredHashPassword p = isHashedEntry p := by
  rw [isStoredHashPassword, isHashedEntry_eq, hexDecodeOK_eq]
  cases hl : looksHashed p with
  | false => rfl
  | true => rw [if_pos rfl, List.length_drop, looksHashed_length hl]; rfl

/-- For one configured string the native branch accepts exactly the correct
    mysql_native_password proofs of the reference semantics. -/
theorem nativeOK_eq (hlen : ∀ x, (H1 x).length = 20) (salt auth p : Bytes) :
    nativeOK H1 salt auth p = specNative H1 p salt auth := by
  unfold nativeOK specNative
  rw [isStoredHashPassword_eq]
  cases hh : isHashedEntry p with
  | true =>
    obtain ⟨hl, hd, _, _⟩ := isHashedEntry_parts p hh
    have hne : p.drop 1 ≠ [] := by intro e; rw [e] at hd; cases hd
    rw [hl, checkHashPassword_eq_mysql H1 hlen, decide_eq_true hne]
    simp
  | false =>
    cases hl : looksHashed p with
    | true => rw [checkHash_nonhex H1 hlen salt auth p hl hh]; rfl
    | false => rfl

/-- …and the sha2 branch exactly the correct caching_sha2_password proofs. -/
theorem sha2OK_eq (salt auth p : Bytes) :
    sha2OK H256 salt auth p = specSha2 H256 p salt auth := by
  rw [sha2OK, specSha2, isStoredHashPassword_eq]

theorem specNative_length (hlen : ∀ x, (H1 x).length = 20) (salt auth p : Bytes)
    (h : specNative H1 p salt auth = true) : auth.length = 20 ∨ (auth = [] ∧ p = []) := by
  unfold specNative at h
  split at h
  · rw [mysqlNativeVerify, Bool.and_eq_true, beq_iff_eq] at h; exact Or.inl h.1
  · exact eq_nativeScramble_length H1 hlen salt auth p h

/-- For one configured string, `handleHandshakeResponse` accepts exactly what the
    reference semantics accepts. -/
theorem gaeaAccepts_eq (h1 : ∀ x, (H1 x).length = 20) (h256 : ∀ x, (H256 x).length = 32)
    (plugin p salt auth : Bytes) :
    gaeaAccepts H1 H256 plugin p salt auth = specAccepts H1 H256 plugin p salt auth := by
  unfold gaeaAccepts specAccepts
  rw [nativeOK_eq H1 h1, sha2OK_eq]
  split
  · -- no plugin named: the response length selects the method, and a correct proof by
    -- the other method has the other length (or everything is empty, where both agree)
    split
    · rename_i ha
      cases hs : specNative H1 p salt auth with
      | false => rfl
      | true =>
        rcases specNative_length H1 h1 salt auth p hs with h | ⟨h, _⟩
        · rw [h] at ha; cases ha
        · rw [h] at ha; cases ha
    · rename_i ha
      cases hs : specSha2 H256 p salt auth with
      | false => rw [Bool.or_false]
      | true =>
        rw [specSha2, Bool.and_eq_true] at hs
        rcases eq_sha2Scramble_length H256 h256 salt auth p hs.2 with h | ⟨rfl, rfl⟩
        · exact absurd h ha
        · rfl
  · rfl

/-- **C30 (handshake, exact).** For all hash functions with 20- and 32-byte
    outputs, every user table, user name, salt, plugin and response of any length:
    the handshake never panics; if it is accepted, the password reported is one
    configured for the user, the response is a correct proof for it by the
    reference semantics (method in force), and the session is bound to its
    namespace; if it is refused, the response is a correct proof for *no* password
    configured for the user — anywhere in the list, in any order. -/
theorem handshake_decision (h1 : ∀ x, (H1 x).length = 20) (h256 : ∀ x, (H256 x).length = 32)
    (u : UserManager Bytes) (user salt auth plugin : Bytes) :
    ∃ d, handleHandshakeResponse H1 H256 u user salt auth plugin = .ok d ∧
      (∀ pw ns, d = .accept pw ns →
          pw ∈ (mget u.users user).getD [] ∧ ns = getNamespaceByUser u user pw ∧
          specAccepts H1 H256 plugin pw salt auth = true) ∧
      (d = .deny → ∀ pw ∈ (mget u.users user).getD [], specAccepts H1 H256 plugin pw salt auth = false) := by
  unfold handleHandshakeResponse
  cases hu : checkUser u user with
  | false =>
    refine ⟨.deny, rfl, nofun, fun _ pw hpw => ?_⟩
    rw [checkUser, Option.isSome_eq_false_iff, Option.isNone_iff_eq_none] at hu
    rw [hu] at hpw
    cases hpw
  | true =>
    obtain ⟨r, hr, hsome, hnone⟩ := checkByPlugin_spec H1 H256 h1 h256 plugin salt auth ((mget u.users user).getD [])
    simp only [gaeaAccepts_eq H1 H256 h1 h256] at hsome hnone
    rw [hr]
    cases r with
    | some pw =>
      refine ⟨.accept pw (getNamespaceByUser u user pw), rfl, fun pw' ns' e => ?_, nofun⟩
      cases e
      exact ⟨(hsome pw rfl).1, rfl, (hsome pw rfl).2⟩
    | none => exact ⟨.deny, rfl, nofun, fun _ => hnone rfl⟩

theorem handshake_never_panics (h1 : ∀ x, (H1 x).length = 20) (h256 : ∀ x, (H256 x).length = 32)
    (u : UserManager Bytes) (user salt auth plugin : Bytes) :
    handleHandshakeResponse H1 H256 u user salt auth plugin ≠ .panic := by
  obtain ⟨d, hd, _⟩ := handshake_decision H1 H256 h1 h256 u user salt auth plugin
  rw [hd]; intro h; cases h

/-- **C30 (`handshake_accept_iff`, full strength).** For all hash functions with
    20- and 32-byte outputs, every user table, user name, salt of any length,
    plugin and response of any length, every list of configured passwords in
    every order: the handshake passes the password check **iff** the response is a
    correct mysql_native_password or caching_sha2_password proof, by the method in
    force, for some password configured for that user (clear text, or `*` + the
    40 hex digits of its double SHA1).  No side condition: the scramble of a stored
    hash string itself is not accepted (fix f737e0b; the loops before it:
    `legacy_hash_literal_accepted`). -/
theorem handshake_accept_iff (h1 : ∀ x, (H1 x).length = 20) (h256 : ∀ x, (H256 x).length = 32)
    (u : UserManager Bytes) (user salt auth plugin : Bytes) :
    (∃ pw ns, handleHandshakeResponse H1 H256 u user salt auth plugin = .ok (.accept pw ns)) ↔
      ∃ pw ∈ (mget u.users user).getD [], specAccepts H1 H256 plugin pw salt auth = true := by
  obtain ⟨d, hd, hacc, hden⟩ := handshake_decision H1 H256 h1 h256 u user salt auth plugin
  rw [hd]
  constructor
  · rintro ⟨pw, ns, e⟩
    obtain ⟨hm, _, ha⟩ := hacc pw ns (R.ok.inj e)
    exact ⟨pw, hm, ha⟩
  · rintro ⟨pw, hm, ha⟩
    cases d with
    | accept pw' ns' => exact ⟨pw', ns', rfl⟩
    | deny => rw [hden rfl pw hm] at ha; cases ha

/-- The scramble of a stored hash string itself is accepted only if it happens to
    be a correct proof (of the hash's preimage, or for another configured
    password): the literal reading alone does not open the door. -/
theorem literal_scramble_needs_proof (h1 : ∀ x, (H1 x).length = 20) (h256 : ∀ x, (H256 x).length = 32)
    (u : UserManager Bytes) (user salt plugin s pw ns : Bytes)
    (hacc : handleHandshakeResponse H1 H256 u user salt (nativeScramble H1 salt s) plugin = .ok (.accept pw ns)) :
    ∃ pw' ∈ (mget u.users user).getD [], specAccepts H1 H256 plugin pw' salt (nativeScramble H1 salt s) = true :=
  (handshake_accept_iff H1 H256 h1 h256 u user salt _ plugin).mp ⟨pw, ns, hacc⟩

end

/-! ### C29 and C30 together: an accepted handshake is bound to the namespace that
    configures the password it was accepted for -/

/-- For every user table reached by a history that respects the uniqueness rule
    (any map iteration order, as in `C29.usermgr_refines`), every salt, plugin and
    response: if the handshake is accepted, it is accepted for a password `pw`
    configured for that user name at that moment, the response is a correct proof
    for `pw`, and the session is bound to exactly the namespace that configures
    `(user, pw)`. -/
theorem handshake_binds_configured_namespace (H1 H256 : Bytes → Bytes)
    (h1 : ∀ x, (H1 x).length = 20) (h256 : ∀ x, (H256 x).length = 32)
    (init : List (NsCfg Bytes)) (ops : List (Op Bytes)) (u0 u : UserManager Bytes)
    (hc : C29.CreateRel init u0) (hs : C29.Steps u0 ops u)
    (hu : uniqueAlong (specInit init) ops = true)
    (user salt auth plugin pw ns : Bytes)
    (hacc : handleHandshakeResponse H1 H256 u user salt auth plugin = .ok (.accept pw ns)) :
    (ns, user, pw) ∈ specRun (specInit init) ops
      ∧ specAccepts H1 H256 plugin pw salt auth = true := by
  obtain ⟨d, hd, hA, _⟩ := handshake_decision H1 H256 h1 h256 u user salt auth plugin
  obtain ⟨hm, rfl, hok⟩ := hA pw ns (R.ok.inj (hd.symm.trans hacc))
  exact ⟨(C29.reachable_inv hc hs hu).bound hm, hok⟩

/-! ### The repaired finding: a stored hash string was accepted as a clear-text password -/

/-- Before fix f737e0b, for all hash functions, salts and stored-hash entries `s`:
    a client that sent the native scramble of the 41-character string `s` itself
    (it need not know the password) passed the handshake of a user for whom `s`
    is configured (model of the old loops: `legacyHandleHandshakeResponse`). -/
theorem legacy_hash_literal_accepted (H1 H256 : Bytes → Bytes) (h1 : ∀ x, (H1 x).length = 20)
    (ns s salt : Bytes) (hs : isHashedEntry s = true) :
    ∃ pw ns', legacyHandleHandshakeResponse H1 H256
        (addNamespaceUsers newUserManager { name := ns, users := [([0x75], s)] })
        [0x75] salt (nativeScramble H1 salt s) [] = .ok (.accept pw ns') := by
  obtain ⟨_, _, _, hne⟩ := isHashedEntry_parts s hs
  have hlen : (nativeScramble H1 salt s).length = 20 := by
    rw [nativeScramble_length H1 h1, if_neg hne]
  have hu : checkUser (addNamespaceUsers newUserManager { name := ns, users := [([0x75], s)] }) [0x75] = true := rfl
  have hp : (mget (addNamespaceUsers newUserManager { name := ns, users := [([0x75], s)] }).users [0x75]).getD [] = [s] :=
    rfl
  -- if the stored-hash loop does not accept, the clear-text loop compares with the scramble of `s`
  have hck : ∃ pw, legacyCheckByPlugin H1 H256 [] salt (nativeScramble H1 salt s) [s] = .ok (some pw) := by
    rw [legacyCheckByPlugin, if_pos List.length_nil, if_neg (by rw [hlen]; decide), legacyCheckNative]
    cases umCheckHashPassword H1 salt (nativeScramble H1 salt s) [s] with
    | some p => exact ⟨p, rfl⟩
    | none => exact ⟨s, by simp only [legacyUmCheckPassword, calcPassword_eq H1 h1, beq_self_eq_true, if_true]⟩
  obtain ⟨pw, hpw⟩ := hck
  exact ⟨pw, _, by rw [legacyHandleHandshakeResponse, hu, hp, hpw]; rfl⟩

/-- A toy hash (every byte of the digest is 7 + the sum of the message bytes) with
    the right output length, to exhibit the defect on the model by evaluation. -/
def toyHash (n : Nat) (x : Bytes) : Bytes := List.replicate n (x.foldl (· + ·) 7)

def witnessStored : Bytes := 0x2a :: List.replicate 40 0x30   -- "*000…0"
def witnessSalt : Bytes := List.replicate 20 1
def witnessUM : UserManager Bytes :=
  addNamespaceUsers newUserManager { name := [0x6e, 0x31], users := [([0x75], witnessStored)] }
def witnessResp : Bytes := nativeScramble (toyHash 20) witnessSalt witnessStored

/-- **The failing input of the finding** (corpus/C30/regress.case has the same case with the
    real SHA-1, for another stored hash and salt):
    the user `u` has the single configured password `*000…0` (a stored hash); the
    response `witnessResp` — the scramble of that string — was accepted into
    namespace `n1` by the loops before fix f737e0b, although it is not a correct
    proof for that entry by either method … -/
theorem legacy_hash_literal_accepted_witness :
    legacyHandleHandshakeResponse (toyHash 20) (toyHash 32) witnessUM [0x75] witnessSalt witnessResp []
        = .ok (.accept witnessStored [0x6e, 0x31])
      ∧ (∀ x, (toyHash 20 x).length = 20) ∧ (∀ x, (toyHash 32 x).length = 32)
      ∧ ∀ pw ∈ (mget witnessUM.users [0x75]).getD [],
          specAccepts (toyHash 20) (toyHash 32) [] pw witnessSalt witnessResp = false := by
  refine ⟨by decide +kernel, fun x => List.length_replicate, fun x => List.length_replicate, ?_⟩
  decide +kernel

/-- … and is refused by the repaired code. -/
theorem hash_literal_rejected_witness :
    handleHandshakeResponse (toyHash 20) (toyHash 32) witnessUM [0x75] witnessSalt witnessResp [] = .ok .deny := by
  decide +kernel

/-! ### Non-vacuity -/

/-- The length hypotheses hold of the executable SHA-1 and SHA-256 of the driver. -/
example (u : UserManager Bytes) (user salt auth plugin : Bytes) :=
  handshake_accept_iff AuthSha.sha1 AuthSha.sha256 AuthSha.sha1_length AuthSha.sha256_length u user salt auth plugin

set_option maxRecDepth 100000 in
/-- Both sides of `handshake_accept_iff` are inhabited on a non-trivial table (a
    stored hash of the password `p`, a clear-text and an empty password; toy hash):
    the scramble of `p` is accepted for the stored hash, the scramble of the hash
    string itself is refused. -/
example :
    let stored : Bytes := 0x2a :: hexEncodeWith hexDigitUpper (toyHash 20 (toyHash 20 [0x70]))
    let um := addNamespaceUsers (addNamespaceUsers newUserManager
      { name := [0x6e, 0x31], users := [([0x75], stored), ([0x75], [0x70, 0x3a, 0x71])] })
      { name := [0x6e, 0x32], users := [([0x75], [])] }
    handleHandshakeResponse (toyHash 20) (toyHash 32) um [0x75] witnessSalt
        (nativeScramble (toyHash 20) witnessSalt [0x70]) [] = .ok (.accept stored [0x6e, 0x31]) ∧
    handleHandshakeResponse (toyHash 20) (toyHash 32) um [0x75] witnessSalt
        (nativeScramble (toyHash 20) witnessSalt stored) [] = .ok .deny := by
  decide +kernel

/-- A stored-hash entry exists (hypothesis of `legacy_hash_literal_accepted`). -/
example : isHashedEntry witnessStored = true := by decide +kernel

/-- The accepted and the refused side of `hashed_accept_iff` are both inhabited (toy hash). -/
example : checkHashPassword (toyHash 20) (nativeScramble (toyHash 20) witnessSalt [0x70]) witnessSalt
    (hexEncodeWith hexDigitUpper (toyHash 20 (toyHash 20 [0x70]))) = true :=
  hashed_accepts_password_upper _ (fun _ => List.length_replicate) _ _ (by decide)
set_option maxRecDepth 100000 in
example : checkHashPassword (toyHash 20) (List.replicate 20 0) witnessSalt
    (hexEncodeWith hexDigitUpper (toyHash 20 (toyHash 20 [0x70]))) = false := by decide +kernel

/-! ### The in-place XOR of the pinned tree (repaired by 680bf06), for the record -/

/-- Pinned tree: `CheckHashPassword` left the caller's buffer XORed with the mask,
    so the next candidate saw a different response. -/
theorem legacy_checkHashPassword_modifies_response :
    ∃ resp' , legacyCheckHashPassword (toyHash 20) (List.replicate 20 0) witnessSalt (witnessStored.drop 1)
        = .ok (false, resp') ∧ resp' ≠ List.replicate 20 0 :=
  ⟨xorBytes (List.replicate 20 0) (toyHash 20 (witnessSalt ++ hexDecodeString (witnessStored.drop 1))),
    by decide +kernel⟩

/-- Pinned tree: a response longer than the 20-byte hash made it panic. -/
theorem legacy_checkHashPassword_panics :
    legacyCheckHashPassword (toyHash 20) (List.replicate 21 0) witnessSalt (witnessStored.drop 1) = .panic := by
  decide +kernel

end GaeaVerif.C30
