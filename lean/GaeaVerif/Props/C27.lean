import GaeaVerif.Model.Health
import GaeaVerif.Model.HealthSpec
import GaeaVerif.Lemmas.Health
import GaeaVerif.Gen.Consts
/-
  C27 — Fused replicas are not restored before their cool-down.

  "A replica taken down by the circuit breaker is not marked up again before
   its recovery condition holds — the configured cool-down since its latest
   fuse for the hard policy, or the current penalty number of consecutive
   successful probes for the gradual policy, with the penalty growing when a
   replica fails again soon after recovering — and is marked up once the
   condition holds and its probes succeed."

  Theorems about `Model/Health.lean` (tied to backend/slice.go and
  backend/node_fuse.go by the correspondence check `gvh run C27`), for every
  configuration, start time and history of breaker firings, replica and master
  probe rounds and clock steps — no bound on the length, no assumption on the
  clock (it may even step back).

  * `c27_spec_holds` — the executable reference semantics of the property
    (`Health.judge27`, the function the check runs on the implementation's
    output; it sees the history and the up/down trace only and keeps its own
    count of consecutive successful rounds) accepts the model on every
    history: no violation, whatever the master's state (the master-down
    branches of backend/slice.go were repaired: fixes 4cba6eb, 5e8b660, 87be324).
  * the `hard_…`, `gradual_…` and `penalty_…` theorems say what single rounds and
    histories do under each policy, for all states / all histories;
    `hard_cooldown_master_down_repaired` replays the input on which the pinned
    code failed.
-/
namespace GaeaVerif.C27
open GaeaVerif GaeaVerif.Health

/-- `PingPeriod`, `maxPenalty`, `initErrorRecoveryCount` as extracted from the
    working tree are the ones the model (and every theorem below) uses. -/
theorem consts_tie :
    Gen.healthPingPeriod = pingPeriod ∧ Gen.healthMaxPenalty = maxPenalty ∧
    Gen.healthInitErrorRecoveryCount = initErrorRecoveryCount := by decide

theorem penalty_nonneg (n : Int) (h : 0 ≤ n) : 0 ≤ penalty n := by
  unfold penalty maxPenalty
  have h1 : 0 ≤ (1 + n) * n := Int.mul_nonneg (by omega) h
  have h2 : 0 ≤ (1 + n) * n / 2 := Int.ediv_nonneg h1 (by decide)
  omega

theorem penalty_capped (n : Int) : penalty n ≤ maxPenalty := by
  unfold penalty; omega

theorem tri_succ (n : Int) : (1 + (n + 1)) * (n + 1) / 2 = (1 + n) * n / 2 + (n + 1) := by
  have : (1 + (n + 1)) * (n + 1) = (1 + n) * n + (n + 1) * 2 := by
    simp only [Int.add_mul, Int.mul_add, Int.one_mul, Int.mul_one]
    omega
  rw [this, Int.add_mul_ediv_right _ _ (by decide)]

/-- **The penalty grows** with every further bad recovery until it reaches the cap:
    one more bad recovery means strictly more required successful rounds. -/
theorem penalty_grows (n : Int) (h : 0 ≤ n) (hc : penalty n < maxPenalty) : penalty n < penalty (n + 1) := by
  unfold penalty at *
  rw [tri_succ]
  omega

theorem penalty_mono (n : Int) (h : 0 ≤ n) : penalty n ≤ penalty (n + 1) := by
  unfold penalty
  rw [tri_succ]
  omega

example : penalty 3 = 6 ∧ penalty 4 = 10 ∧ penalty 5 = 15 ∧ penalty 14 = 105 ∧ penalty 15 = 120 ∧ penalty 16 = 120 := by
  decide

/-- Time of the latest firing of the breaker along a history (`t` if none). -/
def latestFuse (c : Cfg) (t : Int) : List Ev → Int
  | [] => t
  | e :: es =>
    match e with
    | .fuse now ce tr => latestFuse c (if fuseFires c ce tr then now else t) es
    | _ => latestFuse c t es

theorem run_lastFuse_hard (c : Cfg) (hp : c.policy = .hard) : ∀ (evs : List Ev) (s : St),
    (run c s evs).lastFuse = latestFuse c s.lastFuse evs :=
  run_fold c (·.lastFuse) (latestFuse c) (fun _ => rfl) fun s e es => by
    cases e with
    | master now p =>
      obtain ⟨m, hm⟩ := master_frame c s now p
      simp only [latestFuse, step, hm]
    | replica now p q => simp only [latestFuse, step, (tryRecover_frame c s now p q).2.1]
    | fuse now ce tr =>
      simp only [latestFuse, step, tryFuse_eq, hp]
      cases fuseFires c ce tr <;> simp
    | tick now => rfl

/-- **Hard policy, one round.**  For any state: a round that turns a down replica up has
    passed `AllowRecovery`, after a successful probe — whatever the master's state. -/
theorem hard_restore_requires_cooldown (c : Cfg) (hp : c.policy = .hard) (s : St) (now : Int) (p : Probe)
    (q : SlaveQ) (hdown : s.rep.up = false)
    (hup : (tryRecover c s now p q).rep.up = true) :
    now ≥ s.lastFuse + c.cooling ∧ probeOk c p = true := by
  obtain ⟨hok, -, -, ha⟩ := tryRecover_restores c s now p q hdown hup
  rw [allowsRecovery, hp] at ha
  exact ⟨of_decide_eq_true ha, hok⟩

/-- **Hard policy: no restore before the cool-down.**  The same along a history, whatever
    the master's state: if the replica is down after it and the next
    replica round marks it up, then at least `FuseCooldownPeriod` seconds have
    passed since the latest firing of the breaker in that history (every firing
    counts, also one that hit the replica while it was already down). -/
theorem hard_not_restored_before_cooldown (c : Cfg) (hp : c.policy = .hard) (t0 : Int) (evs : List Ev)
    (now : Int) (p : Probe) (q : SlaveQ)
    (hdown : (run c (St.init t0) evs).rep.up = false)
    (hup : (run c (St.init t0) (evs ++ [.replica now p q])).rep.up = true) :
    now ≥ latestFuse c 0 evs + c.cooling := by
  have hl : _ = latestFuse c 0 evs := run_lastFuse_hard c hp evs (St.init t0)
  rw [run_append] at hup
  rw [← hl]
  exact (hard_restore_requires_cooldown c hp _ now p q hdown hup).1

example :
    let c : Cfg := ⟨true, 30, 12, 0, false, true⟩
    let evs : List Ev := [.master 1012 ⟨.err, []⟩, .fuse 1013 true true, .replica 1014 ⟨.conn, []⟩ .empty]
    c.policy = .hard ∧ (run c (St.init 1000) evs).rep.up = false ∧ masterDown c (run c (St.init 1000) evs) = true ∧
    (run c (St.init 1000) (evs ++ [.replica 1043 ⟨.conn, []⟩ .empty])).rep.up = true ∧ latestFuse c 0 evs = 1013 := by
  decide

/-- **Hard policy: restored once the cool-down is over and the round succeeds.**
    A down replica whose probe succeeds, with `downAfter > 0`, whose replication
    check is fine or skipped because the master is down, is marked up as soon as
    `now ≥ lastFuseTime + FuseCooldownPeriod`. -/
theorem hard_restored_after_cooldown (c : Cfg) (hp : c.policy = .hard) (hs : c.sbm < 9223372036854775808)
    (s : St) (now : Int) (p : Probe) (q : SlaveQ)
    (hok : probeOk c p = true) (hd : 0 < c.downAfter)
    (hgood : masterDown c s = true ∨ syncSpec c.sbm q = .good)
    (hcool : now ≥ s.lastFuse + c.cooling) :
    (tryRecover c s now p q).rep.up = true := by
  rw [tryRecover_passed c s now p q hok hd (syncAlive_of_good c hs s q hgood), allowsRecovery, hp,
    decide_eq_true hcool, Bool.or_true]

example : ∃ (c : Cfg) (s : St), c.policy = .hard ∧ c.sbm < 9223372036854775808 ∧ probeOk c ⟨.conn, []⟩ = true ∧
    0 < c.downAfter ∧ (masterDown c s = true ∨ syncSpec c.sbm .empty = .good) ∧ s.rep.up = false ∧
    (1040 : Int) ≥ s.lastFuse + c.cooling :=
  ⟨⟨true, 30, 12, 5, false, true⟩, { St.init 1000 with rep := ⟨false, 1000⟩, lastFuse := 1004 },
   by decide, by decide, by decide, by decide, by decide, by decide, by decide⟩

/-- A firing of the breaker takes the replica down and restarts the cool-down. -/
theorem hard_fuse_takes_down (c : Cfg) (hp : c.policy = .hard) (s : St) (now : Int) :
    (tryFuse c s now true true).rep.up = false ∧ (tryFuse c s now true true).lastFuse = now := by
  rw [tryFuse_eq]; simp [fuseFires, hp]

/-- **Gradual policy: restored only when the count is used up.**  For any state,
    whatever the master's state: a round that turns a down replica up found
    `consecutiveSuccessCheckCount ≤ 0`, after a successful probe; and it records
    the recovery time. -/
theorem gradual_restored_only_at_zero (c : Cfg) (hp : c.policy = .gradual) (s : St) (now : Int) (p : Probe)
    (q : SlaveQ) (hdown : s.rep.up = false) (hup : (tryRecover c s now p q).rep.up = true) :
    s.cscc ≤ 0 ∧ probeOk c p = true ∧ (tryRecover c s now p q).lastRec = now := by
  obtain ⟨hok, -, -, ha⟩ := tryRecover_restores c s now p q hdown hup
  obtain ⟨hu, -, hl⟩ := gradual_round_down c hp s now p q hdown hok
  rw [hu] at hup
  rw [allowsRecovery, hp] at ha
  exact ⟨of_decide_eq_true ha, hok, by rw [hl, hup]; rfl⟩

/-- **A fuse soon after a recovery grows the penalty**: the breaker takes an up
    replica down at most `2·PingPeriod` seconds after its latest recovery —
    `errorRecoveryCount` grows by one and the required number of consecutive
    successful rounds becomes `penalty` of it. -/
theorem gradual_bad_fuse_sets_penalty (c : Cfg) (hp : c.policy = .gradual) (s : St) (now : Int)
    (hup : s.rep.up = true) (hbad : now - s.lastRec ≤ 2 * pingPeriod) :
    let s' := tryFuse c s now true true
    s'.rep.up = false ∧ s'.erc = s.erc + 1 ∧ s'.cscc = penalty (s.erc + 1) := by
  have hb : now - s.lastRec ≤ pingPeriod * 2 := by omega
  simp [tryFuse_eq, fuseFires, hp, hup, hb]

/-- **A fuse long after the recovery resets it**: `errorRecoveryCount` goes back
    to `initErrorRecoveryCount`; the count in force is left as it is. -/
theorem gradual_fuse_long_after_recovery_resets (c : Cfg) (hp : c.policy = .gradual) (s : St) (now : Int)
    (hup : s.rep.up = true) (hgood : now - s.lastRec > 2 * pingPeriod) :
    let s' := tryFuse c s now true true
    s'.rep.up = false ∧ s'.erc = initErrorRecoveryCount ∧ s'.cscc = s.cscc := by
  have hb : ¬ (now - s.lastRec ≤ pingPeriod * 2) := by omega
  simp [tryFuse_eq, fuseFires, hp, hup, hb]

/-- A fully successful replica round in state `s`: the probe passes and the
    replication check passes or is skipped because the master is down. -/
def goodRound (c : Cfg) (s : St) : Ev → Bool
  | .replica _ p q => probeOk c p && syncAlive c s true q
  | _ => false

theorem goodRound_master (c : Cfg) (s s' : St) (e : Ev) (h : s'.master = s.master) :
    goodRound c s' e = goodRound c s e := by
  cases e <;> simp [goodRound, syncAlive, masterDown, h]

/-- **Gradual policy: the countdown.**  A down replica with
    `consecutiveSuccessCheckCount = k₀` stays down through any `k ≤ k₀` fully
    successful rounds (whenever they happen, master up or down), each using up
    one unit. -/
theorem gradual_countdown (c : Cfg) (hp : c.policy = .gradual) (hd : 0 < c.downAfter) :
    ∀ (evs : List Ev) (s : St), (∀ e ∈ evs, goodRound c s e = true) → s.rep.up = false →
      (evs.length : Int) ≤ s.cscc →
      (run c s evs).rep.up = false ∧ (run c s evs).cscc = s.cscc - evs.length ∧
      (run c s evs).master = s.master ∧ (run c s evs).erc = s.erc := by
  intro evs
  induction evs with
  | nil => intro s _ h1 _; simp [run, h1]
  | cons e es ih =>
    intro s hg hdown hlen
    have hge := hg e (by simp)
    cases e with
    | replica now p q =>
      simp only [goodRound, Bool.and_eq_true] at hge
      obtain ⟨hu, hk, -⟩ := gradual_round_down c hp s now p q hdown hge.1
      obtain ⟨hm, -, he⟩ := tryRecover_frame c s now p q
      simp only [List.length_cons] at hlen ⊢
      have hpos : ¬s.cscc ≤ 0 := by omega
      simp only [hd, hge.2, hpos, decide_true, decide_false, Bool.and_false, Bool.and_self, Bool.not_false, if_true] at hu hk
      obtain ⟨i1, i2, i3, i4⟩ := ih (tryRecover c s now p q)
        (fun e he => by rw [goodRound_master c s _ e hm]; exact hg e (by simp [he])) hu (by rw [hk]; omega)
      exact ⟨i1, by rw [run, step, i2, hk]; omega, i3.trans hm, i4.trans he⟩
    | _ => simp [goodRound] at hge

/-- … and the next fully successful round after the count is used up marks it up. -/
theorem gradual_restored_after_countdown (c : Cfg) (hp : c.policy = .gradual) (hd : 0 < c.downAfter)
    (s : St) (now : Int) (p : Probe) (q : SlaveQ) (hg : goodRound c s (.replica now p q) = true)
    (hdown : s.rep.up = false) (hz : s.cscc ≤ 0) :
    (tryRecover c s now p q).rep.up = true ∧ (tryRecover c s now p q).lastRec = now := by
  simp only [goodRound, Bool.and_eq_true] at hg
  obtain ⟨hu, -, hl⟩ := gradual_round_down c hp s now p q hdown hg.1
  simp [hu, hl, hd, hg.2, hz]

/-- **A failed probe re-arms the count** ("consecutive"): a down replica whose
    probe fails needs `penalty errorRecoveryCount` successful rounds again. -/
theorem gradual_failed_probe_rearms (c : Cfg) (hp : c.policy = .gradual) (s : St) (now : Int) (p : Probe)
    (q : SlaveQ) (hdown : s.rep.up = false) (hfail : probeOk c p = false) :
    (tryRecover c s now p q).cscc = penalty s.erc ∧ (tryRecover c s now p q).rep.up = false := by
  obtain ⟨hu, hk, -⟩ := gradual_round_failed c hp s now p q hdown hfail
  exact ⟨hk, hu⟩

example : ∃ (c : Cfg) (s : St), c.policy = .gradual ∧ 0 < c.downAfter ∧
    goodRound c s (.replica 1004 ⟨.conn, []⟩ (.row (.u64 0) (.str "Yes") (.str "Yes"))) = true ∧
    masterDown c s = false :=
  ⟨⟨true, 0, 12, 5, false, true⟩, St.init 1000, by decide, by decide, by decide, by decide⟩

/-- … also during a master outage, where the replication answer is not looked at. -/
example : ∃ (c : Cfg) (s : St), c.policy = .gradual ∧ 0 < c.downAfter ∧
    goodRound c s (.replica 1004 ⟨.conn, []⟩ (.row (.u64 9) (.str "No") (.str "Yes"))) = true ∧
    masterDown c s = true :=
  ⟨⟨true, 0, 12, 5, false, true⟩, { St.init 1000 with master := ⟨false, 1000⟩ }, by decide, by decide, by decide, by decide⟩

/-- What the gradual strategy keeps true of its own counters, whatever the judge sees. -/
def GradualInv (s : St) : Prop :=
  initErrorRecoveryCount ≤ s.erc ∧ 0 ≤ s.cscc ∧ (s.rep.up = true → s.cscc = 0)

/-- All the invariant needs of the constant: `penalty` is applied to numbers that are not negative. -/
theorem initErrorRecoveryCount_nonneg : 0 ≤ initErrorRecoveryCount := by decide

theorem gradualInv_round (c : Cfg) (hpol : c.policy = .gradual) (s : St) (now : Int) (p : Probe) (q : SlaveQ)
    (h : GradualInv s) :
    GradualInv (tryRecover c s now p q) ∧
    (tryRecover c s now p q).lastRec = if !s.rep.up && (tryRecover c s now p q).rep.up then now else s.lastRec := by
  obtain ⟨h1, h2, h3⟩ := h
  have h0 := initErrorRecoveryCount_nonneg
  have herc := (tryRecover_frame c s now p q).2.2
  have hpen := penalty_nonneg s.erc (by omega)
  unfold GradualInv
  cases hup : s.rep.up
  · cases hok : probeOk c p
    · obtain ⟨hu', hk', hl'⟩ := gradual_round_failed c hpol s now p q hup hok
      simp [hu', hk', hl', herc, h1, hpen]
    · obtain ⟨hu', hk', hl'⟩ := gradual_round_down c hpol s now p q hup hok
      cases decide (0 < c.downAfter) && syncAlive c s true q <;> by_cases hK : s.cscc ≤ 0 <;>
        simp [hu', hk', hl', herc, h1, hK] <;> omega
  · obtain ⟨hk', hl'⟩ := gradual_round_up c hpol s now p q hup
    simp [hk', hl', herc, h1, h3 hup]

theorem gradualInv_fuse (c : Cfg) (s : St) (now : Int) (ce tr : Bool) (h : GradualInv s) :
    GradualInv (tryFuse c s now ce tr) := by
  obtain ⟨h1, h2, h3⟩ := h
  have h0 := initErrorRecoveryCount_nonneg
  have hpen := penalty_nonneg (s.erc + 1) (by omega)
  rw [tryFuse_eq]
  unfold GradualInv
  split
  · exact ⟨h1, h2, h3⟩
  · cases c.policy == .gradual && s.rep.up
    · simp [h1, h2]
    · by_cases hb : now - s.lastRec ≤ pingPeriod * 2 <;> simp [hb, h2, hpen]
      omega

/-- The judge's ghost state describes the model state: observed statuses and
    last successful probe agree; under the hard policy the strategy's
    `lastFuseTime` is the time of the latest firing; under the gradual policy
    `errorRecoveryCount` and `lastRecoveryTime` are the judge's, and while the
    breaker has the replica down the remaining count lies between `need - good`
    and `need - sure`. -/
def Rel27 (c : Cfg) (s : St) (g : G27) : Prop :=
  g.rep = s.rep.up ∧ g.master = s.master.up ∧ g.lastOkR = s.rep.lastChecked ∧
  (g.fusedDown = true → s.rep.up = false) ∧
  (c.policy = .hard → s.lastFuse = g.lastTrig ∧ (g.fusedDown = true → g.fusedAt = g.lastTrig)) ∧
  (c.policy = .gradual →
    s.erc = g.n ∧ s.lastRec = g.lastRec ∧ GradualInv s ∧
    (g.fusedDown = true → g.need - g.good ≤ s.cscc ∧ s.cscc ≤ g.need - g.sure))

theorem rel27_init (c : Cfg) (t0 : Int) : Rel27 c (St.init t0) (G27.init t0) := by
  simp [Rel27, GradualInv, St.init, G27.init, initErrorRecoveryCount]

/-- The hypotheses are `Rel27`'s clauses on the strategy's bookkeeping, read against `g` as it is before
    the observation; `!g.rep && s'.rep.up` is a restore, which has recorded its time. -/
theorem rel27_observe (c : Cfg) (s' : St) (g : G27) (now : Int)
    (h3 : g.lastOkR = s'.rep.lastChecked)
    (hh : c.policy = .hard → s'.lastFuse = g.lastTrig ∧ (g.fusedDown = true → g.fusedAt = g.lastTrig))
    (hg : c.policy = .gradual →
      s'.erc = g.n ∧ s'.lastRec = (if !g.rep && s'.rep.up then now else g.lastRec) ∧ GradualInv s' ∧
      (g.fusedDown = true → s'.rep.up = false → g.need - g.good ≤ s'.cscc ∧ s'.cscc ≤ g.need - g.sure)) :
    Rel27 c s' (g.observe now s'.obs) := by
  cases hr : (!g.rep && s'.rep.up) <;> rw [hr] at hg <;>
    simp only [Rel27, G27.observe, St.obs, hr, if_true, if_false, Bool.false_eq_true, Bool.and_eq_true,
      Bool.not_eq_true', and_imp]
  · exact ⟨trivial, trivial, h3, fun _ h => h, fun hp => ⟨(hh hp).1, fun h _ => (hh hp).2 h⟩, hg⟩
  · have hu : s'.rep.up = true := (Bool.and_eq_true _ _ ▸ hr).2
    simp only [hu, Bool.true_eq_false, false_imp_iff, implies_true, and_true, true_and] at hg ⊢
    exact ⟨h3, fun hp => (hh hp).1, hg⟩

/-- Master rounds, clock steps, and a `TryFuse` that does not fire. -/
theorem step27_other (c : Cfg) (s : St) (m : Node) (g : G27) (now : Int) (h : Rel27 c s g) :
    judgeEarly27 c g now { s with master := m }.obs = [] ∧
    Rel27 c { s with master := m } (g.observe now { s with master := m }.obs) := by
  obtain ⟨r1, r2, r3, r4, r5, r6⟩ := h
  refine ⟨?_, rel27_observe c _ g now r3 r5 fun hp => ?_⟩
  · cases hu : s.rep.up <;> simp [judgeEarly27, St.obs, r1, hu]
  · obtain ⟨h1, h2, h3, h4⟩ := r6 hp
    exact ⟨h1, by simpa [r1] using h2, h3, fun h _ => h4 h⟩

theorem step27_fuse (c : Cfg) (s : St) (g : G27) (now : Int) (ce tr : Bool) (h : Rel27 c s g) :
    (judgeFuse27 c g now ce tr (tryFuse c s now ce tr).obs).1 = [] ∧
    Rel27 c (tryFuse c s now ce tr) (judgeFuse27 c g now ce tr (tryFuse c s now ce tr).obs).2 := by
  rw [tryFuse_eq]
  cases hf : fuseFires c ce tr
  · have hf' : (c.policy != .none && ce && tr) = false := hf
    simpa [judgeFuse27, hf'] using step27_other c s s.master g now h
  · obtain ⟨hpn, rfl, rfl⟩ : c.policy ≠ .none ∧ ce = true ∧ tr = true := by simpa [fuseFires, and_assoc] using hf
    obtain ⟨r1, r2, r3, r4, r5, r6⟩ := h
    obtain ⟨gr, gm, gor, gfd, gfa, glt, gn, gneed, ggood, gsure, glr⟩ := g
    simp only at r1 r2 r3 r4 r5 r6
    subst r1 r2 r3
    cases hpol : c.policy
    · exact absurd hpol hpn
    · obtain ⟨rfl, r5b⟩ := r5 hpol
      cases hup : s.rep.up <;> cases gfd <;>
        simp [judgeFuse27, judgeEarly27, G27.observe, St.obs, Rel27, hpol]
    · obtain ⟨rfl, rfl, r6c, r6f⟩ := r6 hpol
      have hinv := gradualInv_fuse c s now true true r6c
      rw [tryFuse_eq, hf] at hinv
      cases hup : s.rep.up
      · simp [judgeFuse27, judgeEarly27, G27.observe, St.obs, Rel27, hpol, hup] at hinv ⊢
        exact ⟨hinv, r6f⟩
      · -- a bad recovery arms the count; any other firing finds it at 0
        by_cases hbad : now - s.lastRec ≤ pingPeriod * 2 <;>
          simp [judgeFuse27, judgeEarly27, G27.observe, St.obs, Rel27, hpol, hup, hbad] at hinv ⊢
        · exact hinv
        · exact ⟨hinv, by have := r6c.2.2 hup; omega⟩

theorem judgeReplica27_unfused (c : Cfg) (g : G27) (now : Int) (p : Probe) (q : SlaveQ) (o : Obs)
    (h : g.fusedDown = false) :
    judgeReplica27 c g now p q o = ([], { g with lastOkR := if probeOk c p then now else g.lastOkR }.observe now o) := by
  simp [judgeReplica27, h]

theorem rel27_round (c : Cfg) (s : St) (g : G27) (now : Int) (p : Probe) (q : SlaveQ) (h : Rel27 c s g)
    (need good sure : Int)
    (hc : c.policy = .gradual → g.fusedDown = true → (tryRecover c s now p q).rep.up = false →
      need - good ≤ (tryRecover c s now p q).cscc ∧ (tryRecover c s now p q).cscc ≤ need - sure) :
    Rel27 c (tryRecover c s now p q)
      ({ g with lastOkR := if probeOk c p then now else g.lastOkR, need := need, good := good,
                sure := sure }.observe now (tryRecover c s now p q).obs) := by
  obtain ⟨r1, r2, r3, r4, r5, r6⟩ := h
  refine rel27_observe c _ _ now (by rw [tryRecover_rep, r3]; rfl)
    (fun hh => ⟨by rw [(tryRecover_frame c s now p q).2.1]; exact (r5 hh).1, (r5 hh).2⟩) fun hp => ?_
  obtain ⟨r6a, r6b, r6c, -⟩ := r6 hp
  obtain ⟨hinv, hrec⟩ := gradualInv_round c hp s now p q r6c
  exact ⟨(tryRecover_frame c s now p q).2.2.trans r6a, by rw [hrec, r1, r6b], hinv, hc hp⟩

/-- `su` and `mb` are `goodRound` and `maybeRound` of `judgeReplica27` after a passed probe (the last success
    is `now`, so `live` reads `0 < c.downAfter`): the judge is sure the round counts, or leaves that open.
    They are variables so that the proof can split on them. -/
theorem judgeReplica27_ghost (c : Cfg) (g : G27) (now : Int) (p : Probe) (q : SlaveQ) (o : Obs) (su mb : Bool)
    (hsu : (decide (0 < c.downAfter) && (syncSpec c.sbm q == .good)) = su)
    (hmb : (decide (0 < c.downAfter) && (syncSpec c.sbm q == .unspecified ||
      (obsMasterDown c g.master && syncSpec c.sbm q == .bad))) = mb) :
    (judgeReplica27 c g now p q o).2 =
      let cnt := decide (c.policy = .gradual) && g.fusedDown && !g.rep
      { g with lastOkR := if probeOk c p then now else g.lastOkR,
               need := if cnt && !probeOk c p then penalty g.n else g.need,
               good := if cnt then (if probeOk c p then (if su || mb then g.good + 1 else g.good) else 0) else g.good,
               sure := if cnt then (if probeOk c p then (if su then g.sure + 1 else g.sure) else 0) else g.sure
      }.observe now o := by
  cases hpol : c.policy
  · simp [judgeReplica27, hpol]
  · simp [judgeReplica27, hpol]; split <;> rfl
  · cases hfd : g.fusedDown
    · simp [judgeReplica27, hfd]
    cases hrep : g.rep
    · cases hok : probeOk c p
      · simp [judgeReplica27, hpol, hfd, hrep, hok]
      · cases su <;> cases mb <;> simp [judgeReplica27, hpol, hfd, hrep, hok, hsu, hmb]
    · simp [judgeReplica27, hfd, hrep]

/-- The counting argument of the gradual policy on its own.  `k` is the strategy's remaining count,
    which the judge's two counts keep between `need - good` and `need - sure`.  The strategy counts a
    round (`a`) whenever the judge is sure of it (`su`) and only when the judge counts it at all (`su`
    or `mb`): so a round that does not restore the replica leaves `k` between the bounds. -/
theorem count_step (k need good sure : Int) (a su mb : Bool) (hsa : su = true → a = true)
    (ham : a = true → su = true ∨ mb = true) (hk : (a && decide (k ≤ 0)) = false)
    (i1 : need - good ≤ k) (i2 : k ≤ need - sure) :
    need - (if su || mb then good + 1 else good) ≤ (if a && !decide (k ≤ 0) then k - 1 else k) ∧
    (if a && !decide (k ≤ 0) then k - 1 else k) ≤ need - (if su then sure + 1 else sure) := by
  cases a <;> cases su <;> cases mb <;> simp at hsa ham hk ⊢ <;> omega

theorem rel27_replica (c : Cfg) (hs : c.sbm < 9223372036854775808) (s : St) (g : G27) (now : Int) (p : Probe)
    (q : SlaveQ) (h : Rel27 c s g) :
    Rel27 c (tryRecover c s now p q) (judgeReplica27 c g now p q (tryRecover c s now p q).obs).2 := by
  rw [judgeReplica27_ghost c g now p q _ _ _ rfl rfl]
  refine rel27_round c s g now p q h _ _ _ fun hpol hfd hd' => ?_
  have ⟨r1, r2, _, r4, _, r6⟩ := h
  obtain ⟨r6a, -, -, r6f⟩ := r6 hpol
  have hup := r4 hfd
  rw [hup] at r1
  obtain ⟨i1, i2⟩ := r6f hfd
  simp only [hpol, hfd, r1, decide_true, Bool.and_self, Bool.not_false, if_true, Bool.true_and]
  -- a failed probe starts both sides at `penalty n`; after a passed one `count_step` keeps the bounds
  cases hok : probeOk c p
  · simp [(gradual_failed_probe_rearms c hpol s now p q hup hok).1, r6a]
  · obtain ⟨hu', hk', -⟩ := gradual_round_down c hpol s now p q hup hok
    obtain ⟨hsa, ham⟩ := syncAlive_bracket c hs s q
    rw [hu'] at hd'
    simp only [if_true, Bool.not_true, Bool.false_eq_true, if_false]
    rw [hk', r2, show obsMasterDown c s.master.up = masterDown c s from rfl]
    refine count_step _ _ _ _ _ _ _ (fun h => ?_) (fun h => ?_) hd' i1 i2 <;> rw [Bool.and_eq_true] at h
    · simp [h.1, hsa h.2]
    · rcases ham h.2 with h' | h' <;> simp [h.1, h']

theorem noViol27_replica_hard (c : Cfg) (hs : c.sbm < 9223372036854775808) (hpol : c.policy = .hard)
    (s : St) (g : G27) (now : Int) (p : Probe) (q : SlaveQ) (h : Rel27 c s g) :
    (judgeReplica27 c g now p q (tryRecover c s now p q).obs).1 = [] := by
  obtain ⟨r1, r2, r3, r4, r5, r6⟩ := h
  obtain ⟨r5a, r5b⟩ := r5 hpol
  cases hfd : g.fusedDown
  · rw [judgeReplica27_unfused c g now p q _ hfd]
  · have hdown : g.rep = false := r1 ▸ r4 hfd
    have early := hard_restore_requires_cooldown c hpol s now p q (r4 hfd)
    have late := hard_restored_after_cooldown c hpol hs s now p q
    simp [judgeReplica27, judgeEarly27, recoveryDue, hpol, hfd, hdown, St.obs]
    rw [r5b hfd, ← r5a]
    exact ⟨fun hu => (early hu).1, fun hok hfr hsy hcool => late hok (by simpa [hok] using hfr) (.inr hsy) hcool⟩

theorem noViol27_replica_gradual (c : Cfg) (hs : c.sbm < 9223372036854775808) (hpol : c.policy = .gradual)
    (s : St) (g : G27) (now : Int) (p : Probe) (q : SlaveQ) (h : Rel27 c s g) :
    (judgeReplica27 c g now p q (tryRecover c s now p q).obs).1 = [] := by
  cases hfd : g.fusedDown
  · rw [judgeReplica27_unfused c g now p q _ hfd]
  have ⟨r1, _, _, r4, _, r6⟩ := h
  obtain ⟨-, -, -, r6f⟩ := r6 hpol
  have hup := r4 hfd
  rw [hup] at r1
  obtain ⟨i1, i2⟩ := r6f hfd
  cases hok : probeOk c p
  · simp [judgeReplica27, judgeEarly27, hpol, hfd, r1, hok, St.obs,
      (gradual_failed_probe_rearms c hpol s now p q hup hok).2]
  · have early := gradual_restored_only_at_zero c hpol s now p q hup
    have late := fun hd hg => gradual_restored_after_countdown c hpol hd s now p q hg hup
    simp [judgeReplica27, judgeEarly27, recoveryDue, hpol, hfd, r1, hok, St.obs]
    exact ⟨fun hu => by have := (early hu).1; omega, fun hd hsy hn =>
      (late hd (by simp [goodRound, hok, syncAlive_of_good c hs s q (.inr hsy)]) (by omega)).1⟩

theorem step27 (c : Cfg) (hs : c.sbm < 9223372036854775808) (s : St) (g : G27) (e : Ev) (h : Rel27 c s g) :
    (judgeStep27 c g e (step c s e).obs).1 = [] ∧
    Rel27 c (step c s e) (judgeStep27 c g e (step c s e).obs).2 := by
  cases e with
  | master now p =>
    obtain ⟨m, hm⟩ := master_frame c s now p
    simp only [judgeStep27, step, hm]
    exact step27_other c s m g now h
  | replica now p q =>
    refine ⟨?_, rel27_replica c hs s g now p q h⟩
    cases hpol : c.policy
    · simp [judgeStep27, judgeReplica27, hpol]
    · exact noViol27_replica_hard c hs hpol s g now p q h
    · exact noViol27_replica_gradual c hs hpol s g now p q h
  | fuse now ce tr => exact step27_fuse c s g now ce tr h
  | tick now => exact step27_other c s s.master g now h

theorem judge27_trace (c : Cfg) (hs : c.sbm < 9223372036854775808) :
    ∀ (evs : List Ev) (s : St) (g : G27), Rel27 c s g →
      judge27 c g evs ((trace c s evs).map St.obs) = [] := by
  intro evs
  induction evs with
  | nil => intro s g _; simp [judge27]
  | cons e es ih =>
    intro s g h
    simp only [trace, List.map_cons, judge27]
    have hst := step27 c hs s g e h
    rw [hst.1, ih _ _ hst.2]
    rfl

/-- **C27 on every history.**  For every configuration (with `secondsBehindMaster`
    a Go `int`), start time and history of breaker firings, replica rounds,
    master rounds and clock steps — whatever the master's state during the
    replica rounds — the reference semantics of the property accepts the
    statuses the model produces: no restore before the cool-down / before the
    required number of consecutive successful rounds, and a restore as soon as
    the condition holds and the round succeeds.  No violation, no exception
    (the class `hard-restored-in-cooldown-master-down` of the pinned code was
    repaired by fix 5e8b660, the missing restore under the gradual policy during
    a master outage by fix 87be324). -/
theorem c27_spec_holds (c : Cfg) (hs : c.sbm < 9223372036854775808) (t0 : Int) (evs : List Ev) :
    judge27 c (G27.init t0) evs ((trace c (St.init t0) evs).map St.obs) = [] :=
  judge27_trace c hs evs _ _ (rel27_init c t0)

example : ∃ c : Cfg, c.sbm < 9223372036854775808 ∧ c.policy = .hard := ⟨⟨true, 30, 12, 5, true, true⟩, by decide, by decide⟩

/-- The reference semantics is not vacuous: it rejects a trace in which a fused
    replica is up again one second before the end of a 10 s cool-down (master
    up), and one in which it is still down after a successful round past it. -/
example :
    let c : Cfg := ⟨true, 10, 12, 0, false, true⟩
    let evs : List Ev := [.fuse 1004 true true, .replica 1013 ⟨.conn, []⟩ .empty, .replica 1014 ⟨.conn, []⟩ .empty]
    judge27 c (G27.init 1000) evs [⟨false, true⟩, ⟨true, true⟩, ⟨true, true⟩] = [.hardRestoredInCooldown] ∧
    judge27 c (G27.init 1000) evs [⟨false, true⟩, ⟨false, true⟩, ⟨false, true⟩] = [.hardNotRestoredAfterCooldown] ∧
    judge27 c (G27.init 1000) evs [⟨false, true⟩, ⟨false, true⟩, ⟨true, true⟩] = [] := by decide

/-- … the same during a master outage (master marked down at 1032): up inside the
    cool-down is rejected, still down after a successful round past it is rejected
    once — the failed probe at 1047 demands nothing. -/
example :
    let c : Cfg := ⟨true, 10, 32, 5, false, true⟩
    let evs : List Ev := [.master 1032 ⟨.err, []⟩, .fuse 1033 true true,
      .replica 1034 ⟨.conn, []⟩ (.row (.u64 0) (.str "Yes") (.str "Yes")),
      .replica 1043 ⟨.conn, []⟩ (.row (.u64 0) (.str "Yes") (.str "Yes")),
      .replica 1047 ⟨.err, []⟩ .empty]
    judge27 c (G27.init 1000) evs [⟨true, false⟩, ⟨false, false⟩, ⟨true, false⟩, ⟨true, false⟩, ⟨true, false⟩]
      = [.hardRestoredInCooldownMasterDown] ∧
    judge27 c (G27.init 1000) evs [⟨true, false⟩, ⟨false, false⟩, ⟨false, false⟩, ⟨false, false⟩, ⟨false, false⟩]
      = [.hardNotRestoredAfterCooldown] ∧
    judge27 c (G27.init 1000) evs [⟨true, false⟩, ⟨false, false⟩, ⟨false, false⟩, ⟨true, false⟩, ⟨true, false⟩] = [] ∧
    (trace c (St.init 1000) evs).map St.obs = [⟨true, false⟩, ⟨false, false⟩, ⟨false, false⟩, ⟨true, false⟩, ⟨true, false⟩] := by
  decide

/-- … and under the gradual policy a restore after 9 of the 10 required rounds,
    or no restore at the 11th. -/
example :
    let c : Cfg := ⟨true, 0, 12, 0, false, true⟩
    let evs : List Ev := .fuse 1004 true true ::
      (List.range 11).map fun (i : Nat) => Ev.replica (1008 + 4 * (i : Int)) ⟨.conn, []⟩ .empty
    let down : Obs := ⟨false, true⟩
    let up : Obs := ⟨true, true⟩
    judge27 c (G27.init 1000) evs (List.replicate 10 down ++ [up, up]) = [.gradualRestoredBeforePenalty] ∧
    judge27 c (G27.init 1000) evs (List.replicate 12 down) = [.gradualNotRestoredAfterPenalty] ∧
    judge27 c (G27.init 1000) evs (List.replicate 11 down ++ [up]) = [] := by decide

/-- … the same with no master node at all (every replica round is a "master down" round). -/
example :
    let c : Cfg := ⟨true, 0, 12, 0, false, false⟩
    let evs : List Ev := .fuse 1004 true true ::
      (List.range 11).map fun (i : Nat) => Ev.replica (1008 + 4 * (i : Int)) ⟨.conn, []⟩ .empty
    let down : Obs := ⟨false, true⟩
    let up : Obs := ⟨true, true⟩
    judge27 c (G27.init 1000) evs (List.replicate 10 down ++ [up, up]) = [.gradualRestoredBeforePenaltyMasterDown] ∧
    judge27 c (G27.init 1000) evs (List.replicate 12 down) = [.gradualNotRestoredAfterPenalty] ∧
    judge27 c (G27.init 1000) evs (List.replicate 11 down ++ [up]) = [] ∧
    (trace c (St.init 1000) evs).map St.obs = List.replicate 11 down ++ [up] := by decide

/-- **C27 for the gradual policy** (an instance of
    `c27_spec_holds`): on every history the reference semantics reports no violation — a
    replica taken down by the breaker comes up exactly when the required number
    of consecutive successful rounds has been seen, the requirement being
    `penalty n` with `n` growing by one for each fuse at most `2·PingPeriod`
    after the previous restore and reset otherwise. -/
theorem c27_gradual_holds (c : Cfg) (_hp : c.policy = .gradual) (hs : c.sbm < 9223372036854775808)
    (t0 : Int) (evs : List Ev) :
    judge27 c (G27.init t0) evs ((trace c (St.init t0) evs).map St.obs) = [] :=
  c27_spec_holds c hs t0 evs

example : (⟨true, 0, 12, 5, false, true⟩ : Cfg).policy = .gradual := by decide

/-- A concrete gradual history: created at 1000, fused at 1004 (a "bad recovery":
    within `2·PingPeriod` of the creation, so `n = 4` and the penalty is 10), then
    successful rounds every 4 s: down for ten of them, up at the eleventh. -/
example :
    let c : Cfg := ⟨true, 0, 12, 5, false, true⟩
    let evs : List Ev := .fuse 1004 true true ::
      (List.range 11).map fun (i : Nat) => Ev.replica (1008 + 4 * (i : Int)) ⟨.conn, []⟩ .empty
    (trace c (St.init 1000) evs).map (fun s => (s.rep.up, s.cscc)) =
      [(false, 10), (false, 9), (false, 8), (false, 7), (false, 6), (false, 5), (false, 4), (false, 3),
       (false, 2), (false, 1), (false, 0), (true, 0)] := by
  decide

/-- The history on which the pinned code violated the property (class
    `hard-restored-in-cooldown-master-down`, repaired by fix 5e8b660): hard
    policy with a 30 s cool-down, the master is marked down at 1032, the
    breaker takes the replica down at 1033.  The replica round at 1034 — one
    second into the cool-down — leaves it down; the round at 1063 restores
    it; the judge accepts this and rejects a restore at 1034. -/
theorem hard_cooldown_master_down_repaired :
    let c : Cfg := ⟨true, 30, 32, 0, false, true⟩
    let evs : List Ev := [.master 1032 ⟨.err, []⟩, .fuse 1033 true true, .replica 1034 ⟨.conn, []⟩ .empty,
                          .replica 1063 ⟨.conn, []⟩ .empty]
    c.policy = .hard ∧
    (trace c (St.init 1000) evs).map St.obs = [⟨true, false⟩, ⟨false, false⟩, ⟨false, false⟩, ⟨true, false⟩] ∧
    latestFuse c 0 evs = 1033 ∧
    judge27 c (G27.init 1000) evs ((trace c (St.init 1000) evs).map St.obs) = [] ∧
    judge27 c (G27.init 1000) evs [⟨true, false⟩, ⟨false, false⟩, ⟨true, false⟩, ⟨true, false⟩]
      = [.hardRestoredInCooldownMasterDown] := by
  decide

end GaeaVerif.C27
