import GaeaVerif.Lemmas.LexC17Scan
import GaeaVerif.Lemmas.LexC17Terminates
import GaeaVerif.Gen.Consts
/-
  C17 — Multi-statement text is split exactly at statement boundaries.

  Theorems about `Model/LexC17.lean` (the scanner of /repo/parser/lexer.go as
  `SplitStatementToPieces` drives it, the splitter, and the loop of
  `doMultiStmts`), stated against the reference semantics of
  `Model/LexC17Spec.lean` (texts as sequences of lexical items).  The tie to the
  Go code is the correspondence check `gvh run C17` and the facts of
  `Gen/Consts.lean` used below.
-/
namespace GaeaVerif.C17
open GaeaVerif GaeaVerif.LexC17

/-- The pieces a token trace denotes: the segments of the text between the
    `;` tokens of the statement text itself (not those scanned inside a
    `/*! */` or `/*+ */` comment) that hold at least one token, each the exact
    substring; `none` where Go would panic on a slice expression. -/
def segments (blob : Bytes) : List (Tok × Bool × Nat) → Nat → Bool → List Bytes → Option (List Bytes)
  | [], _, _, pieces => some pieces
  | (tok, inner, off) :: rest, stmtBegin, empty, pieces =>
    if stmtBegin < blob.length then
      match tok with
      | .semi =>
        if inner then segments blob rest stmtBegin false pieces
        else
          match slice blob stmtBegin off with
          | none => none
          | some stmt => segments blob rest (off + 1) true (if empty then pieces else pieces ++ [stmt])
      | .other => segments blob rest stmtBegin false pieces
      | _ =>
        if stmtBegin + 1 ≤ off then
          match slice blob stmtBegin off with
          | none => none
          | some stmt => some (if empty then pieces else pieces ++ [stmt])
        else some pieces
    else some pieces

/-- Whatever the text, the loop of `SplitStatementToPieces`
    returns exactly the segments between the scanner's `;` tokens that hold a
    token (`segments` of the token trace), unless the scanner panics or makes
    no progress. -/
theorem split_spec (blob : Bytes) : ∀ (fuel : Nat) (fs : List Frame) (sb : Nat) (e : Bool) (ps : List Bytes),
    (∀ x ∈ scanTrace fuel fs, x.1 ≠ .panic ∧ x.1 ≠ .stuck) →
    ∃ err, (match segments blob (scanTrace fuel fs) sb e ps with
            | some r => splitLoop blob fuel fs sb e ps = .ok r err
            | none => splitLoop blob fuel fs sb e ps = .panic) := by
  intro fuel
  induction fuel with
  | zero =>
    intro fs sb e ps h
    have := h (.stuck, false, 0) (by simp [scanTrace])
    simp at this
  | succ n ih =>
    intro fs sb e ps h
    simp only [scanTrace] at h ⊢
    simp only [splitLoop]
    by_cases hg : sb < blob.length
    · rw [if_pos hg]
      cases ht : (scan (scanFuel fs) fs).tok with
      | semi =>
        simp only [ht] at h ⊢
        simp only [segments, if_pos hg]
        by_cases hin : (scan (scanFuel fs) fs).frames.length > 1
        · simp only [hin, decide_true, if_true]
          exact ih _ _ _ _ (fun x hx => h x (by simp [hx]))
        · simp only [hin, decide_false, Bool.false_eq_true, if_false]
          cases hs : slice blob sb (scan (scanFuel fs) fs).offset with
          | none => exact ⟨false, rfl⟩
          | some stmt => exact ih _ _ _ _ (fun x hx => h x (by simp [hx]))
      | other =>
        simp only [ht] at h ⊢
        simp only [segments, if_pos hg]
        exact ih _ _ _ _ (fun x hx => h x (by simp [hx]))
      | eof =>
        simp only [ht] at h ⊢
        simp only [segments, if_pos hg]
        by_cases hle : sb + 1 ≤ (scan (scanFuel fs) fs).offset
        · simp only [if_pos hle]
          cases hs : slice blob sb (scan (scanFuel fs) fs).offset with
          | none => exact ⟨false, rfl⟩
          | some stmt => exact ⟨_, rfl⟩
        · simp only [if_neg hle]
          exact ⟨_, rfl⟩
      | panic | stuck => simp only [ht] at h; have := h _ (List.mem_singleton.mpr rfl); simp at this
    · rw [if_neg hg]
      cases hsc : (scan (scanFuel fs) fs).tok <;> simp [segments, hg]

/-- For every text whatsoever, `SplitStatementToPieces`
    returns (pieces, an error, or a recovered panic): the scanner consumes at
    least one byte with every token, so the loop cannot spin.  (On the pinned
    tree it did, for any text holding `[`, `]`, a control byte or a 4-byte
    UTF-8 character outside quotes — repaired by commit f0fdcc8.) -/
theorem split_never_hangs (blob : Bytes) : splitStatementToPieces blob ≠ .hang := by
  have hloop := splitLoop_no_hang blob (splitFuel blob) [outerFrame blob] 0 true []
    (by simp [mu, mu1, outerFrame, splitFuel]; omega)
  unfold splitStatementToPieces
  split
  · nofun
  · split
    · nofun
    · split
      · nofun
      · exact hloop

/-- C17: for every text built from lexical items — words,
    numbers, punctuation, quoted strings with backslash escapes and doubled
    quotes, back-quoted identifiers, `/* */`, `-- ` and `#` comments, white
    space and `;` — in any order and number (`Safe`: each item well formed and
    not merging with what follows), `SplitStatementToPieces` returns exactly
    the statements the text is built from (`specPieces`): the rendered groups
    between the `;` *items* that hold at least one token, in order, each the
    exact substring, without error.  A `;` inside a string, quoted identifier
    or comment is not an item and therefore never splits; groups of white
    space and comments are skipped. -/
theorem split_items (items : List Item) (hs : Safe items = true) (hx : noX items = true) :
    splitStatementToPieces (render items) = .ok (specPieces items) false := by
  simp only [splitStatementToPieces, specPieces]
  by_cases hb : render items = []
  · simp [hb]
  · rw [if_neg hb, if_neg hb]
    cases hf : (render items).findIdx? (fun x => decide (x.toNat = 0x3B)) with
    | none => rfl
    | some i =>
      simp only
      by_cases hi : i = (render items).length - 1
      · rw [if_pos hi, if_pos hi]
      · rw [if_neg hi, if_neg hi]
        have := splitLoop_items items [] [] true [] (splitFuel (render items)) hs hx
          (by have := render_length_ge items hs; simp only [splitFuel]; omega)
        simpa [outerFrame, fr] using this

/-- Item sequences without a `;` item and with at least one token. -/
def isStatement (items : List Item) : Bool := items.all (· ≠ .semi) && items.any Item.isToken

/-- **A `;` inside a quoted or commented context never splits.**  A text built
    from items none of which is a `;` *item* — whatever `;` bytes its strings,
    quoted identifiers and comments hold — is a single piece: the text itself. -/
theorem semicolon_inside_never_splits (items : List Item) (hs : Safe items = true) (hx : noX items = true)
    (hst : isStatement items = true) :
    splitStatementToPieces (render items) = .ok [render items] false ∨
    splitStatementToPieces (render items) = .ok [(render items).take ((render items).length - 1)] false := by
  rw [split_items items hs hx]
  simp only [isStatement, Bool.and_eq_true] at hst
  simp only [specPieces]
  have hne : render items ≠ [] := by
    have h1 := render_length_ge items hs
    have h2 : items ≠ [] := by intro e; subst e; simp at hst
    have h3 : 1 ≤ items.length := List.length_pos_iff.mpr h2
    intro e; rw [e] at h1; simp only [List.length_nil] at h1; omega
  rw [if_neg hne]
  cases hf : (render items).findIdx? (fun x => decide (x.toNat = 0x3B)) with
  | none => left; rfl
  | some i =>
    simp only
    by_cases hi : i = (render items).length - 1
    · right; rw [if_pos hi]
    · left
      rw [if_neg hi, specLoop_no_semi items [] true [] hst.1]
      simp [hst.2, hne]

theorem runPieces_prefix (dq : Bytes → Bool) : ∀ ps : List Bytes,
    (runPieces dq ps).executed <+: ps ∧
    (∀ p ∈ (runPieces dq ps).executed.dropLast, dq p = true) ∧
    ((runPieces dq ps).failed = true →
      ∃ p, (runPieces dq ps).executed.getLast? = some p ∧ dq p = false) ∧
    ((runPieces dq ps).failed = false → (runPieces dq ps).executed = ps ∧ ∀ p ∈ ps, dq p = true) := by
  intro ps
  induction ps with
  | nil => simp [runPieces]
  | cons p rest ih =>
    simp only [runPieces]
    by_cases hp : dq p = true
    · simp only [hp, if_true]
      obtain ⟨h1, h2, h3, h4⟩ := ih
      refine ⟨List.prefix_cons_inj p |>.mpr h1, ?_, ?_, ?_⟩
      · intro q hq
        cases hex : (runPieces dq rest).executed with
        | nil => simp [hex] at hq
        | cons a t =>
          rw [hex] at hq h2
          simp only [List.dropLast_cons_cons, List.mem_cons] at hq
          rcases hq with rfl | hq
          · exact hp
          · exact h2 q hq
      · intro hf
        obtain ⟨q, hq1, hq2⟩ := h3 hf
        refine ⟨q, ?_, hq2⟩
        cases hex : (runPieces dq rest).executed with
        | nil => simp [hex] at hq1
        | cons a t => rw [hex] at hq1; simpa [List.getLast?_cons_cons] using hq1
      · intro hf
        obtain ⟨e1, e2⟩ := h4 hf
        exact ⟨by rw [e1], List.forall_mem_cons.mpr ⟨hp, e2⟩⟩
    · simp only [hp, Bool.false_eq_true, if_false]
      refine ⟨by simp, by simp, fun _ => ⟨p, by simp, by simpa using hp⟩, by simp⟩

/-- `doMultiStmts` hands the pieces to
    `doQuery` in order, each unchanged, and stops at the first one that fails:
    the executed texts are a prefix of the pieces (of the whole text when there
    is a single piece); every executed text but the last succeeded; an error is
    returned exactly when the last executed text failed (or the splitter itself
    failed, in which case nothing was executed). -/
theorem multi_stops_at_first_error (dq : Bytes → Bool) (sql : Bytes) (pieces : List Bytes)
    (hsplit : splitStatementToPieces sql = .ok pieces false) :
    let stmts := if pieces.length = 1 then [sql] else pieces
    let out := doMultiStmts dq sql
    out.executed <+: stmts ∧
    (∀ p ∈ out.executed.dropLast, dq p = true) ∧
    (out.failed = true → ∃ p, out.executed.getLast? = some p ∧ dq p = false) ∧
    (out.failed = false → out.executed = stmts ∧ ∀ p ∈ stmts, dq p = true) := by
  simp only [doMultiStmts, hsplit]
  split <;> exact runPieces_prefix dq _

/-- A split error (unclosed comment), panic or hang of the splitter: nothing is executed, an error is returned. -/
theorem multi_split_failure (dq : Bytes → Bool) (sql : Bytes)
    (h : ∀ ps, splitStatementToPieces sql ≠ .ok ps false) :
    doMultiStmts dq sql = ⟨[], true⟩ := by
  cases hsp : splitStatementToPieces sql with
  | ok ps e =>
    cases e with
    | false => exact absurd hsp (h ps)
    | true => simp [doMultiStmts, hsp]
  | panic | hang => simp [doMultiStmts, hsp]

/-- **The whole path for item texts.**  A multi-statement query built from
    lexical items executes exactly its statements, in order, up to and
    including the first failing one. -/
theorem multi_items (dq : Bytes → Bool) (items : List Item) (hs : Safe items = true) (hx : noX items = true) :
    doMultiStmts dq (render items) =
      runPieces dq (if (specPieces items).length = 1 then [render items] else specPieces items) := by
  simp only [doMultiStmts, split_items items hs hx]
  split <;> rfl

/-- The rule table of the scanner (`initTokenByte` in parser/misc.go, extracted
    on every run) is the set of operator characters of the model, `/` being
    handled by `startWithSlash`. -/
theorem ruleTable_bytes (c : Nat) : (c ∈ Gen.c17TokenBytes ∧ c ≠ 0x2F) ↔ isOpChar c = true := by
  constructor
  · rintro ⟨h, hne⟩
    simp only [Gen.c17TokenBytes, List.mem_cons, List.mem_nil_iff, or_false] at h
    repeat' rcases h with h | h
    all_goals first | exact absurd rfl hne | rfl
  · intro h
    simp only [isOpChar, Bool.or_eq_true, decide_eq_true_eq] at h
    repeat' rcases h with h | h
    all_goals decide

/-- The multi-character operators of the rule table are those `opLen` knows. -/
theorem ruleTable_strings : Gen.c17TokenStrings =
    [[0x7C, 0x7C], [0x26, 0x26], [0x26, 0x5E], [0x3A, 0x3D], [0x3C, 0x3D, 0x3E], [0x3E, 0x3D], [0x3C, 0x3D],
     [0x21, 0x3D], [0x3C, 0x3E], [0x3C, 0x3C], [0x3E, 0x3E], [0x5C, 0x4E]] := by decide

/-- The characters that start a scanning function, as dispatched by `plainStep`. -/
theorem ruleTable_funcs : Gen.c17TokenFuncs.map (·.2) =
    ["startWithAt", "startWithSlash", "startWithDash", "startWithSharp", "startWithXx", "startWithNn", "startWithBb",
     "startWithDot", "scanIdentifier", "scanQuotedIdent", "startWithNumber", "startString"] := by decide +kernel

theorem eofChar_eq : Gen.c17EofChar = 0x100 := by decide

theorem multiLoop_stops_on_error : Gen.c17MultiLoopStopsOnError = true := by decide

/-- `select 'a;b' ; /* ; */ select `c;` -- ;` + newline + `; x` (bytes spelled out so that `decide` can evaluate). -/
def exItems : List Item :=
  [.word [115, 101, 108, 101, 99, 116], .ws [32], .str 0x27 [97, 59, 98], .ws [32], .semi, .ws [32],
   .cblock [32, 59, 32], .ws [32], .word [115, 101, 108, 101, 99, 116], .ws [32], .bq [99, 59], .ws [32],
   .cdash [32, 59] true, .semi, .ws [32], .word [120]]

def exPieces : List Bytes :=
  [[115, 101, 108, 101, 99, 116, 32, 39, 97, 59, 98, 39, 32], [32, 47, 42, 32, 59, 32, 42, 47, 32, 115, 101, 108, 101, 99, 116, 32, 96, 99, 59, 96, 32, 45, 45, 32, 59, 10], [32, 120]]

example : Safe exItems = true ∧ noX exItems = true := by decide

example : specPieces exItems = exPieces := by decide

example : splitStatementToPieces (render exItems) = .ok exPieces false := by
  rw [split_items exItems (by decide) (by decide)]; decide

/-- a statement whose only `;` bytes are inside a string with an escaped quote -/
example : isStatement [.word [115, 101, 108, 101, 99, 116], .ws [32], .str 0x22 [59, 92, 34, 59]] = true := by decide

end GaeaVerif.C17
