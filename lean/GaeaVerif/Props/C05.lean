import GaeaVerif.Model.Modify
import GaeaVerif.Model.ModifyStmt
import GaeaVerif.Props.C01
/-
  C05 — UPDATE and DELETE affect exactly the matching rows and never move a row.
  Theorems about `Model/Modify.lean` and `Model/ModifyStmt.lean` on top of C01's `route_sound_on`.
-/
namespace GaeaVerif.C05
open GaeaVerif.Route GaeaVerif.Modify GaeaVerif.C01

theorem foldl_mergeStep_affected (rs : List ExecResult) (a : ExecResult) :
    (rs.foldl mergeStep a).affected = a.affected + (rs.map (·.affected)).sum := by
  induction rs generalizing a with
  | nil => simp
  | cons r rs ih => simp [List.foldl, ih, mergeStep]; omega

/-- `MergeExecResult` reports the sum of the per-shard affected-row counts. -/
theorem mergeExec_affected (rs : List ExecResult) :
    (mergeExecResult rs).affected = (rs.map (·.affected)).sum := by
  simp [mergeExecResult, foldl_mergeStep_affected]

/-- The tables of the rule hold the rows the placement function sends there. -/
structure TablesOK (r : Rule) (pv : Int → Int) (tbl : Int → List Row) : Prop where
  sorted : Sorted r.idxs
  placed : ∀ i ∈ r.idxs, ∀ row ∈ tbl i, pv row.key = i
  bounds : ∀ i ∈ r.idxs, r.first ≤ i ∧ i ≤ r.last

/-- `TablesOK` where every stored key is one of the values `V` a row can hold. -/
structure TablesOKOn (V : Int → Prop) (r : Rule) (pv : Int → Int) (tbl : Int → List Row) : Prop
    extends TablesOK r pv tbl where
  valid : ∀ i ∈ r.idxs, ∀ row ∈ tbl i, V row.key

theorem TablesOK.on {r : Rule} {pv : Int → Int} {tbl : Int → List Row} (h : TablesOK r pv tbl) :
    TablesOKOn (fun _ => True) r pv tbl :=
  ⟨h, fun _ _ _ _ => trivial⟩

theorem TablesOK.rowOK {r : Rule} {pv : Int → Int} {tbl : Int → List Row} (h : TablesOK r pv tbl)
    {i : Int} (hi : i ∈ r.idxs) {row : Row} (hrow : row ∈ tbl i) : RowOK r pv row.key := by
  have hp := h.placed i hi row hrow
  exact ⟨h.sorted, hp ▸ hi, hp ▸ (h.bounds i hi).1, hp ▸ (h.bounds i hi).2⟩

/-! ### The routed sub tables hold every selected row -/

theorem flatMap_sublist_of_nil {α : Type} (g : Int → List α) {l' l : List Int} (hsub : l'.Sublist l)
    (hs : Sorted l) (h : ∀ i ∈ l, i ∉ l' → g i = []) : l'.flatMap g = l.flatMap g := by
  induction hsub with
  | slnil => rfl
  | cons a hsub ih =>
    rw [Sorted, List.pairwise_cons] at hs
    have ha : a ∉ _ := fun hm => Int.lt_irrefl a (hs.1 a (hsub.subset hm))
    rw [List.flatMap_cons, h a (by simp) ha, List.nil_append]
    exact ih hs.2 fun i hi hn => h i (by simp [hi]) hn
  | cons_cons a hsub ih =>
    rw [Sorted, List.pairwise_cons] at hs
    rw [List.flatMap_cons, List.flatMap_cons, ih hs.2]
    intro i hi hn
    refine h i (by simp [hi]) ?_
    have := hs.1 i hi
    simp only [List.mem_cons, not_or]
    exact ⟨by omega, hn⟩

theorem routeStmt_sublist (r : Rule) (c : Option Cond) (routed : List Int) (h : routeStmt r c = some routed) :
    routed.Sublist r.idxs := by
  unfold routeStmt at h
  split at h
  · cases h; exact List.Sublist.refl _
  · split at h
    · cases h
    · cases h; split
      · exact (interList_sublist _ _).1
      · exact List.Sublist.refl _

/-- by `route_sound_on` no selected row lives in a sub table that was not routed to -/
theorem filter_routed_on (V : Int → Prop) (r : Rule) (pv : Int → Int) (tbl : Int → List Row) (c : Option Cond)
    (ht : TablesOKOn V r pv tbl) (hl : ∀ c', c = some c' → LitsOKOn V r pv (shardLits c')) (routed : List Int)
    (h : routeStmt r c = some routed) :
    routed.flatMap (fun i => (tbl i).filter (selects c)) = (r.idxs.flatMap tbl).filter (selects c) := by
  rw [List.filter_flatMap]
  refine flatMap_sublist_of_nil _ (routeStmt_sublist r c routed h) ht.sorted fun i hi hnot => ?_
  rw [List.filter_eq_nil_iff]
  intro row hrow hsel
  cases c with
  | none => cases h; exact hnot hi
  | some c =>
    have := route_sound_on V r pv row.key row.env c (ht.rowOK hi hrow) (ht.valid i hi row hrow) (hl c rfl)
      routed h (by simpa [selects] using hsel)
    rw [ht.placed i hi row hrow] at this
    exact hnot this


theorem proxyCount_eq (c : Option Cond) (le : Row → Row → Bool) (limit : Option Nat)
    (tbl : Int → List Row) (routed : List Int) :
    proxyCount c le limit tbl routed = (proxyChosen c le limit tbl routed).length := by
  unfold proxyCount proxyChosen
  rw [mergeExec_affected, List.map_map, List.length_flatMap]
  rfl

/-- the same number, counted on the union of all tables -/
theorem matching_union (c : Cond) (tbl : Int → List Row) (idxs : List Int) :
    matching c (idxs.flatMap tbl) = (idxs.map fun i => matching c (tbl i)).sum := by
  induction idxs with
  | nil => rfl
  | cons a as ih => simp [matching, List.flatMap_cons, List.filter_append] at ih ⊢; omega

/-- **`exec_sum` relative to the values `V` a row can hold** (`exec_sum` is the
    case `V = everything`): the form the calendar rules need. -/
theorem exec_sum_on (V : Int → Prop) (r : Rule) (pv : Int → Int) (tbl : Int → List Row) (c : Cond)
    (ht : TablesOKOn V r pv tbl) (hl : LitsOKOn V r pv (shardLits c)) (routed : List Int)
    (h : routeStmt r (some c) = some routed) :
    proxyAffected c tbl routed = (r.idxs.map fun i => matching c (tbl i)).sum := by
  -- the count is that of the statement without ORDER BY and LIMIT
  have hcount : proxyAffected c tbl routed = proxyCount (some c) (fun _ _ => true) none tbl routed := rfl
  rw [hcount, proxyCount_eq, ← matching_union]
  exact congrArg List.length
    (filter_routed_on V r pv tbl (some c) ht (fun c' hc => by cases hc; exact hl) routed h)


/-- **C05 (affected rows).** For every rule, condition tree, table contents
    placed by the rule, and accepted UPDATE/DELETE: the count the proxy reports
    (sum over the routed tables of the rows the per-table statement selects)
    equals the number of rows the statement selects in all tables together —
    what a single database holding every shard would report; in particular no
    selected row lives in a table that was not routed to. -/
theorem exec_sum (r : Rule) (pv : Int → Int) (tbl : Int → List Row) (c : Cond)
    (ht : TablesOK r pv tbl) (hl : LitsOK r pv (shardLits c)) (routed : List Int)
    (h : routeStmt r (some c) = some routed) :
    proxyAffected c tbl routed = (r.idxs.map fun i => matching c (tbl i)).sum :=
  exec_sum_on (fun _ => True) r pv tbl c ht.on hl.on routed h


/-! ### A row is never moved -/

theorem accept_iff (key : String) (ts : List Target) :
    handleUpdateAssignmentList key ts = .accept ↔ ∀ t ∈ ts, checkTarget key t = .accept := by
  induction ts with
  | nil => simp [handleUpdateAssignmentList]
  | cons t ts ih =>
    simp only [handleUpdateAssignmentList, List.mem_cons, forall_eq_or_imp, ← ih]
    cases checkTarget key t <;> simp

theorem checkTarget_accept (key : String) (t : Target) (h : checkTarget key t = .accept) :
    t.name ≠ key ∧ t.sub = false := by
  unfold checkTarget checkValue at h
  split at h <;> try cases h
  all_goals
    split at h
    · cases h
    · rename_i hk
      split at h
      · cases h
      · rename_i hs
        exact ⟨hk, by simpa using hs⟩

/-- **C05 (no move, UPDATE).** An accepted assignment list names the sharding
    column in no spelling (plain, table-qualified, alias-qualified). -/
theorem no_move (key : String) (ts : List Target) (h : handleUpdateAssignmentList key ts = .accept) :
    ∀ t ∈ ts, t.name ≠ key :=
  fun t ht => (checkTarget_accept key t ((accept_iff key ts).1 h t ht)).1

/-- and conversely a list that names it is rejected (with the key error unless
    an earlier assignment already failed for another reason) -/
theorem key_assignment_rejected (key : String) (ts : List Target) (t : Target) (ht : t ∈ ts)
    (hk : t.name = key) : handleUpdateAssignmentList key ts ≠ .accept :=
  fun h => no_move key ts h t ht hk

/-- Rows as column ↦ value maps; an UPDATE overwrites exactly the assigned columns. -/
def applyAssignments (row : String → Int) (as : List (Target × Int)) : String → Int :=
  as.foldl (fun r a => fun col => if col = a.1.name then a.2 else r col) row

/-- Consequence: the sharding value — hence the place of the row — is unchanged by
    any accepted UPDATE. -/
theorem key_unchanged (key : String) (as : List (Target × Int)) (row : String → Int)
    (h : handleUpdateAssignmentList key (as.map (·.1)) = .accept) :
    applyAssignments row as key = row key := by
  have hn : ∀ a ∈ as, a.1.name ≠ key := fun a ha => no_move key _ h a.1 (List.mem_map_of_mem ha)
  clear h
  unfold applyAssignments
  induction as generalizing row with
  | nil => rfl
  | cons a as ih =>
    rw [List.foldl_cons, ih _ fun b hb => hn b (List.mem_cons_of_mem _ hb)]
    exact if_neg (Ne.symm (hn a List.mem_cons_self))

/-- **C05 (no move, INSERT … ON DUPLICATE KEY UPDATE).** -/
theorem on_dup_reject (key : String) (ts : List Target) :
    handleInsertOnDuplicate key ts = .accept ↔ ∀ t ∈ ts, t.name ≠ key := by
  induction ts with
  | nil => simp [handleInsertOnDuplicate]
  | cons t ts ih =>
    simp only [handleInsertOnDuplicate]
    by_cases hk : t.name = key
    · simp [hk]
    · simp [hk, ih]

/-! ### Non-vacuity -/

example : handleUpdateAssignmentList "k" [{ qual := .none, name := "o" }, { qual := .alias, name := "v" }] = .accept := by decide +kernel
example : handleUpdateAssignmentList "k" [{ qual := .none, name := "o" }, { qual := .alias, name := "k" }] = .rejectKey := by decide +kernel
example : handleInsertOnDuplicate "k" [{ qual := .table, name := "k" }] = .rejectKey := by decide +kernel

/-- `exec_sum` on a concrete instance: 4 range tables of 100 rows, rows 5, 150, 250;
    `UPDATE … WHERE k < 200` is routed to tables 0 and 1 and reports 2 rows. -/
example :
    let c := Cond.cmp true false .lt (rangeLit 100 4 200)
    let tbl : Int → List Row := fun i =>
      if i = 0 then [{ key := 5, env := fun _ => none }] else if i = 1 then [{ key := 150, env := fun _ => none }]
      else if i = 2 then [{ key := 250, env := fun _ => none }] else []
    routeStmt (rangeRule 4) (some c) = some [0, 1] ∧ proxyAffected c tbl [0, 1] = 2 := by
  decide +kernel


/-! ### Whole statements: LIMIT, ORDER BY, multi-table forms, sub-queries

`planModify` is `HandleUpdatePlan` / `HandleDeletePlan`; `proxyChosen` / `proxyAfter` is what the
routed backends do with the statements the plan sends them, `singleChosen` / `singleAfter` what a
single database holding every sub table does with the statement the client sent. -/

theorem error_else_eq_ok {ε α : Type} (c : Bool) (e : ε) (x : Except ε α) (y : α) :
    (if c then .error e else x) = .ok y ↔ c = false ∧ x = .ok y := by
  cases c <;> simp

/-- What an accepted statement looks like: every other form is rejected. -/
theorem planModify_ok_iff (r : Rule) (key : String) (st : Stmt) (routed : List Int) :
    planModify r key st = .ok routed ↔
      st.multi = false ∧
      (st.isUpdate = true → handleUpdateAssignmentList key st.set = .accept) ∧
      (st.cond.isSome = true → ∀ k ∈ st.subs, k = SubKind.value) ∧
      routeStmt r st.cond = some routed ∧
      (∀ it ∈ st.order, it.ok = true) ∧
      ¬ (st.order ≠ [] ∧ st.limit.isSome = true ∧ routed.length > 1) := by
  -- the tests of `planModify` one after the other, each against its conjunct
  unfold planModify
  rw [error_else_eq_ok]
  refine and_congr_right fun _ => ?_
  have hset : (st.isUpdate = true → handleUpdateAssignmentList key st.set = .accept) ↔
      (if st.isUpdate then handleUpdateAssignmentList key st.set else .accept) = .accept := by
    cases st.isUpdate <;> simp
  rw [hset]
  generalize (if st.isUpdate then handleUpdateAssignmentList key st.set else Verdict.accept) = v
  cases v
  case accept =>
    have hsub : (st.cond.isSome && st.subs.any (· != .value)) = false ↔
        (st.cond.isSome = true → ∀ k ∈ st.subs, k = SubKind.value) := by
      cases st.cond.isSome <;> simp
    simp only [true_and, error_else_eq_ok, hsub]
    refine and_congr_right fun _ => ?_
    cases routeStmt r st.cond with
    | none => simp
    | some routed' =>
      simp only [error_else_eq_ok, Except.ok.injEq, Option.some.injEq]
      constructor
      · rintro ⟨ho, hl, rfl⟩
        exact ⟨rfl, by simpa using ho, by simpa using hl⟩
      · rintro ⟨rfl, ho, hl⟩
        exact ⟨by simpa using ho, by simpa using hl, rfl⟩
  all_goals simp

theorem mem_chosen {c : Option Cond} {le : Row → Row → Bool} {limit : Option Nat} {t : List Row} {x : Row}
    (hx : x ∈ chosen c le limit t) : x ∈ t ∧ selects c x = true := by
  unfold chosen pick at hx
  cases limit with
  | none => exact List.mem_filter.1 hx
  | some n => exact List.mem_filter.1 (List.mem_mergeSort.1 (List.mem_of_mem_take hx))

/-- `hf` is `filter_routed_on`. -/
theorem rows_exact_core (tbl : Int → List Row) (c : Option Cond)
    (le : Row → Row → Bool) (limit : Option Nat) (idxs routed : List Int)
    (hf : routed.flatMap (fun i => (tbl i).filter (selects c)) = (idxs.flatMap tbl).filter (selects c))
    (hlim : limit = none ∨ routed.length ≤ 1) :
    proxyChosen c le limit tbl routed = singleChosen c le limit tbl idxs := by
  unfold proxyChosen singleChosen chosen
  rw [← hf]
  rcases hlim with hlim | hlim
  · subst hlim; simp [pick]
  · match routed, hlim with
    | [], _ => cases limit <;> simp [pick]
    | [i], _ => simp
    | _ :: _ :: _, hlim => simp at hlim

theorem accepted_limit_shape (r : Rule) (key : String) (st : Stmt) (routed : List Int)
    (h : planModify r key st = .ok routed)
    (hlim : ¬ (st.limit.isSome = true ∧ st.order = [] ∧ routed.length > 1)) :
    st.limit = none ∨ routed.length ≤ 1 := by
  have hol := ((planModify_ok_iff r key st routed).1 h).2.2.2.2.2
  cases hlm : st.limit with
  | none => exact Or.inl rfl
  | some n =>
    right
    have hs : st.limit.isSome = true := by simp [hlm]
    by_cases ho : st.order = []
    · have : ¬ routed.length > 1 := fun hgt => hlim ⟨hs, ho, hgt⟩
      omega
    · have : ¬ routed.length > 1 := fun hgt => hol ⟨ho, hs, hgt⟩
      omega

/-- **Whatever the statement** (no residual hypothesis, the open finding included): every row a
    backend changes is a row the WHERE clause selects, and it lives in a routed sub table. -/
theorem modify_only_matching_rows (c : Option Cond) (le : Row → Row → Bool) (limit : Option Nat)
    (tbl : Int → List Row) (routed : List Int) :
    ∀ x ∈ proxyChosen c le limit tbl routed, selects c x = true ∧ ∃ i ∈ routed, x ∈ tbl i := by
  intro x hx
  simp only [proxyChosen, List.mem_flatMap] at hx
  obtain ⟨i, hi, hxi⟩ := hx
  exact ⟨(mem_chosen hxi).2, i, hi, (mem_chosen hxi).1⟩

/-- a row id names one row position of one sub table -/
def IdsDistinct (tbl : Int → List Row) (idxs : List Int) : Prop :=
  ∀ i ∈ idxs, ∀ j ∈ idxs, ∀ x ∈ tbl i, ∀ y ∈ tbl j, x.id = y.id → i = j

theorem mem_ids_iff (c : Option Cond) (le : Row → Row → Bool) (limit : Option Nat)
    (tbl : Int → List Row) (idxs routed : List Int) (hid : IdsDistinct tbl idxs)
    (hsub : ∀ j ∈ routed, j ∈ idxs) (i : Int) (hi : i ∈ idxs) (x : Row) (hx : x ∈ tbl i) :
    ((proxyChosen c le limit tbl routed).map (·.id)).contains x.id =
      (routed.contains i && ((chosen c le limit (tbl i)).map (·.id)).contains x.id) := by
  rw [Bool.eq_iff_iff]
  simp only [List.contains_iff_mem, List.mem_map, Bool.and_eq_true, proxyChosen, List.mem_flatMap]
  constructor
  · rintro ⟨y, ⟨j, hj, hy⟩, hyx⟩
    have hyt := (mem_chosen hy).1
    have := hid i hi j (hsub j hj) x hx y hyt hyx.symm
    subst this
    exact ⟨hj, y, hy, hyx⟩
  · rintro ⟨hj, y, hy, hyx⟩
    exact ⟨y, ⟨i, hj, hy⟩, hyx⟩

theorem applyChosen_congr (isUpdate : Bool) (upd : Row → Row) (ids ids' : List Nat) (t : List Row)
    (h : ∀ x ∈ t, ids.contains x.id = ids'.contains x.id) :
    applyChosen isUpdate upd ids t = applyChosen isUpdate upd ids' t := by
  unfold applyChosen
  cases isUpdate with
  | true =>
    simp only [↓reduceIte]
    apply List.map_congr_left
    intro x hx; rw [h x hx]
  | false =>
    simp only [Bool.false_eq_true, ↓reduceIte]
    apply List.filter_congr
    intro x hx; rw [h x hx]

theorem applyChosen_nil (isUpdate : Bool) (upd : Row → Row) (t : List Row) : applyChosen isUpdate upd [] t = t := by
  cases isUpdate <;> simp [applyChosen]

theorem tables_exact_core (isUpdate : Bool) (upd : Row → Row) (c : Option Cond) (le : Row → Row → Bool)
    (limit : Option Nat) (tbl : Int → List Row) (idxs routed : List Int)
    (hrows : proxyChosen c le limit tbl routed = singleChosen c le limit tbl idxs)
    (hsub : ∀ j ∈ routed, j ∈ idxs) (hid : IdsDistinct tbl idxs) :
    ∀ i ∈ idxs, proxyAfter isUpdate upd c le limit tbl routed i = singleAfter isUpdate upd c le limit tbl idxs i := by
  intro i hi
  unfold proxyAfter singleAfter
  rw [← hrows]
  have hids := mem_ids_iff c le limit tbl idxs routed hid hsub i hi
  cases hri : routed.contains i
  · -- a sub table that is not routed to holds none of the named rows
    rw [if_neg (by simp)]
    exact (applyChosen_nil isUpdate upd (tbl i)).symm.trans
      (applyChosen_congr _ _ _ _ _ fun x hx => by rw [hids x hx, hri]; rfl)
  · rw [if_pos rfl]
    exact applyChosen_congr _ _ _ _ _ fun x hx => by rw [hids x hx, hri, Bool.true_and]

/-- **C05 for whole statements, relative to the values `V` a row can hold**: rows changed,
    count reported and tables afterwards (`modify_rows_exact_partial`,
    `modify_count_exact_partial`, `modify_tables_exact_partial` are the case `V = everything`;
    same residue `hlim`). -/
theorem modify_exact_on_partial (V : Int → Prop) (r : Rule) (key : String) (pv : Int → Int)
    (tbl : Int → List Row) (st : Stmt) (le : Row → Row → Bool) (upd : Row → Row)
    (ht : TablesOKOn V r pv tbl) (hl : ∀ c, st.cond = some c → LitsOKOn V r pv (shardLits c))
    (routed : List Int) (h : planModify r key st = .ok routed)
    (hlim : ¬ (st.limit.isSome = true ∧ st.order = [] ∧ routed.length > 1)) :
    proxyChosen st.cond le st.limit tbl routed = singleChosen st.cond le st.limit tbl r.idxs ∧
    proxyCount st.cond le st.limit tbl routed = (singleChosen st.cond le st.limit tbl r.idxs).length ∧
    (IdsDistinct tbl r.idxs → ∀ i ∈ r.idxs, proxyAfter st.isUpdate upd st.cond le st.limit tbl routed i =
      singleAfter st.isUpdate upd st.cond le st.limit tbl r.idxs i) := by
  have hr := ((planModify_ok_iff r key st routed).1 h).2.2.2.1
  have hrows := rows_exact_core tbl st.cond le st.limit r.idxs routed
    (filter_routed_on V r pv tbl st.cond ht hl routed hr) (accepted_limit_shape r key st routed h hlim)
  refine ⟨hrows, by rw [proxyCount_eq, hrows], fun hid => ?_⟩
  exact tables_exact_core st.isUpdate upd st.cond le st.limit tbl r.idxs routed hrows
    (routeStmt_sublist r st.cond routed hr).subset hid

/-- **C05 (exactly the matching rows), every statement form.**  For every rule, table contents
    placed by the rule, and UPDATE / DELETE the planner accepts — any WHERE tree, ORDER BY list,
    LIMIT, SET list; the multi-table forms, the sub-queries that read a table and ORDER BY … LIMIT
    over several sub tables are not accepted (`planModify_ok_iff`) — the rows the routed backends
    change are, row for row, the rows a single database holding every sub table changes.

    Full statement: the same without `hlim`.  It does not hold for the code as it is: LIMIT
    without ORDER BY is sent unchanged to every routed sub table, each of which changes up to `n`
    rows (`limit_per_sub_table_witness`; the repository's own tests fix this behaviour:
    TestMycatShardUpdateWithLimit, TestMycatShardDeleteWithLimit). -/
theorem modify_rows_exact_partial (r : Rule) (key : String) (pv : Int → Int) (tbl : Int → List Row)
    (st : Stmt) (le : Row → Row → Bool)
    (ht : TablesOK r pv tbl) (hl : ∀ c, st.cond = some c → LitsOK r pv (shardLits c)) (routed : List Int)
    (h : planModify r key st = .ok routed)
    (hlim : ¬ (st.limit.isSome = true ∧ st.order = [] ∧ routed.length > 1)) :
    proxyChosen st.cond le st.limit tbl routed = singleChosen st.cond le st.limit tbl r.idxs :=
  (modify_exact_on_partial (fun _ => True) r key pv tbl st le id ht.on (fun c hc => (hl c hc).on) routed h hlim).1

/-- **C05 (affected rows), every statement form**: the reported count is the number of rows a
    single database changes (`exec_sum` for statements with ORDER BY / LIMIT; same residue). -/
theorem modify_count_exact_partial (r : Rule) (key : String) (pv : Int → Int) (tbl : Int → List Row)
    (st : Stmt) (le : Row → Row → Bool)
    (ht : TablesOK r pv tbl) (hl : ∀ c, st.cond = some c → LitsOK r pv (shardLits c)) (routed : List Int)
    (h : planModify r key st = .ok routed)
    (hlim : ¬ (st.limit.isSome = true ∧ st.order = [] ∧ routed.length > 1)) :
    proxyCount st.cond le st.limit tbl routed = (singleChosen st.cond le st.limit tbl r.idxs).length :=
  (modify_exact_on_partial (fun _ => True) r key pv tbl st le id ht.on (fun c hc => (hl c hc).on) routed h hlim).2.1

/-- **C05 (the tables afterwards), every statement form.**  After an accepted UPDATE / DELETE every
    sub table holds, row for row, what it would hold had a single database holding all sub tables
    executed the client's statement: the rows named by the statement are updated / gone, every
    other row — in particular every row of a sub table that was not routed to — is untouched.
    Full statement: without `hlim` (see `modify_rows_exact_partial`). -/
theorem modify_tables_exact_partial (r : Rule) (key : String) (pv : Int → Int) (tbl : Int → List Row)
    (st : Stmt) (le : Row → Row → Bool) (upd : Row → Row)
    (ht : TablesOK r pv tbl) (hl : ∀ c, st.cond = some c → LitsOK r pv (shardLits c))
    (hid : IdsDistinct tbl r.idxs) (routed : List Int)
    (h : planModify r key st = .ok routed)
    (hlim : ¬ (st.limit.isSome = true ∧ st.order = [] ∧ routed.length > 1)) :
    ∀ i ∈ r.idxs, proxyAfter st.isUpdate upd st.cond le st.limit tbl routed i =
      singleAfter st.isUpdate upd st.cond le st.limit tbl r.idxs i :=
  (modify_exact_on_partial (fun _ => True) r key pv tbl st le upd ht.on (fun c hc => (hl c hc).on) routed h
    hlim).2.2 hid

/-- **C05 (never moves a row), every statement form.**  Whatever the proxy executes, every row
    is afterwards in the sub table its sharding value is placed in — provided the update leaves
    the sharding value alone, which is what an accepted SET list guarantees
    (`accepted_set_spares_key`, `key_unchanged`). -/
theorem modify_never_moves (r : Rule) (pv : Int → Int) (tbl : Int → List Row)
    (isUpdate : Bool) (upd : Row → Row) (c : Option Cond) (le : Row → Row → Bool) (limit : Option Nat)
    (ht : TablesOK r pv tbl) (hupd : ∀ row, (upd row).key = row.key) (routed : List Int) :
    ∀ i ∈ r.idxs, ∀ x ∈ proxyAfter isUpdate upd c le limit tbl routed i, pv x.key = i := by
  intro i hi x hx
  unfold proxyAfter at hx
  split at hx
  · unfold applyChosen at hx
    split at hx
    · simp only [List.mem_map] at hx
      obtain ⟨y, hy, rfl⟩ := hx
      split
      · rw [hupd]; exact ht.placed i hi y hy
      · exact ht.placed i hi y hy
    · exact ht.placed i hi x (List.mem_filter.1 hx).1
  · exact ht.placed i hi x hx

/-- an accepted UPDATE assigns the sharding column in no spelling -/
theorem accepted_set_spares_key (r : Rule) (key : String) (st : Stmt) (routed : List Int)
    (h : planModify r key st = .ok routed) (hu : st.isUpdate = true) :
    ∀ t ∈ st.set, t.name ≠ key :=
  no_move key st.set (((planModify_ok_iff r key st routed).1 h).2.1 hu)

/-! the forms that are rejected, one by one -/

theorem multi_table_rejected (r : Rule) (key : String) (st : Stmt) (h : st.multi = true) :
    planModify r key st = .error .multiTable := by
  simp [planModify, h]

theorem table_subquery_rejected (r : Rule) (key : String) (st : Stmt) (routed : List Int)
    (hc : st.cond.isSome = true) (k : SubKind) (hk : k ∈ st.subs) (hne : k ≠ .value) :
    planModify r key st ≠ .ok routed := by
  intro h
  exact hne (((planModify_ok_iff r key st routed).1 h).2.2.1 hc k hk)

theorem accept_no_sub (key : String) (ts : List Target) (h : handleUpdateAssignmentList key ts = .accept) :
    ∀ t ∈ ts, t.sub = false :=
  fun t ht => (checkTarget_accept key t ((accept_iff key ts).1 h t ht)).2

theorem set_subquery_rejected (r : Rule) (key : String) (st : Stmt) (routed : List Int)
    (hu : st.isUpdate = true) (t : Target) (ht : t ∈ st.set) (hs : t.sub = true) :
    planModify r key st ≠ .ok routed := by
  intro h
  have := accept_no_sub key st.set (((planModify_ok_iff r key st routed).1 h).2.1 hu) t ht
  simp [hs] at this

theorem order_limit_multi_rejected (r : Rule) (key : String) (st : Stmt) (routed : List Int)
    (ho : st.order ≠ []) (hl : st.limit.isSome = true) (hn : routed.length > 1) :
    planModify r key st ≠ .ok routed := by
  intro h
  exact ((planModify_ok_iff r key st routed).1 h).2.2.2.2.2 ⟨ho, hl, hn⟩

/-! ### The calendar rules -/

open GaeaVerif.RouteCal GaeaVerif.ShardGo

theorem calRule_tablesOK {V : Int → Prop} {pv : Int → Int} {idxs : List Int} {tbl : Int → List Row}
    (hs : Sorted idxs) (htbl : ∀ i ∈ idxs, ∀ row ∈ tbl i, V row.key ∧ pv row.key = i) :
    TablesOKOn V (calRule idxs) pv tbl :=
  ⟨⟨hs, fun i hi row hrow => (htbl i hi row hrow).2, fun i hi => sorted_bounds idxs hs i hi⟩,
    fun i hi row hrow => (htbl i hi row hrow).1⟩

/-- **C05 (affected rows) for the calendar rules, no residual hypothesis beyond
    the time zone**: for a `date_year` / `date_month` / `date_day` rule with any
    ascending period list, tables that hold the rows the rule places there
    (DATETIME column: valid date-times; integer column: timestamps of a year
    0 … 9999 in the zone `off` seconds east of UTC) and an accepted UPDATE/DELETE
    whose sharding-column literals are accepted spellings / such timestamps, the
    reported count is the number of rows the statement selects in all tables. -/
theorem calendar_exec_sum (k : CalKind) (idxs : List Int) (hs : Sorted idxs) (off : Int) :
    (∀ (tbl : Int → List Row) (c : Cond) (routed : List Int),
      (∀ i ∈ idxs, ∀ row ∈ tbl i, VStr row.key ∧ pvStr k row.key = i) →
      StrCond k (ShardPlace.civilOfUnix off) (ShardPlace.clockOfUnix off) c →
      routeStmt (calRule idxs) (some c) = some routed →
      proxyAffected c tbl routed = (idxs.map fun i => matching c (tbl i)).sum) ∧
    (∀ (tbl : Int → List Row) (c : Cond) (routed : List Int),
      (∀ i ∈ idxs, ∀ row ∈ tbl i, VUnix (ShardPlace.civilOfUnix off) row.key ∧
        pvUnix k (ShardPlace.civilOfUnix off) row.key = i) →
      UnixCond k (ShardPlace.civilOfUnix off) (ShardPlace.clockOfUnix off) c →
      routeStmt (calRule idxs) (some c) = some routed →
      proxyAffected c tbl routed = (idxs.map fun i => matching c (tbl i)).sum) := by
  refine ⟨?_, ?_⟩
  · intro tbl c routed htbl ⟨ss, hss, hlits⟩ h
    exact exec_sum_on VStr (calRule idxs) (pvStr k) tbl c
      (calRule_tablesOK hs htbl)
      (hlits ▸ str_litsOK k idxs _ _ ss hss) routed h
  · intro tbl c routed htbl ⟨vs, hvs, hlits⟩ h
    exact exec_sum_on (VUnix (ShardPlace.civilOfUnix off)) (calRule idxs) (pvUnix k (ShardPlace.civilOfUnix off)) tbl c
      (calRule_tablesOK hs htbl)
      (hlits ▸ unix_litsOK k idxs _ _ (fixedZone_ok off) vs hvs) routed h

/-- **C05 for whole statements on the calendar rules** (`date_year` / `date_month` / `date_day`,
    any ascending period list, DATETIME column with accepted spellings or integer column with
    timestamps of a year 0 … 9999 in the zone `off` seconds east of UTC): an accepted UPDATE /
    DELETE — with ORDER BY, LIMIT, any SET list — changes the rows, reports the count and leaves
    the tables a single database would.  Residue `hlim` as in `modify_rows_exact_partial`. -/
theorem calendar_modify_exact_partial (k : CalKind) (idxs : List Int) (hs : Sorted idxs) (off : Int)
    (key : String) (st : Stmt) (le : Row → Row → Bool) (upd : Row → Row) (tbl : Int → List Row)
    (routed : List Int) (h : planModify (calRule idxs) key st = .ok routed)
    (hlim : ¬ (st.limit.isSome = true ∧ st.order = [] ∧ routed.length > 1))
    (hcol :
      ((∀ i ∈ idxs, ∀ row ∈ tbl i, VStr row.key ∧ pvStr k row.key = i) ∧
        ∀ c, st.cond = some c → StrCond k (ShardPlace.civilOfUnix off) (ShardPlace.clockOfUnix off) c) ∨
      ((∀ i ∈ idxs, ∀ row ∈ tbl i, VUnix (ShardPlace.civilOfUnix off) row.key ∧
          pvUnix k (ShardPlace.civilOfUnix off) row.key = i) ∧
        ∀ c, st.cond = some c → UnixCond k (ShardPlace.civilOfUnix off) (ShardPlace.clockOfUnix off) c)) :
    proxyChosen st.cond le st.limit tbl routed = singleChosen st.cond le st.limit tbl idxs ∧
    proxyCount st.cond le st.limit tbl routed = (singleChosen st.cond le st.limit tbl idxs).length ∧
    (IdsDistinct tbl idxs → ∀ i ∈ idxs, proxyAfter st.isUpdate upd st.cond le st.limit tbl routed i =
      singleAfter st.isUpdate upd st.cond le st.limit tbl idxs i) := by
  rcases hcol with ⟨htbl, hc⟩ | ⟨htbl, hc⟩
  · exact modify_exact_on_partial VStr (calRule idxs) key (pvStr k) tbl st le upd
      (calRule_tablesOK hs htbl)
      (fun c hcc => by
        obtain ⟨ss, hss, hlits⟩ := hc c hcc
        exact hlits ▸ str_litsOK k idxs _ _ ss hss) routed h hlim
  · exact modify_exact_on_partial (VUnix (ShardPlace.civilOfUnix off)) (calRule idxs) key
      (pvUnix k (ShardPlace.civilOfUnix off)) tbl st le upd
      (calRule_tablesOK hs htbl)
      (fun c hcc => by
        obtain ⟨vs, hvs, hlits⟩ := hc c hcc
        exact hlits ▸ unix_litsOK k idxs _ _ (fixedZone_ok off) vs hvs) routed h hlim

/-! ### Witness of the open finding, non-vacuity -/

/-- `DELETE FROM t WHERE k < 200 LIMIT 1` on four range tables of 100 keys -/
def wStmt (limit : Option Nat) (order : List OrdItem) (c : Cond) : Stmt :=
  { isUpdate := false, multi := false, set := [], cond := some c, subs := [], order := order, limit := limit }

def wTbl : Int → List Row := fun i =>
  if i = 0 then [{ key := 5, env := fun _ => none, id := 0 }, { key := 7, env := fun _ => none, id := 1 }]
  else if i = 1 then [{ key := 150, env := fun _ => none, id := 2 }]
  else if i = 2 then [{ key := 250, env := fun _ => none, id := 3 }] else []

def wLt200 : Cond := Cond.cmp true false .lt (rangeLit 100 4 200)
def wEq150 : Cond := Cond.cmp true false .eq (rangeLit 100 4 150)

theorem limit_per_sub_table_witness :
    planModify (rangeRule 4) "k" (wStmt (some 1) [] wLt200) = .ok [0, 1] ∧
    (proxyChosen (some wLt200) (fun _ _ => true) (some 1) wTbl [0, 1]).length = 2 ∧
    (singleChosen (some wLt200) (fun _ _ => true) (some 1) wTbl (rangeRule 4).idxs).length = 1 := by
  refine ⟨?_, ?_, ?_⟩
  · simp [planModify, wStmt, wLt200, routeStmt, route, rangeRule, rangeLit, findTableIndexes, adjust, makeList,
      interList, List.range, List.range.loop]
  · simp [proxyChosen, chosen, pick, wTbl, wLt200, selects, eval, Cmp.holds, rangeLit]
  · simp [singleChosen, chosen, pick, wTbl, wLt200, selects, eval, Cmp.holds, rangeLit, rangeRule, makeList,
      List.range, List.range.loop]

/-- non-vacuity of `modify_rows_exact_partial`: accepted statements on which its last hypothesis holds -/
example : planModify (rangeRule 4) "k" (wStmt none [.col .none] wLt200) = .ok [0, 1] := by
  simp [planModify, wStmt, wLt200, routeStmt, route, rangeRule, rangeLit, findTableIndexes, adjust, makeList,
    interList, List.range, List.range.loop, OrdItem.ok]
example : planModify (rangeRule 4) "k" (wStmt (some 1) [.col .alias] wEq150) = .ok [1] := by
  simp [planModify, wStmt, wEq150, routeStmt, route, rangeRule, rangeLit, findTableIndexes, makeList,
    interList, List.range, List.range.loop, OrdItem.ok]
/-- ORDER BY … LIMIT over two sub tables is rejected -/
example : planModify (rangeRule 4) "k" (wStmt (some 1) [.col .none] wLt200) = .error .orderLimit := by
  simp [planModify, wStmt, wLt200, routeStmt, route, rangeRule, rangeLit, findTableIndexes, adjust, makeList,
    interList, List.range, List.range.loop, OrdItem.ok]
/-- `calendar_modify_exact_partial`: an accepted statement on a two-period calendar rule -/
example : planModify (calRule [2015, 2016]) "k"
    { isUpdate := true, multi := false, set := [{ qual := .alias, name := "o" }], cond := none, subs := [],
      order := [.col .none, .col .table], limit := none } = .ok [2015, 2016] := by
  simp [planModify, handleUpdateAssignmentList, checkTarget, checkValue, routeStmt, calRule, OrdItem.ok]
example : IdsDistinct wTbl (rangeRule 4).idxs := by
  intro i hi j hj x hx y hy hxy
  simp [rangeRule, makeList, List.range, List.range.loop] at hi hj
  rcases hi with rfl | rfl | rfl | rfl <;> rcases hj with rfl | rfl | rfl | rfl <;>
    simp [wTbl] at hx hy <;> (try rfl) <;> (rcases hx with rfl | rfl <;> rcases hy with rfl | rfl <;> simp at hxy)

end GaeaVerif.C05
