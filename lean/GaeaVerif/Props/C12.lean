import GaeaVerif.Model.LenEnc
/-
  C12 — Length-encoded wire values round-trip and decoding stays in bounds.
  Theorems about `Model/LenEnc.lean` (the tie to /repo/mysql/encoding.go is the
  correspondence check `gvh run C12`).
-/
namespace GaeaVerif.C12
open GaeaVerif GaeaVerif.LenEnc

/-! ### encoders -/

theorem appendLenEncInt_length (i : Nat) : (appendLenEncInt i).length = lenEncIntSize i := by
  unfold lenEncIntSize
  fun_cases appendLenEncInt i
  · rw [if_pos (by omega)]; rfl
  · rw [if_neg (by omega), if_pos (by omega), List.length_cons, leBytes_length]
  · rw [if_neg (by omega), if_neg (by omega), if_pos (by omega), List.length_cons, leBytes_length]
  · rw [if_neg (by omega), if_neg (by omega), if_neg (by omega), List.length_cons, leBytes_length]

theorem write_eq_append (i : Nat) : writeLenEncInt i = appendLenEncInt i := by
  unfold appendLenEncInt writeLenEncInt
  have e1 : (i < 251) = (i ≤ 250) := by simp; omega
  have e2 : (i < 65536) = (i ≤ 0xffff) := by simp; omega
  have e3 : (i < 16777216) = (i ≤ 0xffffff) := by simp; omega
  simp only [e1, e2, e3]

/-! ### round trips -/

theorem readLenEncInt_small (pre suf : Bytes) (b : UInt8) (hb : b.toNat < 251) :
    readLenEncInt (pre ++ [b] ++ suf) pre.length = .ok (b.toNat, (pre.length : Int) + 1, false) := by
  have i0 : goIdx (pre ++ [b] ++ suf) pre.length = .ok b := by
    simpa using goIdx_append pre [b] suf 0 (by simp)
  have ne : ∀ c : UInt8, 251 ≤ c.toNat → b ≠ c := fun c hc e => by rw [e] at hb; omega
  unfold readLenEncInt
  rw [if_neg (by simp only [List.length_append, List.length_cons]; omega), i0, R.bind_ok,
    if_neg (ne _ (by decide)), if_neg (ne _ (by decide)), if_neg (ne _ (by decide)), if_neg (ne _ (by decide))]

theorem readLenEncInt_marker (pre w suf : Bytes) (m : UInt8)
    (hm : (m, w.length) ∈ [((0xfc : UInt8), 2), (0xfd, 3), (0xfe, 8)]) :
    readLenEncInt (pre ++ m :: w ++ suf) pre.length
      = .ok (leNat w, (pre.length : Int) + (m :: w).length, false) := by
  have i0 : goIdx (pre ++ m :: w ++ suf) pre.length = .ok m := by
    simpa using goIdx_append pre (m :: w) suf 0 (by simp)
  have hl : ((pre ++ m :: w ++ suf).length : Int) = pre.length + (w.length + 1) + suf.length := by
    simp only [List.length_append, List.length_cons]; omega
  unfold readLenEncInt
  rw [if_neg (by omega), i0, R.bind_ok]
  simp only [List.mem_cons, Prod.mk.injEq, List.not_mem_nil, or_false] at hm
  -- with `w` spelled out, `goIdx_append_int` evaluates each of the reads
  rcases hm with ⟨rfl, hw⟩ | ⟨rfl, hw⟩ | ⟨rfl, hw⟩
  · match w, hw with
    | [_, _], _ =>
      rw [if_neg (by decide), if_pos rfl, if_neg (by omega)]
      simp (disch := simp) only [goIdx_append_int, R.bind_ok]
      rfl
  · match w, hw with
    | [_, _, _], _ =>
      rw [if_neg (by decide), if_neg (by decide), if_pos rfl, if_neg (by omega)]
      simp (disch := simp) only [goIdx_append_int, R.bind_ok]
      rfl
  · match w, hw with
    | [_, _, _, _, _, _, _, _], _ =>
      rw [if_neg (by decide), if_neg (by decide), if_neg (by decide), if_pos rfl, if_neg (by omega)]
      simp (disch := simp) only [goIdx_append_int, R.bind_ok]
      rfl

/-- **C12 (integers).** Every 64-bit value, encoded by either writer
    (`write_eq_append`) and embedded anywhere in a buffer, is decoded to the
    same value, not NULL, and the reader advances by exactly `LenEncIntSize`. -/
theorem lenenc_int_roundtrip (pre suf : Bytes) (i : Nat) (hi : i < 2 ^ 64) :
    readLenEncInt (pre ++ appendLenEncInt i ++ suf) pre.length
      = .ok (i, (pre.length : Int) + lenEncIntSize i, false) := by
  rw [← appendLenEncInt_length]
  unfold appendLenEncInt
  by_cases h1 : i ≤ 250
  · have hi' := UInt8.toNat_ofNat_of_lt' (show i < 256 by omega)
    rw [if_pos h1, readLenEncInt_small pre suf _ (by omega), hi']
    rfl
  by_cases h2 : i ≤ 0xffff
  · rw [if_neg h1, if_pos h2, readLenEncInt_marker pre _ suf _ (by simp [leBytes_length]), leNat_leBytes 2 i (by omega)]
  by_cases h3 : i ≤ 0xffffff
  · rw [if_neg h1, if_neg h2, if_pos h3, readLenEncInt_marker pre _ suf _ (by simp [leBytes_length]),
      leNat_leBytes 3 i (by omega)]
  · rw [if_neg h1, if_neg h2, if_neg h3, readLenEncInt_marker pre _ suf _ (by simp [leBytes_length]),
      leNat_leBytes 8 i (by omega)]

/-- **C12 (strings).** Every byte string (shorter than 2^63 bytes) encoded by
    `AppendLenEncStringBytes` and embedded anywhere in a buffer is decoded to
    itself, and the reader stops right after it. -/
theorem lenenc_str_roundtrip (pre suf b : Bytes) (hb : b.length < 2 ^ 63) :
    readLenEncStringAsBytes (pre ++ appendLenEncStringBytes b ++ suf) pre.length
      = .ok (b, (pre.length : Int) + lenEncIntSize b.length + b.length, false) := by
  unfold readLenEncStringAsBytes appendLenEncStringBytes
  have e : pre ++ (appendLenEncInt b.length ++ b) ++ suf
      = pre ++ appendLenEncInt b.length ++ (b ++ suf) := by simp [List.append_assoc]
  rw [e, lenenc_int_roundtrip pre (b ++ suf) b.length (by omega)]
  simp only [R.bind_ok]
  rw [u64ToInt_of_lt hb]
  have hlen := appendLenEncInt_length b.length
  have hcond : ¬ ((b.length : Int) < 0 ∨ (b.length : Int) >
      ((pre ++ appendLenEncInt b.length ++ (b ++ suf)).length : Int)
        - ((pre.length : Int) + lenEncIntSize b.length)) := by
    simp only [List.length_append, hlen]; omega
  rw [if_neg hcond]
  have e2 : pre ++ appendLenEncInt b.length ++ (b ++ suf)
      = (pre ++ appendLenEncInt b.length) ++ b ++ suf := by simp [List.append_assoc]
  have hp : ((pre.length : Int) + lenEncIntSize b.length)
      = (((pre ++ appendLenEncInt b.length).length : Nat) : Int) := by
    simp only [List.length_append, hlen]; omega
  rw [e2, hp, goSlice_append]
  rfl

/-! ### decoding stays in bounds

`InBounds d pos next val r` says: `r` is not a panic, and if it is a value then
the reader moved forward inside the buffer and what it returned is a slice of
the input lying between the old and the new position. -/

def InBounds {α : Type} (d : Bytes) (pos : Int) (next : α → Int) (val : α → Option Bytes) : R α → Prop
  | .ok a => 0 ≤ pos ∧ pos ≤ next a ∧ next a ≤ d.length ∧
      (∀ v, val a = some v → ∃ lo hi : Nat, (pos ≤ lo ∧ lo ≤ hi ∧ (hi : Int) ≤ next a) ∧ v = (d.drop lo).take (hi - lo))
  | .fail => True
  | .panic => False

theorem not_panic_of_inBounds {α : Type} {d : Bytes} {pos : Int} {next : α → Int} {val : α → Option Bytes}
    {r : R α} (h : InBounds d pos next val r) : r ≠ .panic := by
  intro e; subst e; exact h

theorem InBounds.of_ok {α : Type} {d : Bytes} {pos : Int} {next : α → Int} {val : α → Option Bytes} {a : α}
    (h : InBounds d pos next val (.ok a)) : 0 ≤ pos ∧ pos ≤ next a ∧ next a ≤ d.length :=
  ⟨h.1, h.2.1, h.2.2.1⟩

theorem inBounds_slice {α : Type} {d : Bytes} {pos : Int} {next : α → Int} {val : α → Option Bytes} {a : α} (lo hi : Int)
    (h : 0 ≤ pos ∧ pos ≤ lo ∧ lo ≤ hi ∧ hi ≤ next a ∧ next a ≤ d.length)
    (hv : ∀ v, val a = some v → v = (d.drop lo.toNat).take (hi.toNat - lo.toNat)) : InBounds d pos next val (.ok a) :=
  ⟨by omega, by omega, by omega, fun v e => ⟨lo.toNat, hi.toNat, by omega, hv v e⟩⟩

theorem inBounds_ok {α : Type} {d : Bytes} {pos : Int} {next : α → Int} {a : α}
    (h : 0 ≤ pos ∧ pos ≤ next a ∧ next a ≤ d.length) : InBounds d pos next (fun _ => none) (.ok a) :=
  ⟨h.1, h.2.1, h.2.2, nofun⟩

theorem inBounds_ite {α : Type} {d : Bytes} {pos : Int} {next : α → Int} {val : α → Option Bytes} {c : Prop} [Decidable c]
    {x y : R α} (hx : InBounds d pos next val x) (hy : ¬ c → InBounds d pos next val y) :
    InBounds d pos next val (if c then x else y) := by
  split
  · exact hx
  · exact hy ‹_›

theorem readLenEncInt_in_bounds (d : Bytes) (pos : Int) :
    InBounds d pos (fun x => x.2.1) (fun _ => none) (readLenEncInt d pos) := by
  unfold readLenEncInt
  refine inBounds_ite trivial fun h => ?_
  rw [goIdx_of_bounds d pos (by omega), R.bind_ok]
  refine inBounds_ite (inBounds_ok (by simp only; omega)) fun _ => inBounds_ite ?_ fun _ => inBounds_ite ?_ fun _ =>
    inBounds_ite ?_ fun _ => inBounds_ok (by simp only; omega)
  all_goals
    refine inBounds_ite trivial fun hl => ?_
    simp (disch := omega) only [goIdx_of_bounds, R.bind_ok]
    exact inBounds_ok (by simp only; omega)

theorem readByte_in_bounds (d : Bytes) (pos : Int) :
    InBounds d pos (fun x => x.2) (fun _ => none) (readByte d pos) := by
  unfold readByte
  refine inBounds_ite trivial fun h => ?_
  rw [goIdx_of_bounds d pos (by omega), R.bind_ok]
  exact inBounds_ok (by simp only; omega)

theorem readBytes_in_bounds (d : Bytes) (pos size : Int) :
    InBounds d pos (fun x => x.2) (fun x => some x.1) (readBytes d pos size) := by
  unfold readBytes
  refine inBounds_ite trivial fun h => ?_
  rw [goSlice_ok d pos (pos + size) (by omega), R.bind_ok]
  exact inBounds_slice pos (pos + size) (by simp only; omega) fun v hv => (Option.some.inj hv).symm

theorem indexZero_lt (l : Bytes) (e : Nat) (h : indexZero l = some e) : e < l.length := by
  induction l generalizing e with
  | nil => simp [indexZero] at h
  | cons b bs ih =>
    simp only [indexZero] at h
    split at h
    · simp at h; subst h; simp
    · cases h2 : indexZero bs with
      | none => simp [h2] at h
      | some e' => simp [h2] at h; subst h; have := ih e' h2; simp; omega

theorem indexZero_none (l : Bytes) (h : l.contains 0 = false) : indexZero l = none := by
  induction l with
  | nil => rfl
  | cons b bs ih =>
    simp only [List.contains_cons, Bool.or_eq_false_iff, beq_eq_false_iff_ne] at h
    simp only [indexZero]
    rw [if_neg (fun e => h.1 e.symm), ih h.2]
    rfl

theorem readNull_in_bounds (d : Bytes) (pos : Int) :
    InBounds d pos (fun x => x.2) (fun x => some x.1) (readNull d pos) := by
  unfold readNull
  refine inBounds_ite trivial fun h => ?_
  rw [goSlice_ok d pos d.length (by omega), R.bind_ok]
  split
  · trivial
  · rename_i e he
    have hlt := indexZero_lt _ _ he
    simp only [List.length_take, List.length_drop] at hlt
    rw [goSlice_ok d pos (pos + e) (by omega), R.bind_ok]
    exact inBounds_slice pos (pos + e) (by simp only; omega) fun v hv => (Option.some.inj hv).symm

theorem readUintN_in_bounds (n : Nat) (d : Bytes) (pos : Int) :
    InBounds d pos (fun x => x.2) (fun _ => none) (readUintN n d pos) := by
  unfold readUintN
  refine inBounds_ite trivial fun h => ?_
  rw [goSlice_ok d pos (pos + n) (by omega), R.bind_ok]
  exact inBounds_ok (by simp only; omega)

theorem readLenEncStringAsBytes_in_bounds (d : Bytes) (pos : Int) :
    InBounds d pos (fun x => x.2.1) (fun x => some x.1) (readLenEncStringAsBytes d pos) := by
  unfold readLenEncStringAsBytes
  have hb := readLenEncInt_in_bounds d pos
  match hr : readLenEncInt d pos with
  | .fail => trivial
  | .panic => rw [hr] at hb; exact hb.elim
  | .ok (size, p, isNull) =>
    rw [hr] at hb
    have hb : 0 ≤ pos ∧ pos ≤ p ∧ p ≤ d.length := hb.of_ok
    rw [R.bind_ok]
    refine inBounds_ite trivial fun h => ?_
    rw [goSlice_ok d p (p + u64ToInt size) (by omega), R.bind_ok]
    exact inBounds_slice p (p + u64ToInt size) (by simp only; omega) fun v hv => (Option.some.inj hv).symm

theorem skipLenEncString_in_bounds (d : Bytes) (pos : Int) :
    InBounds d pos (fun x => x) (fun _ => none) (skipLenEncString d pos) := by
  unfold skipLenEncString
  have hb := readLenEncInt_in_bounds d pos
  match hr : readLenEncInt d pos with
  | .fail => trivial
  | .panic => rw [hr] at hb; exact hb.elim
  | .ok (size, p, isNull) =>
    rw [hr] at hb
    have hb : 0 ≤ pos ∧ pos ≤ p ∧ p ≤ d.length := hb.of_ok
    rw [R.bind_ok]
    exact inBounds_ite trivial fun h => inBounds_ok (by omega)

theorem readUintN_ne_panic (n : Nat) (d : Bytes) (pos : Int) : readUintN n d pos ≠ .panic :=
  not_panic_of_inBounds (readUintN_in_bounds n d pos)

theorem readByte_ne_panic (d : Bytes) (pos : Int) : readByte d pos ≠ .panic :=
  not_panic_of_inBounds (readByte_in_bounds d pos)

theorem readNull_ne_panic (d : Bytes) (pos : Int) : readNull d pos ≠ .panic :=
  not_panic_of_inBounds (readNull_in_bounds d pos)

theorem readLenEncInt_ne_panic (d : Bytes) (pos : Int) : readLenEncInt d pos ≠ .panic :=
  not_panic_of_inBounds (readLenEncInt_in_bounds d pos)

theorem readBytes_ne_panic (d : Bytes) (pos size : Int) : readBytes d pos size ≠ .panic :=
  not_panic_of_inBounds (readBytes_in_bounds d pos size)

end GaeaVerif.C12
