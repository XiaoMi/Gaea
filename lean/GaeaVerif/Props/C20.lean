import GaeaVerif.Lemmas.SessionVars
/-
  C20 — Session settings never leak between clients sharing pooled connections.
  Theorems about `Model/SessionVars.lean` (the tie to the Go code is the
  correspondence check `gvh run C20`).
-/

namespace GaeaVerif.C20
open GaeaVerif GaeaVerif.SessVars

/-! ### the backend applying a SET statement -/

/-- The value a variable ends up with when it is assigned `txt` and `txt` does
    not read the session. -/
def assigned (g : AMap String) (k txt : String) : Option String :=
  if isReset k (evalText g [] txt) then none else some (evalText g [] txt)

theorem assigned_defaultText (g : AMap String) (k : String) :
    sessionFreeB (defaultText k) = true ∧ assigned g k (defaultText k) = none := by
  have h1 : parseText "NULL" = some .null := by decide +kernel
  have h2 : parseText "DEFAULT" = none := by decide +kernel
  have h3 : lower "DEFAULT" = "default" := by decide +kernel
  unfold assigned defaultText
  by_cases h : isUserVarName k = true <;> simp [h, sessionFreeB, evalText, isReset, h1, h2, h3, Expr.isLit, Expr.sessionFree]

/-- A backend applies a list of assignments left to right: for each name the
    last assignment decides — its value, when it does not read the session, is
    the same whatever was assigned before it —, names not assigned keep their
    value. -/
theorem apply_assigns (l : AMap String) (b : Backend) :
    ((l.map (fun p => Item.assign p.1 p.2)).foldl Backend.applyItem b).charset = b.charset ∧
    ((l.map (fun p => Item.assign p.1 p.2)).foldl Backend.applyItem b).collation = b.collation ∧
    ((l.map (fun p => Item.assign p.1 p.2)).foldl Backend.applyItem b).globals = b.globals ∧
    ∀ k, match AMap.get l k with
      | some txt => sessionFreeB txt = true →
          AMap.get ((l.map (fun p => Item.assign p.1 p.2)).foldl Backend.applyItem b).vars k = assigned b.globals k txt
      | none => AMap.get ((l.map (fun p => Item.assign p.1 p.2)).foldl Backend.applyItem b).vars k = AMap.get b.vars k := by
  induction l generalizing b with
  | nil => simp
  | cons p l ih =>
    obtain ⟨k', txt⟩ := p
    simp only [List.map_cons, List.foldl_cons]
    obtain ⟨h1, h2, hg, h3⟩ := ih (b.applyItem (.assign k' txt))
    have hc := applyItem_assign_charset b k' txt
    refine ⟨by rw [h1, hc.1], by rw [h2, hc.2.1], by rw [hg, hc.2.2], ?_⟩
    intro k
    have h3k := h3 k
    rw [get_cons]
    cases hr : AMap.get l k with
    | some x =>
      rw [hr] at h3k
      simp only [Option.some_or] at h3k ⊢
      rw [hc.2.2] at h3k
      exact h3k
    | none =>
      rw [hr] at h3k
      by_cases hk : k' = k
      · subst hk
        simp only [↓reduceIte, Option.none_or]
        intro hsf
        rw [h3k, applyItem_assign_get]
        simp only [↓reduceIte, assigned]
        rw [evalText_sessionFree b.globals b.vars [] txt hsf]
      · have : ¬ k = k' := fun e => hk e.symm
        simp only [hk, ↓reduceIte, Option.or_none]
        rw [h3k, applyItem_assign_get]
        simp [this]

theorem expectedVar_of_none (v : Bool) (g : AMap String) (vars : AMap Val) (k : String)
    (h : AMap.get (wireVars v vars) k = none) : expectedVar v g vars k = none := by simp [expectedVar, h]

theorem expectedVar_of_some (v : Bool) (g : AMap String) (vars : AMap Val) (k txt : String)
    (h : AMap.get (wireVars v vars) k = some txt) : expectedVar v g vars k = assigned g k txt := by
  simp [expectedVar, h, assigned]

/-- The effect of the statement `WriteSetStatement` builds, on a backend that
    held the settings `ov`, when every variable that left the record is listed
    in `unused`: the backend holds the recorded variables afterwards and
    nothing else. -/
theorem apply_setItems (c : Conn) (collName : String) (unused : AMap Val)
    (b : Backend) (ov : AMap Val)
    (hb : VarsMatch c.v803 b.globals ov b.vars)
    (h2 : ∀ u, AMap.get ov u ≠ none → AMap.get c.sv.variables u = none → u ∈ AMap.keys unused) :
    (b.apply (setItems c collName unused)).charset = c.charset ∧
    (b.apply (setItems c collName unused)).collation = collName ∧
    (b.apply (setItems c collName unused)).globals = b.globals ∧
    VarsMatch c.v803 b.globals c.sv.variables (b.apply (setItems c collName unused)).vars := by
  unfold Backend.apply setItems
  rw [List.foldl_cons]
  obtain ⟨a1, a2, ag, a3⟩ := apply_assigns (setAssigns c unused) (b.applyItem (Item.names c.charset collName))
  refine ⟨a1, a2, ag, fun k => ?_⟩
  have a3k := a3 k
  rw [get_setAssigns] at a3k
  by_cases hk : k ∈ AMap.keys (wireVars c.v803 c.sv.variables)
  · rw [if_pos hk] at a3k
    obtain ⟨txt, hg⟩ := Option.ne_none_iff_exists'.mp ((mem_keys_iff _ _).mp hk)
    rw [hg] at a3k ⊢
    exact fun hsf => (a3k hsf).trans (expectedVar_of_some _ _ _ _ _ hg).symm
  · rw [if_neg hk] at a3k
    rw [(get_eq_none_iff _ _).mpr hk]
    by_cases hr : k ∈ (AMap.keys unused).map (wireKey c.v803)
    · rw [if_pos hr] at a3k
      exact (a3k (assigned_defaultText b.globals k).1).trans (assigned_defaultText b.globals k).2
    · rw [if_neg hr] at a3k
      rw [a3k]
      -- `k` is neither assigned nor reset: the backend did not hold it before
      have hbk := hb k
      cases ho : AMap.get (wireVars c.v803 ov) k with
      | none => rwa [ho] at hbk
      | some txt' =>
        obtain ⟨u, hu, rfl⟩ := (mem_keys_wireVars _ _ _).mp ((mem_keys_iff _ _).mpr (ho ▸ Option.some_ne_none _))
        refine absurd (List.mem_map_of_mem (h2 u ((mem_keys_iff _ _).mp hu) ?_)) hr
        exact (get_eq_none_iff _ _).mpr fun hin => hk ((mem_keys_wireVars _ _ _).mpr ⟨u, hin, rfl⟩)

/-! ### settings and their backend image -/

theorem varsMatch_congr (v : Bool) (g : AMap String) (a b : AMap Val) (bv : AMap String)
    (hab : ∀ k, AMap.get a k = AMap.get b k) (h : VarsMatch v g a bv) : VarsMatch v g b bv := by
  intro k
  have hk := h k
  rw [expectedVar, wireVars_congr v a b hab] at hk
  exact hk

theorem sessionFreeVars_of_all (v : Bool) (vars : AMap Val)
    (h : ∀ p ∈ wireVars v vars, sessionFreeB p.2 = true) : SessionFreeVars v vars :=
  fun k txt hk => h (k, txt) (mem_of_get _ _ _ hk)

/-! ### one connection: belief, backend, `InitializeSessionVariables` -/

/-- The proxy's record of a pooled connection describes the backend session
    behind it — charset, collation, every recorded variable whose value does
    not read the session, and no variable that is not recorded —, nothing is
    waiting to be reset, and the settings on record as acknowledged are the
    recorded ones. -/
structure Consistent (t : Tables) (s : Slot) : Prop where
  unused : s.conn.sv.unused = []
  ackedCharset : s.conn.ackedCharset = s.conn.charset
  ackedCollation : s.conn.ackedCollation = s.conn.collation
  ackedVariables : s.conn.ackedVariables = s.conn.sv
  charset : s.be.charset = s.conn.charset
  collation : t.collationName s.conn.collation = some s.be.collation
  vars : VarsMatch s.conn.v803 s.be.globals s.conn.sv.variables s.be.vars

theorem new_consistent (t : Tables) (cs : String) (coll : Nat) (coll247 v803 : Bool) (b : Backend)
    (hcs : b.charset = cs) (hcoll : t.collationName coll = some b.collation) (hv : b.vars = []) :
    Consistent t { conn := Conn.new cs coll coll247 v803, be := b } :=
  { unused := rfl, ackedCharset := rfl, ackedCollation := rfl, ackedVariables := rfl, charset := hcs,
    collation := hcoll, vars := fun _ => congrArg (AMap.get · _) hv }

theorem restore_consistent (t : Tables) (s : Slot) (hc : Consistent t s) : restoreAckedSession s.conn = s.conn := by
  obtain ⟨⟨charset, collation, sv, ac, acl, av, c247, v803, closed⟩, be⟩ := s
  have h1 := hc.ackedCharset; have h2 := hc.ackedCollation; have h3 := hc.ackedVariables
  simp only at h1 h2 h3
  simp [restoreAckedSession, h1, h2, h3]

/-- The write step of `InitializeSessionVariables` / `SyncSessionVariables`
    on a consistent connection whose record was just moved to the client's
    settings. -/
theorem write_after_set (t : Tables) (s : Slot) (hc : Consistent t s) (cl : Client) (cs' : String) (coll' : Nat)
    (collName : String) (hcoll : t.collationName coll' = some collName) (f : Fault) :
    let c2 : Conn := { s.conn with charset := cs', collation := coll', sv := (s.conn.sv.setEqualsWith cl.vars).1 }
    (f = .none →
      ∃ stmt c3 b3, writeSetStatement t c2 s.be f = (c3, b3, .ok stmt) ∧
        Consistent t { conn := c3, be := b3 } ∧ c3.coll247 = s.conn.coll247 ∧ c3.v803 = s.conn.v803 ∧
        c3.closed = s.conn.closed ∧ b3.charset = cs' ∧ b3.collation = collName ∧ b3.globals = s.be.globals ∧
        VarsMatch s.conn.v803 s.be.globals cl.vars.variables b3.vars) ∧
    (f ≠ .none →
      ∃ stmt sm, writeSetStatement t c2 s.be f = (s.conn, s.be, .rejected stmt sm)) := by
  intro c2
  have spec := setEqualsWith_spec s.conn.sv cl.vars
  constructor
  · rintro rfl
    obtain ⟨h1, h2, h3, h4⟩ := apply_setItems c2 collName c2.sv.unused s.be s.conn.sv.variables hc.vars
      fun k ho hn => (spec.unused k).mpr (.inr ⟨ho, by rw [← spec.vars k]; exact hn⟩)
    refine ⟨_, _, _, write_accepted t c2 s.be collName hcoll, ?_, rfl, rfl, rfl, h1, h2, h3,
      varsMatch_congr _ _ _ _ _ spec.vars h4⟩
    exact ⟨rfl, rfl, rfl, rfl, h1, hcoll.trans (congrArg some h2.symm), h3 ▸ h4⟩
  · intro hf
    rw [write_rejected t c2 s.be f collName hcoll hf,
      show restoreAckedSession c2 = restoreAckedSession s.conn from rfl, restore_consistent t s hc]
    exact ⟨_, _, rfl⟩

/-- What `InitializeSessionVariables` does to the client's record: nothing to
    its charset and collation; its variables are acknowledged when the
    settings are in place, put back to the acknowledged ones when the SET
    statement failed, untouched when `SetCharset` failed. -/
theorem init_client (t : Tables) (s : Slot) (cl : Client) (f : Fault) :
    (initializeSessionVariables t s cl f).2.1 =
      match (initializeSessionVariables t s cl f).2.2 with
      | .ok _ => { cl with vars := cl.vars.acknowledge }
      | .errCharset => cl
      | .errSet _ => { cl with vars := cl.vars.restoreAcknowledged } := by
  unfold initializeSessionVariables
  cases hsc : setCharset t s.conn cl.charset cl.collation with
  | mk c1 o =>
    cases o with
    | none => rfl
    | some ch =>
      by_cases hc : (ch || (setSessionVariables c1 cl.vars).2) = true
      · simp only [hc, ↓reduceIte]
        cases hw : writeSetStatement t (setSessionVariables c1 cl.vars).1 s.be f with
        | mk c3 r =>
          cases r with
          | mk b3 wr => cases wr <;> rfl
      · simp only [hc]
        rfl

theorem varsMatch_unchanged (t : Tables) (s : Slot) (hc : Consistent t s) (cl : Client)
    (h : (s.conn.sv.setEqualsWith cl.vars).2 = false) :
    (s.conn.sv.setEqualsWith cl.vars).1 = s.conn.sv ∧
    VarsMatch s.conn.v803 s.be.globals cl.vars.variables s.be.vars := by
  have spec := setEqualsWith_spec s.conn.sv cl.vars
  have hs := spec.same h
  exact ⟨hs, varsMatch_congr _ _ _ _ _ (hs ▸ spec.vars) hc.vars⟩

/-- The three outcomes of `InitializeSessionVariables` on a consistent connection.  `r` names the
    result so that they read short; callers pass `_ rfl`. -/
theorem init_cases (t : Tables) (s : Slot) (cl : Client) (f : Fault) (hc : Consistent t s)
    (r : Slot × Client × InitRes) (hr : initializeSessionVariables t s cl f = r) :
    ((setCharset t s.conn cl.charset cl.collation).2 = none ∧ r.1 = s ∧ r.2.2 = .errCharset) ∨
    (f ≠ .none ∧ r.1 = s ∧ ∃ stmt, r.2.2 = .errSet stmt) ∨
    (r.2.2.isOk = true ∧ Consistent t r.1 ∧ r.1.conn.coll247 = s.conn.coll247 ∧ r.1.conn.v803 = s.conn.v803 ∧
      r.1.conn.closed = s.conn.closed ∧ r.1.be.globals = s.be.globals ∧
      Matches t s.conn.coll247 s.conn.v803 r.1.be cl) := by
  unfold initializeSessionVariables at hr
  rcases setCharset_cases t s.conn cl.charset cl.collation with h | ⟨ch, h, hch⟩
  · rw [h] at hr ⊢
    subst hr
    exact .inl ⟨rfl, rfl, rfl⟩
  -- the collation the record is moved to has a name: it is new and valid, or the one the backend has
  obtain ⟨collName, hn⟩ : ∃ n, t.collationName (effectiveCollation t s.conn.coll247 (trimQ cl.charset) cl.collation) = some n := by
    cases ch with
    | true => exact Option.isSome_iff_exists.mp hch
    | false => exact ⟨_, hch.2 ▸ hc.collation⟩
  simp only [h, setSessionVariables] at hr
  cases hw : (ch || (s.conn.sv.setEqualsWith cl.vars).2) with
  | true =>
    simp only [hw, ↓reduceIte] at hr
    obtain ⟨hacc, hrej⟩ := write_after_set t s hc cl _ _ collName hn f
    by_cases hf : f = .none
    · obtain ⟨stmt, c3, b3, hwr, hcons, h247, h803, hcl3, hbc, hbl, hbg, hbv⟩ := hacc hf
      rw [hwr] at hr
      subst hr
      exact .inr (.inr ⟨rfl, hcons, h247, h803, hcl3, hbg, hbc, hbl ▸ hn, hbg ▸ hbv⟩)
    · obtain ⟨stmt, sm, hwr⟩ := hrej hf
      rw [hwr] at hr
      subst hr
      exact .inr (.inl ⟨hf, rfl, _, rfl⟩)
  | false =>
    -- no statement is needed: the record is where it was and says what the client wants
    simp only [hw, Bool.false_eq_true, ↓reduceIte] at hr
    obtain ⟨rfl, hsame⟩ := Bool.or_eq_false_iff.mp hw
    obtain ⟨hsv, hv⟩ := varsMatch_unchanged t s hc cl hsame
    rw [hsv, ← hch.2, ← hch.1] at hr
    subst hr
    exact .inr (.inr ⟨rfl, hc, rfl, rfl, rfl, rfl, hc.charset.trans hch.1, hch.2 ▸ hc.collation, hv⟩)

/-- **sync_correct / belief_inv for one connection.**  On a connection whose
    record describes its backend session, `InitializeSessionVariables` — for
    any client, whatever the backend does with the SET statement — leaves a
    connection whose record again describes its backend session; and when it
    succeeds the backend session carries the client's settings. -/
theorem init_spec (t : Tables) (s : Slot) (cl : Client) (f : Fault) (hc : Consistent t s) :
    Consistent t (initializeSessionVariables t s cl f).1 ∧
    (initializeSessionVariables t s cl f).1.conn.coll247 = s.conn.coll247 ∧
    (initializeSessionVariables t s cl f).1.conn.v803 = s.conn.v803 ∧
    (initializeSessionVariables t s cl f).1.conn.closed = s.conn.closed ∧
    (initializeSessionVariables t s cl f).1.be.globals = s.be.globals ∧
    ((initializeSessionVariables t s cl f).2.2.isOk = true →
      Matches t s.conn.coll247 s.conn.v803 (initializeSessionVariables t s cl f).1.be cl) := by
  rcases init_cases t s cl f hc _ rfl with ⟨_, h1, h2⟩ | ⟨_, h1, _, h2⟩ | ⟨_, h1, h2, h3, h4, h5, h6⟩
  · rw [h1, h2]; exact ⟨hc, rfl, rfl, rfl, rfl, nofun⟩
  · rw [h1, h2]; exact ⟨hc, rfl, rfl, rfl, rfl, nofun⟩
  · exact ⟨h1, h2, h3, h4, h5, fun _ => h6⟩

/-- The preparation cannot fail without a reason: on a consistent connection,
    when `SetCharset` accepts the client's charset and the backend does not
    reject the statement, the client's statement executes. -/
theorem init_succeeds (t : Tables) (s : Slot) (cl : Client) (hc : Consistent t s)
    (hcs : (setCharset t s.conn cl.charset cl.collation).2 ≠ none) :
    (initializeSessionVariables t s cl .none).2.2.isOk = true := by
  rcases init_cases t s cl .none hc _ rfl with ⟨h, _⟩ | ⟨h, _⟩ | ⟨h, _⟩
  · exact absurd h hcs
  · exact absurd rfl h
  · exact h

theorem sync_spec (t : Tables) (s : Slot) (cl : Client) (f : Fault) (hc : Consistent t s) :
    (syncSessionVariables t s cl f).1.conn.closed = true ∨ Consistent t (syncSessionVariables t s cl f).1 := by
  simp only [syncSessionVariables, setSessionVariables]
  by_cases hch : (s.conn.sv.setEqualsWith cl.vars).2 = true
  · simp only [hch, ↓reduceIte]
    obtain ⟨hacc, hrej⟩ := write_after_set t s hc cl s.conn.charset s.conn.collation s.be.collation hc.collation f
    by_cases hf : f = .none
    · obtain ⟨stmt, c3, b3, hwr, hcons, _⟩ := hacc hf
      rw [hwr]; exact .inr hcons
    · obtain ⟨stmt, sm, hwr⟩ := hrej hf
      rw [hwr]; exact .inl rfl
  · rw [Bool.not_eq_true] at hch
    simp only [hch, Bool.false_eq_true, ↓reduceIte]
    rw [(varsMatch_unchanged t s hc cl hch).1]
    exact .inr hc

/-! ### the system: all histories -/

/-- Every pooled connection's record describes its backend session. -/
def Inv (t : Tables) (s : Sys) : Prop := ∀ sl ∈ s.slots, Consistent t sl

/-- The connections the pool opens are consistent: fresh record, server defaults. -/
def FreshOK (t : Tables) (fresh : Fresh) : Prop := ∀ k, Consistent t (fresh k)

theorem recycle_consistent (t : Tables) (fresh : Slot) (s : Slot) (hf : Consistent t fresh)
    (h : s.conn.closed = true ∨ Consistent t s) : Consistent t (recycle fresh s) := by
  unfold recycle
  by_cases hc : s.conn.closed = true
  · simp [hc, hf]
  · simp only [hc]
    rcases h with h | h
    · exact absurd h hc
    · exact h

theorem inv_set_slot (t : Tables) (s : Sys) (k : Nat) (sl : Slot) (cls : List Client) (hi : Inv t s)
    (h : Consistent t sl) : Inv t { clients := cls, slots := s.slots.set k sl } := by
  intro x hx
  rcases List.mem_or_eq_of_mem_set hx with h1 | h1
  · exact hi x h1
  · rw [h1]; exact h

/-- **belief_inv (one step).**  Whatever operation comes next — a SET by any
    client (with literal values or with expressions, whether or not they read
    the session), a statement or a transaction start by any client on any
    connection, with the backend accepting or rejecting the SET statement —
    every pooled connection's record still describes its backend session
    afterwards. -/
theorem step_inv (cfg : Cfg) (fresh : Fresh) (s : Sys) (op : Op) (hf : FreshOK cfg.tables fresh)
    (hi : Inv cfg.tables s) : Inv cfg.tables (step cfg fresh s op).1 := by
  cases op with
  | set c assigns =>
    simp only [step]
    split
    · exact hi
    · exact hi
  | run c k f =>
    simp only [step]
    split
    · rename_i cl sl hcl hsl
      have hmem : sl ∈ s.slots := List.mem_of_getElem? hsl
      have hs := init_spec cfg.tables sl cl f (hi sl hmem)
      exact inv_set_slot _ s k _ _ hi (recycle_consistent _ _ _ (hf k) (Or.inr hs.1))
    · exact hi
  | sync c k f =>
    simp only [step]
    split
    · rename_i cl sl hcl hsl
      have hmem : sl ∈ s.slots := List.mem_of_getElem? hsl
      have hs := sync_spec cfg.tables sl cl f (hi sl hmem)
      exact inv_set_slot _ s k _ _ hi (recycle_consistent _ _ _ (hf k) hs)
    · exact hi

/-- **belief_inv.**  The invariant holds after every history. -/
theorem runOps_inv (cfg : Cfg) (fresh : Fresh) (ops : List Op) (s : Sys) (hf : FreshOK cfg.tables fresh)
    (hi : Inv cfg.tables s) : Inv cfg.tables (runOps cfg fresh s ops).1 := by
  induction ops generalizing s with
  | nil => exact hi
  | cons op ops ih => exact ih _ (step_inv cfg fresh s op hf hi)

/-
  Full statement of no_leak (not provable: the listed finding
  `set-expression-reads-session-state`):

    when a client's statement executes, the backend session carries the client's
    charset and collation and, for EVERY variable `k`, the value the client set it
    to — for a value that is an expression, the value that expression had in the
    client's own session when the client sent the SET statement — and the server
    default for every variable the client has not set.

  What is proved (`Matches`/`VarsMatch`): the same, for every variable except
  those whose recorded value reads the session (`@x = @y`, `@x = @x+1`,
  `sql_mode = CONCAT(@@sql_mode, …)`): the proxy cannot evaluate such a value, it
  re-sends the expression and the pooled connection evaluates it in whatever
  session state it then has (`session_expression_leak_witness`).
-/

/-- Inversion of an output `.run res e`: the client and the slot exist, and result, executing backend
    and the client's new record are those of `initializeSessionVariables`. -/
theorem step_run_out (cfg : Cfg) (fresh : Fresh) (s : Sys) (c k : Nat) (f : Fault) (res : InitRes) (e : Option Backend)
    (h : (step cfg fresh s (.run c k f)).2 = .run res e) :
    ∃ cl sl, s.clients[c]? = some cl ∧ s.slots[k]? = some sl ∧
      res = (initializeSessionVariables cfg.tables sl cl f).2.2 ∧
      e = (if (initializeSessionVariables cfg.tables sl cl f).2.2.isOk then
        some (initializeSessionVariables cfg.tables sl cl f).1.be else none) ∧
      (step cfg fresh s (.run c k f)).1.clients[c]? = some (initializeSessionVariables cfg.tables sl cl f).2.1 := by
  cases hcl : s.clients[c]? with
  | none => simp [step, hcl] at h
  | some cl =>
    cases hsl : s.slots[k]? with
    | none => simp [step, hcl, hsl] at h
    | some sl =>
      simp only [step, hcl, hsl, Out.run.injEq] at h ⊢
      obtain ⟨rfl, rfl⟩ := h
      exact ⟨cl, sl, rfl, rfl, rfl, rfl, List.getElem?_set_self (List.getElem?_eq_some_iff.mp hcl).1⟩

/-- **no_leak (one step), partial.**  When a client's statement executes on a
    pooled connection — whoever used that connection before, whatever they had
    set — the backend session carries the executing client's own settings: its
    charset, its collation, each of its session and user variables whose value
    does not read the session (every literal, `CONCAT('a','b')`, `@@GLOBAL.x`),
    and the server default for every other variable.  A successful preparation
    changes nothing in the client's record but the acknowledgement mark.
    Clients that hold both spellings of `transaction_read_only` are included
    (`get_wireVars_true`). -/
theorem run_matches_partial (cfg : Cfg) (fresh : Fresh) (s : Sys) (c k : Nat) (f : Fault) (res : InitRes) (b : Backend)
    (hi : Inv cfg.tables s) (h : (step cfg fresh s (.run c k f)).2 = .run res (some b)) :
    ∃ cl sl, s.clients[c]? = some cl ∧ s.slots[k]? = some sl ∧
      Matches cfg.tables sl.conn.coll247 sl.conn.v803 b cl ∧ b.globals = sl.be.globals ∧
      (step cfg fresh s (.run c k f)).1.clients[c]? = some { cl with vars := cl.vars.acknowledge } := by
  obtain ⟨cl, sl, hcl, hsl, _, he, hcl'⟩ := step_run_out cfg fresh s c k f res (some b) h
  have hs := init_spec cfg.tables sl cl f (hi sl (List.mem_of_getElem? hsl))
  have hcli := init_client cfg.tables sl cl f
  split at he
  · rename_i hok
    rw [Option.some.inj he]
    refine ⟨cl, sl, hcl, hsl, hs.2.2.2.2.2 hok, hs.2.2.2.2.1, ?_⟩
    obtain ⟨stmt, hst⟩ := (InitRes.isOk_iff _).mp hok
    rw [hcl', hcli, hst]
  · cases he

theorem step_out_run (cfg : Cfg) (fresh : Fresh) (s : Sys) (op : Op) (res : InitRes) (e : Option Backend)
    (h : (step cfg fresh s op).2 = .run res e) : ∃ c k f, op = .run c k f := by
  cases op with
  | set c a | sync c k f => simp only [step] at h; split at h <;> simp at h
  | run c k f => exact ⟨c, k, f, rfl⟩

theorem runOps_out (cfg : Cfg) (fresh : Fresh) (ops : List Op) (s : Sys) (i : Nat) :
    (runOps cfg fresh s ops).2[i]? =
      (ops[i]?).map fun op => (step cfg fresh (runOps cfg fresh s (ops.take i)).1 op).2 := by
  induction ops generalizing s i with
  | nil => rfl
  | cons op ops ih =>
    cases i with
    | zero => rfl
    | succ i => exact ih _ i

/-- **no_leak, partial.**  In every history (any number of clients and
    connections, any interleaving of SET statements, statement executions and
    transaction starts, the backend rejecting any of the SET statements it is
    sent), every statement that executes does so on a backend session that
    carries the executing client's settings at that moment (`Matches`: charset,
    collation, every variable whose value does not read the session, nothing
    else set).  The full statement and what is missing: see above. -/
theorem no_leak_partial (cfg : Cfg) (fresh : Fresh) (hf : FreshOK cfg.tables fresh) (ops : List Op) (s₀ : Sys)
    (hi : Inv cfg.tables s₀) (i : Nat) (res : InitRes) (b : Backend)
    (h : (runOps cfg fresh s₀ ops).2[i]? = some (.run res (some b))) :
    ∃ c k f cl sl, ops[i]? = some (.run c k f) ∧
      (runOps cfg fresh s₀ (ops.take i)).1.clients[c]? = some cl ∧
      (runOps cfg fresh s₀ (ops.take i)).1.slots[k]? = some sl ∧
      Matches cfg.tables sl.conn.coll247 sl.conn.v803 b cl := by
  rw [runOps_out] at h
  obtain ⟨op, hop, hout⟩ := Option.map_eq_some_iff.mp h
  obtain ⟨c, k, f, rfl⟩ := step_out_run cfg fresh _ op res (some b) hout
  obtain ⟨cl, sl, h1, h2, h3, _⟩ :=
    run_matches_partial cfg fresh _ c k f res b (runOps_inv cfg fresh _ s₀ hf hi) hout
  exact ⟨c, k, f, cl, sl, hop, h1, h2, h3⟩

/-- For a client none of whose values reads the session — every client that
    sets literals only, and e.g. `CONCAT('a','b')` or `@@GLOBAL.x` — `Matches`
    says that every variable of the backend session is exactly what the client
    asked for. -/
theorem matches_session_free (t : Tables) (coll247 v803 : Bool) (b : Backend) (cl : Client)
    (hm : Matches t coll247 v803 b cl) (hsf : SessionFreeVars v803 cl.vars.variables) :
    ∀ k, AMap.get b.vars k = expectedVar v803 b.globals cl.vars.variables k := by
  intro k
  have hk := hm.2.2 k
  cases hg : AMap.get (wireVars v803 cl.vars.variables) k with
  | some txt => rw [hg] at hk; exact hk (hsf k txt hg)
  | none => rw [hg] at hk; rw [hk, expectedVar_of_none _ _ _ _ hg]

/-! ### after a rejected SET statement: back to the acknowledged variables -/

/-- What one assignment of a SET statement can do to the client's record. -/
inductive SetStep (vm : VerifyMap) (cl : Client) : Client → Prop
  | same : SetStep vm cl cl
  | names (charset : String) (collation : Nat) : SetStep vm cl { cl with charset := charset, collation := collation }
  | delete (key : String) : SetStep vm cl { cl with vars := cl.vars.delete key }
  | set {key : String} {v : Val} {sv : SessionVariables} (h : cl.vars.set vm key v = .ok sv) :
      SetStep vm cl { cl with vars := sv }

theorem SetStep.acked {vm : VerifyMap} {cl cl' : Client} (h : SetStep vm cl cl') :
    cl'.vars.ackedVariables = cl.vars.ackedVariables := by
  cases h with
  | same | names => rfl
  | delete key => exact delete_acked _ _
  | set h => exact set_acked _ _ _ _ _ h

/-- Whenever the outcome `r` is a new record, that record is one `SetStep` away from `cl`; closed
    under the shapes the branches of `handleSetVariable` have (namespace `Steps`). -/
def Steps (vm : VerifyMap) (cl : Client) (r : Res Client) : Prop :=
  ∀ cl', r = .ok cl' → SetStep vm cl cl'

namespace Steps
variable {cfg : Cfg} {vm : VerifyMap} {cl : Client}

theorem err {k : String} : Steps vm cl (.err k) := nofun

theorem panic : Steps vm cl .panic := nofun

theorem ok {cl' : Client} (h : SetStep vm cl cl') : Steps vm cl (.ok cl') := by
  rintro _ ⟨⟩; exact h

theorem ite {c : Prop} [Decidable c] {a b : Res Client} (ha : Steps vm cl a) (hb : Steps vm cl b) :
    Steps vm cl (if c then a else b) := by
  split <;> assumption

theorem onOff {s k : String} {f : String → Res Client} (h : ∀ x, Steps vm cl (f x)) :
    Steps vm cl (match getOnOffVariable s with | none => .err k | some x => f x) := by
  split
  · exact err
  · exact h _

theorem set {key : String} {v : Val} : Steps vm cl (liftSet cl (cl.vars.set vm key v)) := by
  cases h : cl.vars.set vm key v with
  | ok sv => exact ok (.set h)
  | err k => exact err
  | panic => exact panic

theorem setInt {name v : String} : Steps cfg.verifyMap cl (setIntSessionVariable cfg cl name v) := by
  unfold setIntSessionVariable
  refine ite (ok (.delete _)) ?_
  split
  · exact err
  · exact set

theorem setString {name : String} {v : Val} : Steps cfg.verifyMap cl (setStringSessionVariable cfg cl name v) := by
  unfold setStringSessionVariable
  split
  · exact ite (ok (.delete _)) set
  · exact set

theorem setUser {name v : String} : Steps cfg.verifyMap cl (setUserSessionVariable cfg cl name v) := by
  unfold setUserSessionVariable
  cases h : cl.vars.set cfg.verifyMap ("@" ++ name) (.user v) with
  | ok sv => exact ok (.set h)
  | err k => exact ok .same
  | panic => exact panic

theorem setNames {v : Assign} : Steps vm cl (handleSetNames cfg cl v) := by
  unfold handleSetNames
  dsimp only
  split
  · split
    · exact err
    · split
      · exact err
      · exact ite err (ok (.names _ _))
  · split
    · exact err
    · exact ok (.names _ _)

theorem setOther {name : String} {v : Assign} : Steps cfg.verifyMap cl (handleSetOther cfg cl name v) := by
  unfold handleSetOther
  refine ite setUser ?_
  split
  · exact setInt
  · exact setString
  · exact onOff fun _ => setInt
  · exact ok .same

theorem assignment {v : Assign} : Steps cfg.verifyMap cl (handleSetVariable cfg cl v) := by
  unfold handleSetVariable
  refine ite err ?_
  dsimp only
  cases setCase (lower v.name) with
  | characterSet => exact ite (ok .same) (ite (ok (.names _ _)) set)
  | groupConcatMaxLen | lockWaitTimeout | sqlSelectLimit => exact setInt
  | setNames => exact setNames
  | sqlMode | timeZone => exact setString
  | sqlSafeUpdates => exact onOff fun _ => setInt
  | maxAllowedPacket | transaction => exact err
  | ignored => exact ok .same
  | txReadOnly => exact onOff fun _ => ite setInt setInt
  | dflt => exact setOther

end Steps

theorem handleSetVariable_step (cfg : Cfg) (cl cl' : Client) (v : Assign)
    (h : handleSetVariable cfg cl v = .ok cl') : SetStep cfg.verifyMap cl cl' :=
  Steps.assignment cl' h

/-- A SET statement of the client changes its variables, never what is on
    record as acknowledged. -/
theorem handleSetVariable_acked (cfg : Cfg) (cl cl' : Client) (v : Assign)
    (h : handleSetVariable cfg cl v = .ok cl') : cl'.vars.ackedVariables = cl.vars.ackedVariables :=
  (handleSetVariable_step cfg cl cl' v h).acked

theorem handleSet_acked (cfg : Cfg) (cl : Client) (vs : List Assign) :
    (handleSet cfg cl vs).1.vars.ackedVariables = cl.vars.ackedVariables := by
  induction vs generalizing cl with
  | nil => rfl
  | cons v vs ih =>
    unfold handleSet
    cases hv : handleSetVariable cfg cl v with
    | ok cl' =>
      rw [ih cl', handleSetVariable_acked cfg cl cl' v hv]
    | err k | panic => rfl

@[simp] theorem acknowledge_acked (s : SessionVariables) : s.acknowledge.ackedVariables = s.variables := rfl
@[simp] theorem acknowledge_variables (s : SessionVariables) : s.acknowledge.variables = s.variables := rfl

/-- **failed_set (one step).**  When the backend rejects the SET statement that
    prepares a client's statement, the client's variables afterwards are exactly
    those a backend acknowledged last — the variables of the client's last
    statement that executed —, its charset and collation are untouched, and what
    is on record as acknowledged stays. -/
theorem run_rejected_restores (cfg : Cfg) (fresh : Fresh) (s : Sys) (c k : Nat) (f : Fault) (stmt : Option String)
    (e : Option Backend) (h : (step cfg fresh s (.run c k f)).2 = .run (.errSet stmt) e) :
    ∃ cl cl', s.clients[c]? = some cl ∧ (step cfg fresh s (.run c k f)).1.clients[c]? = some cl' ∧
      cl'.vars.variables = cl.vars.ackedVariables ∧ cl'.vars.ackedVariables = cl.vars.ackedVariables ∧
      cl'.charset = cl.charset ∧ cl'.collation = cl.collation := by
  obtain ⟨cl, sl, hcl, _, hres, _, hcl'⟩ := step_run_out cfg fresh s c k f _ e h
  have hcli := init_client cfg.tables sl cl f
  rw [← hres] at hcli
  rw [hcli] at hcl'
  exact ⟨cl, _, hcl, hcl', restore_variables _, restore_acked _, rfl, rfl⟩

theorem acked_set (cls : List Client) (c c' : Nat) (cl x : Client) (hcl : cls[c]? = some cl)
    (hx : c' = c → x.vars.ackedVariables = cl.vars.ackedVariables) :
    ∃ cl', (cls.set c' x)[c]? = some cl' ∧ cl'.vars.ackedVariables = cl.vars.ackedVariables := by
  by_cases hcc : c' = c
  · subst hcc
    exact ⟨x, List.getElem?_set_self (List.getElem?_eq_some_iff.mp hcl).1, hx rfl⟩
  · exact ⟨cl, by rw [List.getElem?_set_ne hcc, hcl], rfl⟩

/-- What one operation does to the acknowledged variables of a client `c`:
    they change only when a statement of `c` itself executes. -/
theorem step_acked (cfg : Cfg) (fresh : Fresh) (s : Sys) (op : Op) (c : Nat) (cl : Client)
    (hcl : s.clients[c]? = some cl)
    (hne : ∀ k f r b, op = .run c k f → (step cfg fresh s op).2 ≠ .run r (some b)) :
    ∃ cl', (step cfg fresh s op).1.clients[c]? = some cl' ∧ cl'.vars.ackedVariables = cl.vars.ackedVariables := by
  cases op with
  | set c' assigns =>
    simp only [step]
    split
    · exact ⟨cl, hcl, rfl⟩
    · rename_i cl0 hcl0
      refine acked_set _ c c' cl _ hcl fun h => ?_
      rw [Option.some.inj (hcl0.symm.trans (h ▸ hcl))]
      exact handleSet_acked _ _ _
  | run c' k f =>
    simp only [step]
    split
    · rename_i cl0 sl hcl0 hsl
      refine acked_set _ c c' cl _ hcl fun h => ?_
      subst h
      rw [Option.some.inj (hcl0.symm.trans hcl), init_client]
      cases hr : (initializeSessionVariables cfg.tables sl cl f).2.2 with
      | ok st =>
        refine absurd ?_ (hne k f (.ok st) (initializeSessionVariables cfg.tables sl cl f).1.be rfl)
        simp only [step, hcl, hsl, hr, InitRes.isOk, ↓reduceIte]
      | errCharset => rfl
      | errSet st => exact restore_acked _
    · exact ⟨cl, hcl, rfl⟩
  | sync c' k f =>
    simp only [step]
    split <;> exact ⟨cl, hcl, rfl⟩

/-- No statement of client `c` executes in the history `ops` from `s`. -/
def NoExec (cfg : Cfg) (fresh : Fresh) (c : Nat) : Sys → List Op → Prop
  | _, [] => True
  | s, op :: ops =>
    (∀ k f r b, op = .run c k f → (step cfg fresh s op).2 ≠ .run r (some b)) ∧
    NoExec cfg fresh c (step cfg fresh s op).1 ops

theorem runOps_acked (cfg : Cfg) (fresh : Fresh) (c : Nat) (ops : List Op) (s : Sys) (cl : Client)
    (hcl : s.clients[c]? = some cl) (hne : NoExec cfg fresh c s ops) :
    ∃ cl', (runOps cfg fresh s ops).1.clients[c]? = some cl' ∧ cl'.vars.ackedVariables = cl.vars.ackedVariables := by
  induction ops generalizing s cl with
  | nil => exact ⟨cl, hcl, rfl⟩
  | cons op ops ih =>
    obtain ⟨h1, h2⟩ := hne
    obtain ⟨cl1, hcl1, ha1⟩ := step_acked cfg fresh s op c cl hcl h1
    obtain ⟨cl2, hcl2, ha2⟩ := ih _ cl1 hcl1 h2
    exact ⟨cl2, by simpa [runOps] using hcl2, by rw [ha2, ha1]⟩

/-- **failed_set.**  Take any history.  A statement of client `c` executes (on
    a backend session `b`, which then carries `c`'s settings: `Matches`); then
    anything happens — SET statements of `c` and of others, statements and
    transaction starts of other clients, failed statements of `c` — except
    that no further statement of `c` executes; then the backend rejects the SET
    statement that prepares a statement of `c` (on any connection).  After
    that the variables on record for `c` are exactly those its last executed
    statement ran with: everything `c` set in between is given up (the
    rejected value is among it), nothing that was acknowledged is lost or
    altered; charset and collation are as `c` last set them.  (The code before
    the repair dropped every user variable and every namespace-allowed
    variable instead: `Pinned.reset_forgets_witness`.) -/
theorem failed_set (cfg : Cfg) (fresh : Fresh) (s₁ : Sys) (hi : Inv cfg.tables s₁)
    (c k k' : Nat) (f f' : Fault) (res : InitRes) (b : Backend) (mid : List Op) (stmt : Option String) (e : Option Backend)
    (hexec : (step cfg fresh s₁ (.run c k f)).2 = .run res (some b))
    (hmid : NoExec cfg fresh c (step cfg fresh s₁ (.run c k f)).1 mid)
    (hrej : (step cfg fresh (runOps cfg fresh (step cfg fresh s₁ (.run c k f)).1 mid).1 (.run c k' f')).2
              = .run (.errSet stmt) e) :
    ∃ cl sl cl₃ cl₄, s₁.clients[c]? = some cl ∧ s₁.slots[k]? = some sl ∧
      Matches cfg.tables sl.conn.coll247 sl.conn.v803 b cl ∧
      (runOps cfg fresh (step cfg fresh s₁ (.run c k f)).1 mid).1.clients[c]? = some cl₃ ∧
      (step cfg fresh (runOps cfg fresh (step cfg fresh s₁ (.run c k f)).1 mid).1 (.run c k' f')).1.clients[c]? = some cl₄ ∧
      cl₄.vars.variables = cl.vars.variables ∧
      cl₄.charset = cl₃.charset ∧ cl₄.collation = cl₃.collation := by
  obtain ⟨cl, sl, h1, h2, hm, _, h3⟩ := run_matches_partial cfg fresh s₁ c k f res b hi hexec
  obtain ⟨cl₃, hcl₃, ha₃⟩ := runOps_acked cfg fresh c mid _ _ h3 hmid
  obtain ⟨cl₃', cl₄, g1, g2, g3, _, g5, g6⟩ := run_rejected_restores cfg fresh _ c k' f' stmt e hrej
  rw [hcl₃] at g1
  cases g1
  refine ⟨cl, sl, cl₃, cl₄, h1, h2, hm, hcl₃, g2, ?_, g5, g6⟩
  rw [g3, ha₃]
  rfl

/-- **failed_set, second half (partial like `no_leak_partial`).**  After a
    statement of client `c` failed because the backend rejected its SET
    statement (on any connection `k`), and after any further history, a
    statement of the same client that executes — on the same or on any other
    connection — again runs with the client's settings of that moment.  (No hypothesis says that
    the statement `.run c k f` in the history was rejected: this is `run_matches_partial` after
    any history, of which that one is a case.) -/
theorem failed_set_runs_partial (cfg : Cfg) (fresh : Fresh) (hf : FreshOK cfg.tables fresh) (s₀ : Sys) (hi : Inv cfg.tables s₀)
    (pre post : List Op) (c k k' : Nat) (f f' : Fault) (res : InitRes) (b : Backend)
    (h : (step cfg fresh (runOps cfg fresh s₀ (pre ++ .run c k f :: post)).1 (.run c k' f')).2 = .run res (some b)) :
    ∃ cl sl, (runOps cfg fresh s₀ (pre ++ .run c k f :: post)).1.clients[c]? = some cl ∧
      (runOps cfg fresh s₀ (pre ++ .run c k f :: post)).1.slots[k']? = some sl ∧
      Matches cfg.tables sl.conn.coll247 sl.conn.v803 b cl := by
  obtain ⟨cl, sl, h1, h2, h3, _⟩ := run_matches_partial cfg fresh _ c k' f' res b (runOps_inv cfg fresh _ s₀ hf hi) h
  exact ⟨cl, sl, h1, h2, h3⟩

/-! ### the hypotheses are satisfiable: a concrete pool, concrete histories -/

def exTables : Tables :=
  { charsetIds := [("utf8", 33), ("latin1", 8)]
    charsets := [("utf8", "utf8_general_ci"), ("latin1", "latin1_swedish_ci")]
    collations := [(33, "utf8_general_ci"), (8, "latin1_swedish_ci"), (83, "utf8_bin")]
    collationNames := [("utf8_general_ci", 33), ("latin1_swedish_ci", 8), ("utf8_bin", 83)]
    collationNameToCharset := [("utf8_general_ci", "utf8"), ("latin1_swedish_ci", "latin1"), ("utf8_bin", "utf8")] }

def exCfg : Cfg :=
  { tables := exTables, verifyMap := [("sql_select_limit", .integer), ("sql_mode", .sqlMode)],
    defaultCharset := "utf8", defaultCollation := 33, allowed := [("foo_str", "string")] }

/-- A freshly opened connection: the pool's charset, server defaults. -/
def exSlot : Slot :=
  { conn := Conn.new "utf8" 33 true false,
    be := { charset := "utf8", collation := "utf8_general_ci", globals := [("sql_mode", "'STRICT_TRANS_TABLES'")] } }

def exFresh : Fresh := fun _ => exSlot

/-- Two clients (utf8 / latin1) sharing a pool of one connection. -/
def exSys : Sys :=
  { clients := [{ charset := "utf8", collation := 33 }, { charset := "latin1", collation := 8 }], slots := [exSlot] }

theorem exSlot_consistent : Consistent exTables exSlot :=
  new_consistent _ _ _ _ _ _ rfl (by decide +kernel) rfl

theorem exFresh_ok : FreshOK exCfg.tables exFresh := fun _ => exSlot_consistent

theorem exSys_inv : Inv exCfg.tables exSys := by
  intro sl h
  simp only [exSys, List.mem_singleton] at h
  rw [h]; exact exSlot_consistent

def exBackend (cs coll : String) (vars : AMap String) : Backend :=
  { charset := cs, collation := coll, vars := vars, globals := [("sql_mode", "'STRICT_TRANS_TABLES'")] }

/-- Client 0 sets `sql_select_limit`, runs a statement (the backend gets the
    variable), then client 1 runs on the same connection: the statement sent
    resets the variable, and client 1's statement sees none of client 0's
    settings. -/
def exOps : List Op :=
  [.set 0 [{ name := "sql_select_limit", value := .int 5 }], .run 0 0 .none, .run 1 0 .none]

theorem exOps_out : (runOps exCfg exFresh exSys exOps).2 =
    [.set (.ok ()),
     .run (.ok (some "SET NAMES 'utf8' COLLATE 'utf8_general_ci',sql_select_limit = 5"))
       (some (exBackend "utf8" "utf8_general_ci" [("sql_select_limit", "5")])),
     .run (.ok (some "SET NAMES 'latin1' COLLATE 'latin1_swedish_ci',sql_select_limit = DEFAULT"))
       (some (exBackend "latin1" "latin1_swedish_ci" []))] := by decide +kernel

example : (runOps exCfg exFresh exSys exOps).2 =
    [.set (.ok ()),
     .run (.ok (some "SET NAMES 'utf8' COLLATE 'utf8_general_ci',sql_select_limit = 5"))
       (some (exBackend "utf8" "utf8_general_ci" [("sql_select_limit", "5")])),
     .run (.ok (some "SET NAMES 'latin1' COLLATE 'latin1_swedish_ci',sql_select_limit = DEFAULT"))
       (some (exBackend "latin1" "latin1_swedish_ci" []))] := exOps_out

/-- `no_leak_partial` applies to that history (its hypotheses hold, its conclusion is about a real execution). -/
example : ∃ c k f cl sl, exOps[2]? = some (.run c k f) ∧
    (runOps exCfg exFresh exSys (exOps.take 2)).1.clients[c]? = some cl ∧
    (runOps exCfg exFresh exSys (exOps.take 2)).1.slots[k]? = some sl ∧
    Matches exCfg.tables sl.conn.coll247 sl.conn.v803 (exBackend "latin1" "latin1_swedish_ci" []) cl :=
  no_leak_partial exCfg exFresh exFresh_ok exOps exSys exSys_inv 2
    (.ok (some "SET NAMES 'latin1' COLLATE 'latin1_swedish_ci',sql_select_limit = DEFAULT")) _
    (by rw [exOps_out]; rfl)

/-- A rejected SET statement: client 0's statement fails, the connection keeps
    describing its backend (nothing of the rejected settings is recorded), the
    client's record goes back to what a backend acknowledged last — nothing —,
    and its next statement runs with that. -/
def exOpsRejected : List Op :=
  [.set 0 [{ name := "sql_select_limit", value := .int 5 }], .run 0 0 .rejOther, .run 0 0 .none]

example : (runOps exCfg exFresh exSys exOpsRejected).2 =
    [.set (.ok ()),
     .run (.errSet (some "SET NAMES 'utf8' COLLATE 'utf8_general_ci',sql_select_limit = 5")) none,
     .run (.ok none) (some (exBackend "utf8" "utf8_general_ci" []))] := by decide +kernel

/-- The scenario of the finding `failed-set-forgets-variables`, on the code
    after the `fix:` commits.  Client 0 sets a user variable and runs a statement
    (a backend acknowledges `@x`); it sets a `sql_mode`; the backend rejects
    the SET statement with error 1231; the client's next statement executes —
    with `@x`, which the client never unset, and without the `sql_mode` that was
    refused. -/
def exOpsRestore : List Op :=
  [.set 0 [{ name := "x", isSystem := false, value := .str "abc" }],
   .run 0 0 .none,
   .set 0 [{ name := "sql_mode", value := .str "ANSI" }],
   .run 0 0 .rejSqlMode,
   .run 0 0 .none]

theorem failed_set_example :
    -- the record before the rejected statement
    ((runOps exCfg exFresh exSys (exOpsRestore.take 3)).1.clients.map (·.vars.variables)) =
      [[("@x", .user "'abc'"), ("sql_mode", .str "'ANSI'")], []] ∧
    -- after it: back to what was acknowledged
    ((runOps exCfg exFresh exSys (exOpsRestore.take 4)).1.clients.map (·.vars.variables)) =
      [[("@x", .user "'abc'")], []] ∧
    -- and the next statement runs with it (no SET statement is needed: the connection still holds it)
    (runOps exCfg exFresh exSys exOpsRestore).2[4]? =
      some (.run (.ok none) (some (exBackend "utf8" "utf8_general_ci" [("@x", "'abc'")]))) := by
  decide +kernel

/-- `failed_set` applies to that history: its hypotheses hold of it. -/
example :
    let s₁ := (runOps exCfg exFresh exSys (exOpsRestore.take 1)).1
    let mid : List Op := [.set 0 [{ name := "sql_mode", value := .str "ANSI" }]]
    let s₂ := (step exCfg exFresh s₁ (.run 0 0 .none)).1
    ∃ (cl : Client) (sl : Slot) (cl₃ cl₄ : Client), s₁.clients[0]? = some cl ∧ s₁.slots[0]? = some sl ∧
      Matches exCfg.tables sl.conn.coll247 sl.conn.v803 (exBackend "utf8" "utf8_general_ci" [("@x", "'abc'")]) cl ∧
      (runOps exCfg exFresh s₂ mid).1.clients[0]? = some cl₃ ∧
      (step exCfg exFresh (runOps exCfg exFresh s₂ mid).1 (.run 0 0 .rejSqlMode)).1.clients[0]? = some cl₄ ∧
      cl₄.vars.variables = cl.vars.variables ∧ cl₄.charset = cl₃.charset ∧ cl₄.collation = cl₃.collation :=
  failed_set exCfg exFresh (runOps exCfg exFresh exSys (exOpsRestore.take 1)).1
    (runOps_inv exCfg exFresh _ exSys exFresh_ok exSys_inv) 0 0 0 .none .rejSqlMode
    (.ok (some "SET NAMES 'utf8' COLLATE 'utf8_general_ci',@x = 'abc'"))
    (exBackend "utf8" "utf8_general_ci" [("@x", "'abc'")])
    [.set 0 [{ name := "sql_mode", value := .str "ANSI" }]]
    (some "SET NAMES 'utf8' COLLATE 'utf8_general_ci',@x = 'abc',sql_mode = 'ANSI'") none
    (by decide +kernel) ⟨fun k f r b h => (by cases h), trivial⟩ (by decide +kernel)

/-- A freshly opened connection to a MySQL 8.0.30 backend. -/
def exSlot803 : Slot :=
  { conn := Conn.new "utf8" 33 false true, be := { charset := "utf8", collation := "utf8_general_ci" } }

def exSys803 : Sys :=
  { clients := [{ charset := "utf8", collation := 33 }, { charset := "utf8", collation := 33 }], slots := [exSlot803] }

theorem exSlot803_consistent : Consistent exTables exSlot803 :=
  new_consistent _ _ _ _ _ _ rfl (by decide +kernel) rfl

/-- That backend behind a proxy that advertises 5.x: client 0 says
    `tx_read_only`, client 1 `transaction_read_only`; both are one variable on
    the backend.  Client 1's statement runs with its own value, client 0's
    later statement with its own again (no reset of the other spelling wipes
    the assignment, nothing is left behind). -/
def exOps803 : List Op :=
  [.set 0 [{ name := "tx_read_only", value := .int 1 }], .run 0 0 .none,
   .set 1 [{ name := "transaction_read_only", value := .int 0 }], .run 1 0 .none, .run 0 0 .none]

example : (runOps exCfg (fun _ => exSlot803) exSys803 exOps803).2 =
    [.set (.ok ()),
     .run (.ok (some "SET NAMES 'utf8' COLLATE 'utf8_general_ci',transaction_read_only = 1"))
       (some { charset := "utf8", collation := "utf8_general_ci", vars := [("transaction_read_only", "1")] }),
     .set (.ok ()),
     .run (.ok (some "SET NAMES 'utf8' COLLATE 'utf8_general_ci',transaction_read_only = 0"))
       (some { charset := "utf8", collation := "utf8_general_ci", vars := [("transaction_read_only", "0")] }),
     .run (.ok (some "SET NAMES 'utf8' COLLATE 'utf8_general_ci',transaction_read_only = 1"))
       (some { charset := "utf8", collation := "utf8_general_ci", vars := [("transaction_read_only", "1")] })] := by decide +kernel

/-- One client holding both spellings (a proxy that advertises 5.x keeps them
    apart) on an 8.0.30 backend: one assignment is sent, with the value recorded
    as `transaction_read_only`, in whichever order the two were set. -/
def exOpsBoth (first second : Assign) : List Op := [.set 0 [first], .set 0 [second], .run 0 0 .none]

example :
    (runOps exCfg (fun _ => exSlot803) exSys803
        (exOpsBoth { name := "tx_read_only", value := .int 1 } { name := "transaction_read_only", value := .int 0 })).2[2]? =
      some (.run (.ok (some "SET NAMES 'utf8' COLLATE 'utf8_general_ci',transaction_read_only = 0"))
        (some { charset := "utf8", collation := "utf8_general_ci", vars := [("transaction_read_only", "0")] })) ∧
    (runOps exCfg (fun _ => exSlot803) exSys803
        (exOpsBoth { name := "transaction_read_only", value := .int 0 } { name := "tx_read_only", value := .int 1 })).2[2]? =
      some (.run (.ok (some "SET NAMES 'utf8' COLLATE 'utf8_general_ci',transaction_read_only = 0"))
        (some { charset := "utf8", collation := "utf8_general_ci", vars := [("transaction_read_only", "0")] })) := by
  decide +kernel

/-! ### values that are expressions -/

/-- An expression that does not read the session: the proxy records its text,
    the backend evaluates it, and the statement runs with its value — for a user
    variable, for `sql_mode` (with a global variable) and for a string variable
    the namespace allows. -/
def exOpsExpr : List Op :=
  [.set 0 [{ name := "x", isSystem := false, value := .expr (.cat (.str "a") (.str "B")) },
           { name := "sql_mode", value := .expr (.cat (.gvar "sql_mode") (.str ",ANSI")) },
           { name := "foo_str", value := .expr (.cat (.str "A") (.int 7)) }],
   .run 0 0 .none]

theorem constant_expression_example :
    (runOps exCfg exFresh exSys exOpsExpr).1.clients.map (·.vars.variables) =
      [[("@x", .user "CONCAT('a', 'B')"), ("sql_mode", .str "CONCAT(@@GLOBAL.sql_mode, ',ANSI')"),
        ("foo_str", .user "CONCAT('A', 7)")], []] ∧
    (runOps exCfg exFresh exSys exOpsExpr).2[1]? =
      some (.run (.ok (some ("SET NAMES 'utf8' COLLATE 'utf8_general_ci',@x = CONCAT('a', 'B')," ++
          "sql_mode = CONCAT(@@GLOBAL.sql_mode, ',ANSI'),foo_str = CONCAT('A', 7)")))
        (some (exBackend "utf8" "utf8_general_ci"
          [("@x", "'aB'"), ("sql_mode", "'STRICT_TRANS_TABLES,ANSI'"), ("foo_str", "'A7'")]))) ∧
    SessionFreeVars false
      [("@x", .user "CONCAT('a', 'B')"), ("sql_mode", .str "CONCAT(@@GLOBAL.sql_mode, ',ANSI')"),
        ("foo_str", .user "CONCAT('A', 7)")] := by
  -- the first two parts run the same history: one evaluation
  rw [← and_assoc]
  exact ⟨by decide +kernel, sessionFreeVars_of_all _ _ (by decide +kernel)⟩

/-- What the proxy does with an expression where it needs a number, a switch, a
    time zone or a charset name: it refuses the SET statement (nothing is
    recorded, the client is told). -/
def exCfgVerify : Cfg :=
  { exCfg with verifyMap := [("sql_select_limit", .integer), ("time_zone", .timeZone), ("character_set_results", .string)] }

example :
    (handleSet exCfgVerify { charset := "utf8", collation := 33 }
      [{ name := "sql_select_limit", value := .expr (.gvar "sql_select_limit") }]).2 = .err "parse-int" ∧
    (handleSet exCfgVerify { charset := "utf8", collation := 33 }
      [{ name := "time_zone", value := .expr (.gvar "time_zone") }]).2 = .err "tz-format" ∧
    (handleSet exCfgVerify { charset := "utf8", collation := 33 }
      [{ name := "tx_read_only", value := .expr (.add (.int 1) (.int 0)) }]).2 = .err "wrong-value" ∧
    (handleSet exCfgVerify { charset := "utf8", collation := 33 }
      [{ name := "character_set_results", value := .expr (.cat (.str "utf") (.int 8)) }]).2 = .err "type" := by
  decide +kernel

/-- **The listed finding `set-expression-reads-session-state`.**  Client 1
    sets `@p` and runs a statement; client 0, which never set `@p`, sets
    `@x = @p` — in a session of its own that is `NULL` — and its statement runs
    on the connection client 1 used: the SET statement assigns `@x` before it
    resets `@p`, and client 0's statement executes with client 1's value in
    `@x`.  The second part: `@n = @n+1` after `@n = 1` is 2 in a session of the
    client's own; on the pooled connection the expression is evaluated again
    whenever the SET statement is sent again — after another client has used
    the connection (and `@n` was reset) it yields `NULL`. -/
def exOpsLeak : List Op :=
  [.set 1 [{ name := "p", isSystem := false, value := .str "secret" }], .run 1 0 .none,
   .set 0 [{ name := "x", isSystem := false, value := .expr (.uvar "p") }], .run 0 0 .none]

def exOpsDrift : List Op :=
  [.set 0 [{ name := "n", isSystem := false, value := .int 1 }], .run 0 0 .none,
   .set 0 [{ name := "n", isSystem := false, value := .expr (.add (.uvar "n") (.int 1)) }], .run 0 0 .none,
   .run 1 0 .none, .run 0 0 .none]

theorem session_expression_leak_witness :
    (runOps exCfg exFresh exSys exOpsLeak).2[3]? =
      some (.run (.ok (some "SET NAMES 'utf8' COLLATE 'utf8_general_ci',@x = @p,@p = NULL"))
        (some (exBackend "utf8" "utf8_general_ci" [("@x", "'secret'")]))) ∧
    -- in a session of client 0 alone `@p` is not set: `@x = @p` leaves `@x` unset
    assigned [] "@x" "@p" = none ∧
    (runOps exCfg exFresh exSys exOpsDrift).2[3]? =
      some (.run (.ok (some "SET NAMES 'utf8' COLLATE 'utf8_general_ci',@n = @n+1"))
        (some (exBackend "utf8" "utf8_general_ci" [("@n", "2")]))) ∧
    (runOps exCfg exFresh exSys exOpsDrift).2[5]? =
      some (.run (.ok (some "SET NAMES 'utf8' COLLATE 'utf8_general_ci',@n = @n+1"))
        (some (exBackend "utf8" "utf8_general_ci" []))) := by
  decide +kernel

/-! ### the repaired defects: the code as it was, for the record

`WriteSetStatement`, `InitializeSessionVariables` and `SessionVariables.Reset`
as they were before the `fix:` commits (no fall-back to the acknowledged
settings, resets written under the recorded name, resets written even for names
the statement assigns, both spellings of `transaction_read_only` written in map
order, `Reset` instead of `RestoreAcknowledged`), and what the string case of
`handleSetVariable` recorded for an expression (its lower-cased text).  The
witnesses show that the property was false of that code, i.e. that each repair
is needed; the inputs are kept in corpus/C20/regress.case. -/

namespace Pinned

/-- `which`: 0 = pinned tree, 1 = after b5c4ceb, 2 = after 5432cf0, 3 = after
    fa4df86 (the current `writeSetStatement` also sends one assignment only for
    the two spellings of `transaction_read_only`). -/
def writeSetStatement (which : Nat) (t : Tables) (c : Conn) (b : Backend) (f : Fault) : Conn × Backend × WriteRes :=
  match t.collationName c.collation with
  | none => (if which ≥ 1 then restoreAckedSession c else c, b, .invalidCollation)
  | some collName =>
    let unused := c.sv.unused
    let c' := { c with sv := { c.sv with unused := [] } }
    let resetKey := fun (k : String) => if which ≥ 2 then wireKey c.v803 k else k
    let assignedKeys := (wireMap c.v803 c.sv.variables).map (·.1)
    let resets := if which ≥ 3 then unused.filter (fun p => !(assignedKeys.contains (resetKey p.1))) else unused
    let items := Item.names c.charset collName
      :: ((wireMap c.v803 c.sv.variables).map (fun p => Item.assign p.1 p.2)
          ++ resets.map (fun p => Item.assign (resetKey p.1) (defaultText (resetKey p.1))))
    match f with
    | .none =>
      ({ c' with ackedCharset := c'.charset, ackedCollation := c'.collation, ackedVariables := c'.sv },
        b.apply items, .ok "")
    | _ => (if which ≥ 1 then restoreAckedSession c' else c', b, .rejected "" false)

def initializeSessionVariables (which : Nat) (t : Tables) (s : Slot) (cl : Client) (f : Fault) : Slot × InitRes :=
  match setCharset t s.conn cl.charset cl.collation with
  | (_, none) => (s, .errCharset)
  | (c1, some charsetChanged) =>
    let r := setSessionVariables c1 cl.vars
    if charsetChanged || r.2 then
      match writeSetStatement which t r.1 s.be f with
      | (c3, b3, .ok _) => ({ conn := c3, be := b3 }, .ok (some ""))
      | (c3, b3, _) => ({ conn := c3, be := b3 }, .errSet none)
    else ({ conn := r.1, be := s.be }, .ok none)

def limit5 : Client := { charset := "utf8", collation := 33, vars := { variables := [("sql_select_limit", .int 5)] } }
def plain : Client := { charset := "utf8", collation := 33 }
def txA : Client := { charset := "utf8", collation := 33, vars := { variables := [("tx_read_only", .int 1)] } }
def trxB : Client := { charset := "utf8", collation := 33, vars := { variables := [("transaction_read_only", .int 0)] } }

/-- Pinned tree: the backend rejects the SET statement of a client that wants
    `sql_select_limit = 5`; the client's next statement on that connection is
    prepared without any SET statement and executes on a backend that does not
    have the variable. -/
theorem stale_belief_witness :
    let s1 := (initializeSessionVariables 0 exTables exSlot limit5 .rejOther).1
    (initializeSessionVariables 0 exTables s1 limit5 .none).2 = .ok none ∧
    (initializeSessionVariables 0 exTables s1 limit5 .none).1.be.vars = [] ∧
    expectedVar false [] limit5.vars.variables "sql_select_limit" = some "5" := by decide +kernel

/-- After the first repair only: on an 8.0.30 backend client A's
    `tx_read_only = 1` (sent as `transaction_read_only`) is "reset" as
    `tx_read_only = DEFAULT`, so the next client, which set nothing, executes with
    `transaction_read_only = 1`. -/
theorem rename_leak_witness :
    let s1 := (initializeSessionVariables 1 exTables exSlot803 txA .none).1
    (initializeSessionVariables 1 exTables s1 plain .none).2 = .ok (some "") ∧
    (initializeSessionVariables 1 exTables s1 plain .none).1.be.vars = [("transaction_read_only", "1")] := by decide +kernel

/-- After the first two repairs only: client B's `transaction_read_only = 0`
    is assigned and then wiped by the reset of client A's `tx_read_only` in the
    same statement. -/
theorem alias_wipe_witness :
    let s1 := (initializeSessionVariables 2 exTables exSlot803 txA .none).1
    (initializeSessionVariables 2 exTables s1 trxB .none).2 = .ok (some "") ∧
    (initializeSessionVariables 2 exTables s1 trxB .none).1.be.vars = [] ∧
    expectedVar true [] trxB.vars.variables "transaction_read_only" = some "0" := by decide +kernel

/-- After the first three repairs only: a client that holds both spellings (the
    lists stand for the two orders in which the Go map can be walked) ends up
    with `transaction_read_only = 0` or `= 1` on an 8.0.30 backend depending on
    that order; the current code sends the value recorded under the backend's
    own name in both. -/
def bothAB : Client :=
  { charset := "utf8", collation := 33, vars := { variables := [("tx_read_only", .int 1), ("transaction_read_only", .int 0)] } }
def bothBA : Client :=
  { charset := "utf8", collation := 33, vars := { variables := [("transaction_read_only", .int 0), ("tx_read_only", .int 1)] } }

theorem alias_order_witness :
    (∀ k, AMap.get bothAB.vars.variables k = AMap.get bothBA.vars.variables k) ∧
    (initializeSessionVariables 3 exTables exSlot803 bothAB .none).1.be.vars = [("transaction_read_only", "0")] ∧
    (initializeSessionVariables 3 exTables exSlot803 bothBA .none).1.be.vars = [("transaction_read_only", "1")] ∧
    (SessVars.initializeSessionVariables exTables exSlot803 bothAB .none).1.be.vars = [("transaction_read_only", "0")] ∧
    (SessVars.initializeSessionVariables exTables exSlot803 bothBA .none).1.be.vars = [("transaction_read_only", "0")] := by
  refine ⟨?_, by decide +kernel⟩
  intro k
  simp only [bothAB, bothBA, get_cons, get_nil]
  by_cases h1 : "tx_read_only" = k <;> by_cases h2 : "transaction_read_only" = k <;> simp [h1, h2]
  subst h1
  exact absurd h2 (by decide)

/-- The current code on the same three inputs. -/
example :
    ((SessVars.initializeSessionVariables exTables
        (SessVars.initializeSessionVariables exTables exSlot limit5 .rejOther).1 limit5 .none).1.be.vars
      = [("sql_select_limit", "5")]) ∧
    ((SessVars.initializeSessionVariables exTables
        (SessVars.initializeSessionVariables exTables exSlot803 txA .none).1 plain .none).1.be.vars = []) ∧
    ((SessVars.initializeSessionVariables exTables
        (SessVars.initializeSessionVariables exTables exSlot803 txA .none).1 trxB .none).1.be.vars
      = [("transaction_read_only", "0")]) := by decide +kernel

/-- `Reset(err)` as it was: forget every variable without a verify function,
    and `sql_mode` when the error is "wrong value for variable 'sql_mode'". -/
def reset (vm : VerifyMap) (s : SessionVariables) (sqlModeErr : Bool) : SessionVariables :=
  let s1 := { s with variables := s.variables.filter (fun p => AMap.has vm p.1) }
  if sqlModeErr && AMap.has s1.variables "sql_mode" && AMap.has vm "sql_mode" then
    { s1 with variables := AMap.del s1.variables (formatVariableName "sql_mode") }
  else s1

/-- The finding `failed-set-forgets-variables`: the record
    of the client of `failed_set_example` just before the rejected statement —
    `@x` had been acknowledged by a backend, `sql_mode` had not —; `Reset`
    after error 1231 forgot both, `RestoreAcknowledged` gives up `sql_mode` only. -/
theorem reset_forgets_witness :
    let sv := (runOps exCfg exFresh exSys (exOpsRestore.take 3)).1.clients.map (·.vars)
    sv.map (·.variables) = [[("@x", .user "'abc'"), ("sql_mode", .str "'ANSI'")], []] ∧
    sv.map (fun s => (reset exCfg.verifyMap s true).variables) = [[], []] ∧
    sv.map (fun s => s.restoreAcknowledged.variables) = [[("@x", .user "'abc'")], []] := by
  decide +kernel

theorem get_reset (vm : VerifyMap) (s : SessionVariables) (e : Bool) :
    ∃ c : Bool, ∀ k, AMap.get (reset vm s e).variables k =
      if c = true ∧ k = "sql_mode" then none else if AMap.has vm k then AMap.get s.variables k else none := by
  have hfmt : formatVariableName "sql_mode" = "sql_mode" := by decide +kernel
  unfold reset
  dsimp only
  split
  · refine ⟨true, fun k => ?_⟩
    rw [get_del, hfmt, get_filter_key s.variables (AMap.has vm)]
    simp
  · refine ⟨false, fun k => ?_⟩
    rw [get_filter_key s.variables (AMap.has vm)]
    simp

/-- How far that defect reached: `Reset` never added or changed a variable, and
    a variable that has a verify function (other than `sql_mode` after error
    1231) survived it. -/
theorem reset_only_forgets (vm : VerifyMap) (s : SessionVariables) (e : Bool) (k : String) (v : Val)
    (h : AMap.get (reset vm s e).variables k = some v) : AMap.get s.variables k = some v := by
  obtain ⟨c, hc⟩ := get_reset vm s e
  rw [hc] at h
  split at h
  · cases h
  · split at h
    · exact h
    · cases h

theorem reset_keeps_verified (vm : VerifyMap) (s : SessionVariables) (e : Bool) (k : String)
    (hk : AMap.has vm k = true) (hne : k ≠ "sql_mode") :
    AMap.get (reset vm s e).variables k = AMap.get s.variables k := by
  obtain ⟨c, hc⟩ := get_reset vm s e
  rw [hc, if_neg (fun h => hne h.2), if_pos hk]

/-- Before the repair of the string variables: `SET foo_str = CONCAT('A', 7)`
    was recorded as the string `concat(a, 7)` (`getVariableExprResult`); the
    backend was sent `foo_str = 'concat(a, 7)'` and stored that text, not the
    value `'A7'` the current code makes it compute (`constant_expression_example`). -/
theorem string_expression_text_witness :
    varResult (.expr (.cat (.str "A") (.int 7))) = "concat(a, 7)" ∧
    (SessVars.initializeSessionVariables exTables exSlot
      { charset := "utf8", collation := 33, vars := { variables := [("foo_str", .str "concat(a, 7)")] } } .none).1.be.vars
      = [("foo_str", "'concat(a, 7)'")] ∧
    assigned [] "foo_str" "CONCAT('A', 7)" = some "'A7'" := by decide +kernel

end Pinned

end GaeaVerif.C20
