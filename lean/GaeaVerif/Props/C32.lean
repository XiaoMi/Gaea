import GaeaVerif.Model.MgrTwoPhase
import GaeaVerif.Lemmas.MgrReload
import GaeaVerif.Props.C31
import GaeaVerif.Gen.Consts
/-
  C32 — A namespace change is applied on all proxies or on none.

  Theorems about `Model/MgrTwoPhase.lean` (cc's `ModifyNamespace` /
  `DelNamespace` against any number of proxies running the reload manager of
  C31, every request with a scripted fate: delivered, not delivered, delivered
  with the answer lost = timeout).  The tie to /repo/cc/service, /repo/cc/proxy
  and the proxies' admin API is the correspondence `gvh run C32`.

  Rendering of the English property.  "Reports success ⇒ every registered
  proxy runs the new configuration" is proved in full, for every number of
  proxies and every placement of faults (`modify_success_on_every_proxy`,
  `del_success_on_every_proxy`).  "Reports failure ⇒ the stored configuration
  and every proxy's running configuration are the previous one" is false of
  the code by design — a commit or a delete performed on a proxy cannot be
  undone — so it is proved under the hypothesis that excludes exactly the
  failing placements (the stored configuration alone is restored on every
  failure: `del_failure_store_restored`, after the repair of `DelNamespace`):

    full statement (NOT provable, see the witnesses):
      ∀ w n v kind fs, WF w → (ModifyNamespace w n v kind fs).2 ≠ .ok →
        store unchanged ∧ every proxy's view unchanged

    `twophase_all_or_none_partial`: the same under `CommitsAllOk fs ∨
      CommitsAllFail fs k` — no commit request fails or times out once any
      commit request has been performed (every commit is delivered and
      answered, or none is delivered).  All prepare-phase faults (refused,
      lost, retried, unbuildable configuration) are covered.
    `del_all_or_none_partial`: the same for `DelNamespace` when every delete
      request is delivered and answered or the first one is not delivered.

  Concurrent changes: `pair_success_on_every_proxy` proves the success
  direction for two concurrent changes of different namespaces under every
  request order; the failure direction fails without any fault
  (`concurrent_split_witness`).

  Witnesses of the negation (`decide`): `twophase_split_witness`,
  `twophase_lost_commit_witness`, `del_failure_witness`,
  `concurrent_split_witness`; `prepare_leftover_witness` shows the pending
  prepare a failed change leaves behind.
-/
namespace GaeaVerif.C32
open GaeaVerif GaeaVerif.MgrReload GaeaVerif.MgrTwoPhase GaeaVerif.C31

/-- The retry counts the model uses are those of the source
    (cc/service/service.go, extracted on every run). -/
theorem retry_consts :
    Gen.ccPrepareRetryTimes = prepareRetryTimes ∧ Gen.ccCommitRetryTimes = commitRetryTimes := by decide

/-- The proxy's manager satisfies C31's invariant, as every state reachable by whole operations does. -/
def Good (m : Manager) : Prop := ∃ s, Rel m s

def WF (w : World) : Prop := ∀ m ∈ w.proxies, Good m

/-- `m'` serves sessions exactly what `m` serves. -/
def sameView (m m' : Manager) : Prop :=
  ∀ k, GetNamespace m' k = GetNamespace m k ∧ GetNamespaceByUser m' k = GetNamespaceByUser m k

/-- The proxy runs configuration `c` of namespace `n` (`none` = does not have it). -/
def Runs (m : Manager) (n : Name) (c : Option Ver) : Prop :=
  GetNamespace m n = some c ∧ GetNamespaceByUser m n = some c

/-- Every commit request is delivered and answered. -/
def CommitsAllOk (fs : List PF) : Prop := ∀ f ∈ fs, f.c = .ok

/-- No commit request is delivered (to any of the `k` proxies). -/
def CommitsAllFail (fs : List PF) (k : Nat) : Prop := k ≤ fs.length ∧ ∀ f ∈ fs, f.c = .fail

inductive Forall2 {α β : Type} (R : α → β → Prop) : List α → List β → Prop where
  | nil : Forall2 R [] []
  | cons {a : α} {b : β} {as : List α} {bs : List β} : R a b → Forall2 R as bs → Forall2 R (a :: as) (b :: bs)

theorem Forall2.length_eq {α β : Type} {R : α → β → Prop} {as : List α} {bs : List β}
    (h : Forall2 R as bs) : as.length = bs.length := by
  induction h with
  | nil => rfl
  | cons _ _ ih => simp [ih]

theorem Forall2.refl {α : Type} {R : α → α → Prop} (h : ∀ a, R a a) : ∀ l, Forall2 R l l
  | [] => .nil
  | a :: l => .cons (h a) (Forall2.refl h l)

@[simp] theorem rpc_fail (m : Manager) (op : Manager → Manager × Out) : rpc .fail m op = (m, true) := rfl
@[simp] theorem rpc_lost (m : Manager) (op : Manager → Manager × Out) : rpc .lost m op = ((op m).1, true) := rfl
@[simp] theorem rpc_ok (m : Manager) (op : Manager → Manager × Out) :
    rpc .ok m op = ((op m).1, (op m).2 != .ok) := rfl

theorem rpc_ok_snd {m : Manager} {op : Manager → Manager × Out} (h : (rpc .ok m op).2 = false) :
    (op m).2 = .ok := by
  simpa using h

theorem sameView_refl (m : Manager) : sameView m m := fun _ => ⟨rfl, rfl⟩

theorem sameView_trans {a b c : Manager} (h1 : sameView a b) (h2 : sameView b c) : sameView a c :=
  fun k => ⟨(h2 k).1.trans (h1 k).1, (h2 k).2.trans (h1 k).2⟩

/-! ### one request on one proxy -/

theorem runs_of_sameView {m m' : Manager} (h : sameView m m') {n : Name} {c : Option Ver} (hr : Runs m n c) :
    Runs m' n c := ⟨(h n).1.trans hr.1, (h n).2.trans hr.2⟩

theorem proxyPrepare_spec {m : Manager} (hg : Good m) (store : Table) (n : Name) (b : Bool) :
    Good (proxyPrepare store n b m).1 ∧ sameView m (proxyPrepare store n b m).1 ∧
    (∀ k v, k ≠ n → LastPrep m k v → LastPrep (proxyPrepare store n b m).1 k v) ∧
    ∀ v, (proxyPrepare store n b m).2 = .ok → store n = some v → Ready (proxyPrepare store n b m).1 n v := by
  unfold proxyPrepare
  cases hs : store n with
  | none => exact ⟨hg, sameView_refl m, fun _ _ _ h => h, nofun⟩
  | some w =>
    obtain ⟨s, h⟩ := hg
    dsimp only
    refine ⟨⟨_, (prepare_refines h n w b).1⟩, prepare_keeps_view h n w b, ?_, ?_⟩
    · intro k v hk ⟨s', h', hs'⟩
      refine ⟨_, (prepare_refines h' n w b).1, ?_⟩
      cases (ReloadNamespacePrepare m n w b).2 <;> simp [Spec.step, set_other _ _ hk, hs']
    · intro v hok hv
      cases hv
      cases b with
      | false => rw [(prepare_refines h n w false).2] at hok; cases hok
      | true => exact prepare_ready h n w

theorem commit_spec {m : Manager} (hg : Good m) (n : Name) :
    Good (ReloadNamespaceCommit m n).1 ∧
    (∀ k v, LastPrep m k v → LastPrep (ReloadNamespaceCommit m n).1 k v) ∧
    (∀ k c, k ≠ n → Runs m k c → Runs (ReloadNamespaceCommit m n).1 k c) ∧
    ∀ v, (ReloadNamespaceCommit m n).2 = .ok → LastPrep m n v → Runs (ReloadNamespaceCommit m n).1 n (some v) := by
  obtain ⟨s0, h0⟩ := hg
  refine ⟨⟨_, (commit_refines h0 n).1⟩, ?_, ?_, ?_⟩
  · intro k v ⟨s, h, hs⟩
    refine ⟨_, (commit_refines h n).1, ?_⟩
    cases (ReloadNamespaceCommit m n).2 <;> simp [Spec.step, hs]
    cases s.prepared n <;> simp [hs]
  · intro k c hk hr
    have := step_keeps_view h0 (.commit n) k (fun e => hk (Op.commit.inj e.1).symm) (fun e => Op.noConfusion e.1)
    exact ⟨this.1.trans hr.1, this.2.trans hr.2⟩
  · intro v hok ⟨s, h, hs⟩
    obtain ⟨v', hv', h1, h2, _⟩ := commit_activates_last_prepared h n hok
    cases hs.symm.trans hv'
    exact ⟨h1, h2⟩

theorem rpc_prepare_spec {m : Manager} (hg : Good m) (f : Fault) (store : Table) (n : Name) (b : Bool)
    {r : Manager × Bool} (e : rpc f m (proxyPrepare store n b) = r) :
    Good r.1 ∧ sameView m r.1 ∧ ∀ v, r.2 = false → store n = some v → Ready r.1 n v := by
  obtain ⟨hg', hv, -, hr⟩ := proxyPrepare_spec hg store n b
  subst e
  cases f with
  | fail => exact ⟨hg, sameView_refl m, nofun⟩
  | lost => exact ⟨hg', hv, nofun⟩
  | ok => exact ⟨hg', hv, fun v he => hr v (rpc_ok_snd he)⟩

theorem prepareRetry_spec (store : Table) (n : Name) (b : Bool) (fuel : Nat) (fs : List Fault) (m : Manager)
    (hg : Good m) :
    Good (prepareRetry store n b fuel fs m).1 ∧ sameView m (prepareRetry store n b fuel fs m).1 ∧
    ∀ v, 0 < fuel → (prepareRetry store n b fuel fs m).2 = false → store n = some v →
      Ready (prepareRetry store n b fuel fs m).1 n v := by
  fun_induction prepareRetry store n b fuel fs m with
  | case1 => exact ⟨hg, sameView_refl _, fun _ h => absurd h (Nat.lt_irrefl 0)⟩
  | case2 fuel fs m r hr =>
    have h1 := rpc_prepare_spec hg (fs.headD .ok) store n b rfl
    exact ⟨h1.1, h1.2.1, fun v _ _ => h1.2.2 v (by simp at hr; exact hr)⟩
  | case3 fs m r hr =>
    have h1 := rpc_prepare_spec hg (fs.headD .ok) store n b rfl
    exact ⟨h1.1, h1.2.1, fun v _ h => nomatch h⟩
  | case4 fuel fs m r hr hf ih =>
    have h1 := rpc_prepare_spec hg (fs.headD .ok) store n b rfl
    have h2 := ih h1.1
    exact ⟨h2.1, sameView_trans h1.2.1 h2.2.1, fun v _ => h2.2.2 v (Nat.pos_of_ne_zero hf)⟩

/-- With `COMMIT_RETRY_TIMES` = 1 the commit loop is one request. -/
theorem commitRetry_one (n : Name) (f : Fault) (m : Manager) :
    commitRetry n commitRetryTimes f m = rpc f m (fun m => ReloadNamespaceCommit m n) := by
  simp only [commitRetry, commitRetryTimes]
  rcases rpc f m fun m => ReloadNamespaceCommit m n with ⟨m', _ | _⟩ <;> rfl

theorem commitRetry_spec {m : Manager} (hg : Good m) (n : Name) (f : Fault) :
    Good (commitRetry n commitRetryTimes f m).1 ∧
    (f = .fail → commitRetry n commitRetryTimes f m = (m, true)) ∧
    (∀ v, Ready m n v → ((commitRetry n commitRetryTimes f m).2 = false ↔ f = .ok) ∧
      (f ≠ .fail → Runs (commitRetry n commitRetryTimes f m).1 n (some v))) := by
  have hg' := (commit_spec hg n).1
  have hok (v) (hr : Ready m n v) := hr.commit.1
  have hrun (v) (hr : Ready m n v) : Runs (ReloadNamespaceCommit m n).1 n (some v) := hr.commit.2
  rw [commitRetry_one]
  cases f with
  | fail => exact ⟨hg, fun _ => rfl, fun v _ => ⟨by simp, fun h => absurd rfl h⟩⟩
  | lost => exact ⟨hg', nofun, fun v hr => ⟨by simp, fun _ => hrun v hr⟩⟩
  | ok => exact ⟨hg', nofun, fun v hr => ⟨by simp [hok v hr], fun _ => hrun v hr⟩⟩

/-! ### the phases over all proxies -/

theorem forall_headD_tail {α : Type} {P : α → Prop} {l : List α} {d : α} (hd : P d) (h : ∀ a ∈ l, P a) :
    P (l.headD d) ∧ ∀ a ∈ l.tail, P a := by
  cases l with
  | nil => exact ⟨hd, List.forall_mem_nil _⟩
  | cons a l => exact List.forall_mem_cons.mp h

theorem prepareAll_spec (store : Table) (n : Name) (b : Bool) (ms : List Manager) (fs : List PF)
    (hg : ∀ m ∈ ms, Good m) :
    (∀ m' ∈ (prepareAll store n b ms fs).map (·.1), Good m') ∧
    Forall2 sameView ms ((prepareAll store n b ms fs).map (·.1)) ∧
    ∀ v, store n = some v → (prepareAll store n b ms fs).any (·.2) = false →
      ∀ m' ∈ (prepareAll store n b ms fs).map (·.1), Ready m' n v := by
  induction ms generalizing fs with
  | nil => exact ⟨List.forall_mem_nil _, .nil, fun _ _ _ => List.forall_mem_nil _⟩
  | cons m ms ih =>
    obtain ⟨hm, hms⟩ := List.forall_mem_cons.mp hg
    have h1 := prepareRetry_spec store n b prepareRetryTimes (fs.headD PF.none).p m hm
    have h2 := ih fs.tail hms
    simp only [prepareAll, List.map_cons, List.any_cons, List.forall_mem_cons, Bool.or_eq_false_iff]
    exact ⟨⟨h1.1, h2.1⟩, .cons h1.2.1 h2.2.1, fun v hv ha => ⟨h1.2.2 v (by decide) ha.1 hv, h2.2.2 v hv ha.2⟩⟩

theorem commitAll_spec (n : Name) (v : Ver) (ms : List Manager) (fs : List PF) (hr : ∀ m ∈ ms, Ready m n v) :
    (∀ m' ∈ (commitAll n ms fs).map (·.1), Good m') ∧
    ((commitAll n ms fs).any (·.2) = false → ∀ m' ∈ (commitAll n ms fs).map (·.1), Runs m' n (some v)) ∧
    (CommitsAllOk fs → (commitAll n ms fs).any (·.2) = false) ∧
    (CommitsAllFail fs ms.length → (commitAll n ms fs).map (·.1) = ms) := by
  induction ms generalizing fs with
  | nil => exact ⟨List.forall_mem_nil _, fun _ => List.forall_mem_nil _, fun _ => rfl, fun _ => rfl⟩
  | cons m ms ih =>
    obtain ⟨hm, hms⟩ := List.forall_mem_cons.mp hr
    obtain ⟨h1, h2, h3⟩ := commitRetry_spec hm.lastPrep.good n (fs.headD PF.none).c
    obtain ⟨h3, h4⟩ := h3 v hm
    obtain ⟨i1, i2, i3, i4⟩ := ih fs.tail hms
    simp only [commitAll, List.map_cons, List.any_cons, List.forall_mem_cons, Bool.or_eq_false_iff]
    refine ⟨⟨h1, i1⟩, fun ha => ⟨h4 (by rw [h3.mp ha.1]; nofun), i2 ha.2⟩, fun hok => ?_, fun hf => ?_⟩
    · obtain ⟨a, b⟩ := forall_headD_tail (P := fun f : PF => f.c = .ok) (d := PF.none) rfl hok
      exact ⟨h3.mpr a, i3 b⟩
    · obtain ⟨hlen, hall⟩ := hf
      cases fs with
      | nil => cases hlen
      | cons f fs =>
        obtain ⟨a, b⟩ := List.forall_mem_cons.mp hall
        rw [h2 a, i4 ⟨Nat.le_of_succ_le_succ hlen, b⟩]

theorem rollback_other (st : Table) (n : Name) (e : Option Ver) {k : Name} (hk : k ≠ n) :
    rollbackNamespace st n e k = st k := by
  cases e
  · exact erase_other _ hk
  · exact set_other _ _ hk

theorem rollback_restores (store : Table) (n : Name) (v : Ver) :
    rollbackNamespace (store.set n v) n (store n) = store := by
  funext k
  by_cases hk : k = n
  · subst hk
    cases h : store k <;> simp [rollbackNamespace]
  · rw [rollback_other _ _ _ hk, set_other _ _ hk]

/-- `ModifyNamespace` seen from outside: the store is written only on success. -/
theorem modifyNamespace_eq (w : World) (n : Name) (v : Ver) (kind : Kind) (fs : List PF) :
    ModifyNamespace w n v kind fs =
      let prep := prepareAll (w.store.set n v) n (kind != .unbuildable) w.proxies fs
      let com := commitAll n (prep.map (·.1)) fs
      if kind = .invalid then (w, .errVerify)
      else if prep.any (·.2) then ({ store := w.store, proxies := prep.map (·.1) }, .errPrepare)
      else if com.any (·.2) then ({ store := w.store, proxies := com.map (·.1) }, .errCommit)
      else ({ store := w.store.set n v, proxies := com.map (·.1) }, .ok) := by
  simp only [ModifyNamespace, rollback_restores]

theorem modify_spec (w : World) (hw : WF w) (n : Name) (v : Ver) (kind : Kind) (fs : List PF)
    {r : World × Res} (hr : ModifyNamespace w n v kind fs = r) :
    WF r.1 ∧
    (r.2 = .ok → r.1.store = w.store.set n v ∧ ∀ m' ∈ r.1.proxies, Runs m' n (some v)) ∧
    (r.2 ≠ .ok → r.1.store = w.store ∧
      (CommitsAllOk fs ∨ CommitsAllFail fs w.proxies.length → Forall2 sameView w.proxies r.1.proxies)) := by
  have hp := prepareAll_spec (w.store.set n v) n (kind != .unbuildable) w.proxies fs hw
  rw [modifyNamespace_eq] at hr
  dsimp only at hr
  generalize prepareAll (w.store.set n v) n (kind != .unbuildable) w.proxies fs = prep at hp hr
  obtain ⟨pgood, pview, pready⟩ := hp
  have hc := commitAll_spec n v (prep.map (·.1)) fs
  generalize commitAll n (prep.map (·.1)) fs = com at hc hr
  by_cases hk : kind = .invalid
  · rw [if_pos hk] at hr; subst hr
    exact ⟨hw, nofun, fun _ => ⟨rfl, fun _ => Forall2.refl sameView_refl _⟩⟩
  rw [if_neg hk] at hr
  cases hprep : prep.any (·.2)
  · obtain ⟨cgood, cruns, cok, cfail⟩ := hc (pready v (set_same ..) hprep)
    rw [hprep, if_neg Bool.false_ne_true] at hr
    cases hcom : com.any (·.2)
    · rw [hcom, if_neg Bool.false_ne_true] at hr; subst hr
      exact ⟨cgood, fun _ => ⟨rfl, cruns hcom⟩, fun h => absurd rfl h⟩
    · rw [hcom, if_pos rfl] at hr; subst hr
      refine ⟨cgood, nofun, fun _ => ⟨rfl, fun H => ?_⟩⟩
      rcases H with H | H
      · rw [cok H] at hcom; cases hcom
      · rw [cfail (Forall2.length_eq pview ▸ H)]; exact pview
  · rw [hprep, if_pos rfl] at hr; subst hr
    exact ⟨pgood, nofun, fun _ => ⟨rfl, fun _ => pview⟩⟩

/-- The proxies keep C31's invariant, whatever the faults. -/
theorem modify_preserves_wf (w : World) (hw : WF w) (n : Name) (v : Ver) (kind : Kind) (fs : List PF) :
    WF (ModifyNamespace w n v kind fs).1 :=
  (modify_spec w hw n v kind fs rfl).1

/-- **Success ⇒ applied everywhere** (full strength: any number of proxies,
    any placement of faults).  If `ModifyNamespace` reports success, the store
    holds the new configuration and every registered proxy runs it. -/
theorem modify_success_on_every_proxy (w : World) (hw : WF w) (n : Name) (v : Ver) (kind : Kind) (fs : List PF)
    (hok : (ModifyNamespace w n v kind fs).2 = .ok) :
    (ModifyNamespace w n v kind fs).1.store n = some v ∧
    (∀ k, k ≠ n → (ModifyNamespace w n v kind fs).1.store k = w.store k) ∧
    ∀ m' ∈ (ModifyNamespace w n v kind fs).1.proxies, Runs m' n (some v) := by
  obtain ⟨hs, hr⟩ := (modify_spec w hw n v kind fs rfl).2.1 hok
  rw [hs]
  exact ⟨set_same .., fun k hk => set_other _ _ hk, hr⟩

example : (ModifyNamespace { store := Table.ofList [(0, 1)], proxies := [CreateManager [(0, 1)], CreateManager [(0, 1)]] }
    0 2 .good [{ p := [.fail, .lost], c := .ok }]).2 = .ok := by decide

/-- **C32, partial.**  Under `CommitsAllOk fs ∨ CommitsAllFail fs k` (no commit
    request fails or is lost once any commit request has been performed):
    success ⇒ the store and every proxy hold the new configuration;
    failure ⇒ the store is the previous one and every proxy serves exactly what
    it served before — for every number of proxies and every placement of
    prepare-phase faults, retries included. -/
theorem twophase_all_or_none_partial (w : World) (hw : WF w) (n : Name) (v : Ver) (kind : Kind) (fs : List PF)
    (H : CommitsAllOk fs ∨ CommitsAllFail fs w.proxies.length) :
    ((ModifyNamespace w n v kind fs).2 = .ok →
        (ModifyNamespace w n v kind fs).1.store n = some v ∧
        ∀ m' ∈ (ModifyNamespace w n v kind fs).1.proxies, Runs m' n (some v)) ∧
    ((ModifyNamespace w n v kind fs).2 ≠ .ok →
        (ModifyNamespace w n v kind fs).1.store = w.store ∧
        Forall2 sameView w.proxies (ModifyNamespace w n v kind fs).1.proxies) :=
  ⟨fun hok => ⟨(modify_success_on_every_proxy w hw n v kind fs hok).1,
      (modify_success_on_every_proxy w hw n v kind fs hok).2.2⟩,
    fun hne => ⟨((modify_spec w hw n v kind fs rfl).2.2 hne).1, ((modify_spec w hw n v kind fs rfl).2.2 hne).2 H⟩⟩

example : CommitsAllFail [{ p := [], c := .fail }, { p := [.lost], c := .fail }] 2 := ⟨by decide, by
  intro f hf; simp at hf; rcases hf with e | e <;> subst e <;> rfl⟩

example : (ModifyNamespace { store := Table.ofList [(0, 1)], proxies := [CreateManager [(0, 1)], CreateManager [(0, 1)]] }
    0 2 .good [{ p := [], c := .fail }, { p := [.lost], c := .fail }]).2 = .errCommit := by decide

theorem rpc_delete_spec {m : Manager} (hg : Good m) (f : Fault) (n : Name) {r : Manager × Bool}
    (e : rpc f m (fun m => DeleteNamespace m n) = r) :
    Good r.1 ∧ (r.2 = false → Runs r.1 n none) ∧ (f = .ok → r.2 = false) := by
  subst e
  obtain ⟨s, h⟩ := hg
  have hd := delete_refines h n
  have hr := delete_removes_only_that h n
  cases f with
  | fail => exact ⟨⟨s, h⟩, nofun, nofun⟩
  | lost => exact ⟨⟨_, hd.1⟩, nofun, nofun⟩
  | ok => exact ⟨⟨_, hd.1⟩, fun _ => ⟨hr.1, hr.2.1⟩, fun _ => by rw [rpc_ok, hd.2]; rfl⟩

theorem delLoop_spec (n : Name) (ms : List Manager) (fs : List Fault) (hg : ∀ m ∈ ms, Good m) :
    (∀ m' ∈ (delLoop n ms fs).1, Good m') ∧
    ((delLoop n ms fs).2 = false → ∀ m' ∈ (delLoop n ms fs).1, Runs m' n none) ∧
    ((∀ f ∈ fs, f = Fault.ok) → (delLoop n ms fs).2 = false) := by
  fun_induction delLoop n ms fs with
  | case1 => exact ⟨List.forall_mem_nil _, fun _ => List.forall_mem_nil _, fun _ => rfl⟩
  | case2 m ms fs r hr =>
    obtain ⟨hm, hms⟩ := List.forall_mem_cons.mp hg
    have h1 := rpc_delete_spec hm (fs.headD .ok) n rfl
    exact ⟨List.forall_mem_cons.mpr ⟨h1.1, hms⟩, nofun, fun hok =>
      nomatch (h1.2.2 (forall_headD_tail (P := (· = Fault.ok)) rfl hok).1).symm.trans hr⟩
  | case3 m ms fs r hr rest ih =>
    obtain ⟨hm, hms⟩ := List.forall_mem_cons.mp hg
    have h1 := rpc_delete_spec hm (fs.headD .ok) n rfl
    obtain ⟨i1, i2, i3⟩ := ih hms
    exact ⟨List.forall_mem_cons.mpr ⟨h1.1, i1⟩,
      fun he => List.forall_mem_cons.mpr ⟨h1.2.1 (Bool.not_eq_true _ ▸ hr), i2 he⟩,
      fun hok => i3 (forall_headD_tail (P := (· = Fault.ok)) rfl hok).2⟩

theorem erase_restore (store : Table) (n : Name) :
    (match store n with
     | some e => (store.erase n).set n e
     | none => store.erase n) = store := by
  funext k
  cases he : store n with
  | none => by_cases hk : k = n <;> simp [Table.erase, hk, he]
  | some e => by_cases hk : k = n <;> simp [Table.erase, Table.set, hk, he]

/-- `DelNamespace` seen from outside: the store is written only on success. -/
theorem delNamespace_eq (w : World) (n : Name) (fs : List Fault) :
    DelNamespace w n fs =
      if (delLoop n w.proxies fs).2 then ({ store := w.store, proxies := (delLoop n w.proxies fs).1 }, .errDelete)
      else ({ store := w.store.erase n, proxies := (delLoop n w.proxies fs).1 }, .ok) := by
  simp only [DelNamespace]
  split
  · -- `rw` does not see `erase_restore`'s `match` in `DelNamespace`'s (another auxiliary matcher)
    exact congrArg (fun st => (World.mk st (delLoop n w.proxies fs).1, Res.errDelete)) (erase_restore w.store n)
  · rfl

theorem del_preserves_wf (w : World) (hw : WF w) (n : Name) (fs : List Fault) :
    WF (DelNamespace w n fs).1 := by
  rw [delNamespace_eq]
  split <;> exact (delLoop_spec n w.proxies fs hw).1

/-- **Success ⇒ deleted everywhere** (full strength). -/
theorem del_success_on_every_proxy (w : World) (hw : WF w) (n : Name) (fs : List Fault)
    (hok : (DelNamespace w n fs).2 = .ok) :
    (DelNamespace w n fs).1.store n = none ∧ ∀ m' ∈ (DelNamespace w n fs).1.proxies, Runs m' n none := by
  rw [delNamespace_eq] at hok ⊢
  split at hok
  · cases hok
  · rename_i h
    rw [if_neg h]
    exact ⟨erase_same .., (delLoop_spec n w.proxies fs hw).2.1 (by simpa using h)⟩

example : (DelNamespace { store := Table.ofList [(0, 1)], proxies := [CreateManager [(0, 1)], CreateManager [(0, 1)]] }
    0 []).2 = .ok := by decide

/-- **Failure ⇒ the stored configuration is the previous one** (full strength,
    after the repair of `DelNamespace`). -/
theorem del_failure_store_restored (w : World) (n : Name) (fs : List Fault)
    (hne : (DelNamespace w n fs).2 ≠ .ok) : (DelNamespace w n fs).1.store = w.store := by
  rw [delNamespace_eq] at hne ⊢
  split
  · rfl
  · rename_i h
    rw [if_neg h] at hne
    exact absurd rfl hne

/-- **C32 for deletions, partial.**  If every delete request is delivered and
    answered, or the very first one is not delivered, then: success ⇒ store and
    every proxy have dropped the namespace; failure ⇒ store and every proxy are
    as before.  (A delete that fails after another proxy's delete was performed
    cannot be undone: `del_failure_witness`.) -/
theorem del_all_or_none_partial (w : World) (hw : WF w) (n : Name) (fs : List Fault)
    (H : (∀ f ∈ fs, f = Fault.ok) ∨ fs.head? = some .fail) :
    ((DelNamespace w n fs).2 = .ok →
        (DelNamespace w n fs).1.store n = none ∧ ∀ m' ∈ (DelNamespace w n fs).1.proxies, Runs m' n none) ∧
    ((DelNamespace w n fs).2 ≠ .ok →
        (DelNamespace w n fs).1.store = w.store ∧ (DelNamespace w n fs).1.proxies = w.proxies) := by
  refine ⟨del_success_on_every_proxy w hw n fs, fun hne => ⟨del_failure_store_restored w n fs hne, ?_⟩⟩
  rw [delNamespace_eq] at hne ⊢
  rcases H with H | H
  · rw [(delLoop_spec n w.proxies fs hw).2.2 H] at hne
    exact absurd rfl hne
  · -- the loop stops at the first proxy, which was not reached
    have : (delLoop n w.proxies fs).1 = w.proxies := by
      cases fs with
      | nil => cases H
      | cons f fs =>
        cases H
        cases w.proxies <;> rfl
    split <;> exact this

example : (DelNamespace { store := Table.ofList [(0, 1)], proxies := [CreateManager [(0, 1)], CreateManager [(0, 1)]] }
    0 [.fail]).2 = .errDelete := by decide

/-- `t` is the prepare (`c = false`) or commit (`c = true`) request of change `x` to proxy `i`. -/
def isTok (x : Bool) (i : Nat) (c : Bool) (t : Tok) : Prop := t.second = x ∧ t.proxy = i ∧ t.commit = c

/-- Every commit request of change `x` comes after that change's prepare
    request to the same proxy (cc sends commits only after all prepares returned). -/
def Ordered (x : Bool) (pre rest : List Tok) : Prop :=
  ∀ pre' t post, rest = pre' ++ t :: post → t.second = x → t.commit = true →
    ∃ t' ∈ pre ++ pre', isTok x t.proxy false t'

/-- An error flag of change `x` that is still down after a request was down
    before it, and if the request was of change `x` it reported no error. -/
theorem sel_upd_or {x y : Bool} {p : Bool × Bool} {e : Bool} (h : sel x (upd y p (sel y p || e)) = false) :
    sel x p = false ∧ (y = x → e = false) := by
  cases x <;> cases y <;> simp_all [sel, upd]

theorem nm_ne {na nb : Name} (hne : na ≠ nb) {x y : Bool} (h : y ≠ x) : nm na nb x ≠ nm na nb y :=
  match x, y with
  | false, false | true, true => absurd rfl h
  | false, true => hne
  | true, false => hne.symm

theorem exists_mem_snoc {P : Tok → Prop} {pre : List Tok} {t : Tok} (h : ∃ t' ∈ pre ++ [t], P t') (hn : ¬ P t) :
    ∃ t' ∈ pre, P t' := by
  obtain ⟨t', hm, ht'⟩ := h
  rcases List.mem_append.mp hm with hm | hm
  · exact ⟨t', hm, ht'⟩
  · cases List.mem_singleton.mp hm
    exact absurd ht' hn

/-- What change `x` (namespace `n`, new version `v`) has reached on proxy `i`,
    in state `m`, once the requests `pre` are served: its version is the
    one last prepared if its prepare is among them, and runs if its commit is. -/
def Served (x : Bool) (n : Name) (v : Ver) (pre : List Tok) (i : Nat) (m : Manager) : Prop :=
  ((∃ t ∈ pre, isTok x i false t) → LastPrep m n v) ∧ ((∃ t ∈ pre, isTok x i true t) → Runs m n (some v))

theorem Served.snoc {x : Bool} {n : Name} {v : Ver} {pre : List Tok} {i : Nat} {m : Manager} {t : Tok}
    (h : Served x n v pre i m) (ht : ∀ c, ¬ isTok x i c t) : Served x n v (pre ++ [t]) i m :=
  ⟨fun hex => h.1 (exists_mem_snoc hex (ht _)), fun hex => h.2 (exists_mem_snoc hex (ht _))⟩

/-- Invariant of the request-by-request execution of a pair of changes, for
    change `x` with namespace `n` and new version `v`, as long as `x` has
    seen no error. -/
structure PInv (x : Bool) (n : Name) (v : Ver) (pre : List Tok) (s : PairState) : Prop where
  good : ∀ m ∈ s.proxies, Good m
  served : sel x s.prepErr = false → sel x s.comErr = false →
    ∀ i m, s.proxies[i]? = some m → Served x n v pre i m

/-- What the commit and the prepare case of `pairStep_inv` share: only the
    proxy served owes anything new (`ha`). -/
theorem PInv.update {x : Bool} {n : Name} {v : Ver} {pre : List Tok} {s : PairState} {t : Tok} {m a : Manager}
    {pe ce : Bool × Bool} (h : PInv x n v pre s) (hj : s.proxies[t.proxy]? = some m) (hg : Good a)
    (hpe : sel x pe = false → sel x s.prepErr = false) (hce : sel x ce = false → sel x s.comErr = false)
    (ha : sel x pe = false → sel x ce = false → Served x n v pre t.proxy m → Served x n v (pre ++ [t]) t.proxy a) :
    PInv x n v (pre ++ [t]) { proxies := s.proxies.set t.proxy a, prepErr := pe, comErr := ce } := by
  refine ⟨fun b hb => ?_, fun hp hc i mi hi => ?_⟩
  · rcases List.mem_or_eq_of_mem_set hb with hb | rfl
    · exact h.good b hb
    · exact hg
  · have old := h.served (hpe hp) (hce hc)
    by_cases hij : t.proxy = i
    · subst hij
      rw [List.getElem?_set_self (List.getElem?_eq_some_iff.mp hj).1] at hi
      cases hi
      exact ha hp hc (old _ m hj)
    · rw [List.getElem?_set_ne hij] at hi
      exact (old i mi hi).snoc fun c ht => hij ht.2.1

theorem pairStep_inv (store : Table) (na nb : Name) (x : Bool) (v : Ver) (hne : na ≠ nb)
    (hst : store (nm na nb x) = some v)
    (pre : List Tok) (s : PairState) (t : Tok) (h : PInv x (nm na nb x) v pre s)
    (hord : t.second = x → t.commit = true → ∃ t' ∈ pre, isTok x t.proxy false t') :
    PInv x (nm na nb x) v (pre ++ [t]) (pairStep store na nb s t) := by
  fun_cases pairStep store na nb s t
  · -- no such proxy
    rename_i hj
    exact ⟨h.good, fun hp hc i m hi => (h.served hp hc i m hi).snoc fun c ht => by
      rw [← ht.2.1, hj] at hi; cases hi⟩
  · -- a commit of a change abandoned after its prepare phase: if of `x`, then `x` has an error
    rename_i hab
    exact ⟨h.good, fun hp hc i m hi => (h.served hp hc i m hi).snoc fun c ht => by
      rw [← ht.1, hab] at hp; cases hp⟩
  · -- a commit: keeps what was prepared, and what runs of the other namespace
    rename_i m hj hc _ _
    obtain ⟨hg, hprep, hother, hruns⟩ :=
      commit_spec (h.good m (List.mem_of_getElem? hj)) (nm na nb t.second)
    refine h.update hj hg id (fun hce => (sel_upd_or hce).1) fun _ hce ⟨o1, o2⟩ =>
      ⟨fun hex => hprep _ _ (o1 (exists_mem_snoc hex fun ht => by cases hc.symm.trans ht.2.2)), fun hex => ?_⟩
    by_cases hx : t.second = x
    · have hok := rpc_ok_snd ((sel_upd_or hce).2 hx)
      subst hx
      exact hruns v hok (o1 (hord rfl hc))
    · exact hother _ _ (nm_ne hne hx) (o2 (exists_mem_snoc hex fun ht => hx ht.1))
  · -- a prepare: changes no view, and no other namespace's prepared version
    rename_i m hj hc _
    obtain ⟨hg, hview, hother, hready⟩ :=
      proxyPrepare_spec (h.good m (List.mem_of_getElem? hj)) store (nm na nb t.second) true
    refine h.update hj hg (fun hp => (sel_upd_or hp).1) id fun hp _ ⟨o1, o2⟩ =>
      ⟨fun hex => ?_, fun hex => runs_of_sameView hview (o2 (exists_mem_snoc hex fun ht => hc ht.2.2))⟩
    by_cases hx : t.second = x
    · have hok := rpc_ok_snd ((sel_upd_or hp).2 hx)
      subst hx
      exact (hready v hok hst).lastPrep
    · exact hother _ _ (nm_ne hne hx) (o1 (exists_mem_snoc hex fun ht => hx ht.1))

theorem pairFold_inv (store : Table) (na nb : Name) (x : Bool) (v : Ver) (hne : na ≠ nb)
    (hst : store (nm na nb x) = some v) (rest pre : List Tok) (s : PairState)
    (h : PInv x (nm na nb x) v pre s) (hord : Ordered x pre rest) :
    PInv x (nm na nb x) v (pre ++ rest) (rest.foldl (pairStep store na nb) s) := by
  induction rest generalizing pre s with
  | nil => rwa [List.append_nil]
  | cons t rest ih =>
    rw [List.append_cons]
    refine ih _ _ (pairStep_inv store na nb x v hne hst pre s t h fun hx hc => ?_) ?_
    · exact List.append_nil pre ▸ hord [] t rest rfl hx hc
    · intro pre' t' post he hx hc
      exact List.append_cons pre t pre' ▸ hord (t :: pre') t' post (by rw [he]; rfl) hx hc

theorem pairStep_length (store : Table) (na nb : Name) (s : PairState) (t : Tok) :
    (pairStep store na nb s t).proxies.length = s.proxies.length := by
  fun_cases pairStep store na nb s t
  · rfl
  · rfl
  · exact List.length_set
  · exact List.length_set

theorem pairFold_length (store : Table) (na nb : Name) :
    ∀ (rest : List Tok) (s : PairState), (rest.foldl (pairStep store na nb) s).proxies.length = s.proxies.length := by
  intro rest
  induction rest with
  | nil => intro s; rfl
  | cons t rest ih => intro s; simp only [List.foldl_cons]; rw [ih, pairStep_length]

theorem res_ok {p c : Bool} (h : (if p then Res.errPrepare else if c then Res.errCommit else Res.ok) = .ok) :
    p = false ∧ c = false := by
  revert h; cases p <;> cases c <;> decide

/-- **Concurrent changes, success ⇒ applied everywhere** (full strength).
    Two `ModifyNamespace` calls for different namespaces run concurrently and
    their requests reach the proxies in ANY order in which each change's commit
    to a proxy follows its prepare to that proxy, every proxy receiving the
    commit.  Whichever of the two reports success (`x = false`: the first,
    `x = true`: the second): the store holds its new configuration and every
    proxy runs it. -/
theorem pair_success_on_every_proxy (w : World) (hw : WF w) (na : Name) (va : Ver) (nb : Name) (vb : Ver)
    (hne : na ≠ nb) (sched : List Tok) (x : Bool)
    (hord : Ordered x [] sched)
    (hall : ∀ i, i < w.proxies.length → ∃ t ∈ sched, isTok x i true t)
    (hok : sel x (ModifyPair w na va nb vb sched).2 = .ok) :
    (ModifyPair w na va nb vb sched).1.store (nm na nb x) = some (sel x (va, vb)) ∧
    ∀ m' ∈ (ModifyPair w na va nb vb sched).1.proxies, Runs m' (nm na nb x) (some (sel x (va, vb))) := by
  have hst : ((w.store.set na va).set nb vb) (nm na nb x) = some (sel x (va, vb)) := by
    cases x
    · exact (set_other _ _ hne).trans (set_same ..)
    · exact set_same ..
  -- a rollback of the other change does not touch this namespace
  have hroll (c : Prop) [Decidable c] (n : Name) (e : Option Ver) (hn : nm na nb x ≠ n) :
      (if c then (w.store.set na va).set nb vb else rollbackNamespace ((w.store.set na va).set nb vb) n e)
        (nm na nb x) = some (sel x (va, vb)) := by
    split
    · exact hst
    · exact (rollback_other _ _ _ hn).trans hst
  have hinv := pairFold_inv _ na nb x _ hne hst sched [] ⟨w.proxies, (false, false), (false, false)⟩
    ⟨hw, fun _ _ _ _ _ => ⟨nofun, nofun⟩⟩ hord
  have hlen := pairFold_length ((w.store.set na va).set nb vb) na nb sched
    ⟨w.proxies, (false, false), (false, false)⟩
  simp only [ModifyPair] at hok ⊢
  generalize sched.foldl _ _ = S at hok hinv hlen ⊢
  refine ⟨?_, fun m' hm' => ?_⟩
  · cases x
    · simp only [sel, Bool.false_eq_true, if_false] at hok
      rw [if_pos hok]; exact hroll _ nb _ hne
    · simp only [sel, if_true] at hok
      rw [if_pos hok]; exact hroll _ na _ hne.symm
  · have hflags : sel x S.prepErr = false ∧ sel x S.comErr = false := by
      cases x <;> exact res_ok hok
    obtain ⟨i, hi, rfl⟩ := List.getElem_of_mem hm'
    exact (hinv.served hflags.1 hflags.2 i _ (List.getElem?_eq_getElem hi)).2 (hall i (hlen ▸ hi))

example : sel false (ModifyPair
    { store := Table.ofList [(0, 1), (1, 1)], proxies := [CreateManager [(0, 1), (1, 1)], CreateManager [(0, 1), (1, 1)]] }
    0 2 1 2
    [⟨false, 0, false⟩, ⟨false, 1, false⟩, ⟨false, 0, true⟩, ⟨true, 0, false⟩, ⟨false, 1, true⟩, ⟨true, 1, false⟩,
     ⟨true, 0, true⟩, ⟨true, 1, true⟩]).2 = .ok := by decide +kernel

/-! ### witnesses: the property is false of the code -/

def w2 : World := { store := Table.ofList [(0, 1)], proxies := [CreateManager [(0, 1)], CreateManager [(0, 1)]] }

/-- Commit performed on proxy 0, refused on proxy 1: failure is reported and
    the store is rolled back to version 1, but proxy 0 runs version 2. -/
theorem twophase_split_witness :
    let r := ModifyNamespace w2 0 2 .good [PF.none, { p := [], c := .fail }]
    r.2 = .errCommit ∧ r.1.store 0 = some 1 ∧
    r.1.proxies.map (fun m => GetNamespace m 0) = [some (some 2), some (some 1)] := by decide +kernel

/-- Every commit performed, one answer lost (a timeout): failure is reported,
    the store is rolled back, and every proxy runs the new configuration. -/
theorem twophase_lost_commit_witness :
    let r := ModifyNamespace w2 0 2 .good [PF.none, { p := [], c := .lost }]
    r.2 = .errCommit ∧ r.1.store 0 = some 1 ∧
    r.1.proxies.map (fun m => GetNamespace m 0) = [some (some 2), some (some 2)] := by decide +kernel

/-- A failed prepare phase leaves the pending prepare on the proxies that did
    prepare (there is no abort message). -/
theorem prepare_leftover_witness :
    let r := ModifyNamespace w2 0 2 .good [PF.none, { p := [.fail, .fail, .fail], c := .ok }]
    r.2 = .errPrepare ∧ r.1.store 0 = some 1 ∧
    r.1.proxies.map (fun m => (m.reloadPrepared, GetNamespace m 0)) = [(true, some (some 1)), (false, some (some 1))] := by
  decide +kernel

/-- `DelNamespace` failing on the second proxy: failure is reported and the
    stored configuration is put back, but the first proxy has dropped the namespace. -/
theorem del_failure_witness :
    let r := DelNamespace w2 0 [.ok, .fail]
    r.2 = .errDelete ∧ r.1.store 0 = some 1 ∧
    r.1.proxies.map (fun m => GetNamespace m 0) = [some none, some (some 1)] := by decide

/-- Before the repair of `DelNamespace`: refused by the first proxy, no proxy
    dropped the namespace, failure reported, and the stored configuration was
    gone all the same (regression witness for the `fix:` commit). -/
theorem pinned_del_store_witness :
    let r := Pinned.DelNamespace w2 0 [.fail, .ok]
    r.2 = .errDelete ∧ r.1.store 0 = none ∧
    r.1.proxies.map (fun m => GetNamespace m 0) = [some (some 1), some (some 1)] := by decide

/-- Two concurrent changes of different namespaces, no fault at all: proxy 0
    serves the requests of change a first, proxy 1 sees the prepare of b
    between a's prepare and commit.  Change a is reported failed and rolled
    back in the store while proxy 0 runs it. -/
theorem concurrent_split_witness :
    let w : World := { store := Table.ofList [(0, 1), (1, 1)],
                       proxies := [CreateManager [(0, 1), (1, 1)], CreateManager [(0, 1), (1, 1)]] }
    let r := ModifyPair w 0 2 1 2
      [⟨false, 0, false⟩, ⟨false, 1, false⟩, ⟨true, 1, false⟩, ⟨false, 0, true⟩, ⟨false, 1, true⟩,
       ⟨true, 0, false⟩, ⟨true, 0, true⟩, ⟨true, 1, true⟩]
    r.2.1 = .errCommit ∧ r.2.2 = .ok ∧ r.1.store 0 = some 1 ∧
    r.1.proxies.map (fun m => GetNamespace m 0) = [some (some 2), some (some 1)] := by decide +kernel

end GaeaVerif.C32
