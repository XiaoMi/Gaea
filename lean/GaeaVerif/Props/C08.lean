import GaeaVerif.Model.ShardPlace
import GaeaVerif.Spec.Mycat
import GaeaVerif.Lemmas.ShardStr
import GaeaVerif.Lemmas.ShardRing
import GaeaVerif.Lemmas.ShardSegment
import GaeaVerif.Gen.Consts
/-
  C08 — Mycat-compatible rules place keys exactly where Mycat does.

  Model: Model/ShardPlace.lean (shard_mycat.go, util/murmur.go, after the fix:
  commits "hash the UTF-16 code units" and "|key| mod count on the full
  integer").  Reference: Spec/Mycat.lean (Mycat's Java algorithms).
  The tie to the Go code is the correspondence check `gvh run C08`.

  A key is what the client wrote: an integer literal (any signed 64-bit value)
  or a string (any list of Unicode scalar values: ASCII, multi-byte, outside the
  BMP).  `goKey` is the value `FindTableIndex` receives for it, `javaValue` the
  `columnValue` String Mycat's function receives.
-/
namespace GaeaVerif.C08
open GaeaVerif GaeaVerif.ShardGo GaeaVerif.ShardPlace GaeaVerif.ShardLemmas

/-- A sharding key as the client wrote it. -/
inductive ClientKey where
  | int (k : Int)
  | text (cs : List Nat)

def ClientKey.valid : ClientKey → Prop
  | .int k => -2 ^ 63 ≤ k ∧ k < 2 ^ 63
  | .text cs => ∀ c ∈ cs, isScalar c

/-- What `FindTableIndex` receives: an int64, or the UTF-8 string. -/
def goKey : ClientKey → Key
  | .int k => .int64 k
  | .text cs => .str (utf8 cs)

/-- What Mycat's `calculate(String columnValue)` receives. -/
def javaValue : ClientKey → MycatSpec.JString
  | .int k => MycatSpec.intToString k
  | .text cs => MycatSpec.javaString cs

/-- A placement by the reference as a Go result: a rejected key is the KeyError panic. -/
def placed : Option Nat → Out Int
  | some i => .ok (i : Int)
  | none => .err .keyPanic

theorem getString_units (ck : ClientKey) (hv : ck.valid) :
    ∃ s, GetString (goKey ck) = .ok s ∧ utf16Units s = javaValue ck := by
  cases ck with
  | int k =>
    refine ⟨fmtInt k, rfl, (utf16Units_ascii _ fun b hb => ?_).trans (fmtInt_eq k)⟩
    exact Nat.lt_of_le_of_lt (fmtInt_range k b hb).2 (by decide)
  | text cs => exact ⟨utf8 cs, rfl, utf16Units_utf8 cs hv⟩

theorem parseBigDec_nonascii (s : List Nat) (b : Nat) (hb : b ∈ s) (hge : 128 ≤ b) :
    parseBigDec s = none := by
  have hnd : ∀ r : List Nat, b ∈ r → parseUDec r = none := fun r hr =>
    if_neg fun h => by
      have := (isDigit_iff b).mp (List.all_eq_true.mp h.2 b hr)
      omega
  unfold parseBigDec
  split
  · next r => rw [hnd r ((List.mem_cons.mp hb).resolve_left (by omega))]; rfl
  · next r => rw [hnd r ((List.mem_cons.mp hb).resolve_left (by omega))]; rfl
  · rw [hnd s hb]; rfl

theorem utf8OfScalar_high (c : Nat) (hc : 128 ≤ c) : ∃ b ∈ utf8OfScalar c, 128 ≤ b := by
  unfold utf8OfScalar
  rw [if_neg (Nat.not_lt.mpr hc)]
  by_cases h1 : c < 0x800
  · rw [if_pos h1]; exact ⟨_, List.mem_cons_self, Nat.le_add_right_of_le (by decide)⟩
  · rw [if_neg h1]
    by_cases h2 : c < 0x10000
    · rw [if_pos h2]; exact ⟨_, List.mem_cons_self, Nat.le_add_right_of_le (by decide)⟩
    · rw [if_neg h2]; exact ⟨_, List.mem_cons_self, Nat.le_add_right_of_le (by decide)⟩

theorem charsOfScalar_high (c : Nat) (hc : 128 ≤ c) : ∃ u ∈ MycatSpec.charsOfScalar c, 128 ≤ u := by
  unfold MycatSpec.charsOfScalar
  split
  · exact ⟨c, List.mem_cons_self, hc⟩
  · exact ⟨_, List.mem_cons_self, Nat.le_add_right_of_le (by decide)⟩

theorem parse_text (cs : List Nat) :
    parseBigDec (utf8 cs) = MycatSpec.bigInteger (MycatSpec.javaString cs) := by
  rw [bigInteger_eq]
  by_cases h : ∀ c ∈ cs, c < 128
  · rw [utf8_ascii cs h, javaString_bmp cs fun b hb => Nat.lt_trans (h b hb) (by decide)]
  · -- a character outside ASCII leaves a byte ≥ 128 in the one and a char ≥ 128 in the other
    obtain ⟨c, hc, hge⟩ : ∃ c ∈ cs, 128 ≤ c := by simpa using h
    obtain ⟨b, hb, hb'⟩ := utf8OfScalar_high c hge
    obtain ⟨u, hu, hu'⟩ := charsOfScalar_high c hge
    rw [parseBigDec_nonascii (utf8 cs) b (List.mem_flatMap.mpr ⟨c, hc, hb⟩) hb',
      parseBigDec_nonascii (MycatSpec.javaString cs) u (List.mem_flatMap.mpr ⟨c, hc, hu⟩) hu']

theorem key_number (ck : ClientKey) :
    ∃ s, GetString (goKey ck) = .ok s ∧ parseBigDec s = MycatSpec.bigInteger (javaValue ck) := by
  cases ck with
  | int k =>
    refine ⟨fmtInt k, rfl, ?_⟩
    show parseBigDec (fmtInt k) = MycatSpec.bigInteger (MycatSpec.intToString k)
    rw [bigInteger_eq, fmtInt_eq]
  | text cs => exact ⟨utf8 cs, rfl, parse_text cs⟩

theorem numValue_key (ck : ClientKey) (hk : ck.valid) :
    NumValue (goKey ck) = match MycatSpec.parseLong (javaValue ck) with
      | some v => .ok v
      | none => .err .keyPanic := by
  cases ck with
  | int k =>
    rw [javaValue, parseLong_eq, ← fmtInt_eq, parseInt64_fmtInt k hk]
    rfl
  | text cs =>
    have h : parseInt64 (utf8 cs) = parseInt64 (MycatSpec.javaString cs) := by
      unfold parseInt64; rw [parse_text, bigInteger_eq]
    rw [javaValue, goKey, NumValue, parseLong_eq, h]
    rfl

/-- **C08, mycat_mod.** For every number of databases `n ≥ 1` and every key,
    `MycatPartitionModShard.FindForKey` returns the database
    `new BigInteger(columnValue).abs().mod(n)` of Mycat's PartitionByMod, and
    rejects exactly the keys Mycat rejects. (No bound on the integer: keys
    beyond int64 written as strings are covered.) -/
theorem mycat_mod_eq (n : Nat) (hn : 1 ≤ n) (ck : ClientKey) :
    MycatPartitionModShard.FindForKey (n : Int) (goKey ck) =
      placed (MycatSpec.partitionByMod n (javaValue ck)) := by
  obtain ⟨s, hs, hp⟩ := key_number ck
  unfold MycatPartitionModShard.FindForKey MycatSpec.partitionByMod
  rw [hs, if_neg (Nat.ne_of_gt hn)]
  dsimp only
  rw [hp]
  cases MycatSpec.bigInteger (javaValue ck) with
  | none => rfl
  | some v => exact if_neg (Int.natCast_ne_zero.mpr (Nat.ne_of_gt hn))

example : (ClientKey.int (-9223372036854775808)).valid := by unfold ClientKey.valid; omega
/-- The key the pinned code misplaced (`hack.Abs(MinInt64) < 0` gave index -2): Mycat says 2. -/
example : MycatSpec.partitionByMod 3 (javaValue (.int (-9223372036854775808))) = some 2 := by decide +kernel

/-- The same for the other Go types that can carry the key. -/
theorem mycat_mod_carriers (n : Int) (k : Int) (s : GoStr) :
    MycatPartitionModShard.FindForKey n (.int k) = MycatPartitionModShard.FindForKey n (.int64 k) ∧
    MycatPartitionModShard.FindForKey n (.bytes s) = MycatPartitionModShard.FindForKey n (.str s) :=
  ⟨rfl, rfl⟩

theorem segment_lookup (count length : List Nat) (hv : MycatSpec.validPartition count length = true)
    (h : Int) :
    arrGet (segTable 0 (MycatSpec.segmentLengths count length)) (slotOf h) =
      placed (MycatSpec.partition count length h) := by
  have htot := ((validPartition_iff count length).mp hv).2
  have hlo : 0 ≤ h % 1024 := Int.emod_nonneg h (by decide)
  have hhi : h % 1024 < 1024 := Int.emod_lt_of_pos h (by decide)
  obtain ⟨i, hi, _⟩ := segmentOf_isSome (MycatSpec.segmentLengths count length) (h % 1024).toNat
    (by rw [htot]; exact (Int.toNat_lt hlo).mpr hhi)
  unfold MycatSpec.partition arrGet slotOf
  rw [hi, if_pos ⟨hlo, by rw [segTable_length, htot]; exact hhi⟩, segTable_get _ 0 _ i hi, Nat.zero_add]
  rfl

/-- `mycat_long_eq` on the table itself, which `initLists_ok` says `Init` builds. -/
theorem mycat_long_place (count length : List Nat) (hv : MycatSpec.validPartition count length = true)
    (ck : ClientKey) (hk : ck.valid) :
    MycatPartitionLongShard.FindForKey (segTable 0 (MycatSpec.segmentLengths count length)) (goKey ck) =
      placed (MycatSpec.partitionByLong count length (javaValue ck)) := by
  unfold MycatPartitionLongShard.FindForKey MycatSpec.partitionByLong
  rw [if_pos hv, numValue_key ck hk]
  cases MycatSpec.parseLong (javaValue ck) with
  | none => rfl
  | some v => exact segment_lookup count length hv v

/-- **C08, mycat_long.** For every parameter set Mycat's
    PartitionUtil accepts (as many lengths as counts, segments adding up to 1024)
    `Init` succeeds, and for every key `FindForKey` returns
    `segment[(int)(Long.parseLong(columnValue) & 1023)]` of Mycat's
    PartitionByLong; keys `Long.parseLong` rejects are rejected. -/
theorem mycat_long_eq (count length : List Nat) (hv : MycatSpec.validPartition count length = true)
    (ck : ClientKey) (hk : ck.valid) :
    ∃ segment,
      MycatPartitionLongShard.initLists (total count) (ints count) (ints length) = .ok segment ∧
      MycatPartitionLongShard.FindForKey segment (goKey ck) =
        placed (MycatSpec.partitionByLong count length (javaValue ck)) :=
  ⟨_, initLists_ok count length hv, mycat_long_place count length hv ck hk⟩

example : MycatSpec.validPartition [1, 1, 4] [512, 256, 64] = true := by decide +kernel
/-- Placements copied from Mycat in shard_mycat_test.go (count "1,1,4", length "512,256,64"). -/
example : MycatSpec.partitionByLong [1, 1, 4] [512, 256, 64] (javaValue (.text (ascii "-1"))) = some 5 := by decide +kernel
example : MycatSpec.partitionByLong [1, 1, 4] [512, 256, 64] (javaValue (.int 768)) = some 2 := by decide +kernel
example : MycatSpec.partitionByLong [1, 1, 4] [512, 256, 64] (javaValue (.int 9223372036854775807)) = some 5 := by decide +kernel

/-- `n` rounds from index `i` fold over `input[i … i+n)`.  With no round left nothing is read, so `i` may lie
    past the end: `hb` asks for room only when `n ≠ 0` (a hash slice whose start is beyond the key). -/
theorem stringHashLoop_eq (input : List Nat) (n i : Nat) (h : BitVec 64) (hb : n ≠ 0 → i + n ≤ input.length) :
    stringHashLoop input n (i : Int) h =
      .ok (((input.drop i).take n).foldl (fun h c => (h <<< 5) - h + BitVec.ofNat 64 c) h) := by
  induction n generalizing i h with
  | zero => rfl
  | succ n ih =>
    have hb' : i + n + 1 ≤ input.length := hb (Nat.succ_ne_zero n)
    have hi : i < input.length := Nat.lt_of_lt_of_le (Nat.lt_succ_of_le (Nat.le_add_right i n)) hb'
    unfold stringHashLoop
    rw [if_pos ⟨Int.natCast_nonneg i, Int.ofNat_lt.mpr hi⟩, Int.toNat_natCast, ← Int.natCast_add_one,
      ih (i + 1) _ fun _ => Nat.add_right_comm i 1 n ▸ hb', List.drop_eq_getElem_cons hi,
      List.take_succ_cons, List.foldl_cons, List.getD_eq_getElem?_getD, List.getElem?_eq_getElem hi,
      Option.getD_some]

theorem stringHash_eq (input : List Nat) (start end_ : Int) :
    stringHash input start end_ = .ok (MycatSpec.stringUtilHash input start end_) := by
  unfold stringHash MycatSpec.stringUtilHash
  dsimp only
  generalize he : (if end_ > (input.length : Int) then (input.length : Int) else end_) = e
  have hel : e ≤ input.length := by
    rw [← he]; split
    · exact Int.le_refl _
    · next h => exact Int.not_lt.mp h
  obtain ⟨k, hk⟩ : ∃ k : Nat, (if start < 0 then (0 : Int) else start) = k := by
    split
    · exact ⟨0, rfl⟩
    · next h => exact ⟨start.toNat, (Int.toNat_of_nonneg (Int.not_lt.mp h)).symm⟩
  rw [hk, Int.toNat_natCast]
  exact stringHashLoop_eq input _ k 0 (by omega)

/-- `mycat_string_eq` on the table itself. -/
theorem mycat_string_place (count length : List Nat) (hv : MycatSpec.validPartition count length = true)
    (hashSliceStart hashSliceEnd : Int) (ck : ClientKey) (hk : ck.valid) :
    MycatPartitionStringShard.FindForKey (segTable 0 (MycatSpec.segmentLengths count length))
        hashSliceStart hashSliceEnd (goKey ck) =
      placed (MycatSpec.partitionByString count length (hashSliceStart, hashSliceEnd) (javaValue ck)) := by
  obtain ⟨s, hs, hu⟩ := getString_units ck hk
  unfold MycatPartitionStringShard.FindForKey MycatSpec.partitionByString
  rw [hs, if_pos hv]
  simp only [hu, stringHash_eq]
  exact segment_lookup count length hv _

/-- **C08, mycat_string.** For every valid partition layout, every hash slice
    `(start, end)` — positive, negative, zero/open, out of range — and every key
    (strings with multi-byte and supplementary-plane characters included, and
    integers through their decimal spelling), `FindForKey` returns the database
    of Mycat's PartitionByString: positions and lengths count UTF-16 chars. -/
theorem mycat_string_eq (count length : List Nat) (hv : MycatSpec.validPartition count length = true)
    (hashSliceStart hashSliceEnd : Int) (ck : ClientKey) (hk : ck.valid) :
    ∃ segment,
      MycatPartitionLongShard.initLists (total count) (ints count) (ints length) = .ok segment ∧
      MycatPartitionStringShard.FindForKey segment hashSliceStart hashSliceEnd (goKey ck) =
        placed (MycatSpec.partitionByString count length (hashSliceStart, hashSliceEnd) (javaValue ck)) :=
  ⟨_, initLists_ok count length hv, mycat_string_place count length hv hashSliceStart hashSliceEnd ck hk⟩

/-- "ab你好" under hash slice "-2:" (start -2, end 0): the pinned code placed it in 0, Mycat in 33. -/
example : (ClientKey.text [0x61, 0x62, 0x4F60, 0x597D]).valid := by
  unfold ClientKey.valid; decide
example : MycatSpec.partitionByString [64] [16] (-2, 0)
    (javaValue (.text [0x61, 0x62, 0x4F60, 0x597D])) = some 33 := by decide +kernel
/-- "😀" (U+1F600, two chars in Java) under hash slice "32": Mycat 22, the pinned code 32. -/
example : MycatSpec.partitionByString [64] [16] (0, 32) (javaValue (.text [0x1F600])) = some 22 := by decide +kernel
/-- Placements copied from Mycat in shard_mycat_test.go (64 partitions of 16, hash slice "32"). -/
example : MycatSpec.partitionByString [64] [16] (0, 32) (javaValue (.text (ascii "hello, world"))) = some 24 := by decide +kernel
example : MycatSpec.partitionByString [64] [16] (0, 32)
    (javaValue (.text [0x4F60, 0x597D, 0x2C, 0x20, 0x4E2D, 0x56FD])) = some 40 := by decide +kernel
example : MycatSpec.partitionByString [64] [16] (0, 32) (javaValue (.text (ascii "-120123012"))) = some 4 := by decide +kernel

/-- A placement by the reference ring as a Go result: an empty ring is the error
    "bucket map is empty" (Mycat throws NoSuchElementException). -/
def ringPlaced : Option Nat → Out Int
  | some i => .ok (i : Int)
  | none => .err .emptyRing

/-- **C08, mycat_murmur.** For every seed, every number of databases and every
    number of virtual buckets, the ring built by `generateBucketMap` and the
    lookup of `FindForKey` return, for every key, the database of Mycat's
    PartitionByMurmurHash: Guava's murmur3_32 `hashUnencodedChars` of the Java
    String (UTF-16 chars), `TreeMap.tailMap(hash)` first entry, else the first
    entry of the map. -/
theorem mycat_murmur_eq (seed : Int) (count virtualBucketTimes : Nat) (ck : ClientKey) (hk : ck.valid) :
    MycatPartitionMurmurHashShard.FindForKey seed
        (generateBucketMap seed count virtualBucketTimes) (goKey ck) =
      ringPlaced (MycatSpec.partitionByMurmurHash (BitVec.ofInt 32 seed) count virtualBucketTimes
        (javaValue ck)) := by
  obtain ⟨s, hs, hu⟩ := getString_units ck hk
  rw [findForKey_ringFind seed _ _ s hs, generateBucketMap_eq, ring_ceiling, HashUnencodedChars_eq, hu]
  unfold MycatSpec.partitionByMurmurHash
  cases MycatSpec.ringLookup _ _ <;> rfl

/-- The hypotheses are satisfiable and the reference computes: seed 0, three databases, two virtual
    buckets each, key "a😀你" (a supplementary-plane and a CJK character); seed 1, an integer key. -/
example : (ClientKey.text [0x61, 0x1F600, 0x4F60]).valid := by
  unfold ClientKey.valid; decide
example : MycatSpec.partitionByMurmurHash 0#32 3 2 (javaValue (.text [0x61, 0x1F600, 0x4F60])) = some 1 := by
  decide +kernel
example : MycatSpec.partitionByMurmurHash 1#32 4 2 (javaValue (.int (-50))) = some 2 := by decide +kernel

/-- `Init` reads the seed and the bucket count it was configured with. -/
theorem mycat_murmur_init (seed : Int) (hs : -2 ^ 63 ≤ seed ∧ seed < 2 ^ 63) (vbt count : Nat) (hv : vbt < 2 ^ 63) :
    MycatPartitionMurmurHashShard.Init (fmtInt seed) (fmtInt vbt) count =
      .ok (seed, generateBucketMap seed count vbt) := by
  unfold MycatPartitionMurmurHashShard.Init
  rw [parseInt64_fmtInt seed hs]
  dsimp only
  rw [if_neg (fmtInt_ne_nil _), parseInt64_fmtInt vbt (by omega)]

/-- `mixK1_eq` under the name MANIFEST.json's claim gives it: Go's `mixK1`, whose two products are formed in
    int64 and truncated to int32 (`trunc_mul`), is Guava's on 32 bits. -/
theorem mix_k1_trunc (k : BitVec 32) : ShardPlace.mixK1 k = MycatSpec.mixK1 k := mixK1_eq k

/-- Comma-separated decimal numbers. -/
def render : List Nat → GoStr
  | [] => []
  | [n] => fmtNat n
  | n :: m :: r => fmtNat n ++ 44 :: render (m :: r)

theorem fmtNat_ne (n c : Nat) (hc : isDigit c = false) : ∀ b ∈ fmtNat n, b ≠ c := by
  rintro b hb rfl
  rw [fmtNat_digits n b hb] at hc
  cases hc

theorem render_no_space (l : List Nat) : ∀ b ∈ render l, b ≠ 32 := by
  fun_induction render l with
  | case1 => intro b hb; cases hb
  | case2 n => exact fmtNat_ne n 32 rfl
  | case3 n m r ih =>
    exact List.forall_mem_append.mpr ⟨fmtNat_ne n 32 rfl, List.forall_mem_cons.mpr ⟨by decide, ih⟩⟩

theorem splitOn_render (l : List Nat) (hne : l ≠ []) : splitOn 44 (render l) = l.map fmtNat := by
  rw [splitOn_eq]
  fun_induction render l with
  | case1 => exact absurd rfl hne
  | case2 n => exact Split.split_no_sep (fmtNat_ne n 44 rfl)
  | case3 n m r ih =>
    rw [Split.split_append_sep (fmtNat_ne n 44 rfl), ih (List.cons_ne_nil _ _)]
    rfl

theorem toIntArray_render (l : List Nat) (hne : l ≠ []) (hb : ∀ n ∈ l, n < 2 ^ 63) :
    toIntArray (render l) = .ok (ints l) := by
  unfold toIntArray removeSpaces
  rw [List.filter_eq_self.mpr fun b hb' => decide_eq_true (render_no_space l b hb'), splitOn_render l hne]
  clear hne
  induction l with
  | nil => rfl
  | cons n r ih =>
    rw [List.map_cons, List.foldr_cons, ih fun x hx => hb x (List.mem_cons_of_mem _ hx),
      (Digits.fmtNat n).parseInt64 (hb n List.mem_cons_self)]
    rfl

/-- **mycat_long / mycat_string from the configuration strings.**  With
    `partition_count` and `partition_length` written as comma-separated decimal
    numbers, `Init` builds the table of `mycat_long_eq`. -/
theorem mycat_long_init (count length : List Nat) (hv : MycatSpec.validPartition count length = true)
    (hne : count ≠ []) (hc : ∀ n ∈ count, n < 2 ^ 63) (hl : ∀ n ∈ length, n < 2 ^ 63) :
    MycatPartitionLongShard.Init (total count) (render count) (render length) =
      MycatPartitionLongShard.initLists (total count) (ints count) (ints length) := by
  have hlen := ((validPartition_iff count length).mp hv).1
  have hne' : length ≠ [] := fun e => hne (List.length_eq_zero_iff.mp (by rw [hlen, e]; rfl))
  unfold MycatPartitionLongShard.Init
  rw [toIntArray_render count hne hc, toIntArray_render length hne' hl]

theorem trim_id (s : List Nat) (h : ∀ b ∈ s, 32 < b) : MycatSpec.trim s = s :=
  trimBy_id _ s fun b hb => decide_eq_false (Nat.not_le.mpr (h b hb))

/-- One bound of a hash slice as written in the configuration: a number or nothing. -/
def boundText : Option Int → GoStr
  | some v => fmtInt v
  | none => []

def boundValue : Option Int → Int
  | some v => v
  | none => 0

theorem boundText_range (o : Option Int) : ∀ b ∈ boundText o, 45 ≤ b ∧ b ≤ 57 := by
  cases o with
  | none => intro b hb; cases hb
  | some v => exact fmtInt_range v

/-- Bytes within `'-'..'9'` are no colon, no white space, and survive Java's `trim`. -/
theorem range_facts (s : GoStr) (h : ∀ b ∈ s, 45 ≤ b ∧ b ≤ 57) :
    (∀ b ∈ s, b ≠ 58) ∧ (∀ b ∈ s, isAsciiSpace b = false) ∧ (∀ b ∈ s, 32 < b) := by
  refine ⟨fun b hb => Nat.ne_of_lt (Nat.lt_succ_of_le (h b hb).2), fun b hb => ?_,
    fun b hb => Nat.lt_of_lt_of_le (by decide) (h b hb).1⟩
  have := h b hb
  simp only [isAsciiSpace, Bool.or_eq_false_iff, Bool.and_eq_false_iff, decide_eq_false_iff_not]
  omega

theorem bound_read (parse : GoStr → Option Int) (o : Option Int)
    (hp : ∀ v, o = some v → parse (fmtInt v) = some v) :
    (if boundText o = [] then some 0 else parse (boundText o)) = some (boundValue o) := by
  cases o with
  | none => rfl
  | some v => exact (if_neg (fmtInt_ne_nil v)).trans (hp v rfl)

/-- **The hash slice `start:end`, `start:`, `:end`, `:` as Gaea reads it.** -/
theorem parse_hash_slice_pair (s e : Option Int) (hs : ∀ v, s = some v → -2 ^ 63 ≤ v ∧ v < 2 ^ 63)
    (he : ∀ v, e = some v → -2 ^ 63 ≤ v ∧ v < 2 ^ 63) :
    parseHashSliceStartEnd (boundText s ++ 58 :: boundText e) = .ok (boundValue s, boundValue e) := by
  obtain ⟨s1, s2, _⟩ := range_facts _ (boundText_range s)
  obtain ⟨e1, e2, _⟩ := range_facts _ (boundText_range e)
  unfold parseHashSliceStartEnd
  rw [trimSpace_id _ (List.forall_mem_append.mpr ⟨s2, List.forall_mem_cons.mpr ⟨rfl, e2⟩⟩),
    splitOn_eq, Split.split_append_sep s1, Split.split_no_sep e1]
  dsimp only
  unfold parseHashSliceValue
  rw [bound_read parseInt64 s fun v hv => parseInt64_fmtInt v (hs v hv),
    bound_read parseInt64 e fun v hv => parseInt64_fmtInt v (he v hv)]

/-- The hash slice written as one number `n`: `(0, n)` for `n ≥ 0`, `(n, 0)` otherwise. -/
theorem parse_hash_slice_single (n : Int) (hn : -2 ^ 63 ≤ n ∧ n < 2 ^ 63) :
    parseHashSliceStartEnd (fmtInt n) = .ok (if n ≥ 0 then (0, n) else (n, 0)) := by
  obtain ⟨s1, s2, _⟩ := range_facts _ (fmtInt_range n)
  unfold parseHashSliceStartEnd
  rw [trimSpace_id _ s2, splitOn_eq, Split.split_no_sep s1]
  dsimp only
  rw [parseInt64_fmtInt n hn]
  dsimp only
  split <;> rfl

theorem specParseInt_fmtInt (v : Int) (h : -2 ^ 31 ≤ v ∧ v < 2 ^ 31) : MycatSpec.parseInt (fmtInt v) = some v := by
  unfold MycatSpec.parseInt
  rw [bigInteger_eq, parseBigDec_fmtInt]
  exact if_pos h

theorem specBound (o : Option Int) (h : ∀ v, o = some v → -2 ^ 31 ≤ v ∧ v < 2 ^ 31) :
    (if (MycatSpec.trim (boundText o)).length ≤ 0 then some 0 else MycatSpec.parseInt (MycatSpec.trim (boundText o))) =
      some (boundValue o) := by
  rw [trim_id _ (range_facts _ (boundText_range o)).2.2]
  simp only [Nat.le_zero, List.length_eq_zero_iff]
  exact bound_read MycatSpec.parseInt o fun v hv => specParseInt_fmtInt v (h v hv)

/-- Mycat's `sequenceSlicing` reads the same pair from the same text. -/
theorem spec_hash_slice_pair (s e : Option Int) (hs : ∀ v, s = some v → -2 ^ 31 ≤ v ∧ v < 2 ^ 31)
    (he : ∀ v, e = some v → -2 ^ 31 ≤ v ∧ v < 2 ^ 31) :
    MycatSpec.sequenceSlicing (boundText s ++ 58 :: boundText e) = some (boundValue s, boundValue e) := by
  unfold MycatSpec.sequenceSlicing
  rw [cutColon_eq, Split.cut_some (range_facts _ (boundText_range s)).1]
  dsimp only
  rw [specBound s hs, specBound e he]

theorem spec_hash_slice_single (n : Int) (hn : -2 ^ 31 ≤ n ∧ n < 2 ^ 31) :
    MycatSpec.sequenceSlicing (fmtInt n) = some (if n ≥ 0 then (0, n) else (n, 0)) := by
  obtain ⟨s1, _, s3⟩ := range_facts _ (fmtInt_range n)
  unfold MycatSpec.sequenceSlicing
  rw [cutColon_eq, Split.cut_none s1]
  dsimp only
  rw [trim_id _ s3, specParseInt_fmtInt n hn]
  rfl

/-- The canonical spellings are read identically by Gaea and by Mycat: "1:2", "-3:-1", "1:", ":-1", ":", "2". -/
example : parseHashSliceStartEnd (boundText (some (-3)) ++ 58 :: boundText (some (-1))) = .ok (-3, -1) ∧
    MycatSpec.sequenceSlicing (boundText (some (-3)) ++ 58 :: boundText (some (-1))) = some (-3, -1) :=
  ⟨parse_hash_slice_pair _ _ (by rintro _ ⟨⟩; decide) (by rintro _ ⟨⟩; decide),
   spec_hash_slice_pair _ _ (by rintro _ ⟨⟩; decide) (by rintro _ ⟨⟩; decide)⟩
example : boundText (some 1) ++ 58 :: boundText none = ascii "1:" := by decide +kernel

/-- **Tie to the source constants** (regenerated from util/murmur.go and
    shard_mycat.go on every run by `gvh extract`): the constants and literals of
    the current source are those of the model, which are Guava's and Mycat's. -/
theorem source_constants :
    Gen.shardMurmurC1 = ShardPlace.murmurC1.toNat ∧ Gen.shardMurmurC1 = MycatSpec.C1.toNat ∧
    Gen.shardMurmurC2 = ShardPlace.murmurC2.toNat ∧ Gen.shardMurmurC2 = MycatSpec.C2.toNat ∧
    (Gen.shardPartitionLength : Int) = ShardPlace.PartitionLength ∧ Gen.shardPartitionLength = 1024 ∧
    Gen.shardMixK1Lits = [15] ∧ Gen.shardMixH1Lits = [13, 5, 0xe6546b64] ∧
    Gen.shardFmixLits = [16, 0x85ebca6b, 13, 0xc2b2ae35, 16] ∧ Gen.shardRotateLits = [32] := by
  decide

/-- A supplementary-plane key hashes as two chars in Guava. -/
example : MycatSpec.hashUnencodedChars 0#32 (javaValue (.text [0x1F600])) =
    MycatSpec.hashUnencodedChars 0#32 [0xD83D, 0xDE00] := by decide +kernel

end GaeaVerif.C08
