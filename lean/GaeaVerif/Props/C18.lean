import GaeaVerif.Lemmas.SessConnsPins
import GaeaVerif.Props.C19
/-
  C18 — A transaction stays on one master connection per slice.

  Model: Model/SessionConns.lean (`run cfg ops`: any sequence of client
  commands, disconnects and namespace reloads, every command with its own
  backend faults and map-iteration order; every configuration).  The backend
  ledger of the model records, per connection, its slice and role, how often
  it was given back, and three monitors that are set at the moment of the
  event: `uar` (touched after it was given back), `dup` (handed out while
  another connection of the same slice was out), `rif` (given back while a
  statement was in flight).

  How the English property is rendered.  "Every statement that touches slice S
  between BEGIN and COMMIT runs on one and the same master connection, never on
  a replica, never on a connection another session is using" is the
  conjunction of
   * `no_second_conn_on_slice`: at no moment are two connections of one slice
     out, so at every moment there is at most one connection a statement on S
     can legitimately run on;
   * `never_used_after_return`: no backend call ever hits a connection that is
     not out (it may belong to another session by then);
   * `tx_conns_master`, `ks_conns_master`: between commands the session holds,
     per slice, one connection, which is a master connection of that slice and
     is out (keep-session mode and read-only users included);
   * `tx_affinity` (`tx_pin_stable`, `tx_held_stable`, `tx_affinity_tx`): the
     connection filed under a slice does not change until a command that ends
     the transaction - for all histories, faults, timeouts and lost connections:
     when the transaction loses a connection the session is closed instead
     (`tx_conns_open`: an open session in a transaction holds no closed
     connection).
  "COMMIT and ROLLBACK are sent to exactly the connections used by the
  transaction, after which those connections are released" is `commit_targets`,
  `rollback_targets` and `commit_releases`.

  The pinned tree violated the full statements in three ways; all three are
  repaired (fix commits 5a42848, cb8bfb6, e307c15).  The histories that
  witnessed them are theorems about the repaired behaviour
  (`tx_conn_loss_closes_session`, `ks_readonly_tx_on_master`,
  C19.`timeout_conn_closed_before_return`) and corpus cases.
-/
namespace GaeaVerif.C18
open GaeaVerif.SessionConns

theorem run_append (cfg : Cfg) (ops mid : List Op) :
    run cfg (ops ++ mid) = mid.foldl (fun s op => (step cfg s op).1) (run cfg ops) := by
  simp [run, List.foldl_append]

/-- At no moment of any history are two connections of one slice out. -/
theorem no_second_conn_on_slice (cfg : Cfg) (ops : List Op) :
    ∀ c ∈ (run cfg ops).w.conns, c.dup = false :=
  fun c hc => ((idle_run_all cfg ops).conn_flags c hc).2

/-- No backend call of any history hits a connection after it was given back
    to its pool ("never on a connection another session is using"). -/
theorem never_used_after_return (cfg : Cfg) (ops : List Op) :
    ∀ c ∈ (run cfg ops).w.conns, c.uar = false :=
  C19.no_use_after_return cfg ops

/-- Between two commands, every connection of the transaction is a master
    connection of the slice it is filed under and is out (not given back);
    there is one per slice and none is filed twice.  For all histories. -/
theorem tx_conns_master (cfg : Cfg) (ops : List Op) :
    (∀ e ∈ (run cfg ops).txConns, ∃ cn : Conn, (run cfg ops).w.conns[e.2]? = some cn ∧
      cn.master = true ∧ cn.slice = e.1 ∧ cn.returns = 0) ∧
    (run cfg ops).txConns.keys.Nodup ∧ (run cfg ops).txConns.vals.Nodup := by
  have h := (idle_run_all cfg ops).ledger
  refine ⟨fun e he => (idle_run_all cfg ops).held_conn (held_tx he), ?_, ?_⟩
  · exact (List.nodup_append.1 (held_keys _ ▸ h.nodupS)).1
  · exact (List.nodup_append.1 (held_vals _ ▸ h.nodupC)).1

/-- With keep-session the pinned connections are master connections of the
    slice they are filed under, and are out - for every user (the read-only
    ones included since cb8bfb6), every history. -/
theorem ks_conns_master (cfg : Cfg) (ops : List Op) :
    ∀ e ∈ (run cfg ops).ksConns, ∃ cn : Conn, (run cfg ops).w.conns[e.2]? = some cn ∧
      cn.master = true ∧ cn.slice = e.1 ∧ cn.returns = 0 :=
  fun _ he => (idle_run_all cfg ops).held_conn (held_ks he)

/-- Outside keep-session mode a session that is not in a transaction holds no connection. -/
theorem idle_holds_nothing (cfg : Cfg) (ops : List Op) (hks : cfg.ks = false)
    (hin : (run cfg ops).isInTransaction = false) :
    (run cfg ops).txConns = [] ∧ (run cfg ops).ksConns = [] :=
  ⟨(idle_run_all cfg ops).inv.txIdle hin, (idle_run_all cfg ops).inv.ksOff hks⟩

/-- One more operation that does not end the transaction (anything but COMMIT,
    ROLLBACK, autocommit=1, quit, disconnect), whatever its faults, timeouts and
    iteration order: every entry of the transaction's map is still there
    afterwards, or the session has been closed (which is what happens when the
    transaction loses a connection: the statement fails and `Session.Run` ends
    the session, fix 5a42848). -/
theorem tx_pin_stable (cfg : Cfg) (ops : List Op) (op : Op) (hkeep : op.body.keepsTx = true) :
    ∀ e ∈ (run cfg ops).txConns,
      e ∈ (run cfg (ops ++ [op])).txConns ∨ (run cfg (ops ++ [op])).closed = true :=
  run_snoc .. ▸ (cmdResult_step cfg op (idle_run_all cfg ops)).tx hkeep

/-- The same for everything a session in a transaction holds, keep-session mode
    included (there the transaction runs on the pinned connections): one more
    operation that does not end the transaction leaves the session closed, or
    still in its transaction with every connection it held, filed under the same
    slice. -/
theorem tx_held_stable (cfg : Cfg) (ops : List Op) (op : Op) (hkeep : op.body.keepsTx = true)
    (hin : (run cfg ops).isInTransaction = true) :
    (run cfg (ops ++ [op])).closed = true ∨
    ((run cfg (ops ++ [op])).isInTransaction = true ∧
      ∀ e ∈ held (run cfg ops), e ∈ held (run cfg (ops ++ [op]))) := by
  rw [run_snoc]
  have key := cmdResult_step cfg op (idle_run_all cfg ops)
  by_cases hc : (step cfg (run cfg ops) op).1.closed = true
  · exact .inl hc
  · refine .inr ⟨(key.intx hkeep hin).resolve_left hc, fun e he => ?_⟩
    rcases List.mem_append.1 he with he | he
    · exact held_tx ((key.tx hkeep e he).resolve_right hc)
    · rcases key.ks e he with h1 | h1 | ⟨_, h1⟩
      · exact held_ks h1
      · exact absurd h1 hc
      · rw [hin] at h1; cases h1

/-- `tx_affinity` — the transaction stays on its connections.  From any point
    of any history at which the session is in a transaction, through any further
    operations that do not end the transaction (statements on any slices,
    savepoints, BEGIN again, pings, reloads; any backend faults, statement
    timeouts, lost connections, iteration orders): the connection filed under a
    slice is the same at the end - or the session has been closed.  No
    transaction silently continues on another connection.  With
    `tx_conns_master`, `ks_conns_master`, `no_second_conn_on_slice` and
    `never_used_after_return` this is "every statement of the transaction that
    touches slice S runs on one and the same master connection of S". -/
theorem tx_affinity (cfg : Cfg) (ops mid : List Op) (hkeep : ∀ op ∈ mid, op.body.keepsTx = true)
    (hin : (run cfg ops).isInTransaction = true) :
    (run cfg (ops ++ mid)).closed = true ∨
    ((run cfg (ops ++ mid)).isInTransaction = true ∧
      ∀ e ∈ held (run cfg ops), e ∈ held (run cfg (ops ++ mid))) :=
  run_append_induction (P := fun s => s.isInTransaction = true ∧ ∀ e ∈ held (run cfg ops), e ∈ held s) cfg mid
    (fun ops' op hop _ hP => (tx_held_stable cfg ops' op (hkeep op hop) hP.1).imp_right fun ⟨h1, h2⟩ =>
      ⟨h1, fun e he => h2 e (hP.2 e he)⟩) ops (.inr ⟨hin, fun _ he => he⟩)

/-- the transaction's map alone (outside keep-session mode everything the
    transaction holds): no hypothesis on the state at all -/
theorem tx_affinity_tx (cfg : Cfg) (ops mid : List Op) (hkeep : ∀ op ∈ mid, op.body.keepsTx = true) :
    ∀ e ∈ (run cfg ops).txConns,
      e ∈ (run cfg (ops ++ mid)).txConns ∨ (run cfg (ops ++ mid)).closed = true :=
  fun e he => (run_append_induction (P := fun s => e ∈ s.txConns) cfg mid
    (fun ops' op hop _ hP => (tx_pin_stable cfg ops' op (hkeep op hop) e hP).symm) ops (.inr he)).symm

/-- Between two commands, the connections of an open session that is in a
    transaction are all open: a transaction never goes on with a lost connection. -/
theorem tx_conns_open (cfg : Cfg) (ops : List Op) (hopen : (run cfg ops).closed = false)
    (hin : (run cfg ops).isInTransaction = true) :
    ∀ e ∈ held (run cfg ops), isClosed e.2 (run cfg ops).w = false :=
  heldOpen_run cfg ops hopen hin

/-- COMMIT, ROLLBACK and autocommit=1 (outside keep-session mode) leave the
    transaction's map empty and every connection that was in it given back
    exactly once.  For all histories, faults included (a COMMIT that fails on
    one connection still releases all of them). -/
theorem commit_releases (cfg : Cfg) (ops : List Op) (op : Op) (hks : cfg.ks = false)
    (hb : op.body = .commit ∨ op.body = .rollback ∨ op.body = .ac true)
    (hopen : (run cfg ops).closed = false) :
    (run cfg (ops ++ [op])).txConns = [] ∧
    ∀ e ∈ (run cfg ops).txConns, ∃ cn : Conn,
      (run cfg (ops ++ [op])).w.conns[e.2]? = some cn ∧ cn.returns = 1 := by
  have hI := idle_run_all cfg ops
  have hI' := idle_run_all cfg (ops ++ [op])
  have htx : (run cfg (ops ++ [op])).txConns = [] := by
    rw [run_snoc, step_command cfg op (by rcases hb with hb | hb | hb <;> rw [hb] <;> rfl) hopen]
    exact (runCommand_endTx (ctx := op.toCtx cfg) (s := (run cfg ops).fresh) hks op.body hb hI.cont (hI.inv.ksOff hks)).1
  refine ⟨htx, fun e he => ?_⟩
  -- the connection is still in the ledger, and it is not held any more
  obtain ⟨cn, hcn, -⟩ := hI.held_conn (held_tx he)
  obtain ⟨cn', hcn', -⟩ := run_snoc .. ▸ hI.ext_step op e.2 cn hcn
  exact ⟨cn', hcn', hI'.ledger.ret e.2 cn' hcn' (by simp [held, htx, hI'.inv.ksOff hks, CMap.vals])⟩

/-- COMMIT (outside keep-session mode) is sent to exactly the connections of
    the transaction, each once: the connections that receive a COMMIT during the
    command are, up to order, the ones filed in the transaction's map. -/
theorem commit_targets (cfg : Cfg) (ops : List Op) (op : Op) (hks : cfg.ks = false)
    (hb : op.body = .commit) (hopen : (run cfg ops).closed = false) :
    (callsOn .C (run cfg (ops ++ [op])).w.trace).Perm (run cfg ops).txConns.vals := by
  have hI := idle_run_all cfg ops
  rw [run_snoc]
  refine targets_step (m := mergeAnd) (P := fun _ => True)
    (fun c w cn hcn _ => callsOn_commitTx (op.toCtx cfg) c w cn hcn) (conns_commitTx_other _) op hI hks hopen
    (.inl hb) (fun s2 h2 => ?_) fun c hc => ?_
  · simp [hb, Op.toCtx, executeCommand, commit, h2, iterOrder, sortBy, CMap.vals, eachConn]
  · obtain ⟨sl, hsl⟩ := mem_vals.1 hc
    obtain ⟨cn, hcn, -⟩ := hI.held_conn (held_tx hsl)
    exact ⟨cn, hcn, trivial⟩

/-- ROLLBACK (outside keep-session mode) is sent to exactly the connections of
    the transaction, each once: the connections that receive a ROLLBACK during
    the command are, up to order, the ones filed in the transaction's map
    (`rollback` skips a connection that is closed, but an open session in a
    transaction holds none: `tx_conns_open`). -/
theorem rollback_targets (cfg : Cfg) (ops : List Op) (op : Op) (hks : cfg.ks = false)
    (hb : op.body = .rollback) (hopen : (run cfg ops).closed = false) :
    (callsOn .R (run cfg (ops ++ [op])).w.trace).Perm (run cfg ops).txConns.vals := by
  have hI := idle_run_all cfg ops
  rw [run_snoc]
  refine targets_step (m := mergeLast) (P := fun cn => cn.closed = false)
    (callsOn_rollbackTx (op.toCtx cfg)) (conns_rollbackTx_other _)
    op hI hks hopen (.inr (.inl hb)) (fun s2 h2 => ?_) fun c hc => ?_
  · simp [hb, Op.toCtx, executeCommand, rollback, h2, iterOrder, sortBy, CMap.vals, eachConn]
  · obtain ⟨sl, hsl⟩ := mem_vals.1 hc
    obtain ⟨cn, hcn, -⟩ := hI.held_conn (held_tx hsl)
    have hop := tx_conns_open cfg ops hopen (hI.inTx_of_tx hsl) (sl, c) (held_tx hsl)
    simp only [isClosed, hcn] at hop
    exact ⟨cn, hcn, hop⟩

/-! ## The defects of the pinned tree, repaired

  The histories that witnessed the findings `tx-continues-after-conn-loss` and
  `ks-readonly-tx-on-replica`: the theorems state what the repaired code does
  on them. -/

/-- a transaction on slice 0, a statement that times out, another statement -/
def connLossOps : List Op :=
  [ { body := .begin, ord := [0, 1], faults := [] },
    { body := .qu .w, ord := [0, 1], faults := [] },
    { body := .qu .w, ord := [0, 1], faults := [{ k := .x, slice := 0, mode := .t }] },
    { body := .qu .w, ord := [0, 1], faults := [] } ]

/-- Former finding `tx-continues-after-conn-loss` (repaired by 5a42848): the
    statement that times out ends the session; the transaction's connection was
    closed and given back exactly once, and no second connection is ever taken. -/
theorem tx_conn_loss_closes_session :
    (run { ks := false, user := .w, fb := true } (connLossOps.take 2)).txConns = [(0, 0)] ∧
    (run { ks := false, user := .w, fb := true } (connLossOps.take 3)).closed = true ∧
    (run { ks := false, user := .w, fb := true } connLossOps).txConns = [] ∧
    ((run { ks := false, user := .w, fb := true } connLossOps).w.conns.map fun c => (c.closed, c.returns)) = [(true, 1)] := by
  decide +kernel

/-- a read-only user of a keep-session namespace opens a transaction -/
def ksReadonlyOps : List Op :=
  [ { body := .begin, ord := [0, 1], faults := [] },
    { body := .qu .r, ord := [0, 1], faults := [] } ]

/-- Former finding `ks-readonly-tx-on-replica` (repaired by cb8bfb6): the
    connection a read-only user's keep-session transaction runs on is a master
    connection. -/
theorem ks_readonly_tx_on_master :
    (run { ks := true, user := .r, fb := true } ksReadonlyOps).inTrans = true ∧
    (run { ks := true, user := .r, fb := true } ksReadonlyOps).ksConns = [(0, 0)] ∧
    ((run { ks := true, user := .r, fb := true } ksReadonlyOps).w.conns.map (·.master)) = [true] := by
  decide +kernel

/-! Non-vacuity -/

/-- a two-slice transaction -/
def demoOps : List Op :=
  [ { body := .begin, ord := [0, 1], faults := [] },
    { body := .qs .w [0, 1], ord := [1, 0], faults := [{ k := .x, slice := 1, mode := .e }] } ]
def demoMid : List Op :=
  [ { body := .qu .w, ord := [0, 1], faults := [{ k := .u, slice := 0, mode := .e }] },
    { body := .sp 1, ord := [1, 0], faults := [] },
    { body := .qs .r [1], ord := [0, 1], faults := [] } ]
/-- the same with a statement timeout in the middle: the session is closed -/
def demoMidLost : List Op :=
  [ { body := .qu .w, ord := [0, 1], faults := [] },
    { body := .qs .w [0, 1], ord := [0, 1], faults := [{ k := .x, slice := 1, mode := .t }] },
    { body := .qu .w, ord := [0, 1], faults := [] } ]

example : (run { ks := false, user := .w, fb := true } demoOps).txConns = [(1, 0), (0, 1)] := by decide +kernel
example : (run { ks := false, user := .w, fb := true } demoOps).isInTransaction = true := by decide +kernel
example : (run { ks := false, user := .w, fb := true } (demoOps ++ demoMid)).txConns = [(1, 0), (0, 1)] ∧
    (run { ks := false, user := .w, fb := true } (demoOps ++ demoMid)).closed = false := by decide +kernel
example : (run { ks := false, user := .w, fb := true } (demoOps ++ demoMidLost)).closed = true := by decide +kernel
example : ∀ op ∈ demoMid ++ demoMidLost, op.body.keepsTx = true := by decide +kernel
/-- keep-session: the transaction runs on the pinned connections -/
example : held (run { ks := true, user := .rw, fb := true } demoOps) = [(1, 0), (0, 1)] ∧
    held (run { ks := true, user := .rw, fb := true } (demoOps ++ demoMid)) = [(1, 0), (0, 1)] := by decide +kernel
/-- a ROLLBACK that reaches both connections of the transaction -/
example : callsOn .R (run { ks := false, user := .w, fb := true }
    (demoOps ++ [{ body := .rollback, ord := [0, 1], faults := [] }])).w.trace = [0, 1] := by decide +kernel

end GaeaVerif.C18
