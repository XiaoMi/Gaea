import GaeaVerif.Lemmas.TabRefC06
import GaeaVerif.Gen.Consts
/-
  C06 — The fast unsharded path never bypasses sharding.

  Theorems about `Model/FastPathC06.lean` (`preBuildUnshardPlan` and what it
  calls), whose tie to /repo is the correspondence check `gvh run C06`.

  The property compares the token pre-check with the parser-based analysis.
  The parser is not modelled (it is the reference); the property is rendered
  on the lexical layer, as DESIGN.md C06 describes:

    the pre-check answers "unshard" only for statements none of whose words —
    maximal runs of letters, digits, `_`, `$` and non-ASCII characters,
    lower-cased — is the name of a table with a shard, linked or global rule in
    any database of the router                                  (`fastpath_sound`),

  for every statement text, router, session database and statement kind; and,
  read the other way round, whatever surrounds the name — letter case,
  back-quotes, schema qualification, comments and line breaks glued to it,
  commas, JOINs, sub-queries, several FROMs — a statement that mentions a ruled
  table as a word never takes the shortcut       (`fastpath_never_shortcuts_mention`).

  The bridge to "the plan `BuildPlan` returns" is, in
  `fastpath_agrees_with_checker`, the assumption `parser_tables_are_words`
  (its hypothesis `hasm`: every table name the parser reports is a word of the
  text).  Over a grammar of table references it is a lemma
  (`Model/TabRefC06.lean`: bare and back-quoted identifiers with doubled
  back-quotes and any characters inside, schema qualification with blanks and
  comments around the dot, any letter case, names glued to punctuation, names
  glued to the version number of an executable comment, names delimited by
  Unicode white space): `stmt_refs_seen` shows that the guard sees every table
  reference of a well-formed statement of the grammar, and
  `fastpath_agrees_with_checker_grammar` that `plan.Checker` (modelled:
  `checkerScan`) finds no sharded table in such a statement when the pre-check
  forwards it — for every router, also one whose table names need quoting.
  What remains trusted is that the parser reports, for the text `renderStmt`
  renders, the references of the grammar; the correspondence checks that on
  every statement generated from the grammar (field `gram`), checks on every
  generated statement, grammar or not, that the guard sees every table name
  the parser reports (`NameSeen`, field `asm`), compares `checkerScan` with the
  real `plan.Checker` (field `chk`), and checks the property itself: pre-check =
  unshard never coincides with a shard plan / shard-planner error of `BuildPlan`.
-/
namespace GaeaVerif.C06
open GaeaVerif GaeaVerif.Tok GaeaVerif.FastPath

/-- The separator set of `parser.IsSqlSep` is the one the model uses. -/
theorem sqlSeps_eq_source : Tok.sqlSeps = Gen.c06_sqlSeps := rfl

/-- The keys of `mysql.ParseTokenMap` are the ones the model knows. -/
theorem parseTokenKeys_eq_source : FastPath.parseTokenKeys = Gen.c06_parseTokenKeys := rfl

/-- `mysql.ParseTokenIdStrMap` for the five statement keywords the pre-check switches on. -/
theorem keyword_neighbours_eq_source :
    Gen.c06_tokenNeighbour =
      [("select", "from"), ("delete", "from"), ("insert", "into"), ("replace", "into"), ("update", "set")] := rfl

/-- The statement kinds of `parser.Preview` the models use. -/
theorem stmt_kinds_eq_source :
    (FastPath.stmtSelect, FastPath.stmtInsert, FastPath.stmtReplace, FastPath.stmtUpdate,
      FastPath.stmtDelete, FastPath.stmtShow, FastPath.stmtComment)
    = (Gen.c06_StmtSelect, Gen.c06_StmtInsert, Gen.c06_StmtReplace, Gen.c06_StmtUpdate,
      Gen.c06_StmtDelete, Gen.c06_StmtShow, Gen.c06_StmtComment) := rfl

theorem lastInsertIdMark_eq_source : String.ofList FastPath.lastInsertIdMark = Gen.c06_lastInsetIdMark :=
  String.ofList_toList

/-- `Tokenize` cannot panic: its only index expression, `tokens[0]`, is
    evaluated only for texts that start with `/*`, which always have a token
    (`Tok.tokens_of_block_comment_ne_nil`). -/
theorem tokenize_never_panics (s : Str) : tokenize s ≠ .panic := by
  obtain ⟨t, ht⟩ := tokenize_ok s
  rw [ht]; simp

/-- No word of the statement, lower-cased, is the name of a table with a rule. -/
def NoRuledWord (rules : List (Str × Str)) (sql : Str) : Prop :=
  ∀ w ∈ identWords sql, ∀ r ∈ rules, r.2 ≠ toLower w

/-- No table with a rule is mentioned: each has a word in its name that the
    guard's word set of the statement lacks. -/
def NotMentioned (rules : List (Str × Str)) (sql : Str) : Prop :=
  ∀ r ∈ rules, ∃ p ∈ identWords r.2, p ∉ statementWords sql

theorem mentionsShardTable_false_iff (sql : Str) (rules : List (Str × Str)) :
    mentionsShardTable sql rules = false ↔ NotMentioned rules sql := by
  simp [mentionsShardTable, NotMentioned, isMentioned]

/-- The guard sees the table name `n`: every word of the lower-cased name is in
    the guard's word set of the statement. -/
def NameSeen (sql n : Str) : Prop := ∀ p ∈ identWords (toLower n), p ∈ statementWords sql

instance (sql n : Str) : Decidable (NameSeen sql n) := by unfold NameSeen; exact inferInstance

theorem nameSeen_of_words_subset (sql n : Str) (h : ∀ w ∈ identWords n, w ∈ identWords sql) : NameSeen sql n := by
  intro p hp
  rw [identWords_toLower] at hp
  obtain ⟨w, hw, rfl⟩ := List.mem_map.1 hp
  exact lower_word_mem_statementWords sql w (h w hw)

theorem nameSeen_of_word (sql w : Str) (h : w ∈ identWords sql) : NameSeen sql w := by
  obtain ⟨hne, hid⟩ := mem_identWords sql w h
  apply nameSeen_of_words_subset
  rw [identWords_word w hne hid]
  intro w' hw'
  rwa [List.mem_singleton.1 hw']

theorem seen_not_ruled (rules : List (Str × Str)) (sql n db : Str)
    (hnm : NotMentioned rules sql) (hs : NameSeen sql n) : hasRule rules db (toLower n) = false := by
  have key : ∀ d t, (∀ p ∈ identWords t, p ∈ identWords (toLower n)) → (d, t) ∉ rules := by
    intro d t hsub hmem
    obtain ⟨p, hp, hn⟩ := hnm (d, t) hmem
    exact hn (hs p (hsub p hp))
  apply Bool.eq_false_iff.2
  intro hr
  rcases hasRule_cases rules db _ hr with ⟨a, b, hsplit, hmem⟩ | hmem
  · refine key _ _ (fun p hp => ?_) hmem
    rw [identWords_trimBackquote] at hp
    rw [splitAll_two '.' _ a b hsplit, identWords_sep '.' (by decide)]
    exact List.mem_append_right _ hp
  · exact key db (toLower n) (fun p hp => hp) hmem

theorem finish_unshard (g : Guard) (cfg : Cfg) (sql : Str) (r : Option (Str × Bool)) (d : Str)
    (h : finish g cfg sql r = .unshard d) :
    g.mentions sql cfg.rules = false ∧ preCreateOK cfg.phyDBs d = true ∧
      finish .none cfg sql r = .unshard d := by
  unfold finish at h ⊢
  split at h
  · cases h
  · split at h
    · rename_i hc
      cases h
      simp only [Bool.and_eq_true, Bool.not_eq_eq_eq_not, Bool.not_true] at hc
      exact ⟨hc.1.2, hc.2, by simp [hc.1.1, hc.2, Guard.mentions]⟩
    · cases h

theorem mentions_nil (g : Guard) (sql : Str) : g.mentions sql [] = false := by
  cases g <;> simp [Guard.mentions, mentionsShardTable, mentionsShardTableV1]

theorem preDecide_unshard (g : Guard) (cfg : Cfg) (db : Str) (st : Nat) (sql : Str) (tokens : List Str) (d : Str)
    (h : preDecide g cfg db st sql tokens = .unshard d) :
    g.mentions sql cfg.rules = false ∧ preCreateOK cfg.phyDBs d = true ∧
      preDecide .none cfg db st sql tokens = .unshard d := by
  unfold preDecide at h ⊢
  cases tokens with
  | nil => cases h
  | cons t0 tl =>
    simp only at h ⊢
    by_cases h1 : (st == stmtComment || lastInsertIdGuard (t0 :: tl)) = true
    · rw [if_pos h1] at h; cases h
    rw [if_neg h1] at h ⊢
    by_cases h2 : (cfg.rules.isEmpty && preCreateOK cfg.phyDBs db) = true
    · rw [if_pos h2] at h ⊢
      cases h
      rw [Bool.and_eq_true, List.isEmpty_iff] at h2
      exact ⟨by rw [h2.1, mentions_nil], h2.2, rfl⟩
    rw [if_neg h2] at h ⊢
    cases hp : parseToken t0 with
    | none => rw [hp] at h; cases h
    | some kw =>
      rw [hp] at h
      exact finish_unshard g cfg sql _ d h

theorem preBuild_unshard (cfg : Cfg) (db : Str) (st : Nat) (sql : Str) (d : Str)
    (h : preBuildUnshardPlan cfg db st sql = .ok (.unshard d)) :
    mentionsShardTable sql cfg.rules = false ∧ preCreateOK cfg.phyDBs d = true ∧
      preBuildUnshardPlanPinned cfg db st sql = .ok (.unshard d) := by
  obtain ⟨tokens, ht⟩ := tokenize_ok sql
  rw [preBuildUnshardPlan, ht] at h
  obtain ⟨hg, hdb, hnone⟩ := preDecide_unshard .cur cfg db st sql tokens d (R.ok.inj h)
  exact ⟨hg, hdb, by rw [preBuildUnshardPlanPinned, ht]; exact congrArg R.ok hnone⟩

/-- **C06, soundness of the pre-check, for every router.**  For every namespace
    (router rules — also on tables whose names need quoting —, physical
    databases), session database, statement kind and statement text: if
    `preBuildUnshardPlan` answers "unshard" (the statement is forwarded unrewritten
    to the default slice and the parser never sees it), then no sharded, linked
    or global table of any database is mentioned: each has a word in its name
    that is not, in any letter case, a word of the statement (nor a word of the
    statement without the version number of an executable comment). -/
theorem fastpath_sound_names (cfg : Cfg) (db : Str) (st : Nat) (sql : Str) (d : Str)
    (h : preBuildUnshardPlan cfg db st sql = .ok (.unshard d)) :
    NotMentioned cfg.rules sql :=
  (mentionsShardTable_false_iff sql cfg.rules).1 (preBuild_unshard cfg db st sql d h).1

/-- **C06, soundness of the pre-check.**  For every namespace (router rules,
    physical databases), session database, statement kind and statement text:
    if `preBuildUnshardPlan` answers "unshard" (the statement is forwarded
    unrewritten to the default slice and the parser never sees it), then no
    word of the statement is, lower-cased, the name of a sharded, linked or
    global table of any database. -/
theorem fastpath_sound (cfg : Cfg) (db : Str) (st : Nat) (sql : Str) (d : Str)
    (h : preBuildUnshardPlan cfg db st sql = .ok (.unshard d)) :
    NoRuledWord cfg.rules sql := by
  intro w hw r hr heq
  obtain ⟨p, hp, hn⟩ := fastpath_sound_names cfg db st sql d h r hr
  rw [heq] at hp
  exact hn (nameSeen_of_word sql w hw p hp)

example : preBuildUnshardPlan { rules := [("db_ks".toList, "t_shard".toList)], phyDBs := [] }
    "db_ks".toList 0 "select * from u where id = 1".toList = .ok (.unshard "db_ks".toList) := by
  -- `String.toList_ofList` reads the characters off the literals (`"ab"` unfolds to `String.ofList ['a', 'b']`);
  -- evaluating `"ab".toList` as it stands decodes the UTF-8 bytes of the literal one by one.
  repeat rw [String.toList_ofList]
  decide +kernel

/-- **C06, every way of writing the name.**  If the statement contains, as a
    word (delimited on each side by the end of the text or by any character that
    is not a letter, digit, `_`, `$` or non-ASCII: blank, line break, comma,
    back-quote, dot, parenthesis, comment mark …), a spelling in any letter case
    of the name of a table with a rule, the pre-check does not answer "unshard",
    whatever precedes and follows: other tables, JOINs, sub-queries, comments. -/
theorem fastpath_never_shortcuts_mention (cfg : Cfg) (db : Str) (st : Nat) (pre name post : Str) (d : Str)
    (r : Str × Str) (hr : r ∈ cfg.rules) (hname : r.2 = toLower name)
    (hne : name ≠ []) (hid : ∀ c ∈ name, isIdentChar c = true)
    (hpre : ∀ c, pre.getLast? = some c → isIdentChar c = false)
    (hpost : ∀ c, post.head? = some c → isIdentChar c = false) :
    preBuildUnshardPlan cfg db st (pre ++ name ++ post) ≠ .ok (.unshard d) :=
  fun h => fastpath_sound cfg db st _ d h name (mem_identWords_of_delimited pre name post hne hid hpre hpost) r hr hname

/-- Instances of the previous theorem for the spellings the pinned tree let through. -/
example (d : Str) : preBuildUnshardPlan { rules := [("db_ks".toList, "t_shard".toList)], phyDBs := [] }
    "db_ks".toList 0 ("select * from u join ".toList ++ "T_Shard".toList ++ " on 1=1".toList) ≠ .ok (.unshard d) := by
  repeat rw [String.toList_ofList]
  exact fastpath_never_shortcuts_mention _ _ _ _ _ _ d _ (List.mem_singleton_self _) (by decide +kernel)
    (by decide +kernel) (by decide +kernel) (by decide +kernel) (by decide +kernel)

/-- **C06, against the parser-based analysis, with the assumption at its weakest.**
    If the guard sees every table name the parser reports (`NameSeen`: every word
    of the lower-cased name is in the guard's word set — true of any name between
    back-quotes, whatever characters it holds), `plan.Checker` finds no sharded
    table in a statement the pre-check forwards.  The correspondence checks
    `NameSeen` for every table the parser reports on every generated statement
    (field `asm`). -/
theorem fastpath_agrees_with_checker_seen (cfg : Cfg) (db : Str) (st : Nat) (sql : Str) (d : Str)
    (tables : List (Str × Str))
    (h : preBuildUnshardPlan cfg db st sql = .ok (.unshard d))
    (hasm : ∀ t ∈ tables, NameSeen sql t.2) :
    checkerScan cfg.rules db tables ≠ .shard := by
  have hnm := fastpath_sound_names cfg db st sql d h
  induction tables with
  | nil => simp [checkerScan]
  | cons t rest ih =>
    rw [checkerScan, seen_not_ruled cfg.rules sql t.2 _ hnm (hasm t (by simp))]
    split
    · simp
    · exact ih (fun t ht => hasm t (by simp [ht]))

example : NameSeen "select * from u, `Order-Items`".toList "Order-Items".toList := by
  repeat rw [String.toList_ofList]
  decide +kernel

/-- **C06, against the parser-based analysis.**  Under the assumption
    `parser_tables_are_words` — every table name the parser reports for the
    statement is one of its words — a statement the pre-check forwards is one in
    which `plan.Checker` finds no sharded table: `BuildPlan` would not have built
    a shard plan for it.  `tables` are the (schema, name) pairs of the parser's
    `TableName` nodes as written in the statement. -/
theorem fastpath_agrees_with_checker (cfg : Cfg) (db : Str) (st : Nat) (sql : Str) (d : Str)
    (tables : List (Str × Str))
    (h : preBuildUnshardPlan cfg db st sql = .ok (.unshard d))
    (hasm : ∀ t ∈ tables, t.2 ∈ identWords sql) :
    checkerScan cfg.rules db tables ≠ .shard :=
  fastpath_agrees_with_checker_seen cfg db st sql d tables h (fun t ht => nameSeen_of_word sql t.2 (hasm t ht))

example : checkerScan [("db_ks".toList, "t_shard".toList)] "db_ks".toList [("".toList, "T_SHARD".toList)] = .shard := by
  repeat rw [String.toList_ofList]
  decide +kernel

/-! ### the grammar of table references: the guard sees every reference

  `Model/TabRefC06.lean`.  The assumption of the theorem above becomes a lemma:
  for a statement built from the grammar (`renderStmt segs`) that is well formed
  (`wfStmt`: a bare name is delimited, or glued to the version number of an
  executable comment), the guard sees the name of every table reference. -/

/-- `M?[0-9]{5,6}`. -/
def IsVersionNumber (v : Str) : Prop :=
  ∃ m ds, v = versionText m ds ∧ (∀ c ∈ ds, isDigit c = true) ∧ (ds.length = 5 ∨ ds.length = 6)

theorem mem_withoutVersionNumber (v n : Str) (hv : IsVersionNumber v) : n ∈ withoutVersionNumber (v ++ n) := by
  obtain ⟨m, ds, rfl, hd, hlen⟩ := hv
  have hstrip : trimPrefixM (versionText m ds ++ n) = ds ++ n := by
    unfold trimPrefixM
    cases m with
    | true => simp [versionText]
    | false =>
      simp only [versionText, Bool.false_eq_true, if_false, List.nil_append]
      cases ds with
      | nil => simp at hlen
      | cons c cs =>
        have := (isDigit_isIdentChar c (hd c (by simp))).2
        simp only [List.cons_append]
        split
        · rename_i heq
          simp only [List.cons.injEq] at heq
          exact absurd heq.1 this
        · rfl
  simp only [withoutVersionNumber, hstrip, List.takeWhile_append_of_pos hd, List.length_append, List.mem_append]
  rcases hlen with h | h
  · exact Or.inl (by rw [if_pos (by omega), ← h, List.drop_left]; exact List.mem_singleton_self n)
  · exact Or.inr (by rw [if_pos (by omega), ← h, List.drop_left]; exact List.mem_singleton_self n)

theorem versionText_isIdent (v : Str) (hv : IsVersionNumber v) : ∀ c ∈ v, isIdentChar c = true := by
  obtain ⟨m, ds, rfl, hd, _⟩ := hv
  intro c hc
  rcases List.mem_append.1 hc with hc | hc
  · cases m
    · cases hc
    · rw [List.mem_singleton.1 hc]; decide
  · exact (isDigit_isIdentChar c (hd c hc)).1

/-- **The guard sees a table reference however it is written.**  `pre` is the
    text before the name identifier (with the schema qualification, if any),
    `post` the text after it.  A back-quoted name — any characters, back-quotes
    doubled — is seen whatever surrounds it; a bare name when it is delimited
    on both sides (end of the text or a character that is not an identifier
    character: blank, Unicode white space, punctuation, back-quote, dot, comment
    mark …), or when it follows `/*!` + a version number directly. -/
theorem name_seen (pre post : Str) (name : Ident) (ver : Bool)
    (hver : ver = true → ∃ p v, pre = p ++ versionMark ++ v ∧ IsVersionNumber v)
    (h : wfName pre.getLast? ver name post = true) :
    NameSeen (pre ++ name.render ++ post) name.name := by
  obtain ⟨q, n⟩ := name
  cases q with
  | backquote =>
    apply nameSeen_of_words_subset
    intro w hw
    rw [Ident.render, identWords_backquoted]
    simp [hw]
  | bare =>
    simp only [wfName, Bool.and_eq_true, Bool.not_eq_eq_eq_not, Bool.not_true, List.isEmpty_eq_false_iff,
      List.all_eq_true, Bool.or_eq_true, endsWord_iff] at h
    obtain ⟨⟨⟨hne, hid⟩, hleft⟩, hpost⟩ := h
    rw [Ident.render]
    rcases hleft with hv | hl
    · -- glued to the version number of an executable comment: the word is `v ++ n`, and `n` is
      -- one of its readings without the version number
      obtain ⟨p, v, rfl, hvn⟩ := hver hv
      have hword : v ++ n ∈ identWords (p ++ versionMark ++ v ++ n ++ post) := by
        rw [List.append_assoc (p ++ versionMark)]
        apply mem_identWords_of_delimited _ _ _ (by simp [hne]) _ _ hpost
        · intro c hc
          exact (List.mem_append.1 hc).elim (versionText_isIdent v hvn c) (hid c)
        · intro c hc
          rw [versionMark, List.getLast?_append] at hc
          cases hc
          decide
      have hcont : containsSub versionMark (p ++ versionMark ++ v ++ n ++ post) = true := by
        rw [List.append_assoc, List.append_assoc]
        exact containsSub_mid _ _ _
      intro w hw
      rw [identWords_toLower, identWords_word n hne hid] at hw
      obtain rfl := List.mem_singleton.1 hw
      exact versionless_mem_statementWords _ (v ++ n) n hcont hword (mem_withoutVersionNumber v n hvn)
    · -- delimited on both sides
      exact nameSeen_of_word _ _ (mem_identWords_of_delimited pre n post hne hid hl hpost)

theorem afterVersion_append (ver : Bool) (pre s : Str)
    (hver : ver = true → ∃ p v, pre = p ++ versionMark ++ v ∧ IsVersionNumber v) :
    (ver && s.isEmpty) = true → ∃ p v, pre ++ s = p ++ versionMark ++ v ∧ IsVersionNumber v := by
  intro hv
  rw [Bool.and_eq_true, List.isEmpty_iff] at hv
  rw [hv.2, List.append_nil]
  exact hver hv.1

theorem segs_refs_seen (segs : List Seg) : ∀ (pre : Str) (ver : Bool),
    (ver = true → ∃ p v, pre = p ++ versionMark ++ v ∧ IsVersionNumber v) →
    wfSegs pre.getLast? ver segs = true →
    ∀ r ∈ refsOf segs, NameSeen (pre ++ renderStmt segs) r.name.name := by
  induction segs with
  | nil => intro _ _ _ _ r hr; cases hr
  | cons seg rest ih =>
    intro pre ver hver hwf r hr
    cases seg with
    | text s =>
      rw [wfSegs, ← getLast_lastOf] at hwf
      have := ih (pre ++ s) _ (afterVersion_append ver pre s hver) hwf r hr
      rwa [List.append_assoc] at this
    | version m ds =>
      simp only [wfSegs, Bool.and_eq_true, List.all_eq_true, Bool.or_eq_true, beq_iff_eq] at hwf
      obtain ⟨⟨⟨hd, hlen⟩, _⟩, hrest⟩ := hwf
      have hlast : (pre ++ versionMark).getLast? = some '!' := by simp [versionMark, List.getLast?_append]
      rw [← hlast, ← getLast_lastOf] at hrest
      have := ih (pre ++ versionMark ++ versionText m ds) true
        (fun _ => ⟨pre, versionText m ds, rfl, m, ds, rfl, hd, hlen⟩) hrest r hr
      rwa [List.append_assoc, List.append_assoc, ← List.append_assoc versionMark] at this
    | ref t =>
      rw [wfSegs, Bool.and_eq_true, ← getLast_lastOf, ← getLast_lastOf] at hwf
      have e : pre ++ renderStmt (Seg.ref t :: rest) = (pre ++ t.lead) ++ t.name.render ++ renderStmt rest := by
        simp [renderStmt, Seg.render, TabRef.render]
      rcases List.mem_cons.1 hr with rfl | hr
      · rw [e]
        exact name_seen (pre ++ r.lead) (renderStmt rest) r.name _ (afterVersion_append ver pre r.lead hver) hwf.1
      · have := ih (pre ++ t.render) false (by simp) hwf.2 r hr
        rwa [List.append_assoc] at this

theorem stmt_refs_seen (segs : List Seg) (h : wfStmt segs = true) :
    ∀ r ∈ refsOf segs, NameSeen (renderStmt segs) r.name.name := by
  have := segs_refs_seen segs [] false (by simp) (by simpa [wfStmt] using h)
  simpa using this

/-- **C06, against the parser-based analysis, over the grammar of table
    references.**  For a well-formed statement of the grammar — table references
    bare or back-quoted (any characters, doubled back-quotes), in any letter
    case, with or without a schema (blanks and comments around the dot), glued
    to punctuation, to comment marks, to Unicode white space or to the version
    number of an executable comment, anywhere in the statement: sub-queries,
    joins, UNION branches, INSERT … SELECT, multi-table UPDATE / DELETE — and for
    every router (rules on tables whose names need quoting included), session
    database and statement kind: when the pre-check forwards the statement,
    `plan.Checker` finds no sharded table among the references (`tables`: what
    the parser reports, each one a reference of the statement), so `BuildPlan`
    would not have built a shard plan.  No assumption about the words of the
    text is left; the parser is trusted to report references of the grammar. -/
theorem fastpath_agrees_with_checker_grammar (cfg : Cfg) (db : Str) (st : Nat) (segs : List Seg) (d : Str)
    (tables : List (Str × Str))
    (hwf : wfStmt segs = true)
    (h : preBuildUnshardPlan cfg db st (renderStmt segs) = .ok (.unshard d))
    (hparser : ∀ t ∈ tables, ∃ r ∈ refsOf segs, r.parsed = t) :
    checkerScan cfg.rules db tables ≠ .shard := by
  apply fastpath_agrees_with_checker_seen cfg db st _ d tables h
  intro t ht
  obtain ⟨r, hr, hp⟩ := hparser t ht
  have := stmt_refs_seen segs hwf r hr
  rw [← hp]
  exact this

/-- The same read the other way round: a well-formed statement that holds a
    reference to a table with a rule (as `plan.Checker` resolves it, in the
    database `db'` the reference names or the session is in) never takes the
    shortcut. -/
theorem fastpath_never_shortcuts_ref (cfg : Cfg) (db : Str) (st : Nat) (segs : List Seg) (d : Str)
    (hwf : wfStmt segs = true) (r : TabRef) (hr : r ∈ refsOf segs) (db' : Str)
    (hrule : hasRule cfg.rules db' (toLower r.name.name) = true) :
    preBuildUnshardPlan cfg db st (renderStmt segs) ≠ .ok (.unshard d) := by
  intro h
  have hnm := fastpath_sound_names cfg db st _ d h
  have := seen_not_ruled cfg.rules _ r.name.name db' hnm (stmt_refs_seen segs hwf r hr)
  rw [this] at hrule
  cases hrule

/-- A statement of the grammar with the spellings the once-repaired tree let
    through: a back-quoted name that is not a word, a name after U+3000, a name
    glued to a version number; well formed, and refused by the pre-check. -/
def grammarExample : List Seg :=
  [.text "select * from u,".toList, .ref ⟨none, [], ⟨.backquote, "Order-Items".toList⟩⟩,
   .text ",\u3000".toList, .ref ⟨some ⟨.backquote, "db_ks".toList⟩, " . ".toList, ⟨.bare, "T_Shard".toList⟩⟩,
   .text " join".toList, .version true "100100".toList, .ref ⟨none, [], ⟨.bare, "t_shard".toList⟩⟩, .text "*/".toList]

theorem grammarExample_wf : wfStmt grammarExample = true := by
  rw [grammarExample]
  repeat rw [String.toList_ofList]
  decide +kernel

example : wfStmt grammarExample = true := grammarExample_wf
example : String.ofList (renderStmt grammarExample) =
    "select * from u,`Order-Items`,\u3000`db_ks` . T_Shard join/*!M100100t_shard*/" := by
  rw [← String.toList_inj, grammarExample]
  repeat rw [String.toList_ofList]
  decide +kernel
example : (refsOf grammarExample).map TabRef.parsed =
    [([], "Order-Items".toList), ("db_ks".toList, "T_Shard".toList), ([], "t_shard".toList)] := by
  rw [grammarExample]
  repeat rw [String.toList_ofList]
  decide +kernel
example (d : Str) : preBuildUnshardPlan { rules := [("db_ks".toList, "t_shard".toList)], phyDBs := [] }
    "db_ks".toList 0 (renderStmt grammarExample) ≠ .ok (.unshard d) :=
  fastpath_never_shortcuts_ref _ _ _ grammarExample d grammarExample_wf ⟨none, [], ⟨.bare, "t_shard".toList⟩⟩ (by decide +kernel)
    "db_ks".toList (by decide +kernel)
example (d : Str) : preBuildUnshardPlan { rules := [("db_ks".toList, "order-items".toList)], phyDBs := [] }
    "db_ks".toList 0 (renderStmt grammarExample) ≠ .ok (.unshard d) :=
  fastpath_never_shortcuts_ref _ _ _ grammarExample d grammarExample_wf ⟨none, [], ⟨.backquote, "Order-Items".toList⟩⟩ (by decide +kernel)
    "db_ks".toList (by decide +kernel)

/-- The guard only removes shortcuts: whatever the current pre-check forwards,
    the pre-check of the pinned tree forwarded too, to the same database. -/
theorem guard_only_restricts (cfg : Cfg) (db : Str) (st : Nat) (sql : Str) (d : Str)
    (h : preBuildUnshardPlan cfg db st sql = .ok (.unshard d)) :
    preBuildUnshardPlanPinned cfg db st sql = .ok (.unshard d) :=
  (preBuild_unshard cfg db st sql d h).2.2

/-- The shortcut is only taken to a database whose physical name is its own. -/
theorem fastpath_database_ok (cfg : Cfg) (db : Str) (st : Nat) (sql : Str) (d : Str)
    (h : preBuildUnshardPlan cfg db st sql = .ok (.unshard d)) :
    preCreateOK cfg.phyDBs d = true :=
  (preBuild_unshard cfg db st sql d h).2.1

/-- `preBuildUnshardPlan` cannot panic. -/
theorem preBuildUnshardPlan_never_panics (cfg : Cfg) (db : Str) (st : Nat) (sql : Str) :
    preBuildUnshardPlan cfg db st sql ≠ .panic := by
  obtain ⟨tokens, ht⟩ := tokenize_ok sql
  simp [preBuildUnshardPlan, ht]

/-! ### the pinned tree violated the property: witnesses

  `preBuildUnshardPlanPinned` is the pre-check before the `fix:` commit that
  added the guard.  Each witness is a statement that mentions the sharded table
  `db_ks.t_shard` (so the parser-based analysis builds a shard plan) and that
  the pinned pre-check forwarded unrewritten.  They are regression cases of
  corpus/C06. -/

def witnessCfg : Cfg := { rules := [("db_ks".toList, "t_shard".toList)], phyDBs := [("db_ks".toList, "db_ks".toList)] }

theorem fastpath_unsound_witness_case :
    preBuildUnshardPlanPinned witnessCfg "db_ks".toList 0 "select * from T_SHARD".toList
      = .ok (.unshard "db_ks".toList) := by
  rw [witnessCfg]
  repeat rw [String.toList_ofList]
  decide +kernel

theorem fastpath_unsound_witness_comma_join :
    preBuildUnshardPlanPinned witnessCfg "db_ks".toList 0 "select * from u, t_shard".toList
      = .ok (.unshard "db_ks".toList) := by
  rw [witnessCfg]
  repeat rw [String.toList_ofList]
  decide +kernel

theorem fastpath_unsound_witness_join :
    preBuildUnshardPlanPinned witnessCfg "db_ks".toList 0 "select * from u join t_shard on u.id = t_shard.id".toList
      = .ok (.unshard "db_ks".toList) := by
  rw [witnessCfg]
  repeat rw [String.toList_ofList]
  decide +kernel

theorem fastpath_unsound_witness_subquery :
    preBuildUnshardPlanPinned witnessCfg "db_ks".toList 0 "select * from (select * from t_shard) x".toList
      = .ok (.unshard "db_ks".toList) := by
  rw [witnessCfg]
  repeat rw [String.toList_ofList]
  decide +kernel

theorem fastpath_unsound_witness_backquote :
    preBuildUnshardPlanPinned witnessCfg "db_ks".toList 0 "select * from`t_shard`".toList
      = .ok (.unshard "db_ks".toList) := by
  rw [witnessCfg]
  repeat rw [String.toList_ofList]
  decide +kernel

theorem fastpath_unsound_witness_insert_without_into :
    preBuildUnshardPlanPinned witnessCfg "db_ks".toList 2 "insert t_shard values (1)".toList
      = .ok (.unshard "db_ks".toList) := by
  rw [witnessCfg]
  repeat rw [String.toList_ofList]
  decide +kernel

/-- … and the current pre-check refuses each of them. -/
theorem fastpath_witnesses_repaired :
    preBuildUnshardPlan witnessCfg "db_ks".toList 0 "select * from T_SHARD".toList = .ok .no ∧
    preBuildUnshardPlan witnessCfg "db_ks".toList 0 "select * from u, t_shard".toList = .ok .no ∧
    preBuildUnshardPlan witnessCfg "db_ks".toList 0 "select * from u join t_shard on u.id = t_shard.id".toList = .ok .no ∧
    preBuildUnshardPlan witnessCfg "db_ks".toList 0 "select * from (select * from t_shard) x".toList = .ok .no ∧
    preBuildUnshardPlan witnessCfg "db_ks".toList 0 "select * from`t_shard`".toList = .ok .no ∧
    preBuildUnshardPlan witnessCfg "db_ks".toList 2 "insert t_shard values (1)".toList = .ok .no := by
  rw [witnessCfg]
  repeat rw [String.toList_ofList]
  decide +kernel

/-! ### the tree after the first repair still violated the property: witnesses

  `preBuildUnshardPlanV1` is the pre-check with the word scan as the first
  `fix:` commit introduced it.  Three classes of statements that reference a
  sharded table (the parser-based analysis builds a shard plan) still took the
  shortcut; each was repaired by one further `fix:` commit.  Regression cases
  of corpus/C06. -/

def witnessCfg2 : Cfg :=
  { rules := [("db_ks".toList, "t_shard".toList), ("db_ks".toList, "order-items".toList)],
    phyDBs := [("db_ks".toList, "db_ks".toList)] }

/-- The parser skips U+3000 (any `unicode.IsSpace` character) before a token; the
    first word scan read the word `\u3000t_shard`. -/
theorem fastpath_v1_unsound_witness_unicode_space :
    preBuildUnshardPlanV1 witnessCfg2 "db_ks".toList 0 "select * from u,\u3000t_shard".toList
      = .ok (.unshard "db_ks".toList) := by
  rw [witnessCfg2]
  repeat rw [String.toList_ofList]
  decide +kernel

/-- A rule on a table whose name is not one word could never match a word. -/
theorem fastpath_v1_unsound_witness_quoted_name :
    preBuildUnshardPlanV1 witnessCfg2 "db_ks".toList 0 "select * from u, `Order-Items`".toList
      = .ok (.unshard "db_ks".toList) := by
  rw [witnessCfg2]
  repeat rw [String.toList_ofList]
  decide +kernel

/-- The parser drops `/*!50000`; the first word scan read the word `50000t_shard`. -/
theorem fastpath_v1_unsound_witness_version_glued :
    preBuildUnshardPlanV1 witnessCfg2 "db_ks".toList 0 "select * from u,/*!50000t_shard*/".toList
      = .ok (.unshard "db_ks".toList) := by
  rw [witnessCfg2]
  repeat rw [String.toList_ofList]
  decide +kernel

/-- … and the current pre-check refuses each of them. -/
theorem fastpath_v1_witnesses_repaired :
    preBuildUnshardPlan witnessCfg2 "db_ks".toList 0 "select * from u,\u3000t_shard".toList = .ok .no ∧
    preBuildUnshardPlan witnessCfg2 "db_ks".toList 0 "select * from u, `Order-Items`".toList = .ok .no ∧
    preBuildUnshardPlan witnessCfg2 "db_ks".toList 0 "select * from u,/*!50000t_shard*/".toList = .ok .no ∧
    preBuildUnshardPlan witnessCfg2 "db_ks".toList 0 "select * from u join/*!M100100T_SHARD */ on 1=1".toList = .ok .no := by
  rw [witnessCfg2]
  repeat rw [String.toList_ofList]
  decide +kernel

end GaeaVerif.C06
