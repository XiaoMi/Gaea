import GaeaVerif.Model.Noninterf
import GaeaVerif.Model.PlanShared
import GaeaVerif.Model.SliceAlias
import GaeaVerif.Gen.Consts
/-
  C07 — Concurrent sessions plan independently of each other.

  Part 1 (abstract): `noninterference` for the transition system of Model/Noninterf.lean; its
  premise is tied to the source by the syntactic fact `Gen.c07SharedWrites = []`.

  Part 2 (the planning system of Model/PlanShared.lean): sessions step in any interleaving over
  a shared state made of the routing configuration and the cells planning does write (global
  sequences, math/rand's source, the log).  The set of cells follows the typed translator's fact
  `Gen.c07Effects` (points-to analysis over go/ssa, harness/extract/c07ssa.go):
    * `planning_reads_shared_only`   every effect of planning on shared memory listed by the
      translator is one of the modelled cells — a store, append, map update … into the router,
      a rule, the namespace or a package variable is not, and breaks this proof;
    * `step_kinds_follow_facts`      the cells the model's steps write are exactly the cells of
      the facts;
    * `configuration_never_written`  no interleaving changes the configuration;
    * `plans_on_initial_configuration`, `plan_independent_of_other_sessions`, `alone_plan`
      every plan any session ends with is `planOf` of the INITIAL configuration, its statement
      and the values it obtained itself; with no value needed it is exactly the plan of the
      same statement planned alone;
    * `draws_distinct`, `run_events`  sequence values are never handed out twice, whoever asks;
    * `statements_kept`              no statement of a session is lost, duplicated or reordered.

  Part 3 (Go slices over a heap of arrays, Model/SliceAlias.lean): the route result of a statement
  starts as the rule's own sub table list (the getters hand out internal slices, fact
  `Gen.c07AliasGetters`) and goes through RouteResult.Inter / Union with that list, windows of it
  or new lists: `route_ops_leave_shared_lists_alone` — no array that existed before is written;
  the `append(indexes[:0], x)` idiom of two seeded changes is (`…_witness`).
-/
namespace GaeaVerif.C07

section abstract
open GaeaVerif.Noninterf

theorem stepOf_shared {S P : Type} (step : Step S P) (h : NoWrites step) (sys : Sys S P) (i : Nat) :
    (sys.stepOf step i).shared = sys.shared := by
  simp only [Sys.stepOf]; rw [h sys.shared (sys.priv i)]; rfl

/-- **C07.** If no step writes the shared routing state then, for every
    interleaving of any number of sessions, every session ends in exactly the
    state it reaches when it runs alone for as many steps as it took in the
    interleaving, and the shared state is unchanged. -/
theorem noninterference {S P : Type} (step : Step S P) (h : NoWrites step) (sys : Sys S P)
    (sched : List Nat) (i : Nat) :
    (sys.run step sched).priv i = alone step sys.shared (sched.count i) (sys.priv i) ∧
    (sys.run step sched).shared = sys.shared := by
  induction sched generalizing sys with
  | nil => exact ⟨rfl, rfl⟩
  | cons j js ih =>
    simp only [Sys.run, List.foldl_cons] at ih ⊢
    rw [(ih _).1, (ih _).2, stepOf_shared step h]
    refine ⟨?_, rfl⟩
    by_cases hji : j = i
    · subst hji
      simp [Sys.stepOf, alone]
    · have hij : ¬ i = j := fun e => hji e.symm
      simp [Sys.stepOf, hji, hij]

/-- no two steps of different sessions ever conflict (hence no data race on
    the shared state) -/
theorem no_conflict {S P : Type} (step : Step S P) (h : NoWrites step) (s : S) (p q : P) :
    ¬ Conflict step s p q := by
  simp [Conflict, h s p, h s q]

/-- The proof obligation tied to the source: the translator found no write to
    shared routing state in the planning code of the current tree. -/
theorem shared_state_never_written : GaeaVerif.Gen.c07SharedWrites = [] := by decide

/-- Witness that the premise matters (the defect repaired by the `fix:` commit
    was such a write): with a step that writes the shared state, a session's
    result depends on what the other session did. -/
theorem write_interferes_witness :
    let step : Step Nat Nat := fun s p => (some p, s)   -- publish own value, read the shared one
    let sys : Sys Nat Nat := { shared := 0, priv := fun j => j + 1 }
    (sys.run step [1, 0]).priv 0 ≠ alone step sys.shared 1 (sys.priv 0) := by
  decide

/-- non-vacuity: a read-only step function satisfies the premise -/
example : NoWrites (fun (s : Nat) (p : Nat) => ((none : Option Nat), s + p)) := fun _ _ => rfl

end abstract

/-! ## Part 2: the planning system -/

section planning
open GaeaVerif.PlanShared
variable {Cfg Stmt Plan : Type}

/-- The case analysis of `step`, once: a property of what a step returns holds if it holds of what each of
    the six kinds of step returns (nothing to do; take the next statement; finish the plan; meet a need by a
    sequence value, a random value, a log line). -/
@[elab_as_elim]
theorem step_cases {Q : Shared Cfg × Sess Stmt Plan × Option Event → Prop}
    (P : Planner Cfg Stmt Plan) (sh : Shared Cfg) (s : Sess Stmt Plan)
    (idle : s.cur = none → s.queue = [] → Q (sh, s, none))
    (start : ∀ st q, s.cur = none → s.queue = st :: q →
      Q (sh, { s with queue := q, cur := some { stmt := st, todo := P.needs sh.cfg st, got := [] } }, none))
    (finish : ∀ j, s.cur = some j → j.todo = [] →
      Q (sh, { s with cur := none, done := s.done ++ [(j.stmt, P.planOf sh.cfg j.stmt j.got)] }, none))
    (draw : ∀ j k t, s.cur = some j → j.todo = .draw k :: t →
      Q ({ sh with seq := fun k' => if k' = k then sh.seq k + 1 else sh.seq k' },
         { s with cur := some { j with todo := t, got := j.got ++ [sh.seq k + 1] } }, some (k, sh.seq k + 1)))
    (rnd : ∀ j t, s.cur = some j → j.todo = .rnd :: t →
      Q ({ sh with rand := (P.rng sh.rand).2 },
         { s with cur := some { j with todo := t, got := j.got ++ [(P.rng sh.rand).1] } }, none))
    (log : ∀ j t, s.cur = some j → j.todo = .logLine :: t →
      Q ({ sh with log := sh.log + 1 }, { s with cur := some { j with todo := t } }, none)) :
    Q (step P sh s) := by
  unfold step
  split
  next hcur =>
    split
    next hq => exact idle hcur hq
    next st q hq => exact start st q hcur hq
  next j hcur =>
    split
    next h => exact finish j hcur h
    next k t h => exact draw j k t hcur h
    next t h => exact rnd j t hcur h
    next t h => exact log j t hcur h

theorem step_seq (P : Planner Cfg Stmt Plan) (sh : Shared Cfg) (s : Sess Stmt Plan) :
    ((step P sh s).2.2 = none ∧ (step P sh s).1.seq = sh.seq) ∨
    ∃ k, (step P sh s).2.2 = some (k, sh.seq k + 1) ∧
      (step P sh s).1.seq = fun k' => if k' = k then sh.seq k + 1 else sh.seq k' := by
  refine step_cases P sh s ?idle ?start ?finish ?draw ?rnd ?log <;> intros
  case draw => exact Or.inr ⟨_, rfl, rfl⟩
  all_goals exact Or.inl ⟨rfl, rfl⟩

theorem step_cfg (P : Planner Cfg Stmt Plan) (sh : Shared Cfg) (s : Sess Stmt Plan) :
    (step P sh s).1.cfg = sh.cfg := by
  refine step_cases P sh s ?_ ?_ ?_ ?_ ?_ ?_ <;> intros <;> rfl

theorem step_stmts (P : Planner Cfg Stmt Plan) (sh : Shared Cfg) (s : Sess Stmt Plan) :
    (step P sh s).2.1.stmts = s.stmts :=
  step_cases P sh s (fun _ _ => rfl) (fun _ _ hcur hq => by simp [Sess.stmts, hcur, hq])
    (fun _ hcur _ => by simp [Sess.stmts, hcur]) (fun _ _ _ hcur _ => by simp [Sess.stmts, hcur])
    (fun _ _ hcur _ => by simp [Sess.stmts, hcur]) (fun _ _ hcur _ => by simp [Sess.stmts, hcur])

/-- a step of session `i` changes the private state of session `i` only -/
theorem stepOf_sess (P : Planner Cfg Stmt Plan) (sys : Sys Cfg Stmt Plan) (i j : Nat) :
    (sys.stepOf P i).1.sess j = if j = i then (step P sys.shared (sys.sess i)).2.1 else sys.sess j := rfl

theorem stepOf_cfg (P : Planner Cfg Stmt Plan) (sys : Sys Cfg Stmt Plan) (i : Nat) :
    (sys.stepOf P i).1.shared.cfg = sys.shared.cfg := step_cfg P _ _

theorem run_keeps (P : Planner Cfg Stmt Plan) (Q : Sys Cfg Stmt Plan → Prop)
    (hstep : ∀ sys i, Q sys → Q (sys.stepOf P i).1) (sys : Sys Cfg Stmt Plan) (sched : List Nat)
    (h : Q sys) : Q (sys.run P sched).1 := by
  induction sched generalizing sys with
  | nil => exact h
  | cons i is ih => exact ih _ (hstep sys i h)

/-- **C07, the shared configuration is read-only**: whatever the sessions do, in whatever order. -/
theorem configuration_never_written (P : Planner Cfg Stmt Plan) (sys : Sys Cfg Stmt Plan) (sched : List Nat) :
    (sys.run P sched).1.shared.cfg = sys.shared.cfg :=
  run_keeps P (·.shared.cfg = sys.shared.cfg) (fun _ _ h => (stepOf_cfg P _ _).trans h) sys sched rfl

/-- no statement of a session is lost, duplicated or reordered by any interleaving -/
theorem statements_kept (P : Planner Cfg Stmt Plan) (sys : Sys Cfg Stmt Plan) (sched : List Nat) (i : Nat) :
    ((sys.run P sched).1.sess i).stmts = (sys.sess i).stmts := by
  refine run_keeps P (fun s => (s.sess i).stmts = (sys.sess i).stmts) (fun s j h => ?_) sys sched rfl
  rw [stepOf_sess]
  split
  · next hij => rw [hij] at h ⊢; exact (step_stmts P _ _).trans h
  · exact h

/-- what the plans of a session's finished statements may be, and how far the one in progress is,
    relative to a fixed configuration `c` -/
def SessOk (P : Planner Cfg Stmt Plan) (c : Cfg) (s : Sess Stmt Plan) : Prop :=
  (∀ e ∈ s.done, ∃ got, e.2 = P.planOf c e.1 got ∧ got.length = yieldCount (P.needs c e.1)) ∧
  (∀ j, s.cur = some j → ∃ pre, P.needs c j.stmt = pre ++ j.todo ∧ j.got.length = yieldCount pre)

theorem yieldCount_append (a b : List Need) : yieldCount (a ++ b) = yieldCount a + yieldCount b := by
  simp [yieldCount, List.filter_append]

theorem step_ok (P : Planner Cfg Stmt Plan) (sh : Shared Cfg) (s : Sess Stmt Plan)
    (h : SessOk P sh.cfg s) : SessOk P sh.cfg (step P sh s).2.1 := by
  obtain ⟨hd, hc⟩ := h
  -- the need at the head of `todo` is met, by a value exactly when it yields one
  have consume : ∀ j n t (got' : List Nat), s.cur = some j → j.todo = n :: t →
      got'.length = j.got.length + (if n.yields then 1 else 0) →
      ∃ pre, P.needs sh.cfg j.stmt = pre ++ t ∧ got'.length = yieldCount pre := by
    intro j n t got' hcur htodo hg
    obtain ⟨pre, hpre, hlen⟩ := hc j hcur
    refine ⟨pre ++ [n], by rw [hpre, htodo, List.append_assoc]; rfl, ?_⟩
    rw [hg, hlen, yieldCount_append]
    cases n <;> rfl
  refine step_cases P sh s (fun _ _ => ⟨hd, hc⟩)
    (fun st q _ _ => ⟨hd, fun j hj => by cases hj; exact ⟨[], rfl, rfl⟩⟩)
    (fun j hcur htodo => ⟨fun e he => ?_, fun j' hj' => nomatch hj'⟩)
    (fun j k t hcur htodo => ⟨hd, fun j' hj' => by cases hj'; exact consume j _ t _ hcur htodo List.length_append⟩)
    (fun j t hcur htodo => ⟨hd, fun j' hj' => by cases hj'; exact consume j _ t _ hcur htodo List.length_append⟩)
    (fun j t hcur htodo => ⟨hd, fun j' hj' => by cases hj'; exact consume j _ t _ hcur htodo rfl⟩)
  rcases List.mem_append.mp he with he | he
  · exact hd e he
  · cases List.mem_singleton.mp he
    obtain ⟨pre, hpre, hlen⟩ := hc j hcur
    exact ⟨j.got, rfl, by rw [hlen, hpre, htodo, List.append_nil]⟩

theorem plans_on_initial_configuration (P : Planner Cfg Stmt Plan) (sys : Sys Cfg Stmt Plan)
    (hfresh : ∀ i, ∃ q, sys.sess i = Sess.fresh q) (sched : List Nat) (i : Nat)
    (e : Stmt × Plan) (he : e ∈ ((sys.run P sched).1.sess i).done) :
    ∃ got, e.2 = P.planOf sys.shared.cfg e.1 got ∧ got.length = yieldCount (P.needs sys.shared.cfg e.1) := by
  -- every session stays well-formed relative to the configuration, which never changes
  have hrun := run_keeps P (fun s => s.shared.cfg = sys.shared.cfg ∧ ∀ j, SessOk P sys.shared.cfg (s.sess j))
    (fun s j ⟨hc, hok⟩ => ⟨(stepOf_cfg P _ _).trans hc, fun j' => by
      rw [stepOf_sess]
      split
      · exact hc ▸ step_ok P _ _ (hc ▸ hok j)
      · exact hok j'⟩)
    sys sched ⟨rfl, fun j => by
      obtain ⟨q, hq⟩ := hfresh j
      rw [hq]
      exact ⟨(fun e he => nomatch he), fun j hj => nomatch hj⟩⟩
  exact (hrun.2 i).1 e he

theorem plan_independent_of_other_sessions (P : Planner Cfg Stmt Plan) (sys : Sys Cfg Stmt Plan)
    (hfresh : ∀ i, ∃ q, sys.sess i = Sess.fresh q) (sched : List Nat) (i : Nat)
    (e : Stmt × Plan) (he : e ∈ ((sys.run P sched).1.sess i).done)
    (hno : yieldCount (P.needs sys.shared.cfg e.1) = 0) :
    e.2 = P.planOf sys.shared.cfg e.1 [] := by
  obtain ⟨got, hp, hl⟩ := plans_on_initial_configuration P sys hfresh sched i e he
  rw [hno] at hl
  rw [List.length_eq_zero_iff.mp hl] at hp
  exact hp

/-- A job whose remaining needs are all log lines is finished by `todo.length + 1` steps of its own session,
    with the plan of the values it holds, whatever the other sessions are. -/
theorem finish_of_log_only (P : Planner Cfg Stmt Plan) (i : Nat) (q : List Stmt) (st : Stmt) (got : List Nat)
    (done : List (Stmt × Plan)) (todo : List Need) (hall : ∀ n ∈ todo, n = Need.logLine) :
    ∀ sys : Sys Cfg Stmt Plan,
      sys.sess i = { queue := q, cur := some { stmt := st, todo := todo, got := got }, done := done } →
      ((sys.run P (List.replicate (todo.length + 1) i)).1.sess i).done =
        done ++ [(st, P.planOf sys.shared.cfg st got)] := by
  induction todo with
  | nil =>
    intro sys h
    show ((sys.stepOf P i).1.sess i).done = _
    rw [stepOf_sess, if_pos rfl, h]; rfl
  | cons n t ih =>
    intro sys h
    cases hall n List.mem_cons_self
    rw [List.length_cons, List.replicate_succ, Sys.run]
    have := ih (fun n hn => hall n (List.mem_cons_of_mem _ hn)) (sys.stepOf P i).1
      (by rw [stepOf_sess, if_pos rfl, h]; rfl)
    rwa [stepOf_cfg] at this

/-- **planned alone**: a session that is alone in the namespace and has one statement that needs no
    value from the shared cells ends, after `needs + 2` steps, with the plan `planOf cfg st []` -/
theorem alone_plan (P : Planner Cfg Stmt Plan) (sh : Shared Cfg) (st : Stmt)
    (hall : ∀ n ∈ P.needs sh.cfg st, n = Need.logLine) (others : Nat → Sess Stmt Plan) :
    ((Sys.run P { shared := sh, sess := fun j => if j = 0 then Sess.fresh [st] else others j }
        (List.replicate ((P.needs sh.cfg st).length + 2) 0)).1.sess 0).done = [(st, P.planOf sh.cfg st [])] := by
  rw [List.replicate_succ, Sys.run]
  exact finish_of_log_only P 0 [] st [] [] _ hall _ (by rw [stepOf_sess, if_pos rfl]; rfl)

/-- the sequence values drawn in a run: per sequence strictly increasing in the order they were
    drawn, all above what the sequence had issued before the run -/
theorem run_events (P : Planner Cfg Stmt Plan) (sys : Sys Cfg Stmt Plan) (sched : List Nat) :
    (sys.run P sched).2.Pairwise (fun a b => a.1 = b.1 → a.2 < b.2) ∧
    ∀ e ∈ (sys.run P sched).2, sys.shared.seq e.1 < e.2 := by
  induction sched generalizing sys with
  | nil => exact ⟨List.Pairwise.nil, fun e he => nomatch he⟩
  | cons i is ih =>
    obtain ⟨ihp, ihb⟩ := ih (sys.stepOf P i).1
    simp only [Sys.run]
    rcases step_seq P sys.shared (sys.sess i) with ⟨hev, hseq⟩ | ⟨k, hev, hseq⟩ <;>
      simp only [Sys.stepOf] at ihb ⊢ <;> rw [hseq] at ihb <;> rw [hev]
    · exact ⟨ihp, ihb⟩
    · -- the values drawn later are above the one drawn now
      have hlater : ∀ e ∈ (Sys.run P (sys.stepOf P i).1 is).2,
          sys.shared.seq e.1 < e.2 ∧ (k = e.1 → sys.shared.seq k + 1 < e.2) := by
        intro e he
        have := ihb e he
        simp only at this
        split at this
        · next hk => exact ⟨hk ▸ Nat.lt_of_succ_lt this, fun _ => this⟩
        · next hk => exact ⟨this, fun h => absurd h.symm hk⟩
      refine ⟨List.pairwise_cons.mpr ⟨fun e he => (hlater e he).2, ihp⟩, fun e he => ?_⟩
      rcases List.mem_cons.mp he with rfl | he
      · exact Nat.lt_succ_self _
      · exact (hlater e he).1

theorem draws_distinct (P : Planner Cfg Stmt Plan) (sys : Sys Cfg Stmt Plan) (sched : List Nat) :
    (sys.run P sched).2.Nodup := by
  refine (run_events P sys sched).1.imp fun hab heq => ?_
  subst heq
  exact Nat.lt_irrefl _ (hab rfl)

end planning

/-! ## Part 3: route results alias the rule's list of sub tables (Model/SliceAlias.lean) -/

section aliasing
open GaeaVerif.SliceAlias

/-- the slice `s` lives in none of the first `n` arrays of the heap `h`, which has that many -/
def Apart (n : Nat) (h : Heap) (s : Slice) : Prop := n ≤ h.length ∧ n ≤ s.arr

theorem frame_refl (n : Nat) (h : Heap) : Frame n h h := ⟨Nat.le_refl _, fun _ _ => rfl⟩

theorem frame_trans {n : Nat} {h1 h2 h3 : Heap} (a : Frame n h1 h2) (b : Frame n h2 h3) : Frame n h1 h3 :=
  ⟨Nat.le_trans a.1 b.1, fun x hx => (b.2 x hx).trans (a.2 x hx)⟩

theorem frame_then {n : Nat} {h1 h2 h3 : Heap} {s2 s3 : Slice} (a : Frame n h1 h2 ∧ Apart n h2 s2)
    (b : Apart n h2 s2 → Frame n h2 h3 ∧ Apart n h3 s3) : Frame n h1 h3 ∧ Apart n h3 s3 :=
  ⟨frame_trans a.1 (b a.2).1, (b a.2).2⟩

theorem frame_alloc (n : Nat) (h : Heap) (xs : List Int) (cap : Nat) (hn : n ≤ h.length) :
    Frame n h (h.alloc xs cap).1 ∧ Apart n (h.alloc xs cap).1 (h.alloc xs cap).2 := by
  refine ⟨⟨by simp [Heap.alloc], fun a ha => ?_⟩, by simp [Heap.alloc]; omega, hn⟩
  have : a < h.length := Nat.lt_of_lt_of_le ha hn
  simp [Heap.alloc, List.getD, List.getElem?_append_left this]

theorem frame_append1 (n : Nat) (h : Heap) (s : Slice) (x : Int) (ha : Apart n h s) :
    Frame n h (append1 h s x).1 ∧ Apart n (append1 h s x).1 (append1 h s x).2 := by
  unfold append1
  split
  · -- in place: the array written is the slice's own, not one of the first `n`
    refine ⟨⟨by simp [Heap.setAt], fun b hb => ?_⟩, by simpa [Heap.setAt] using ha.1, ha.2⟩
    have : s.arr ≠ b := by have := ha.2; omega
    simp [Heap.setAt, List.getD, this]
  · exact frame_alloc n h _ _ ha.1

theorem frame_appendAll (n : Nat) (xs : List Int) (h : Heap) (s : Slice) (ha : Apart n h s) :
    Frame n h (appendAll h s xs).1 ∧ Apart n (appendAll h s xs).1 (appendAll h s xs).2 := by
  induction xs generalizing h s with
  | nil => exact ⟨frame_refl n h, ha⟩
  | cons x xs ih => exact frame_then (frame_append1 n h s x ha) (ih _ _)

theorem frame_interLoop (n : Nat) (l1 l2 : Slice) (fuel : Nat) (h : Heap) (l3 : Slice) (i j : Nat)
    (ha : Apart n h l3) :
    Frame n h (interLoop l1 l2 fuel h l3 i j).1 ∧
      Apart n (interLoop l1 l2 fuel h l3 i j).1 (interLoop l1 l2 fuel h l3 i j).2 := by
  induction fuel generalizing h l3 i j with
  | zero => exact ⟨frame_refl n h, ha⟩
  | succ fuel ih =>
    rw [interLoop]
    by_cases hij : i < l1.len ∧ j < l2.len
    · rw [if_pos hij]
      by_cases heq : h.get l1 i = h.get l2 j
      · rw [if_pos heq]; exact frame_then (frame_append1 n h l3 _ ha) (ih _ _ _ _)
      · rw [if_neg heq]
        by_cases hlt : h.get l1 i < h.get l2 j
        · rw [if_pos hlt]; exact ih h l3 (i + 1) j ha
        · rw [if_neg hlt]; exact ih h l3 i (j + 1) ha
    · rw [if_neg hij]; exact ⟨frame_refl n h, ha⟩

theorem frame_interList (n : Nat) (h : Heap) (l1 l2 : Slice) (hn : n ≤ h.length) :
    Frame n h (interList h l1 l2).1 := by
  unfold interList
  split
  · exact (frame_alloc n h _ _ hn).1
  · exact (frame_then (frame_alloc n h [] (l1.len + l2.len) hn) (frame_interLoop n l1 l2 _ _ _ 0 0)).1

theorem frame_unionLoop (n : Nat) (l1 l2 : Slice) (fuel : Nat) (h : Heap) (l3 : Slice) (i j : Nat)
    (ha : Apart n h l3) :
    Frame n h (unionLoop l1 l2 fuel h l3 i j).1 ∧
      Apart n (unionLoop l1 l2 fuel h l3 i j).1 (unionLoop l1 l2 fuel h l3 i j).2.1 := by
  induction fuel generalizing h l3 i j with
  | zero => exact ⟨frame_refl n h, ha⟩
  | succ fuel ih =>
    -- whichever element is appended, the rest of the loop runs on the outcome of `append1`
    have happ := fun x i j => frame_then (frame_append1 n h l3 x ha) (ih _ _ i j)
    rw [unionLoop]
    by_cases hij : i < l1.len ∧ j < l2.len
    · rw [if_pos hij]
      by_cases hlt : h.get l1 i < h.get l2 j
      · rw [if_pos hlt]; exact happ _ _ _
      · rw [if_neg hlt]
        by_cases hgt : h.get l1 i > h.get l2 j
        · rw [if_pos hgt]; exact happ _ _ _
        · rw [if_neg hgt]; exact happ _ _ _
    · rw [if_neg hij]; exact ⟨frame_refl n h, ha⟩

theorem frame_unionList (n : Nat) (h : Heap) (l1 l2 : Slice) (hn : n ≤ h.length) :
    Frame n h (unionList h l1 l2).1 := by
  by_cases h1 : l1.len = 0
  · simp only [unionList, if_pos h1]; exact frame_refl n h
  by_cases h2 : l2.len = 0
  · simp only [unionList, if_neg h1, if_pos h2]; exact frame_refl n h
  have hloop := frame_then (frame_alloc n h [] (l1.len + l2.len) hn)
    (frame_unionLoop n l1 l2 (l1.len + l2.len) _ _ 0 0)
  simp only [unionList, if_neg h1, if_neg h2]
  generalize unionLoop l1 l2 (l1.len + l2.len) _ _ 0 0 = r at hloop ⊢
  -- whatever is left of either list is appended to the new array
  by_cases c1 : r.2.2.1 ≠ l1.len
  · rw [if_pos c1]; exact (frame_then hloop (frame_appendAll n _ _ _)).1
  by_cases c2 : r.2.2.2 ≠ l2.len
  · rw [if_neg c1, if_pos c2]; exact (frame_then hloop (frame_appendAll n _ _ _)).1
  · rw [if_neg c1, if_neg c2]; exact hloop.1

theorem frame_stepOp (n : Nat) (h : Heap) (rule idx : Slice) (op : Op) (hn : n ≤ h.length) :
    Frame n h (stepOp h rule idx op).1 := by
  have harg : ∀ a, Frame n h (evalArg h rule a).1 := by
    intro a
    cases a with
    | fresh xs => exact (frame_alloc n h _ _ hn).1
    | _ => exact frame_refl n h
  cases op with
  | inter a => exact frame_trans (harg a) (frame_interList n _ idx _ (Nat.le_trans hn (harg a).1))
  | union a => exact frame_trans (harg a) (frame_unionList n _ idx _ (Nat.le_trans hn (harg a).1))

theorem frame_runOps (n : Nat) (rule : Slice) (ops : List Op) (h : Heap) (idx : Slice) (hn : n ≤ h.length) :
    Frame n h (runOps h rule idx ops).1 := by
  induction ops generalizing h idx with
  | nil => exact frame_refl n h
  | cons op ops ih =>
    have h1 := frame_stepOp n h rule idx op hn
    exact frame_trans h1 (ih _ _ (Nat.le_trans hn h1.1))

/-- **The rule's list of sub tables survives planning**: whatever sequence of Inter / Union steps a
    statement's route result goes through — starting as the rule's own list, combined with the
    list itself, with windows of it (makeLeList …) or with new lists — every array that existed
    before, the rule's among them, holds what it held. -/
theorem route_ops_leave_shared_lists_alone (h : Heap) (rule : Slice) (ops : List Op) (a : Nat) (ha : a < h.length) :
    (runOps h rule rule ops).1.getD a [] = h.getD a [] :=
  (frame_runOps h.length rule ops h rule (Nat.le_refl _)).2 a ha

example : (runOps [[0, 1, 2, 3]] ⟨0, 0, 4, 4⟩ ⟨0, 0, 4, 4⟩ [.inter (.fresh [2]), .union (.gt 1), .inter .whole]).1.getD 0 []
    = [0, 1, 2, 3] := by decide +kernel
example : let r := runOps [[0, 1, 2, 3]] ⟨0, 0, 4, 4⟩ ⟨0, 0, 4, 4⟩ [.inter (.fresh [2]), .union (.gt 1), .inter .whole]
    r.1.read r.2 = [2, 3] := by decide +kernel

/-- Witness (seeds C07-3, C07-4): the "reset and append" idiom on a route result that still is the
    rule's list writes the rule's first element. -/
theorem append_in_place_writes_rule_list_witness :
    (append1 [[0, 1, 2, 3]] ((⟨0, 0, 4, 4⟩ : Slice).sub 0 0) 2).1 = [[2, 1, 2, 3]] := by decide

/-- Witness: appending to a window handed out by makeLtList overwrites the element behind it. -/
theorem append_to_window_writes_rule_list_witness :
    (append1 [[0, 1, 2, 3]] (makeLtList [[0, 1, 2, 3]] 2 ⟨0, 0, 4, 4⟩) 9).1 = [[0, 1, 9, 3]] := by decide

end aliasing

/-! ## The tie to the source: the cells follow the translator's facts -/

open GaeaVerif.PlanShared

/-- the cell a fact of the typed translator stands for; `none`: not a cell planning may write
    (a write into the router, a rule, a shard, the namespace, a cache, a package variable …) -/
def cellOf (kind target : String) : Option Cell :=
  if kind = "call" then
    if target = "sequence" then some Cell.seq
    else if target = "rand" then some Cell.rand
    else if target = "log" then some Cell.log
    else none
  else none

/-- the cells the steps of the model write (the constructors of `Need`) -/
def modelledCells : List Cell := [(Need.draw 0).cell, Need.rnd.cell, Need.logLine.cell]

def factCells : List Cell := (GaeaVerif.Gen.c07Effects.filterMap fun e => cellOf e.2.1 e.2.2).eraseDups

/-- **The proof obligation tied to the source** (typed translator): every place where the planning
    code may write shared memory, hand a shared pointer to code that may write it, lock it or call
    into an unanalysed package is one of the modelled cells.  A new store / append / map update
    whose target may be the router, a rule, the namespace or a package variable makes this false. -/
theorem planning_reads_shared_only :
    (GaeaVerif.Gen.c07Effects.all fun e => (cellOf e.2.1 e.2.2).isSome) = true := by decide +kernel

/-- the model has a step kind for every cell the facts name, and no other -/
theorem step_kinds_follow_facts :
    (factCells.all fun c => modelledCells.contains c) = true ∧
    (modelledCells.all fun c => factCells.contains c) = true := by decide +kernel

/-- the getters that hand out internal slices and maps of the shared configuration are the known
    ones (every caller of a new one has to be looked at: the list is a proof obligation) -/
theorem alias_getters_known :
    (GaeaVerif.Gen.c07AliasGetters.map Prod.snd).eraseDups =
      ["proxy/router.BaseRule.mycatDatabases", "proxy/router.BaseRule.slices",
       "proxy/router.BaseRule.subTableIndexes", "proxy/router.Router.rules",
       "proxy/server.Namespace.defaultPhyDBs"] := by decide +kernel

/-! ## Non-vacuity -/

/-- a planner whose plan is (routing of the statement under the configuration, values obtained) -/
def demoPlanner : Planner Nat Nat (Nat × List Nat) :=
  { needs := fun _ st => if st % 2 = 0 then [.logLine] else [.draw 0, .logLine]
    planOf := fun cfg st got => (st % cfg, got)
    rng := fun r => (r, r + 1) }

def demoSys : Sys Nat Nat (Nat × List Nat) :=
  { shared := { cfg := 4, seq := fun _ => 0, rand := 0, log := 0 }
    sess := fun i => if i < 2 then Sess.fresh [i + 5, i + 8] else Sess.fresh [] }

/-- two sessions interleaved step by step: both INSERT-like statements (odd) draw different values,
    the plans are those of the initial configuration -/
example : ((demoSys.run demoPlanner [0, 1, 0, 1, 0, 1, 0, 1, 0, 1, 0, 1, 0, 1, 0, 1]).1.sess 0).done
    = [(5, (1, [1])), (8, (0, []))] := by decide +kernel
example : ((demoSys.run demoPlanner [0, 1, 0, 1, 0, 1, 0, 1, 0, 1, 0, 1, 0, 1, 0, 1]).1.sess 1).done
    = [(6, (2, [])), (9, (1, [2]))] := by decide +kernel
example : (demoSys.run demoPlanner [0, 1, 0, 1, 0, 1, 0, 1, 0, 1, 0, 1, 0, 1, 0, 1]).2 = [(0, 1), (0, 2)] := by decide +kernel
example : ∀ i, ∃ q, demoSys.sess i = Sess.fresh q := fun i => by
  by_cases h : i < 2
  · exact ⟨[i + 5, i + 8], by simp [demoSys, h]⟩
  · exact ⟨[], by simp [demoSys, h]⟩

/-- Witness that the read-only configuration matters: the plan of a statement depends on the configuration
    (the same statement planned under two configurations). -/
theorem configuration_matters_witness :
    demoPlanner.planOf 4 6 [] ≠ demoPlanner.planOf 3 6 [] := by decide

end GaeaVerif.C07
