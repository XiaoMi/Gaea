import GaeaVerif.Model.Slide
/-
  C26 — A replica is fused exactly when recent connection errors reach the
  threshold.

  Theorems about `Model/Slide.lean` (the tie to /repo/backend/slide.go,
  backend/slice.go `TryFuse`/`getConnWithFuse` and mysql/error.go
  `AsConnError` is the correspondence check `gvh run C26`).

  Rendering of the English statement:
  * "the number of connection errors recorded within the trailing window of W
    seconds (including the current second)"  =  `refCount W hist now`, the
    number of recorded timestamps `t` with `now - W < t ≤ now`;
  * "marks a replica down exactly when … reaches the configured minimum" =
    the `Trigger` call made for a connection error returns `true` iff
    `refCount … ≥ fuseMinErrorCount` (`trigger_iff`, `runTriggers_eq_spec`),
    and `TryFuse` sets the status down iff that call returned `true`
    (`runOps_eq_spec`);
  * histories: every non-decreasing sequence of non-negative timestamps, of
    any length, for every `W ≥ 1` and threshold `≥ 1` (no bound).

  Proof side: `cntGe hist s` is the number of events of `hist` at or after second
  `s`, `cntGeMod W hist s i` the number of those whose second is `≡ i (mod W)`;
  `Holds` says the buckets and the total are these counts at the window start,
  and `refCount_eq_cntGe` that the reference count is `cntGe` at that start.
-/
namespace GaeaVerif.C26
open GaeaVerif GaeaVerif.Slide

/-- Value of a bucket: a nil bucket counts 0. -/
def bval : Option Int → Int
  | none => 0
  | some c => c

/-- `ErrorCount` of bucket `i` (0 for nil). -/
def bget (b : List (Option Int)) (i : Nat) : Int := bval (b[i]?.getD none)

def cntGe (hist : List Int) (s : Int) : Nat := hist.countP fun t => decide (s ≤ t)

def cntGeMod (W : Int) (hist : List Int) (s : Int) (i : Nat) : Nat :=
  hist.countP fun t => decide (s ≤ t) && decide (t % W = (i : Int))

theorem countP_add_of_partition {α : Type} (p q r : α → Bool) (l : List α)
    (h : ∀ a ∈ l, (p a = true ↔ q a = true ∨ r a = true) ∧ ¬(q a = true ∧ r a = true)) :
    l.countP p = l.countP q + l.countP r := by
  induction l with
  | nil => rfl
  | cons a l ih =>
    obtain ⟨hp, hqr⟩ := h a List.mem_cons_self
    rw [List.countP_cons, List.countP_cons, List.countP_cons, ih fun b hb => h b (List.mem_cons_of_mem a hb)]
    by_cases hq : q a = true
    · rw [if_pos (hp.mpr (Or.inl hq)), if_pos hq, if_neg fun hr => hqr ⟨hq, hr⟩]; omega
    · by_cases hr : r a = true
      · rw [if_pos (hp.mpr (Or.inr hr)), if_neg hq, if_pos hr]; omega
      · rw [if_neg fun h => (hp.mp h).elim hq hr, if_neg hq, if_neg hr]; rfl

theorem cntGeMod_le (W : Int) (hist : List Int) (s : Int) (i : Nat) : cntGeMod W hist s i ≤ cntGe hist s :=
  List.countP_mono_left fun _ _ h => (Bool.and_eq_true_iff.mp h).1

theorem cntGe_eq_zero (hist : List Int) (s : Int) (h : ∀ t ∈ hist, t < s) : cntGe hist s = 0 :=
  List.countP_eq_zero.mpr fun t ht => by have := h t ht; simp only [decide_eq_true_eq]; omega

theorem emod_ne_of_lt_add (W s t : Int) (h1 : s < t) (h2 : t < s + W) : t % W ≠ s % W := by
  intro h
  rw [Int.emod_eq_emod_iff_emod_sub_eq_zero] at h
  rw [Int.emod_eq_of_lt (by omega) (by omega)] at h
  omega

theorem bucket_lt (W : Int) (hW : 1 ≤ W) (x : Int) : (x % W).toNat < W.toNat := by
  have := Int.emod_nonneg x (Int.ne_of_gt hW)
  have := Int.emod_lt_of_pos x hW
  omega

theorem bucket_eq_iff (W : Int) (hW : 1 ≤ W) (x : Int) (i : Nat) : (x % W).toNat = i ↔ x % W = i := by
  have := Int.emod_nonneg x (Int.ne_of_gt hW)
  omega

/-! While every event lies before `s + W`, the only events from `s` on in the bucket of second `s` are
those of second `s` itself: moving the start to `s + 1` empties that bucket, takes its count off the
total and leaves the other buckets alone. -/

theorem cntGeMod_succ_self (W : Int) (hW : 1 ≤ W) (hist : List Int) (s : Int) (hlt : ∀ t ∈ hist, t < s + W) :
    cntGeMod W hist (s + 1) (s % W).toNat = 0 :=
  List.countP_eq_zero.mpr fun t ht => by
    simp only [Bool.and_eq_true, decide_eq_true_eq, not_and]
    exact fun h1 h2 => emod_ne_of_lt_add W s t h1 (hlt t ht) (h2.trans ((bucket_eq_iff W hW s _).mp rfl).symm)

theorem cntGeMod_succ_ne (W : Int) (hW : 1 ≤ W) (hist : List Int) (s : Int) (i : Nat) (hi : (s % W).toNat ≠ i) :
    cntGeMod W hist (s + 1) i = cntGeMod W hist s i :=
  List.countP_congr fun t _ => by
    simp only [Bool.and_eq_true, decide_eq_true_eq]
    refine ⟨fun h => ⟨Int.le_of_lt h.1, h.2⟩, fun h => ⟨?_, h.2⟩⟩
    have : t ≠ s := fun e => hi ((bucket_eq_iff W hW s i).mpr (e ▸ h.2))
    omega

theorem cntGe_succ (W : Int) (hW : 1 ≤ W) (hist : List Int) (s : Int) (hlt : ∀ t ∈ hist, t < s + W) :
    cntGe hist s = cntGe hist (s + 1) + cntGeMod W hist s (s % W).toNat :=
  have hi := (bucket_eq_iff W hW s _).mp rfl
  countP_add_of_partition _ _ _ hist fun t ht => by
    simp only [Bool.and_eq_true, decide_eq_true_eq]
    refine ⟨⟨fun h => ?_, fun h => by omega⟩, fun h => emod_ne_of_lt_add W s t h.1 (hlt t ht) (h.2.2.trans hi.symm)⟩
    by_cases e : t = s
    · exact Or.inr ⟨h, e ▸ hi⟩
    · exact Or.inl (by omega)

theorem cntGe_record (hist : List Int) (s now : Int) (h : s ≤ now) :
    cntGe (hist ++ [now]) s = cntGe hist s + 1 := by
  unfold cntGe
  rw [List.countP_append, List.countP_singleton, if_pos (decide_eq_true h)]

theorem cntGeMod_record (W : Int) (hW : 1 ≤ W) (hist : List Int) (s now : Int) (i : Nat) (h : s ≤ now) :
    cntGeMod W (hist ++ [now]) s i = cntGeMod W hist s i + if (now % W).toNat = i then 1 else 0 := by
  unfold cntGeMod
  rw [List.countP_append, List.countP_singleton, decide_eq_true h, Bool.true_and]
  simp only [decide_eq_true_eq, bucket_eq_iff W hW]

theorem bget_eq (b : List (Option Int)) (i : Nat) (h : i < b.length) : bget b i = bval b[i] := by
  unfold bget; rw [List.getElem?_eq_getElem h]; rfl

theorem bget_set (b : List (Option Int)) (i j : Nat) (v : Option Int) (hi : i < b.length) :
    bget (b.set i v) j = if i = j then bval v else bget b j := by
  unfold bget
  rw [List.getElem?_set]
  by_cases h : i = j
  · subst h; simp [hi]
  · simp [h]

theorem bget_replicate (n i : Nat) : bget (List.replicate n none) i = 0 := by
  unfold bget
  rw [List.getElem?_replicate]
  split <;> rfl

/-- On a nil bucket the loop continues without a store; storing nil over nil and subtracting 0 is the same. -/
theorem slideLoop_succ (W : Int) (hW : 1 ≤ W) (n : Nat) (s : Int) (b : List (Option Int)) (all : Int)
    (hs : 0 ≤ s) (hk : (s % W).toNat < b.length) :
    slideLoop W (n + 1) s b all =
      slideLoop W n (s + 1) (b.set (s % W).toNat none) (all - bget b (s % W).toNat) := by
  have h0 : 0 ≤ s % W := Int.emod_nonneg s (by omega)
  rw [slideLoop, Int.tmod_eq_emod_of_nonneg hs, if_pos h0, List.getElem?_eq_getElem hk, bget_eq _ _ hk]
  cases hv : b[(s % W).toNat] with
  | none =>
    have : b.set (s % W).toNat none = b := by rw [← hv, List.set_getElem_self]
    rw [this, bval, Int.sub_zero]
  | some c => rfl

/-- What the window holds when its start is `S`: bucket `i` counts the events
    of the history at or after `S` whose second is `≡ i (mod W)`, and
    `allErrorCount` counts the events at or after `S`. -/
structure Holds (W m : Int) (sw : SlidingWindow) (hist : List Int) (S : Int) : Prop where
  en : sw.enabled = true
  hW : sw.windowSizeSec = W
  hm : sw.fuseMinErrorCount = m
  len : sw.buckets.length = W.toNat
  start : sw.startSec = S
  bk : ∀ i : Nat, i < W.toNat → bget sw.buckets i = cntGeMod W hist S i
  all : sw.allErrorCount = cntGe hist S

/-- The expiry loop of `slide` never panics and moves the start from `s` to
    `s + n`, provided no recorded event lies at or beyond `s + W`. -/
theorem slideLoop_spec (W : Int) (hW : 1 ≤ W) (hist : List Int) (n : Nat) :
    ∀ (s : Int) (b : List (Option Int)) (all : Int),
      0 ≤ s → b.length = W.toNat → (∀ t ∈ hist, t < s + W) →
      (∀ i : Nat, i < W.toNat → bget b i = cntGeMod W hist s i) → all = cntGe hist s →
      ∃ b' all', slideLoop W n s b all = .ok (b', all') ∧ b'.length = W.toNat ∧
        (∀ i : Nat, i < W.toNat → bget b' i = cntGeMod W hist (s + n) i) ∧
        all' = cntGe hist (s + n) := by
  induction n with
  | zero =>
    intro s b all _ hlen _ hb hall
    rw [Int.natCast_zero, Int.add_zero]
    exact ⟨b, all, rfl, hlen, hb, hall⟩
  | succ n ih =>
    intro s b all hs hlen hlt hb hall
    have hk : (s % W).toNat < b.length := hlen ▸ bucket_lt W hW s
    rw [slideLoop_succ W hW n s b all hs hk, Int.natCast_succ, Int.add_comm (n : Int) 1, ← Int.add_assoc]
    refine ih (s + 1) _ _ (Int.le_add_one hs) (List.length_set.trans hlen)
      (fun t ht => by have := hlt t ht; omega) (fun i hiW => ?_) ?_
    · rw [bget_set _ _ _ _ hk]
      by_cases hki : (s % W).toNat = i
      · rw [if_pos hki, ← hki, cntGeMod_succ_self W hW hist s hlt]; rfl
      · rw [if_neg hki, hb i hiW, cntGeMod_succ_ne W hW hist s i hki]
    · rw [hall, hb _ (bucket_lt W hW s), cntGe_succ W hW hist s hlt, Int.natCast_add, Int.add_sub_cancel]

/-- `slide` moves the window start forward to `S'` and forgets exactly the
    events before `S'`. -/
theorem slide_spec (W m : Int) (hW : 1 ≤ W) (sw : SlidingWindow) (hist : List Int) (S S' : Int)
    (h : Holds W m sw hist S) (hS : 0 ≤ S) (hlt : ∀ t ∈ hist, t < S + W) (hS' : S < S') :
    ∃ sw', slide sw S' = .ok sw' ∧ Holds W m sw' hist S' := by
  unfold slide
  rw [h.hW, h.start]
  by_cases hd : S' - S ≥ W
  · rw [if_pos hd, if_neg (by omega)]
    have hz : cntGe hist S' = 0 := cntGe_eq_zero hist S' fun t ht => by have := hlt t ht; omega
    refine ⟨_, rfl, { en := h.en, hW := rfl, hm := h.hm, len := List.length_replicate, start := rfl,
                      bk := fun i _ => ?_, all := by rw [hz]; rfl }⟩
    show bget (List.replicate W.toNat none) i = _
    have : cntGeMod W hist S' i = 0 := Nat.le_zero.mp (hz ▸ cntGeMod_le W hist S' i)
    rw [bget_replicate, this]; rfl
  · rw [if_neg hd]
    obtain ⟨b', all', h1, h2, h3, h4⟩ :=
      slideLoop_spec W hW hist (S' - S).toNat S sw.buckets sw.allErrorCount hS h.len hlt h.bk h.all
    have e : S + ((S' - S).toNat : Int) = S' := by rw [Int.toNat_of_nonneg (Int.sub_nonneg_of_le (Int.le_of_lt hS'))]; omega
    rw [h1]
    rw [e] at h3 h4
    exact ⟨_, rfl, { en := h.en, hW := rfl, hm := h.hm, len := h2, start := rfl, bk := h3, all := h4 }⟩

/-- The invariant between calls: `last` is the second of the latest recorded
    event (0 before the first one). -/
structure Inv (W m : Int) (sw : SlidingWindow) (hist : List Int) (last : Int) : Prop where
  holds : Holds W m sw hist (max 0 (last - W + 1))
  last0 : 0 ≤ last
  le : ∀ t ∈ hist, 0 ≤ t ∧ t ≤ last

/-! The start `max 0 (last - W + 1)` of the window whose latest event is at second `last`. -/

theorem lt_start_add (W last t : Int) (h : t ≤ last) : t < max 0 (last - W + 1) + W :=
  Int.lt_of_lt_of_le (by omega) (Int.add_le_add_right (Int.le_max_right 0 (last - W + 1)) W)

theorem start_step (W last now : Int) (h : last ≤ now) :
    max 0 (now - W + 1) =
      if now - W + 1 > max 0 (last - W + 1) then now - W + 1 else max 0 (last - W + 1) := by
  by_cases hc : now - W + 1 > max 0 (last - W + 1)
  · rw [if_pos hc]
    exact Int.max_eq_right (Int.le_trans (Int.le_max_left 0 _) (Int.le_of_lt hc))
  · rw [if_neg hc]
    exact Int.le_antisymm (Int.max_le.mpr ⟨Int.le_max_left 0 _, Int.not_lt.mp hc⟩)
      (Int.max_le.mpr ⟨Int.le_max_left 0 _, Int.le_trans (by omega) (Int.le_max_right 0 (now - W + 1))⟩)

theorem inv_new (W m : Int) (hW : 1 ≤ W) (hm : 1 ≤ m) : Inv W m (NewSlidingWindow W m) [] 0 := by
  have hs : max 0 ((0 : Int) - W + 1) = 0 := by omega
  refine { holds := ?_, last0 := Int.le_refl 0, le := List.forall_mem_nil _ }
  rw [hs, NewSlidingWindow, if_neg (by omega)]
  exact { en := rfl, hW := rfl, hm := rfl, len := List.length_replicate, start := rfl,
          bk := fun i _ => bget_replicate _ i, all := rfl }

theorem refCount_eq_cntGe (W : Int) (hist : List Int) (now : Int) (h : ∀ t ∈ hist, 0 ≤ t ∧ t ≤ now) :
    refCount W hist now = cntGe hist (max 0 (now - W + 1)) :=
  List.countP_congr fun t ht => by
    have := h t ht
    simp only [Bool.and_eq_true, decide_eq_true_eq, Int.max_le]
    omega

theorem trigger_of_slid (W : Int) (hW : 1 ≤ W) (sw sw1 : SlidingWindow) (now : Int) (hen : sw.enabled = true)
    (hsW : sw.windowSizeSec = W) (hnow : 0 ≤ now)
    (hs : (if now - W + 1 > sw.startSec then slide sw (now - W + 1) else .ok sw) = .ok sw1)
    (hk : (now % W).toNat < sw1.buckets.length) :
    Trigger sw now =
      .ok ({ sw1 with buckets := sw1.buckets.set (now % W).toNat (some (bget sw1.buckets (now % W).toNat + 1)),
                      allErrorCount := sw1.allErrorCount + 1 },
           decide (sw1.allErrorCount + 1 ≥ sw1.fuseMinErrorCount)) := by
  have h0 : 0 ≤ now % W := Int.emod_nonneg now (by omega)
  have hW0 : ¬ W = 0 := by omega
  unfold Trigger
  simp only [hen, hsW, Bool.not_true, Bool.false_eq_true, if_false, hW0, hs,
    Int.tmod_eq_emod_of_nonneg hnow, h0, if_true, List.getElem?_eq_getElem hk, bget_eq _ _ hk]
  cases sw1.buckets[(now % W).toNat] <;> rfl

/-- One `Trigger` call at a second `now ≥ last`: no panic, the invariant is
    re-established for the extended history, and the result says whether the
    trailing window holds at least `m` events. -/
theorem trigger_step (W m : Int) (hW : 1 ≤ W) (sw : SlidingWindow) (hist : List Int) (last now : Int)
    (h : Inv W m sw hist last) (hnow : last ≤ now) :
    ∃ sw', Trigger sw now = .ok (sw', decide ((refCount W (hist ++ [now]) now : Int) ≥ m)) ∧
      Inv W m sw' (hist ++ [now]) now := by
  have hh := h.holds
  have hnow0 : 0 ≤ now := Int.le_trans h.last0 hnow
  have hSle : max 0 (now - W + 1) ≤ now := Int.max_le.mpr ⟨hnow0, by omega⟩
  obtain ⟨sw1, hs1, h1⟩ : ∃ sw1, (if now - W + 1 > sw.startSec then slide sw (now - W + 1) else R.ok sw) = .ok sw1 ∧
      Holds W m sw1 hist (max 0 (now - W + 1)) := by
    rw [hh.start, start_step W last now hnow]
    by_cases hc : now - W + 1 > max 0 (last - W + 1)
    · rw [if_pos hc, if_pos hc]
      exact slide_spec W m hW sw hist _ _ hh (Int.le_max_left _ _) (fun t ht => lt_start_add W last t (h.le t ht).2) hc
    · rw [if_neg hc, if_neg hc]
      exact ⟨sw, rfl, hh⟩
  have hkb : (now % W).toNat < sw1.buckets.length := h1.len ▸ bucket_lt W hW now
  have hle' : ∀ t ∈ hist ++ [now], 0 ≤ t ∧ t ≤ now := by
    intro t ht
    rcases List.mem_append.mp ht with ht | ht
    · exact ⟨(h.le t ht).1, Int.le_trans (h.le t ht).2 hnow⟩
    · rw [List.mem_singleton.mp ht]; exact ⟨hnow0, Int.le_refl now⟩
  have hall : sw1.allErrorCount + 1 = cntGe (hist ++ [now]) (max 0 (now - W + 1)) := by
    rw [h1.all, cntGe_record hist _ now hSle]; rfl
  rw [trigger_of_slid W hW sw sw1 now hh.en hh.hW hnow0 hs1 hkb, hall, h1.hm, refCount_eq_cntGe W _ now hle']
  refine ⟨_, rfl, { holds := ?_, last0 := hnow0, le := hle' }⟩
  refine { en := h1.en, hW := h1.hW, hm := rfl, len := List.length_set.trans h1.len,
           start := h1.start, all := rfl, bk := fun i hi => ?_ }
  show bget (sw1.buckets.set _ _) i = _
  rw [bget_set _ _ _ _ hkb, cntGeMod_record W hW hist _ now i hSle]
  by_cases hki : (now % W).toNat = i
  · rw [if_pos hki, if_pos hki, hki, bval, h1.bk i hi]; rfl
  · rw [if_neg hki, if_neg hki, h1.bk i hi]; rfl

/-- `last ≤ t₁ ≤ t₂ ≤ …` -/
def NonDecrFrom : Int → List Int → Prop
  | _, [] => True
  | last, t :: ts => last ≤ t ∧ NonDecrFrom t ts

instance decNonDecrFrom : (a : Int) → (l : List Int) → Decidable (NonDecrFrom a l)
  | _, [] => isTrue trivial
  | a, t :: ts => by
    unfold NonDecrFrom
    exact @instDecidableAnd _ _ _ (decNonDecrFrom t ts)

/-- `last'` is the second of the last call (`last` if there is none), said through its bounds: they are
    all the callers use, and need no case split on `ts`. -/
theorem runTriggers_inv (W m : Int) (hW : 1 ≤ W) (ts : List Int) :
    ∀ (sw : SlidingWindow) (pre : List Int) (last : Int),
      Inv W m sw pre last → NonDecrFrom last ts →
      ∃ sw' last', runTriggers sw ts = .ok (sw', specRun W m pre ts) ∧ Inv W m sw' (pre ++ ts) last' ∧
        ∀ c, last ≤ c → (∀ t ∈ ts, t ≤ c) → last' ≤ c := by
  induction ts with
  | nil => intro sw pre last h _; exact ⟨sw, last, rfl, by rwa [List.append_nil], fun c hc _ => hc⟩
  | cons t ts ih =>
    intro sw pre last h hnd
    obtain ⟨sw1, e1, h1⟩ := trigger_step W m hW sw pre last t h hnd.1
    obtain ⟨sw2, last', e2, h2, h3⟩ := ih sw1 (pre ++ [t]) t h1 hnd.2
    refine ⟨sw2, last', by simp only [runTriggers, e1, e2, specRun], by rwa [List.append_cons],
      fun c _ hall => h3 c (hall t List.mem_cons_self) fun x hx => hall x (List.mem_cons_of_mem t hx)⟩

/-- **C26 (whole histories).** For every window `W ≥ 1`, threshold `m ≥ 1` and
    every non-decreasing history of non-negative timestamps (any length,
    repeats and gaps allowed), no `Trigger` call panics and the k-th call
    returns `true` exactly when the number of events recorded in the trailing
    `W` seconds (the current second included) has reached `m`. -/
theorem runTriggers_eq_spec (W m : Int) (hW : 1 ≤ W) (hm : 1 ≤ m) (ts : List Int)
    (hnd : NonDecrFrom 0 ts) :
    ∃ sw', runTriggers (NewSlidingWindow W m) ts = .ok (sw', specRun W m [] ts) := by
  obtain ⟨sw', _, e, _, _⟩ := runTriggers_inv W m hW ts _ [] 0 (inv_new W m hW hm) hnd
  exact ⟨sw', e⟩

example : NonDecrFrom 0 [3, 3, 5, 9, 20] := by decide
example : (runTriggers (NewSlidingWindow 3 2) [3, 3, 5, 9, 20]).isPanic = false ∧
    specRun 3 2 [] [3, 3, 5, 9, 20] = [false, true, true, false, false] := by decide

theorem nonDecrFrom_concat (x : Int) (l : List Int) : ∀ a, NonDecrFrom a (l ++ [x]) →
    NonDecrFrom a l ∧ a ≤ x ∧ ∀ t ∈ l, t ≤ x := by
  induction l with
  | nil => exact fun a h => ⟨trivial, h.1, List.forall_mem_nil _⟩
  | cons t l ih =>
    intro a h
    obtain ⟨h1, h2, h3⟩ := ih t h.2
    exact ⟨⟨h.1, h1⟩, Int.le_trans h.1 h2, fun u hu => by
      rcases List.mem_cons.mp hu with rfl | hu
      · exact h2
      · exact h3 u hu⟩

/-- **C26 (one call).** After any admissible history `hist`, the call at a
    second `now` not before the last recorded one returns `true` iff the
    trailing window holds at least `m` events — "exactly when": both
    directions, errors older than the window never count. -/
theorem trigger_iff (W m : Int) (hW : 1 ≤ W) (hm : 1 ≤ m) (hist : List Int) (now : Int)
    (hnd : NonDecrFrom 0 (hist ++ [now])) :
    ∃ sw rs sw' r, runTriggers (NewSlidingWindow W m) hist = .ok (sw, rs) ∧
      Trigger sw now = .ok (sw', r) ∧
      (r = true ↔ (refCount W (hist ++ [now]) now : Int) ≥ m) := by
  obtain ⟨hnd', h0, hle⟩ := nonDecrFrom_concat now hist 0 hnd
  obtain ⟨sw, last, e, hinv, hl⟩ := runTriggers_inv W m hW hist _ [] 0 (inv_new W m hW hm) hnd'
  obtain ⟨sw', e', _⟩ := trigger_step W m hW sw hist last now hinv (hl now h0 hle)
  exact ⟨sw, _, sw', _, e, e', decide_eq_true_iff⟩

example : NonDecrFrom 0 ([10, 11, 12] ++ [13]) := by decide

/-- Errors older than the window never count: the answer of a call does not
    change when events at or before `now - W` are removed from the history. -/
theorem old_errors_never_count (W : Int) (hist : List Int) (now : Int) :
    refCount W hist now = refCount W (hist.filter fun t => decide (now - W < t)) now := by
  unfold refCount
  rw [List.countP_filter]
  exact List.countP_congr fun t _ => by simp only [Bool.and_eq_true, decide_eq_true_eq]; omega

theorem trigger_disabled (sw : SlidingWindow) (hd : sw.enabled = false) (t : Int) : Trigger sw t = .ok (sw, false) := by
  unfold Trigger; rw [hd]; rfl

theorem newSlidingWindow_disabled (W m : Int) (h : W ≤ 0 ∨ m ≤ 0) : (NewSlidingWindow W m).enabled = false := by
  rw [NewSlidingWindow, if_pos h]

/-- **C26 (disabled).** With a non-positive window or threshold the breaker is
    disabled: no call ever returns `true` (and none panics), whatever the
    timestamps. -/
theorem disabled_never (W m : Int) (h : W ≤ 0 ∨ m ≤ 0) (ts : List Int) :
    runTriggers (NewSlidingWindow W m) ts = .ok (NewSlidingWindow W m, List.replicate ts.length false) := by
  have hd := newSlidingWindow_disabled W m h
  induction ts with
  | nil => rfl
  | cons t ts ih => simp only [runTriggers, trigger_disabled _ hd, ih, List.length_cons, List.replicate_succ]

example : (NewSlidingWindow 0 3).enabled = false ∧ (NewSlidingWindow 5 0).enabled = false := by decide

/-- **C26 (other errors never count).** `TryFuse` with anything but a
    `mysql.ConnTypeError` value leaves the node — status and window — untouched. -/
theorem non_conn_error_ignored (n : Node) (e : ErrKind) (now : Int) (he : e ≠ .conn) :
    TryFuse n e now = .ok n := by
  have : AsConnError e = false := by
    cases e with
    | conn => exact absurd rfl he
    | _ => rfl
  unfold TryFuse
  cases n.fuse with
  | none => rfl
  | some sw => cases n.hasRecovery <;> simp only [this] <;> rfl

/-- Without both strategies the breaker is not installed: nothing happens. -/
theorem no_strategy_ignored (n : Node) (e : ErrKind) (now : Int) (h : n.fuse = none ∨ n.hasRecovery = false) :
    TryFuse n e now = .ok n := by
  unfold TryFuse
  cases hf : n.fuse with
  | none => rfl
  | some sw =>
    rcases h with h | h
    · rw [hf] at h; cases h
    · rw [h]; rfl

/-- the wall clock never goes back between operations -/
def ClockFrom : Int → List Op → Prop
  | _, [] => True
  | cur, .tryFuse _ now :: os => cur ≤ now ∧ ClockFrom now os
  | cur, .getConn _ now :: os => cur ≤ now ∧ ClockFrom now os
  | cur, .setUp :: os => ClockFrom cur os

instance decClockFrom : (a : Int) → (l : List Op) → Decidable (ClockFrom a l)
  | _, [] => isTrue trivial
  | a, .tryFuse _ now :: os => by
    unfold ClockFrom
    exact @instDecidableAnd _ _ _ (decClockFrom now os)
  | a, .getConn _ now :: os => by
    unfold ClockFrom
    exact @instDecidableAnd _ _ _ (decClockFrom now os)
  | a, .setUp :: os => by
    unfold ClockFrom
    exact decClockFrom a os

theorem tryFuse_conn (W m : Int) (hW : 1 ≤ W) (sw : SlidingWindow) (rec : List Int) (last now : Int) (up : Bool)
    (h : Inv W m sw rec last) (hnow : last ≤ now) :
    ∃ sw1, TryFuse { up := up, fuse := some sw, hasRecovery := true } .conn now =
        .ok { up := up && !decide ((refCount W (rec ++ [now]) now : Int) ≥ m), fuse := some sw1, hasRecovery := true } ∧
      Inv W m sw1 (rec ++ [now]) now := by
  obtain ⟨sw1, e1, h1⟩ := trigger_step W m hW sw rec last now h hnow
  refine ⟨sw1, ?_, h1⟩
  simp only [TryFuse, AsConnError, Bool.not_true, Bool.false_eq_true, if_false, e1]
  cases decide ((refCount W (rec ++ [now]) now : Int) ≥ m) <;> simp

/-- From any window with the invariant: the run answers as the reference does.  Only this equation is
    concluded, not the invariant of the final window (`runTriggers_inv` is the statement that composes). -/
theorem runOps_inv (W m : Int) (hW : 1 ≤ W) (ops : List Op) :
    ∀ (sw : SlidingWindow) (rec : List Int) (last cur : Int) (up : Bool),
      Inv W m sw rec last → last ≤ cur → ClockFrom cur ops →
      ∃ n', runOps { up := up, fuse := some sw, hasRecovery := true } ops = .ok (n', specOps W m rec up ops) := by
  induction ops with
  | nil => intro sw rec last cur up _ _ _; exact ⟨_, rfl⟩
  | cons o os ih =>
    intro sw rec last cur up h hlc hck
    -- every step leaves a node of the same shape, and the reference makes the same move
    have next : ∀ (sw' : SlidingWindow) (rec' : List Int) (last' cur' : Int) (up' : Bool),
        step { up := up, fuse := some sw, hasRecovery := true } o =
          .ok { up := up', fuse := some sw', hasRecovery := true } →
        specOps W m rec up (o :: os) = up' :: specOps W m rec' up' os →
        Inv W m sw' rec' last' → last' ≤ cur' → ClockFrom cur' os →
        ∃ n', runOps { up := up, fuse := some sw, hasRecovery := true } (o :: os) =
          .ok (n', specOps W m rec up (o :: os)) := by
      intro sw' rec' last' cur' up' hs hspec hinv hl hc
      obtain ⟨n', e⟩ := ih sw' rec' last' cur' up' hinv hl hc
      exact ⟨n', by rw [hspec]; simp only [runOps, hs, e]⟩
    cases o with
    | setUp => exact next sw rec last cur true rfl rfl h hlc hck
    | tryFuse e now =>
      by_cases he : e = .conn
      · subst he
        obtain ⟨sw1, e1, h1⟩ := tryFuse_conn W m hW sw rec last now up h (Int.le_trans hlc hck.1)
        exact next sw1 _ now now _ e1 (by rw [specOps, if_pos rfl]) h1 (Int.le_refl now) hck.2
      · exact next sw rec last now up (non_conn_error_ignored ⟨up, some sw, true⟩ e now he) (by rw [specOps, if_neg he]) h
          (Int.le_trans hlc hck.1) hck.2
    | getConn e now =>
      cases up with
      | false =>
        exact next sw rec last now false rfl (by rw [specOps, if_neg fun h => Bool.noConfusion h.1]) h
          (Int.le_trans hlc hck.1) hck.2
      | true =>
        by_cases he : e = .conn
        · subst he
          obtain ⟨sw1, e1, h1⟩ := tryFuse_conn W m hW sw rec last now true h (Int.le_trans hlc hck.1)
          exact next sw1 _ now now _ e1 (by rw [specOps, if_pos ⟨rfl, rfl⟩]; rfl) h1 (Int.le_refl now) hck.2
        · exact next sw rec last now true (non_conn_error_ignored ⟨true, some sw, true⟩ e now he)
            (by rw [specOps, if_neg fun h => he h.2]) h (Int.le_trans hlc hck.1) hck.2

/-- **C26 (the replica's status).** For a replica with the breaker installed
    (window `W ≥ 1`, threshold `m ≥ 1`, a recovery strategy), any initial
    status and every sequence of `TryFuse` calls with errors of any kind,
    reads routed to it and health-check recoveries under a clock that never
    goes back: nothing panics and after every step the status is exactly the
    one of the reference — the node is marked down by a step iff that step
    recorded a connection error and the number of connection errors in the
    trailing `W` seconds then reached `m`. -/
theorem runOps_eq_spec (W m : Int) (hW : 1 ≤ W) (hm : 1 ≤ m) (up : Bool) (ops : List Op)
    (hck : ClockFrom 0 ops) :
    ∃ n', runOps { up := up, fuse := some (NewSlidingWindow W m), hasRecovery := true } ops =
      .ok (n', specOps W m [] up ops) :=
  runOps_inv W m hW ops _ [] 0 0 up (inv_new W m hW hm) (Int.le_refl 0) hck

/-- The same for a window that already recorded the errors `pre` (this is the
    shape the correspondence check runs: the window is preloaded through
    `Trigger`, then the operations run at the current second). -/
theorem runOps_preloaded_eq_spec (W m : Int) (hW : 1 ≤ W) (hm : 1 ≤ m) (pre : List Int) (cur : Int)
    (up : Bool) (ops : List Op) (hpre : NonDecrFrom 0 pre) (hcur : 0 ≤ cur) (hle : ∀ t ∈ pre, t ≤ cur)
    (hck : ClockFrom cur ops) :
    ∃ sw n', runTriggers (NewSlidingWindow W m) pre = .ok (sw, specRun W m [] pre) ∧
      runOps { up := up, fuse := some sw, hasRecovery := true } ops = .ok (n', specOps W m pre up ops) := by
  obtain ⟨sw, last', e, hinv, hl⟩ := runTriggers_inv W m hW pre _ [] 0 (inv_new W m hW hm) hpre
  obtain ⟨n', e2⟩ := runOps_inv W m hW ops sw pre last' cur up hinv (hl cur hcur hle) hck
  exact ⟨sw, n', e, e2⟩

example : ClockFrom 0 [.tryFuse .conn 5, .tryFuse .other 5, .getConn .conn 6, .setUp, .getConn .conn 9] := by decide
example : specOps 3 2 [] true [.tryFuse .conn 5, .tryFuse .other 5, .getConn .conn 6, .setUp, .getConn .conn 9]
    = [true, true, false, true, true] := by decide

/-- **C26 (disabled / not installed, status level).** A node whose breaker is
    disabled (non-positive window or threshold) or not installed is never
    marked down by `TryFuse` (which is all `getConnWithFuse`, the path of a read,
    does), whatever the errors and the clock. -/
theorem disabled_node_never_fused (n : Node) (W m : Int)
    (h : n.fuse = none ∨ n.hasRecovery = false ∨ (n.fuse = some (NewSlidingWindow W m) ∧ (W ≤ 0 ∨ m ≤ 0)))
    (e : ErrKind) (now : Int) : TryFuse n e now = .ok n := by
  rcases h with h | h | ⟨h1, h2⟩
  · exact no_strategy_ignored n e now (Or.inl h)
  · exact no_strategy_ignored n e now (Or.inr h)
  · obtain ⟨up, fuse, hasRecovery⟩ := n
    subst h1
    unfold TryFuse
    simp only [trigger_disabled _ (newSlidingWindow_disabled W m h2)]
    cases hasRecovery <;> cases AsConnError e <;> rfl

/-! ### outside the quantified histories (documented, not part of the property)

  A clock that goes back is not covered by the property ("every non-decreasing
  sequence"); the window then over-counts.  A negative timestamp makes
  `now % windowSizeSec` negative and the index expression panics. -/

theorem clock_back_overcounts_witness :
    (runTriggers (NewSlidingWindow 3 2) [10, 8]).isPanic = false ∧
    (match runTriggers (NewSlidingWindow 3 2) [10, 8] with | .ok (_, rs) => rs | _ => []) = [false, true] ∧
    refCount 3 [10, 8] 8 = 1 := by decide

theorem negative_time_panics_witness : Trigger (NewSlidingWindow 3 2) (-1) = .panic := by decide

end GaeaVerif.C26
