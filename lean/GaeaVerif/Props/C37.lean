import GaeaVerif.Model.TimeWheelC37
import GaeaVerif.Gen.Consts
/-
  C37 — Idle sessions are closed on time and active ones are not.
  Theorems about `Model/TimeWheelC37.lean` (tie to /repo/util/time_wheel.go:
  correspondence check `gvh run C37` and the constants of `Gen/Consts.lean`).

  The wheel is compared with a reference machine that keeps one countdown per key (`Spec`, `specStep`).
  * `remaining N cur i round`: the ticks before an entry in bucket `i` with `round` rounds to go is due when
    the wheel stands at `cur`; `countdowns tw` lists (key, registration, ticks left) of the entries of a wheel.
    Under the representation invariant `WF`, `add_ok` / `remove_ok` / `handleTick_ok` say what each operation
    does to that list (`sSet` / `sDel` / `sFired`, `sNext`).
  * `Ref` relates a wheel with its queued calls to a reference state; `step_refines`, `run_refines` and
    `model_refines_spec`: the model produces the reference machine's outputs.
  * On the reference machine alone: `SInv` (registration numbers are used once), `fired_origin`,
    `fires_when_due`, `entry_fires_at`, then `spec_fires_exactly_at`, `spec_superseded_never_fires`.
  * The property on the model follows by `model_refines_spec`.  In these statements tick `n` is the `n`-th
    tick of the whole history, counted from 0: a call made after `ticksIn ops1` ticks is seen by tick
    `ticksIn ops1`.
-/
namespace GaeaVerif.C37
open GaeaVerif GaeaVerif.TimeWheel

/-- Slots from the current index forward to bucket `i` (going round). -/
def dist (N cur i : Int) : Int := if cur ≤ i then i - cur else i - cur + N
def remaining (N cur i round : Int) : Int := dist N cur i + round * N
def nextIndex (N cur : Int) : Int := if cur = N - 1 then 0 else cur + 1

theorem dist_of_le {N cur i : Int} (h : cur ≤ i) : dist N cur i = i - cur := if_pos h
theorem dist_of_lt {N cur i : Int} (h : i < cur) : dist N cur i = i - cur + N := if_neg (Int.not_le.mpr h)

theorem remaining_add (N cur d : Int) (hN : 0 < N) (hc0 : 0 ≤ cur) (hc1 : cur < N) :
    remaining N cur ((cur + d) % N) (d / N) = d := by
  have hm0 := Int.emod_nonneg d (Int.ne_of_gt hN)
  have hm1 := Int.emod_lt_of_pos d hN
  have hdist : dist N cur ((cur + d) % N) = d % N := by
    rw [← Int.add_emod_emod]
    by_cases hlt : cur + d % N < N
    · rw [Int.emod_eq_of_lt (by omega) hlt, dist_of_le (by omega)]; omega
    · rw [← Int.sub_emod_right, Int.emod_eq_of_lt (by omega) (by omega), dist_of_lt (by omega)]; omega
  rw [remaining, hdist, Int.emod_add_ediv_mul]

theorem remaining_eq_zero (N cur i round : Int) (hc0 : 0 ≤ cur) (hc1 : cur < N) (hi0 : 0 ≤ i)
    (hr : 0 ≤ round) : remaining N cur i round = 0 ↔ i = cur ∧ round = 0 := by
  unfold remaining
  constructor
  · intro h
    have hm : 0 ≤ round * N := Int.mul_nonneg hr (by omega)
    by_cases hi : cur ≤ i
    · rw [dist_of_le hi] at h
      exact ⟨by omega, (Int.mul_eq_zero.mp (by omega : round * N = 0)).resolve_right (by omega)⟩
    · rw [dist_of_lt (by omega)] at h; omega
  · rintro ⟨rfl, rfl⟩; rw [dist_of_le (Int.le_refl _)]; omega

theorem remaining_next (N cur i round : Int) (hi0 : 0 ≤ i) (hi1 : i < N)
    (hne : i ≠ cur) : remaining N (nextIndex N cur) i round = remaining N cur i round - 1 := by
  unfold remaining nextIndex
  by_cases hl : cur = N - 1
  · rw [if_pos hl, dist_of_le hi0, dist_of_lt (by omega)]; omega
  · rw [if_neg hl]
    by_cases hi : cur ≤ i
    · rw [dist_of_le hi, dist_of_le (by omega)]; omega
    · rw [dist_of_lt (by omega), dist_of_lt (by omega)]; omega

theorem remaining_next_self (N cur round : Int) (hc0 : 0 ≤ cur) :
    remaining N (nextIndex N cur) cur (round - 1) = remaining N cur cur round - 1 := by
  unfold remaining nextIndex
  rw [Int.sub_mul, Int.one_mul, dist_of_le (Int.le_refl cur)]
  by_cases hl : cur = N - 1
  · rw [if_pos hl, dist_of_le hc0]; omega
  · rw [if_neg hl, dist_of_lt (by omega)]; omega

/-- Ticks until entry `e` of the wheel is due. -/
def rem (tw : TimeWheel) (e : Int × Task) : Int :=
  remaining tw.bucketsNum tw.currentIndex e.1 e.2.round

/-- What the property observes of an entry: key, registration, ticks left. -/
def view (tw : TimeWheel) (e : Int × Task) : Nat × Nat × Int := (e.2.key, e.2.reg, rem tw e)

def countdowns (tw : TimeWheel) : List (Nat × Nat × Int) := tw.buckets.map (view tw)

/-- Representation invariant of a wheel of tick `tick` and pipeline capacity
    `cap` built by `NewTimeWheel` and changed only by `add`, `remove`,
    `handleTick` and the exported calls. -/
structure WF (cap : Nat) (tick : Int) (tw : TimeWheel) : Prop where
  tickEq : tw.tick = tick
  capEq : tw.pipelineCap = cap
  tickSec : 1 ≤ seconds tick
  nPos : 0 < tw.bucketsNum
  curLo : 0 ≤ tw.currentIndex
  curHi : tw.currentIndex < tw.bucketsNum
  entry : ∀ e ∈ tw.buckets, 0 ≤ e.1 ∧ e.1 < tw.bucketsNum ∧ 0 ≤ e.2.round ∧
    mapLookup tw.bucketIndexes e.2.key = some e.1
  idx : ∀ p ∈ tw.bucketIndexes, 0 ≤ p.2 ∧ p.2 < tw.bucketsNum
  uniq : tw.buckets.Pairwise (fun a b => a.2.key ≠ b.2.key)

theorem WF.pipeline {cap : Nat} {tick : Int} {tw : TimeWheel} (hw : WF cap tick tw) (q : List Item) :
    WF cap tick { tw with pipelineC := q } :=
  { hw with }

theorem mapLookup_mem (m : List (Nat × Int)) (k : Nat) (v : Int) (h : mapLookup m k = some v) :
    (k, v) ∈ m := by
  induction m with
  | nil => cases h
  | cons p rest ih =>
    simp only [mapLookup] at h
    split at h
    · rename_i hk
      cases h; subst hk; exact List.mem_cons_self
    · exact List.mem_cons_of_mem _ (ih h)

theorem mapLookup_filter (m : List (Nat × Int)) (q : Nat → Bool) (k : Nat) (hq : q k = true) :
    mapLookup (m.filter (fun e => q e.1)) k = mapLookup m k := by
  induction m with
  | nil => rfl
  | cons p rest ih =>
    by_cases hk : p.1 = k
    · simp [List.filter, hk, hq, mapLookup]
    · cases hq' : q p.1 <;> simp [List.filter, hq', mapLookup, hk, ih]

theorem mapLookup_delete_other (m : List (Nat × Int)) (k k' : Nat) (h : k' ≠ k) :
    mapLookup (mapDelete m k) k' = mapLookup m k' :=
  mapLookup_filter m (fun x => decide (x ≠ k)) k' (decide_eq_true h)

section
variable {cap : Nat} {tick : Int} {tw : TimeWheel} (hw : WF cap tick tw) {k : Nat}
include hw

theorem WF.valid {i : Int} (hl : mapLookup tw.bucketIndexes k = some i) : validIndex tw i = true :=
  decide_eq_true (hw.idx (k, i) (mapLookup_mem _ _ _ hl))

theorem WF.absent (hl : mapLookup tw.bucketIndexes k = none) : ∀ e ∈ tw.buckets, e.2.key ≠ k := by
  intro e he hk
  have := (hw.entry e he).2.2.2
  rw [hk, hl] at this
  cases this

theorem WF.delete_recorded {i : Int} (hl : mapLookup tw.bucketIndexes k = some i) :
    bucketDelete tw.buckets i k = tw.buckets.filter (fun e => e.2.key ≠ k) := by
  apply List.filter_congr
  intro e he
  have := (hw.entry e he).2.2.2
  by_cases hk : e.2.key = k
  · rw [hk, hl] at this
    cases this
    simp [hk]
  · simp [hk]

theorem WF.deleteOrigin_ok (k : Nat) :
    deleteOrigin tw k = .ok (tw.buckets.filter (fun e => e.2.key ≠ k)) := by
  unfold deleteOrigin
  cases hl : mapLookup tw.bucketIndexes k with
  | none => exact congrArg R.ok (List.filter_eq_self.mpr fun e he => decide_eq_true (hw.absent hl e he)).symm
  | some origin => simp only [hw.valid hl, ↓reduceIte, hw.delete_recorded hl]
end

/-! ### the reference machine: one countdown per key -/

/-- State of the reference machine: for each registered key its latest
    registration and the ticks left before it is due, and the number of calls
    made since the last tick. -/
structure Spec where
  live : List (Nat × Nat × Int)
  queued : Nat
  deriving DecidableEq, Repr

/-- Activity on key `k`: its registration becomes `(r, d)`. -/
def sSet (l : List (Nat × Nat × Int)) (k r : Nat) (d : Int) : List (Nat × Nat × Int) :=
  (k, r, d) :: l.filter (fun x => x.1 ≠ k)
def sDel (l : List (Nat × Nat × Int)) (k : Nat) : List (Nat × Nat × Int) :=
  l.filter (fun x => x.1 ≠ k)
/-- The registrations due now. -/
def sFired (l : List (Nat × Nat × Int)) : List Nat := (l.filter (fun x => x.2.2 = 0)).map (·.2.1)
/-- … the others, one tick nearer. -/
def sNext (l : List (Nat × Nat × Int)) : List (Nat × Nat × Int) :=
  (l.filter (fun x => x.2.2 ≠ 0)).map (fun x => (x.1, x.2.1, x.2.2 - 1))

/-- Whole ticks in a delay, as `calculateRound` / `calculateIndex` compute it. -/
def delayTicks (tick delay : Int) : Int := seconds delay / seconds tick

theorem delayTicks_nonneg (tick delay : Int) (ht : 1 ≤ seconds tick) (hd : 0 ≤ delay) :
    0 ≤ delayTicks tick delay :=
  Int.ediv_nonneg (Int.tdiv_nonneg hd (by decide)) (by omega)

theorem goDiv_ok (a b : Int) (ha : 0 ≤ a) (hb : b ≠ 0) : goDiv a b = .ok (a / b) := by
  rw [goDiv, if_neg hb, Int.tdiv_eq_ediv_of_nonneg ha]

theorem goMod_ok (a b : Int) (ha : 0 ≤ a) (hb : b ≠ 0) : goMod a b = .ok (a % b) := by
  rw [goMod, if_neg hb, Int.tmod_eq_emod_of_nonneg ha]

section
variable {cap : Nat} {tick : Int} {tw : TimeWheel} (hw : WF cap tick tw)
include hw

theorem calc_ok (delay : Int) (hd : 0 ≤ delay) :
    calculateRound tw delay = .ok (delayTicks tick delay / tw.bucketsNum) ∧
    calculateIndex tw delay = .ok ((tw.currentIndex + delayTicks tick delay) % tw.bucketsNum) := by
  have hd0 := delayTicks_nonneg tick delay hw.tickSec hd
  have h1 : goDiv (seconds delay) (seconds tw.tick) = .ok (delayTicks tick delay) := by
    rw [hw.tickEq]
    exact goDiv_ok _ _ (Int.tdiv_nonneg hd (by decide)) (by have := hw.tickSec; omega)
  have hN : tw.bucketsNum ≠ 0 := Int.ne_of_gt hw.nPos
  exact ⟨by simp only [calculateRound, h1, R.bind_ok, goDiv_ok _ _ hd0 hN],
    by simp only [calculateIndex, h1, R.bind_ok, goMod_ok _ _ (Int.add_nonneg hw.curLo hd0) hN]⟩

theorem add_ok (task : Task) (hd : 0 < task.delay) :
    ∃ tw', add tw task = .ok tw' ∧ WF cap tick tw' ∧
      countdowns tw' = sSet (countdowns tw) task.key task.reg (delayTicks tick task.delay) := by
  obtain ⟨hr, hi⟩ := calc_ok hw task.delay (by omega)
  have hd0 := delayTicks_nonneg tick task.delay hw.tickSec (by omega)
  have hN := hw.nPos
  generalize hidx : (tw.currentIndex + delayTicks tick task.delay) % tw.bucketsNum = index at hi
  have hidx0 : 0 ≤ index := hidx ▸ Int.emod_nonneg _ (by omega)
  have hidx1 : index < tw.bucketsNum := hidx ▸ Int.emod_lt_of_pos _ hN
  -- after `deleteOrigin` the deletion in the new bucket finds nothing
  have hb2 : bucketDelete (tw.buckets.filter (fun e => e.2.key ≠ task.key)) index task.key =
      tw.buckets.filter (fun e => e.2.key ≠ task.key) :=
    List.filter_eq_self.mpr fun e he => by simpa using Or.inr (of_decide_eq_true (List.mem_filter.mp he).2)
  have hadd : add tw task = .ok { tw with
      bucketIndexes := mapSet tw.bucketIndexes task.key index,
      buckets := (index, { task with round := delayTicks tick task.delay / tw.bucketsNum }) ::
        tw.buckets.filter (fun e => e.2.key ≠ task.key) } := by
    simp only [add, hr, hi, R.bind_ok, hw.deleteOrigin_ok, validIndex, hidx0, hidx1, and_self, decide_true,
      ↓reduceIte, bucketSet, hb2]
  refine ⟨_, hadd, ?_, ?_⟩
  · refine { hw with entry := ?_, idx := ?_, uniq := ?_ }
    · intro e he
      rcases List.mem_cons.mp he with rfl | he
      · exact ⟨hidx0, hidx1, Int.ediv_nonneg hd0 (by omega), by simp [mapSet, mapLookup]⟩
      · obtain ⟨he, hk⟩ := List.mem_filter.mp he
        obtain ⟨h1, h2, h3, h4⟩ := hw.entry e he
        refine ⟨h1, h2, h3, ?_⟩
        simp only [mapSet, mapLookup]
        rw [if_neg (fun hh => of_decide_eq_true hk hh.symm), mapLookup_delete_other _ _ _ (of_decide_eq_true hk)]
        exact h4
    · intro p hp
      rcases List.mem_cons.mp hp with rfl | hp
      · exact ⟨hidx0, hidx1⟩
      · exact hw.idx p (List.mem_filter.mp hp).1
    · refine List.pairwise_cons.mpr ⟨fun e he h => ?_, hw.uniq.filter _⟩
      exact of_decide_eq_true (List.mem_filter.mp he).2 h.symm
  · simp only [countdowns, sSet, List.map_cons, view, rem]
    rw [← hidx, remaining_add _ _ _ hN hw.curLo hw.curHi, List.filter_map]
    rfl

theorem remove_ok (k : Nat) :
    ∃ tw', remove tw k = .ok tw' ∧ WF cap tick tw' ∧ countdowns tw' = sDel (countdowns tw) k := by
  unfold remove
  cases hl : mapLookup tw.bucketIndexes k with
  | none =>
    refine ⟨tw, rfl, hw, (List.filter_eq_self.mpr ?_).symm⟩
    intro x hx
    obtain ⟨e, he, rfl⟩ := List.mem_map.mp hx
    exact decide_eq_true (hw.absent hl e he)
  | some index =>
    simp only [hw.valid hl, ↓reduceIte, hw.delete_recorded hl]
    refine ⟨_, rfl, { hw with entry := ?_, idx := ?_, uniq := hw.uniq.filter _ }, ?_⟩
    · intro e he
      obtain ⟨he, hk⟩ := List.mem_filter.mp he
      obtain ⟨h1, h2, h3, h4⟩ := hw.entry e he
      exact ⟨h1, h2, h3, (mapLookup_delete_other _ _ _ (of_decide_eq_true hk)).trans h4⟩
    · exact fun p hp => hw.idx p (List.mem_filter.mp hp).1
    · simp only [countdowns, sDel]; rw [List.filter_map]; rfl

theorem rem_eq_zero_iff (e : Int × Task) (he : e ∈ tw.buckets) :
    rem tw e = 0 ↔ (e.1 = tw.currentIndex ∧ ¬ e.2.round > 0) := by
  obtain ⟨h1, _, h3, _⟩ := hw.entry e he
  rw [rem, remaining_eq_zero _ _ _ _ hw.curLo hw.curHi h1 h3]
  omega
end

theorem pairwise_ne_inj {α β : Type} (f : α → β) (l : List α) (h : l.Pairwise (fun a b => f a ≠ f b))
    (a b : α) (ha : a ∈ l) (hb : b ∈ l) (hf : f a = f b) : a = b := by
  induction l with
  | nil => cases ha
  | cons x xs ih =>
    obtain ⟨hx, hxs⟩ := List.pairwise_cons.mp h
    rcases List.mem_cons.mp ha with ha | ha <;> rcases List.mem_cons.mp hb with hb | hb
    · rw [ha, hb]
    · exact absurd (ha ▸ hf) (hx b hb)
    · exact absurd (hb ▸ hf.symm) (hx a ha)
    · exact ih hxs ha hb

/-- The per-entry step of `handleTick`, as a function. -/
def tickEntry (cur : Int) (e : Int × Task) : Option (Int × Task) :=
  if e.1 = cur then
    (if e.2.round > 0 then some (e.1, { e.2 with round := e.2.round - 1 }) else none)
  else some e

theorem filterMap_view {α β : Type} (g : α → Option α) (v v' : α → β) (Q : β → Bool) (dec : β → β)
    (l : List α) (hnone : ∀ e ∈ l, g e = none → Q (v e) = false)
    (hsome : ∀ e ∈ l, ∀ e', g e = some e' → Q (v e) = true ∧ v' e' = dec (v e)) :
    (l.filterMap g).map v' = ((l.map v).filter Q).map dec := by
  induction l with
  | nil => rfl
  | cons e es ih =>
    have ih' := ih (fun x hx => hnone x (List.mem_cons_of_mem _ hx))
      (fun x hx => hsome x (List.mem_cons_of_mem _ hx))
    cases hg : g e with
    | none => simp [hg, hnone e List.mem_cons_self hg, ih']
    | some e' => simp [hg, hsome e List.mem_cons_self e' hg, ih']

theorem tickEntry_key {cur : Int} {e e' : Int × Task} (h : tickEntry cur e = some e') :
    e'.2.key = e.2.key := by
  unfold tickEntry at h
  split at h
  · split at h <;> cases h
    rfl
  · cases h; rfl

section
variable {cap : Nat} {tick : Int} {tw : TimeWheel} (hw : WF cap tick tw)
include hw

theorem tickEntry_none (e : Int × Task) (he : e ∈ tw.buckets)
    (h : tickEntry tw.currentIndex e = none) : rem tw e = 0 := by
  unfold tickEntry at h
  refine (rem_eq_zero_iff hw e he).mpr ?_
  split at h
  · split at h
    · cases h
    · exact ⟨‹_›, ‹_›⟩
  · cases h

theorem tickEntry_some (e : Int × Task) (he : e ∈ tw.buckets) (e' : Int × Task)
    (h : tickEntry tw.currentIndex e = some e') :
    rem tw e ≠ 0 ∧ e'.1 = e.1 ∧ e'.2.key = e.2.key ∧ e'.2.reg = e.2.reg ∧ 0 ≤ e'.2.round ∧
      remaining tw.bucketsNum (nextIndex tw.bucketsNum tw.currentIndex) e'.1 e'.2.round = rem tw e - 1 := by
  obtain ⟨h1, h2, h3, _⟩ := hw.entry e he
  have hz := rem_eq_zero_iff hw e he
  unfold tickEntry at h
  by_cases hc : e.1 = tw.currentIndex
  · by_cases hr : e.2.round > 0
    · rw [if_pos hc, if_pos hr] at h
      cases h
      refine ⟨fun h0 => (hz.mp h0).2 hr, rfl, rfl, rfl, by simp only; omega, ?_⟩
      simp only [rem, hc]
      exact remaining_next_self _ _ _ hw.curLo
    · rw [if_pos hc, if_neg hr] at h; cases h
  · rw [if_neg hc] at h
    cases h
    exact ⟨fun h0 => hc (hz.mp h0).1, rfl, rfl, rfl, h3, remaining_next _ _ _ _ h1 h2 hc⟩

theorem handleTick_ok :
    ∃ tw', handleTick tw = .ok (tw', sFired (countdowns tw)) ∧ WF cap tick tw' ∧
      tw'.pipelineC = tw.pipelineC ∧ countdowns tw' = sNext (countdowns tw) := by
  have hv : validIndex tw tw.currentIndex = true := decide_eq_true ⟨hw.curLo, hw.curHi⟩
  have hfired : (tw.buckets.filter (fun e => e.1 = tw.currentIndex ∧ ¬ e.2.round > 0)).map (·.2.reg) =
      sFired (countdowns tw) := by
    simp only [sFired, countdowns]
    rw [List.filter_map, List.map_map]
    refine congrArg (List.map _) (List.filter_congr fun e he => ?_)
    exact decide_eq_decide.mpr (rem_eq_zero_iff hw e he).symm
  have hnext : 0 ≤ nextIndex tw.bucketsNum tw.currentIndex ∧
      nextIndex tw.bucketsNum tw.currentIndex < tw.bucketsNum := by
    have := hw.curLo; have := hw.curHi; unfold nextIndex; split <;> omega
  refine ⟨?tw', ?run, ?_, ?_, ?_⟩
  case run => simp only [handleTick, hv, ↓reduceIte, hfired]; rfl
  · refine { hw with curLo := hnext.1, curHi := hnext.2, entry := ?_, idx := ?_, uniq := ?_ }
    · intro e' he'
      obtain ⟨e, he, hg⟩ := List.mem_filterMap.mp he'
      obtain ⟨h1, h2, h3, h4⟩ := hw.entry e he
      obtain ⟨hne, g1, g2, _, g4, _⟩ := tickEntry_some hw e he e' hg
      refine ⟨g1 ▸ h1, g1 ▸ h2, g4, ?_⟩
      -- a surviving entry keeps its lookup: keys are unique, so no fired entry has its key
      rw [g1, g2, mapLookup_filter _ (fun k => ¬ (tw.buckets.filter
        (fun e => e.1 = tw.currentIndex ∧ ¬ e.2.round > 0)).any (fun f => f.2.key = k)) e.2.key]
      · exact h4
      · refine decide_eq_true fun hany => ?_
        obtain ⟨f, hf, hk⟩ := List.any_eq_true.mp hany
        obtain ⟨hf, hdue⟩ := List.mem_filter.mp hf
        have hfe := pairwise_ne_inj (·.2.key) tw.buckets hw.uniq f e hf he (of_decide_eq_true hk)
        exact hne ((rem_eq_zero_iff hw e he).mpr (hfe ▸ of_decide_eq_true hdue))
    · exact fun p hp => hw.idx p (List.mem_filter.mp hp).1
    · refine List.Pairwise.filterMap (tickEntry tw.currentIndex) ?_ hw.uniq
      intro a a' hne b hb b' hb'
      rw [tickEntry_key hb, tickEntry_key hb']
      exact hne
  · rfl
  · refine filterMap_view (tickEntry tw.currentIndex) (view tw) _ (fun x => decide (x.2.2 ≠ 0))
      (fun x => (x.1, x.2.1, x.2.2 - 1)) tw.buckets ?_ ?_
    · intro e he h
      exact decide_eq_false fun hn => hn (tickEntry_none hw e he h)
    · intro e he e' h
      obtain ⟨hne, _, g2, g3, _, g5⟩ := tickEntry_some hw e he e' h
      exact ⟨decide_eq_true hne, Prod.ext g2 (Prod.ext g3 g5)⟩
end

/-- One step of the reference machine for a wheel of tick `tick` whose
    pipeline holds `cap` calls: a call takes effect at once (it is recorded
    activity), unless `cap` calls were already made since the last tick — then
    `Add` is lost and `Remove` blocks. -/
def specStep (cap : Nat) (tick : Int) (s : Spec) : Op → Spec × Out
  | .add delay k r =>
    if delay ≤ 0 then (s, .api .invalid)
    else if s.queued < cap then (⟨sSet s.live k r (delayTicks tick delay), s.queued + 1⟩, .api .ok)
    else (s, .api .ok)
  | .remove k =>
    if s.queued < cap then (⟨sDel s.live k, s.queued + 1⟩, .api .ok) else (s, .api .blocked)
  | .tick => (⟨sNext s.live, 0⟩, .fired (sFired s.live))

def specRun (cap : Nat) (tick : Int) (s : Spec) : List Op → List Out
  | [] => []
  | op :: ops => (specStep cap tick s op).2 :: specRun cap tick (specStep cap tick s op).1 ops

/-- The state of the reference machine after a history. -/
def specFinal (cap : Nat) (tick : Int) (s : Spec) : List Op → Spec
  | [] => s
  | op :: ops => specFinal cap tick (specStep cap tick s op).1 ops

/-- A queued item in countdown terms. -/
def applyItemAbs (tick : Int) (l : List (Nat × Nat × Int)) : Item → List (Nat × Nat × Int)
  | .add t => sSet l t.key t.reg (delayTicks tick t.delay)
  | .del k => sDel l k

/-- The wheel `tw` (with its queued calls) represents the reference state `s`. -/
def Ref (cap : Nat) (tick : Int) (tw : TimeWheel) (s : Spec) : Prop :=
  WF cap tick tw ∧ s.queued = tw.pipelineC.length ∧ tw.pipelineC.length ≤ cap ∧
  (∀ t, Item.add t ∈ tw.pipelineC → 0 < t.delay) ∧
  s.live = tw.pipelineC.foldl (applyItemAbs tick) (countdowns tw)

theorem drainItems_ok {cap : Nat} {tick : Int} (limit : Nat) (items : List Item) :
    ∀ (tw : TimeWheel) (count : Nat), WF cap tick tw → (∀ t, Item.add t ∈ items → 0 < t.delay) →
      count + items.length ≤ limit →
      ∃ tw', drainItems limit tw items count = .ok (tw', []) ∧ WF cap tick tw' ∧
        countdowns tw' = items.foldl (applyItemAbs tick) (countdowns tw) := by
  induction items with
  | nil => exact fun tw _ hw _ _ => ⟨tw, rfl, hw, rfl⟩
  | cons item rest ih =>
    intro tw count hw hd hc
    have hlt : count < limit := by simp only [List.length_cons] at hc; omega
    obtain ⟨tw1, h1, h2, h3⟩ : ∃ tw1, applyItem tw item = .ok tw1 ∧ WF cap tick tw1 ∧
        countdowns tw1 = applyItemAbs tick (countdowns tw) item := by
      cases item with
      | add t => exact add_ok hw t (hd t List.mem_cons_self)
      | del k => exact remove_ok hw k
    obtain ⟨tw', g1, g2, g3⟩ := ih tw1 (count + 1) h2 (fun t ht => hd t (List.mem_cons_of_mem _ ht))
      (by simp only [List.length_cons] at hc; omega)
    exact ⟨tw', by simp only [drainItems, hlt, ↓reduceIte, h1, g1], g2, by rw [g3, h3]; rfl⟩

/-- An accepted call joins the queue; the reference machine applies it at once. -/
theorem ref_enqueue {cap : Nat} {tick : Int} {tw : TimeWheel} {s : Spec} (h : Ref cap tick tw s)
    (item : Item) (hlen : tw.pipelineC.length < cap) (hd : ∀ t, item = .add t → 0 < t.delay) :
    Ref cap tick { tw with pipelineC := tw.pipelineC ++ [item] }
      ⟨applyItemAbs tick s.live item, tw.pipelineC.length + 1⟩ := by
  obtain ⟨hw, hq, _, hpos, hlive⟩ := h
  refine ⟨hw.pipeline _, by simp, by simpa using Nat.succ_le_of_lt hlen, ?_, ?_⟩
  · intro t ht
    rcases List.mem_append.mp ht with ht | ht
    · exact hpos t ht
    · exact hd t (List.mem_singleton.mp ht).symm
  · rw [List.foldl_append, hlive]; rfl

theorem step_refines {cap : Nat} {tick : Int} (limit : Nat) (tw : TimeWheel) (s : Spec) (op : Op)
    (hl : cap ≤ limit) (h : Ref cap tick tw s) :
    ∃ tw', step limit tw op = .ok (tw', (specStep cap tick s op).2) ∧
      Ref cap tick tw' (specStep cap tick s op).1 := by
  have ⟨hw, hq, hcap, hpos, hlive⟩ := h
  have hc := hw.capEq
  subst hc
  cases op with
  | add delay k r =>
    simp only [step, apiAdd, specStep, hq]
    by_cases hd : delay ≤ 0
    · rw [if_pos hd, if_pos hd]; exact ⟨tw, rfl, h⟩
    · rw [if_neg hd, if_neg hd]
      by_cases hfull : tw.pipelineC.length < tw.pipelineCap
      · rw [if_pos hfull, if_pos hfull]
        exact ⟨_, rfl, ref_enqueue h (.add ⟨delay, k, 0, r⟩) hfull (by rintro t ⟨⟩; exact Int.not_le.mp hd)⟩
      · rw [if_neg hfull, if_neg hfull]; exact ⟨tw, rfl, h⟩
  | remove k =>
    simp only [step, apiRemove, specStep, hq]
    by_cases hfull : tw.pipelineC.length < tw.pipelineCap
    · rw [if_pos hfull, if_pos hfull]
      exact ⟨_, rfl, ref_enqueue h (.del k) hfull (by rintro t ⟨⟩)⟩
    · rw [if_neg hfull, if_neg hfull]; exact ⟨tw, rfl, h⟩
  | tick =>
    obtain ⟨tw1, g1, g2, g3⟩ := drainItems_ok limit tw.pipelineC tw 0 hw hpos (by omega)
    obtain ⟨tw2, k1, k2, k3, k4⟩ := handleTick_ok (g2.pipeline [])
    have habs : countdowns { tw1 with pipelineC := [] } = s.live := by rw [hlive, ← g3]; rfl
    rw [habs] at k1 k4
    refine ⟨tw2, by simp only [step, loopBody, drain, g1, k1, specStep], k2, ?_⟩
    rw [k3, k4]
    exact ⟨rfl, Nat.zero_le _, fun t ht => absurd ht List.not_mem_nil, rfl⟩

theorem run_refines {cap : Nat} {tick : Int} (limit : Nat) (hl : cap ≤ limit) (ops : List Op) :
    ∀ (tw : TimeWheel) (s : Spec), Ref cap tick tw s →
      ∃ tw', run limit tw ops = .ok (tw', specRun cap tick s ops) := by
  induction ops with
  | nil => exact fun tw s _ => ⟨tw, rfl⟩
  | cons op ops ih =>
    intro tw s h
    obtain ⟨tw1, h1, h2⟩ := step_refines limit tw s op hl h
    obtain ⟨tw2, g⟩ := ih tw1 _ h2
    exact ⟨tw2, by simp only [run, h1, g, specRun]⟩

theorem new_ref (cap : Nat) (tick N : Int) (tw : TimeWheel) (h : newTimeWheel cap tick N = some tw) :
    Ref cap tick tw ⟨[], 0⟩ := by
  unfold newTimeWheel at h
  split at h
  · cases h
  · split at h
    · cases h
    · cases h
      exact ⟨⟨rfl, rfl, by omega, by simp only; omega, Int.le_refl 0, by simp only; omega,
        fun _ he => absurd he List.not_mem_nil, fun _ hp => absurd hp List.not_mem_nil, List.Pairwise.nil⟩,
        rfl, Nat.zero_le _, fun _ ht => absurd ht List.not_mem_nil, rfl⟩

/-- **The model of the time wheel is the reference machine.**  For a wheel
    built by `NewTimeWheel` (any tick ≥ 1 s, any number of buckets ≥ 1) whose
    drain loop handles at least as many items per tick as the pipeline holds,
    every history of `Add` / `Remove` calls and ticks runs without a panic
    (no zero divisor, no bucket index out of range) and starts exactly the
    callbacks the reference machine starts, tick by tick. -/
theorem model_refines_spec (cap limit : Nat) (tick N : Int) (tw : TimeWheel) (ops : List Op)
    (h : newTimeWheel cap tick N = some tw) (hl : cap ≤ limit) :
    ∃ tw', run limit tw ops = .ok (tw', specRun cap tick ⟨[], 0⟩ ops) :=
  run_refines limit hl ops tw _ (new_ref cap tick N tw h)

/-- The callbacks started, tick by tick. -/
def firedLists : List Out → List (List Nat)
  | [] => []
  | .fired regs :: os => regs :: firedLists os
  | .api _ :: os => firedLists os

def ticksIn : List Op → Nat
  | [] => 0
  | .tick :: ops => ticksIn ops + 1
  | _ :: ops => ticksIn ops

/-- The registration numbers used by the `Add` calls of a history. -/
def regsOf : List Op → List Nat
  | [] => []
  | .add _ _ r :: ops => r :: regsOf ops
  | _ :: ops => regsOf ops

/-- Is `op` a call about key `k`? -/
def touches (k : Nat) : Op → Bool
  | .add _ k' _ => k' = k
  | .remove k' => k' = k
  | .tick => false

theorem specStep_add_of_lt {cap : Nat} (tick : Int) {s : Spec} {d : Int} (k r : Nat) (hd : 0 < d)
    (hq : s.queued < cap) : specStep cap tick s (.add d k r) =
      (⟨sSet s.live k r (delayTicks tick d), s.queued + 1⟩, .api .ok) := by
  rw [specStep, if_neg (Int.not_le.mpr hd), if_pos hq]

theorem specStep_add (cap : Nat) (tick : Int) (s : Spec) (d : Int) (k r : Nat) :
    (∃ o, specStep cap tick s (.add d k r) = (s, .api o)) ∨
    specStep cap tick s (.add d k r) = (⟨sSet s.live k r (delayTicks tick d), s.queued + 1⟩, .api .ok) := by
  simp only [specStep]
  split
  · exact Or.inl ⟨_, rfl⟩
  · split
    · exact Or.inr rfl
    · exact Or.inl ⟨_, rfl⟩

theorem specStep_remove (cap : Nat) (tick : Int) (s : Spec) (k : Nat) :
    (∃ o, specStep cap tick s (.remove k) = (s, .api o)) ∨
    specStep cap tick s (.remove k) = (⟨sDel s.live k, s.queued + 1⟩, .api .ok) := by
  simp only [specStep]
  split
  · exact Or.inr rfl
  · exact Or.inl ⟨_, rfl⟩

theorem specStep_tick (cap : Nat) (tick : Int) (s : Spec) :
    specStep cap tick s .tick = (⟨sNext s.live, 0⟩, .fired (sFired s.live)) := rfl

theorem mem_sSet (l : List (Nat × Nat × Int)) (k r : Nat) (d : Int) (x : Nat × Nat × Int) :
    x ∈ sSet l k r d ↔ x = (k, r, d) ∨ (x ∈ l ∧ x.1 ≠ k) := by
  simp [sSet]

theorem mem_sDel (l : List (Nat × Nat × Int)) (k : Nat) (x : Nat × Nat × Int) :
    x ∈ sDel l k ↔ x ∈ l ∧ x.1 ≠ k := by
  simp [sDel]

theorem mem_sNext (l : List (Nat × Nat × Int)) (y : Nat × Nat × Int) :
    y ∈ sNext l ↔ ∃ x ∈ l, x.2.2 ≠ 0 ∧ y = (x.1, x.2.1, x.2.2 - 1) := by
  simp only [sNext, List.mem_map, List.mem_filter, ne_eq, decide_eq_true_eq, and_assoc]
  exact exists_congr fun x => and_congr_right fun _ => and_congr_right fun _ => eq_comm

theorem mem_sFired (l : List (Nat × Nat × Int)) (r : Nat) :
    r ∈ sFired l ↔ ∃ x ∈ l, x.2.2 = 0 ∧ x.2.1 = r := by
  simp only [sFired, List.mem_map, List.mem_filter, decide_eq_true_eq, and_assoc]

theorem regs_filter_sublist (l : List (Nat × Nat × Int)) (p : Nat × Nat × Int → Bool) :
    ((l.filter p).map (·.2.1)).Sublist (l.map (·.2.1)) := List.filter_sublist.map _

/-- Invariant of the reference machine relative to the calls still to come:
    every registration number, live or to come, is used once. -/
def SInv (s : Spec) (future : List Op) : Prop := (s.live.map (·.2.1) ++ regsOf future).Nodup

theorem sinv_step (cap : Nat) (tick : Int) (s : Spec) (op : Op) (rest : List Op)
    (h : SInv s (op :: rest)) : SInv (specStep cap tick s op).1 rest := by
  unfold SInv at h ⊢
  cases op with
  | add d k r =>
    have h' := List.perm_middle.nodup_iff.mp h
    rcases specStep_add cap tick s d k r with ⟨o, hs⟩ | hs <;> rw [hs]
    · exact (List.nodup_cons.mp h').2
    · exact (((regs_filter_sublist s.live _).append_right _).cons_cons r).nodup h'
  | remove k =>
    rcases specStep_remove cap tick s k with ⟨o, hs⟩ | hs <;> rw [hs]
    · exact h
    · exact ((regs_filter_sublist s.live _).append_right _).nodup h
  | tick =>
    refine (List.Sublist.append_right ?_ _).nodup h
    rw [specStep_tick, sNext, List.map_map]
    exact regs_filter_sublist s.live _

theorem sinv_final (cap : Nat) (tick : Int) (ops rest : List Op) :
    ∀ s, SInv s (ops ++ rest) → SInv (specFinal cap tick s ops) rest := by
  induction ops with
  | nil => exact fun s h => h
  | cons op ops ih => exact fun s h => ih _ (sinv_step cap tick s op (ops ++ rest) h)

theorem fired_origin (cap : Nat) (tick : Int) (ops : List Op) :
    ∀ (s : Spec) (n r : Nat), r ∈ (firedLists (specRun cap tick s ops)).getD n [] →
      (∃ x ∈ s.live, x.2.1 = r ∧ x.2.2 = n) ∨ r ∈ regsOf ops := by
  induction ops with
  | nil => exact fun s n r h => nomatch h
  | cons op ops ih =>
    intro s n r h
    rw [specRun] at h
    cases op with
    | add d k r' =>
      rw [regsOf, List.mem_cons]
      rcases specStep_add cap tick s d k r' with ⟨o, hs⟩ | hs <;> rw [hs] at h <;>
        rcases ih _ n r h with ⟨x, hx, hr, hn⟩ | h
      · exact Or.inl ⟨x, hx, hr, hn⟩
      · exact Or.inr (Or.inr h)
      · rcases (mem_sSet _ _ _ _ _).mp hx with rfl | ⟨hx, _⟩
        · exact Or.inr (Or.inl hr.symm)
        · exact Or.inl ⟨x, hx, hr, hn⟩
      · exact Or.inr (Or.inr h)
    | remove k =>
      rcases specStep_remove cap tick s k with ⟨o, hs⟩ | hs <;> rw [hs] at h <;>
        rcases ih _ n r h with ⟨x, hx, hr, hn⟩ | h
      · exact Or.inl ⟨x, hx, hr, hn⟩
      · exact Or.inr h
      · exact Or.inl ⟨x, ((mem_sDel _ _ _).mp hx).1, hr, hn⟩
      · exact Or.inr h
    | tick =>
      cases n with
      | zero =>
        obtain ⟨x, hx, h0, hr⟩ := (mem_sFired _ _).mp h
        exact Or.inl ⟨x, hx, hr, h0⟩
      | succ n =>
        rcases ih _ n r h with ⟨y, hy, hr, hn⟩ | h
        · obtain ⟨x, hx, _, rfl⟩ := (mem_sNext _ _).mp hy
          exact Or.inl ⟨x, hx, hr, by simp only at hn; omega⟩
        · exact Or.inr h

theorem fires_when_due (cap : Nat) (tick : Int) (k r : Nat) (ops : List Op) :
    ∀ (s : Spec) (n : Nat), (∀ op ∈ ops, touches k op = false) → (k, r, (n : Int)) ∈ s.live →
      n < ticksIn ops → r ∈ (firedLists (specRun cap tick s ops)).getD n [] := by
  induction ops with
  | nil => exact fun s n _ _ h => nomatch h
  | cons op ops ih =>
    intro s n hnt hmem hn
    have ih' := fun s' n' => ih s' n' fun o ho => hnt o (List.mem_cons_of_mem _ ho)
    have hk := hnt op List.mem_cons_self
    rw [specRun]
    cases op with
    | add d k' r' =>
      have hk : k' ≠ k := by simpa [touches] using hk
      rcases specStep_add cap tick s d k' r' with ⟨o, hs⟩ | hs <;> rw [hs]
      · exact ih' _ n hmem hn
      · exact ih' _ n ((mem_sSet _ _ _ _ _).mpr (Or.inr ⟨hmem, hk.symm⟩)) hn
    | remove k' =>
      have hk : k' ≠ k := by simpa [touches] using hk
      rcases specStep_remove cap tick s k' with ⟨o, hs⟩ | hs <;> rw [hs]
      · exact ih' _ n hmem hn
      · exact ih' _ n ((mem_sDel _ _ _).mpr ⟨hmem, hk.symm⟩) hn
    | tick =>
      cases n with
      | zero => exact (mem_sFired _ _).mpr ⟨_, hmem, rfl, rfl⟩
      | succ n =>
        refine ih' _ n ((mem_sNext _ _).mpr ⟨_, hmem, by simp only; omega, ?_⟩) (Nat.lt_of_succ_lt_succ hn)
        simp only [Prod.mk.injEq, true_and]; omega

theorem nodup_map_inj {α β : Type} (f : α → β) (l : List α) (h : (l.map f).Nodup)
    (a b : α) (ha : a ∈ l) (hb : b ∈ l) (hf : f a = f b) : a = b :=
  pairwise_ne_inj f l (List.pairwise_map.mp (List.nodup_iff_pairwise_ne.mp h)) a b ha hb hf

theorem fired_nodup (cap : Nat) (tick : Int) (ops : List Op) :
    ∀ s, SInv s ops → (firedLists (specRun cap tick s ops)).flatten.Nodup := by
  induction ops with
  | nil => exact fun _ _ => List.nodup_nil
  | cons op ops ih =>
    intro s h
    have ih' := ih _ (sinv_step cap tick s op ops h)
    rw [specRun]
    cases op with
    | add d k r => rcases specStep_add cap tick s d k r with ⟨o, hs⟩ | hs <;> rw [hs] at ih' ⊢ <;> exact ih'
    | remove k => rcases specStep_remove cap tick s k with ⟨o, hs⟩ | hs <;> rw [hs] at ih' ⊢ <;> exact ih'
    | tick =>
      obtain ⟨h1, _, h3⟩ := List.nodup_append.mp h
      refine List.nodup_append.mpr ⟨(regs_filter_sublist s.live _).nodup h1, ih', ?_⟩
      -- a callback started now is gone from the state, and no later `Add` carries its number
      rintro a ha _ hb rfl
      obtain ⟨x, hx, hx0, hxa⟩ := (mem_sFired _ _).mp ha
      obtain ⟨l, hl, hal⟩ := List.mem_flatten.mp hb
      obtain ⟨n, hn⟩ := List.mem_iff_getElem?.mp hl
      rcases fired_origin cap tick ops _ n a (by rw [List.getD_eq_getElem?_getD, hn]; exact hal) with ⟨y', hy', hya, _⟩ | hb
      · obtain ⟨y, hy, hy0, rfl⟩ := (mem_sNext _ _).mp hy'
        cases nodup_map_inj (·.2.1) s.live h1 x y hx hy (hxa.trans hya.symm)
        exact hy0 hx0
      · exact h3 a (List.mem_map.mpr ⟨x, hx, hxa⟩) a hb rfl

theorem specRun_append (cap : Nat) (tick : Int) (ops1 ops2 : List Op) :
    ∀ s, specRun cap tick s (ops1 ++ ops2) =
      specRun cap tick s ops1 ++ specRun cap tick (specFinal cap tick s ops1) ops2 := by
  induction ops1 with
  | nil => exact fun s => rfl
  | cons op ops ih => exact fun s => by simp only [List.cons_append, specRun, specFinal, ih]

theorem specFinal_append (cap : Nat) (tick : Int) (ops1 ops2 : List Op) :
    ∀ s, specFinal cap tick s (ops1 ++ ops2) = specFinal cap tick (specFinal cap tick s ops1) ops2 := by
  induction ops1 with
  | nil => exact fun s => rfl
  | cons o os ih => exact fun s => ih _

theorem firedLists_append (a b : List Out) : firedLists (a ++ b) = firedLists a ++ firedLists b := by
  induction a with
  | nil => rfl
  | cons o os ih => cases o <;> simp [firedLists, ih]

theorem firedLists_length (cap : Nat) (tick : Int) (ops : List Op) :
    ∀ s, (firedLists (specRun cap tick s ops)).length = ticksIn ops := by
  induction ops with
  | nil => exact fun s => rfl
  | cons op ops ih =>
    intro s
    rw [specRun]
    cases op with
    | add d k r => rcases specStep_add cap tick s d k r with ⟨o, hs⟩ | hs <;> rw [hs] <;> exact ih _
    | remove k => rcases specStep_remove cap tick s k with ⟨o, hs⟩ | hs <;> rw [hs] <;> exact ih _
    | tick => exact congrArg (· + 1) (ih _)

theorem ticksIn_append (a b : List Op) : ticksIn (a ++ b) = ticksIn a + ticksIn b := by
  induction a with
  | nil => simp [ticksIn]
  | cons o os ih => cases o <;> simp [ticksIn, ih] <;> omega

theorem regsOf_append (a b : List Op) : regsOf (a ++ b) = regsOf a ++ regsOf b := by
  induction a with
  | nil => rfl
  | cons o os ih => cases o <;> simp [regsOf, ih]

theorem getD_append_ite {α : Type} (a b : List α) (n : Nat) (d : α) :
    (a ++ b).getD n d = if n < a.length then a.getD n d else b.getD (n - a.length) d := by
  simp only [List.getD_eq_getElem?_getD, List.getElem?_append]
  split <;> rfl

/-- Calls made since the last tick of a history (an upper bound of what is
    queued: invalid `Add`s are not queued). -/
def callsAcc (q : Nat) : List Op → Nat
  | [] => q
  | .tick :: ops => callsAcc 0 ops
  | .add delay _ _ :: ops => callsAcc (if delay ≤ 0 then q else q + 1) ops
  | .remove _ :: ops => callsAcc (q + 1) ops

def callsSinceTick (ops : List Op) : Nat := callsAcc 0 ops

theorem queued_le_calls (cap : Nat) (tick : Int) (ops : List Op) :
    ∀ (s : Spec) (q : Nat), s.queued ≤ q → (specFinal cap tick s ops).queued ≤ callsAcc q ops := by
  induction ops with
  | nil => exact fun s q h => h
  | cons op ops ih =>
    intro s q h
    cases op with
    | add d k r => refine ih _ _ ?_; simp only [specStep]; split <;> (try split) <;> simp only <;> omega
    | remove k => refine ih _ _ ?_; simp only [specStep]; split <;> simp only <;> omega
    | tick => exact ih _ _ (Nat.le_refl 0)

theorem entry_fires_at (cap : Nat) (tick : Int) (k r : Nat) (ops : List Op) (s : Spec) (m : Nat)
    (hnt : ∀ op ∈ ops, touches k op = false) (hmem : (k, r, (m : Int)) ∈ s.live) (hinv : SInv s ops)
    (n : Nat) :
    r ∈ (firedLists (specRun cap tick s ops)).getD n [] ↔ n = m ∧ m < ticksIn ops := by
  constructor
  · intro h
    have hlen : n < ticksIn ops := by
      refine Nat.lt_of_not_le fun hn => ?_
      rw [List.getD_eq_getElem?_getD, List.getElem?_eq_none (by rwa [firedLists_length])] at h
      cases h
    obtain ⟨h1, _, h3⟩ := List.nodup_append.mp hinv
    -- `r` is the number of this entry only
    rcases fired_origin cap tick ops s n r h with ⟨x, hx, hr, hn⟩ | h'
    · cases nodup_map_inj (·.2.1) s.live h1 x _ hx hmem hr
      simp only [Int.natCast_inj] at hn
      exact ⟨hn.symm, hn ▸ hlen⟩
    · exact absurd rfl (h3 r (List.mem_map.mpr ⟨_, hmem, rfl⟩) r h')
  · rintro ⟨rfl, hlt⟩
    exact fires_when_due cap tick k r ops s n hnt hmem hlt

theorem mem_regsOf (ops : List Op) (d : Int) (k r : Nat) (h : Op.add d k r ∈ ops) : r ∈ regsOf ops := by
  induction ops with
  | nil => cases h
  | cons o os ih =>
    rcases List.mem_cons.mp h with rfl | h'
    · exact List.mem_cons_self
    · cases o <;> simp [regsOf, ih h']

theorem key_of_add_unique (ops : List Op) (h : (regsOf ops).Nodup) (d d' : Int) (k k' r : Nat)
    (h1 : Op.add d k r ∈ ops) (h2 : Op.add d' k' r ∈ ops) : k' = k := by
  obtain ⟨ops1, ops2, rfl⟩ := List.append_of_mem h1
  rw [regsOf_append] at h
  obtain ⟨_, hb, hab⟩ := List.nodup_append.mp h
  rcases List.mem_append.mp h2 with hm | hm
  · exact absurd rfl (hab r (mem_regsOf _ _ _ _ hm) r List.mem_cons_self)
  · rcases List.mem_cons.mp hm with hm | hm
    · cases hm; rfl
    · exact absurd (mem_regsOf _ _ _ _ hm) (List.nodup_cons.mp hb).1

theorem key_of_reg (cap : Nat) (tick : Int) (k r : Nat) (ops : List Op) :
    ∀ s : Spec, (∀ x ∈ s.live, x.2.1 = r → x.1 = k) → (∀ d k', Op.add d k' r ∈ ops → k' = k) →
      ∀ x ∈ (specFinal cap tick s ops).live, x.2.1 = r → x.1 = k := by
  induction ops with
  | nil => exact fun s h _ => h
  | cons op ops ih =>
    intro s h hops
    refine ih _ ?_ fun d k' hm => hops d k' (List.mem_cons_of_mem _ hm)
    intro x hx hxr
    cases op with
    | add d k' r' =>
      rcases specStep_add cap tick s d k' r' with ⟨o, hs⟩ | hs <;> rw [hs] at hx
      · exact h x hx hxr
      · rcases (mem_sSet _ _ _ _ _).mp hx with rfl | ⟨hx, _⟩
        · exact hops d k' (hxr ▸ List.mem_cons_self)
        · exact h x hx hxr
    | remove k' =>
      rcases specStep_remove cap tick s k' with ⟨o, hs⟩ | hs <;> rw [hs] at hx
      · exact h x hx hxr
      · exact h x ((mem_sDel _ _ _).mp hx).1 hxr
    | tick =>
      obtain ⟨y, hy, _, rfl⟩ := (mem_sNext _ _).mp hx
      exact h y hy hxr

/-- The `↔` of `fires_exactly_once_at`, on the reference machine. -/
theorem spec_fires_exactly_at (cap : Nat) (tick : Int) (ht : 1 ≤ seconds tick)
    (ops1 ops2 : List Op) (delay : Int) (k r : Nat) (hd : 0 < delay)
    (hacc : callsSinceTick ops1 < cap)
    (hnt : ∀ op ∈ ops2, touches k op = false)
    (hregs : (regsOf (ops1 ++ .add delay k r :: ops2)).Nodup) :
    ∀ n : Nat, r ∈ (firedLists (specRun cap tick ⟨[], 0⟩ (ops1 ++ .add delay k r :: ops2))).getD n [] ↔
      ((n : Int) = ticksIn ops1 + delayTicks tick delay ∧ delayTicks tick delay < ticksIn ops2) := by
  intro n
  obtain ⟨m, hm⟩ := Int.eq_ofNat_of_zero_le (delayTicks_nonneg tick delay ht (Int.le_of_lt hd))
  have hinv1 : SInv (specFinal cap tick ⟨[], 0⟩ ops1) (.add delay k r :: ops2) :=
    sinv_final cap tick ops1 _ _ hregs
  have hstep := specStep_add_of_lt tick k r hd
    (Nat.lt_of_le_of_lt (queued_le_calls cap tick ops1 ⟨[], 0⟩ 0 (Nat.le_refl 0)) hacc)
  have hinv2 := sinv_step cap tick _ _ ops2 hinv1
  rw [hm] at hstep ⊢
  rw [hstep] at hinv2
  rw [specRun_append, firedLists_append, getD_append_ite, firedLists_length, specRun, hstep]
  by_cases hn : n < ticksIn ops1
  · rw [if_pos hn]
    refine ⟨fun h => ?_, fun h => by omega⟩
    -- before the call nothing carries the number `r`
    rcases fired_origin cap tick ops1 _ n r h with ⟨x, hx, _⟩ | h
    · cases hx
    · rw [regsOf_append] at hregs
      exact absurd rfl ((List.nodup_append.mp hregs).2.2 r h r List.mem_cons_self)
  · rw [if_neg hn]
    refine (entry_fires_at cap tick k r ops2 _ m hnt ((mem_sSet _ _ _ _ _).mpr (Or.inl rfl)) hinv2 _).trans ?_
    omega

/-- `removed_never_fires` and `refresh_supersedes` in one statement, on the reference machine. -/
theorem spec_superseded_never_fires (cap : Nat) (tick : Int) (past ops : List Op) (delay : Int)
    (k r : Nat) (op' : Op) (hpast : Op.add delay k r ∈ past)
    (hop : op' = .remove k ∨ ∃ delay' r', 0 < delay' ∧ op' = .add delay' k r')
    (hacc : callsSinceTick past < cap) (hregs : (regsOf (past ++ op' :: ops)).Nodup) :
    ∀ n : Nat, ticksIn past ≤ n →
      r ∉ (firedLists (specRun cap tick ⟨[], 0⟩ (past ++ op' :: ops))).getD n [] := by
  intro n hn hmem
  have hq := Nat.lt_of_le_of_lt (queued_le_calls cap tick past ⟨[], 0⟩ 0 (Nat.le_refl 0)) hacc
  rw [specRun_append, firedLists_append, getD_append_ite, firedLists_length,
    if_neg (Nat.not_lt.mpr hn), specRun] at hmem
  rw [regsOf_append] at hregs
  obtain ⟨hP, _, hdisj⟩ := List.nodup_append.mp hregs
  have hrP : r ∈ regsOf past := mem_regsOf _ delay k r hpast
  -- `r` names one `Add`, so every entry with number `r` sits under key `k`
  have hkey := key_of_reg cap tick k r past ⟨[], 0⟩ (fun _ hx => nomatch hx)
    fun d k' hm => key_of_add_unique past hP delay d k k' r hpast hm
  -- so the call leaves no entry with number `r`, and it does not carry `r` itself
  obtain ⟨l', hs, hgone, hsub⟩ : ∃ l', specStep cap tick (specFinal cap tick ⟨[], 0⟩ past) op' =
      (⟨l', _⟩, .api .ok) ∧ (∀ x ∈ l', x.2.1 ≠ r) ∧ ∀ a ∈ regsOf ops, a ∈ regsOf (op' :: ops) := by
    rcases hop with rfl | ⟨d', r', hd', rfl⟩
    · exact ⟨_, by rw [specStep, if_pos hq],
        fun x hx hxr => ((mem_sDel _ _ _).mp hx).2 (hkey x ((mem_sDel _ _ _).mp hx).1 hxr), fun _ h => h⟩
    · refine ⟨_, specStep_add_of_lt tick k r' hd' hq, fun x hx hxr => ?_, fun _ h => List.mem_cons_of_mem _ h⟩
      rcases (mem_sSet _ _ _ _ _).mp hx with rfl | ⟨hx1, hx2⟩
      · exact hdisj r hrP r (hxr ▸ List.mem_cons_self) rfl
      · exact hx2 (hkey x hx1 hxr)
  rw [hs] at hmem
  rcases fired_origin cap tick ops _ _ r hmem with ⟨x, hx, hxr, _⟩ | h
  · exact hgone x hx hxr
  · exact hdisj r hrP r (hsub r h) rfl

/-! ### the property on the model, with the constants of the source -/

/-- The drain loop of `start()` handles at least a full pipeline per tick
    (constants extracted from util/time_wheel.go on every run). -/
theorem cap_le_limit : Gen.c37PipelineCap ≤ Gen.c37DrainLimit := by decide

/-- **C37 on the model: never a panic.**  A wheel built by `NewTimeWheel` runs
    every history of `Add` / `Remove` calls and ticks to the end: no division by
    zero in `calculateRound` / `calculateIndex`, no bucket index out of range. -/
theorem never_panics (tick N : Int) (tw : TimeWheel) (ops : List Op)
    (hnew : newTimeWheel Gen.c37PipelineCap tick N = some tw) :
    ∃ tw' outs, run Gen.c37DrainLimit tw ops = .ok (tw', outs) := by
  obtain ⟨tw', h⟩ := model_refines_spec _ _ tick N tw ops hnew cap_le_limit
  exact ⟨tw', _, h⟩

/-- **C37 on the model: closed exactly once, exactly when due.**  For a wheel
    built by `NewTimeWheel` with any tick ≥ 1 s and any number of buckets
    (delays below, equal to and above any multiple of the wheel's span
    included), and any history in which every `Add` carries its own callback:
    an `Add(delay, k, r)` with a valid delay, made when fewer than 4096 calls
    were made since the last tick, and followed by no call on `k`, starts its
    callback at tick `t + ⌊delay_s / tick_s⌋` (`t` = the tick that sees it) if
    the history gets there, at no other tick, and no callback of the history is
    ever started twice. -/
theorem fires_exactly_once_at (tick N : Int) (tw : TimeWheel)
    (hnew : newTimeWheel Gen.c37PipelineCap tick N = some tw)
    (ops1 ops2 : List Op) (delay : Int) (k r : Nat) (hd : 0 < delay)
    (hacc : callsSinceTick ops1 < Gen.c37PipelineCap)
    (hnt : ∀ op ∈ ops2, touches k op = false)
    (hregs : (regsOf (ops1 ++ .add delay k r :: ops2)).Nodup) :
    ∃ tw' outs, run Gen.c37DrainLimit tw (ops1 ++ .add delay k r :: ops2) = .ok (tw', outs) ∧
      (∀ n : Nat, r ∈ (firedLists outs).getD n [] ↔
        ((n : Int) = ticksIn ops1 + delayTicks tick delay ∧ delayTicks tick delay < ticksIn ops2)) ∧
      (firedLists outs).flatten.Nodup := by
  obtain ⟨tw', h⟩ := model_refines_spec _ _ tick N tw _ hnew cap_le_limit
  exact ⟨tw', _, h,
    spec_fires_exactly_at _ tick (new_ref _ _ _ _ hnew).1.tickSec ops1 ops2 delay k r hd hacc hnt hregs,
    fired_nodup _ tick _ ⟨[], 0⟩ hregs⟩

/-- **C37 on the model: a removed session is not closed.**  After an accepted
    `Remove(k)` no tick starts the callback of an earlier registration of `k`. -/
theorem removed_never_fires (tick N : Int) (tw : TimeWheel)
    (hnew : newTimeWheel Gen.c37PipelineCap tick N = some tw)
    (ops1 ops2 ops3 : List Op) (delay : Int) (k r : Nat)
    (hacc : callsSinceTick (ops1 ++ .add delay k r :: ops2) < Gen.c37PipelineCap)
    (hregs : (regsOf ((ops1 ++ .add delay k r :: ops2) ++ .remove k :: ops3)).Nodup) :
    ∃ tw' outs, run Gen.c37DrainLimit tw ((ops1 ++ .add delay k r :: ops2) ++ .remove k :: ops3) =
        .ok (tw', outs) ∧
      ∀ n : Nat, ticksIn (ops1 ++ .add delay k r :: ops2) ≤ n → r ∉ (firedLists outs).getD n [] := by
  obtain ⟨tw', h⟩ := model_refines_spec _ _ tick N tw _ hnew cap_le_limit
  exact ⟨tw', _, h, spec_superseded_never_fires _ tick _ ops3 delay k r _
    (List.mem_append_right _ List.mem_cons_self) (Or.inl rfl) hacc hregs⟩

/-- **C37 on the model: recorded activity supersedes.**  After an accepted
    `Add(delay', k, r')` (activity of the session) no tick starts the callback
    of an earlier registration of `k`. -/
theorem refresh_supersedes (tick N : Int) (tw : TimeWheel)
    (hnew : newTimeWheel Gen.c37PipelineCap tick N = some tw)
    (ops1 ops2 ops3 : List Op) (delay delay' : Int) (k r r' : Nat) (hd' : 0 < delay')
    (hacc : callsSinceTick (ops1 ++ .add delay k r :: ops2) < Gen.c37PipelineCap)
    (hregs : (regsOf ((ops1 ++ .add delay k r :: ops2) ++ .add delay' k r' :: ops3)).Nodup) :
    ∃ tw' outs, run Gen.c37DrainLimit tw ((ops1 ++ .add delay k r :: ops2) ++ .add delay' k r' :: ops3) =
        .ok (tw', outs) ∧
      ∀ n : Nat, ticksIn (ops1 ++ .add delay k r :: ops2) ≤ n → r ∉ (firedLists outs).getD n [] := by
  obtain ⟨tw', h⟩ := model_refines_spec _ _ tick N tw _ hnew cap_le_limit
  exact ⟨tw', _, h, spec_superseded_never_fires _ tick _ ops3 delay k r _
    (List.mem_append_right _ List.mem_cons_self) (Or.inr ⟨delay', r', hd', rfl⟩) hacc hregs⟩

theorem tick_window (T D e t : Int) (hT : 0 < T) (he1 : t * T < e) (he2 : e < (t + 1) * T) :
    D / T * T < (t + D / T + 1) * T - e ∧ (t + D / T + 1) * T - e < D + T ∧
    (D % T = 0 → D < (t + D / T + 1) * T - e) := by
  have h1 : D / T * T ≤ D := Int.ediv_mul_le D (Int.ne_of_gt hT)
  have h2 : D < T * (D / T) + T := Int.lt_mul_ediv_self_add hT
  have h3 : D % T = D - T * (D / T) := Int.emod_def _ _
  rw [Int.mul_comm T] at h2 h3
  rw [Int.add_mul, Int.one_mul] at he2 ⊢
  rw [Int.add_mul]
  exact ⟨by omega, by omega, fun h => by omega⟩

/-
  The full wall-clock statement of the property would be, for every timeout `D > 0`:
      D ≤ fire - e ∧ fire - e ≤ D + T.
  The upper bound holds for every `D`; the lower bound is FALSE of the code when
  `D` is not a multiple of the tick (`early_close_witness` below), because the
  timeout is truncated to whole ticks.  Proved: the upper bound, and the lower
  bound under the hypothesis `D % T = 0`.
-/
/-- **In wall-clock terms** (ticker ideal: tick `j` happens at `(j+1)·T`, `T` a
    whole number `ts ≥ 1` of seconds).  Activity recorded at time `e` between
    tick `t-1` and tick `t` is seen by tick `t`; with `d = ⌊D_s / T_s⌋` the
    session is closed at `fire = (t+d+1)·T`.  Then `d·T < fire - e < (d+1)·T`:
    never later than timeout + one tick; and when the timeout `D` is a
    multiple of the tick, never earlier than the timeout. -/
theorem wall_clock_partial (ts D e t : Int) (hts : 1 ≤ ts) (hD : 0 < D)
    (he1 : t * (ts * 1000000000) < e) (he2 : e < (t + 1) * (ts * 1000000000)) :
    delayTicks (ts * 1000000000) D * (ts * 1000000000) <
        (t + delayTicks (ts * 1000000000) D + 1) * (ts * 1000000000) - e ∧
    (t + delayTicks (ts * 1000000000) D + 1) * (ts * 1000000000) - e < D + ts * 1000000000 ∧
    (D % (ts * 1000000000) = 0 →
      D < (t + delayTicks (ts * 1000000000) D + 1) * (ts * 1000000000) - e) := by
  -- on whole-second ticks the truncations of `seconds` commute with the division
  have hd : delayTicks (ts * 1000000000) D = D / (ts * 1000000000) := by
    rw [delayTicks, seconds, seconds, Int.mul_tdiv_cancel ts (by decide),
      Int.tdiv_eq_ediv_of_nonneg (Int.le_of_lt hD), Int.ediv_ediv_of_nonneg (by decide), Int.mul_comm]
  rw [hd]
  exact tick_window _ D e t (by omega) he1 he2

/-- The proxy's idle timer (`timeWheelUnit` seconds per tick, extracted): a
    session timeout that is a multiple of the tick closes a session no earlier
    than the timeout and less than one tick later. -/
theorem session_close_window_partial (timeoutS e t : Int) (hpos : 0 < timeoutS)
    (hmul : timeoutS % (Gen.c37TickSeconds : Int) = 0)
    (he1 : t * ((Gen.c37TickSeconds : Int) * 1000000000) < e)
    (he2 : e < (t + 1) * ((Gen.c37TickSeconds : Int) * 1000000000)) :
    timeoutS * 1000000000 <
      (t + delayTicks ((Gen.c37TickSeconds : Int) * 1000000000) (timeoutS * 1000000000) + 1) *
        ((Gen.c37TickSeconds : Int) * 1000000000) - e ∧
    (t + delayTicks ((Gen.c37TickSeconds : Int) * 1000000000) (timeoutS * 1000000000) + 1) *
        ((Gen.c37TickSeconds : Int) * 1000000000) - e <
      timeoutS * 1000000000 + (Gen.c37TickSeconds : Int) * 1000000000 := by
  have hts : (1 : Int) ≤ (Gen.c37TickSeconds : Int) := by decide
  obtain ⟨_, h2, h3⟩ := wall_clock_partial (Gen.c37TickSeconds : Int) (timeoutS * 1000000000) e t hts
    (by omega) he1 he2
  refine ⟨h3 ?_, h2⟩
  have hdvd : ((Gen.c37TickSeconds : Int) * 1000000000) ∣ timeoutS * 1000000000 :=
    Int.mul_dvd_mul_right _ (Int.dvd_of_emod_eq_zero hmul)
  exact Int.emod_eq_zero_of_dvd hdvd

/-! ### defects of the code (open findings), as theorems about the model -/

/-- **Witness: closed early.**  The proxy's wheel (5 s tick, 3600 buckets), a
    session with a 7 s timeout whose activity is recorded 4 s after time 0
    (1 s before tick 0 at 5 s): its callback is started by tick 1, at 10 s —
    6 s after the activity, 1 s before the timeout. -/
theorem early_close_witness :
    (match newTimeWheel Gen.c37PipelineCap (Gen.c37TickSeconds * 1000000000) Gen.c37BucketsNum with
      | some tw =>
        (match run Gen.c37DrainLimit tw [.add 7000000000 1 1, .tick, .tick, .tick] with
         | .ok (_, outs) => some (firedLists outs)
         | _ => none)
      | none => none) = some [[], [1], []] ∧
    (1 + 1) * ((Gen.c37TickSeconds : Int) * 1000000000) - 4000000000 < 7000000000 := by decide +kernel

/-- `Add` on a full pipeline returns `nil` and changes nothing: the
    registration is lost. -/
theorem add_dropped_when_full (tw : TimeWheel) (delay : Int) (k r : Nat) (hd : 0 < delay)
    (hfull : tw.pipelineCap ≤ tw.pipelineC.length) : apiAdd tw delay k r = (tw, .ok) := by
  simp only [apiAdd]
  rw [if_neg (by omega), if_neg (by omega)]

/-- A burst of `n` `Add`s by other sessions (keys `base`, `base+1`, …). -/
def burst (delay : Int) (base : Nat) : Nat → List Op
  | 0 => []
  | n + 1 => burst delay base n ++ [.add delay (base + n) (base + n)]

theorem burst_spec (cap : Nat) (tick delay : Int) (hd : 0 < delay) (base k r : Nat) (m : Int)
    (hk : k < base) (n : Nat) :
    ∀ s : Spec, s.queued + n ≤ cap → (k, r, m) ∈ s.live →
      (specFinal cap tick s (burst delay base n)).queued = s.queued + n ∧
      (k, r, m) ∈ (specFinal cap tick s (burst delay base n)).live ∧
      firedLists (specRun cap tick s (burst delay base n)) = [] := by
  induction n with
  | zero => exact fun s _ h => ⟨rfl, h, rfl⟩
  | succ n ih =>
    intro s hq hmem
    obtain ⟨h1, h2, h3⟩ := ih s (by omega) hmem
    have hs := specStep_add_of_lt (s := specFinal cap tick s (burst delay base n)) tick
      (base + n) (base + n) hd (by omega : _ < cap)
    rw [burst, specFinal_append, specRun_append, firedLists_append, h3]
    simp only [specFinal, specRun, hs, firedLists]
    exact ⟨by omega, (mem_sSet _ _ _ _ _).mpr (Or.inr ⟨h2, by simp only [ne_eq]; omega⟩), rfl⟩

/-- The history of the dropped refresh for a pipeline of `cap` calls: session
    1 registers (`delay`) and is seen by tick 0; then `cap` other sessions
    record activity; then session 1 records activity again; then tick 1. -/
def droppedHistory (cap : Nat) (delay : Int) : List Op :=
  [.add delay 1 1, .tick] ++
    (burst (1000 * delay) 1000000 cap ++ [.add delay 1 2, .tick])

/-- On the reference machine, whatever the capacity: when `delay` is one tick,
    tick 1 starts callback 1 although `Add(delay, 1, callback 2)` was called
    before it. -/
theorem refresh_dropped_spec (cap : Nat) (tick delay : Int) (hcap : 0 < cap) (hd : 0 < delay)
    (h1 : delayTicks tick delay = 1) :
    1 ∈ (firedLists (specRun cap tick ⟨[], 0⟩ (droppedHistory cap delay))).getD 1 [] := by
  have hs := specStep_add_of_lt (s := ⟨[], 0⟩) tick 1 1 hd hcap
  rw [h1] at hs
  obtain ⟨hq, hmem, hfl⟩ := burst_spec cap tick (1000 * delay) (by omega) 1000000 1 1 0 (by decide) cap
    ⟨[(1, 1, 0)], 0⟩ (Nat.le_of_eq (Nat.zero_add _)) List.mem_cons_self
  have hs2 : specFinal cap tick ⟨[], 0⟩ [.add delay 1 1, .tick] = ⟨[(1, 1, 0)], 0⟩ := by
    simp only [specFinal, hs]; rfl
  have hA : firedLists (specRun cap tick ⟨[], 0⟩ [.add delay 1 1, .tick]) = [[]] := by
    simp only [specRun, hs]; rfl
  -- the refresh finds the pipeline full and is dropped
  have hdrop : ∀ s : Spec, s.queued = cap → specStep cap tick s (.add delay 1 2) = (s, .api .ok) := by
    intro s hs
    rw [specStep, if_neg (Int.not_le.mpr hd), if_neg (by omega)]
  rw [droppedHistory, specRun_append, firedLists_append, specRun_append, firedLists_append, hA, hs2, hfl]
  simp only [specRun, hdrop _ (hq.trans (Nat.zero_add _)), specStep_tick, firedLists]
  exact (mem_sFired _ _).mpr ⟨(1, 1, 0), hmem, rfl, rfl⟩

/-- **Witness: an active session closed by its older registration.**  On the
    proxy's wheel (5 s tick, 3600 buckets, pipeline of 4096), in
    `droppedHistory` the refresh `Add(5 s, 1, callback 2)` is made before tick 1
    with a valid delay, and still tick 1 starts callback 1: the conclusion of
    `refresh_supersedes` fails without its hypothesis that fewer than 4096
    calls were made since the last tick. -/
theorem refresh_dropped_witness :
    ∃ tw tw' outs,
      newTimeWheel Gen.c37PipelineCap ((Gen.c37TickSeconds : Int) * 1000000000) Gen.c37BucketsNum = some tw ∧
      run Gen.c37DrainLimit tw
        (droppedHistory Gen.c37PipelineCap ((Gen.c37TickSeconds : Int) * 1000000000)) = .ok (tw', outs) ∧
      1 ∈ (firedLists outs).getD 1 [] := by
  obtain ⟨tw, hnew⟩ := Option.isSome_iff_exists.mp (by decide : (newTimeWheel Gen.c37PipelineCap
    ((Gen.c37TickSeconds : Int) * 1000000000) Gen.c37BucketsNum).isSome = true)
  obtain ⟨tw', h⟩ := model_refines_spec _ _ _ _ tw
    (droppedHistory Gen.c37PipelineCap ((Gen.c37TickSeconds : Int) * 1000000000)) hnew cap_le_limit
  exact ⟨tw, tw', _, hnew, h, refresh_dropped_spec _ _ _ (by decide) (by decide) (by decide)⟩

/-! ### the hypotheses are satisfiable, the statements are not vacuous -/

/-- A wheel of 3 buckets and 1 s tick; key 1 registered for 7 s (more than two
    spans) after one tick, key 2 active in between: `fires_exactly_once_at`
    applies, and says tick 8 (= 1 + 7). -/
example :
    ∃ tw, newTimeWheel Gen.c37PipelineCap 1000000000 3 = some tw ∧
      callsSinceTick [Op.tick] < Gen.c37PipelineCap ∧
      (∀ op ∈ [Op.add 2000000000 2 8, .tick, .tick, .remove 2, .tick, .tick, .tick, .tick, .tick, .tick],
        touches 1 op = false) ∧
      (regsOf ([Op.tick] ++ .add 7000000000 1 7 ::
        [Op.add 2000000000 2 8, .tick, .tick, .remove 2, .tick, .tick, .tick, .tick, .tick, .tick])).Nodup ∧
      (match run Gen.c37DrainLimit tw ([Op.tick] ++ .add 7000000000 1 7 ::
        [Op.add 2000000000 2 8, .tick, .tick, .remove 2, .tick, .tick, .tick, .tick, .tick, .tick]) with
       | .ok (_, outs) => some (firedLists outs)
       | _ => none) = some [[], [], [], [], [], [], [], [], [7]] := by
  refine ⟨_, rfl, by decide +kernel, by decide +kernel, by decide +kernel, by decide +kernel⟩

/-- `removed_never_fires` / `refresh_supersedes` on a concrete history: key 1
    removed, key 2 refreshed (callback 3 replaces callback 2) before they are due. -/
example :
    (match newTimeWheel Gen.c37PipelineCap 1000000000 2 with
     | some tw =>
       (match run Gen.c37DrainLimit tw
          [.add 3000000000 1 1, .add 3000000000 2 2, .tick, .tick, .remove 1, .add 2000000000 2 3,
           .tick, .tick, .tick, .tick] with
        | .ok (_, outs) => some (firedLists outs)
        | _ => none)
     | none => none) = some [[], [], [], [], [3], []] := by decide +kernel

example : (regsOf ([Op.add 3000000000 1 1, .add 3000000000 2 2, .tick, .tick] ++
    .remove 1 :: [Op.add 2000000000 2 3, .tick])).Nodup := by decide +kernel

end GaeaVerif.C37
