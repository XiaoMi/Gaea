import GaeaVerif.Model.Crash
import GaeaVerif.Lemmas.BufOwn
import GaeaVerif.Lemmas.BufIso
import GaeaVerif.Gen.Consts
import GaeaVerif.Props.C12
/-
  C38 — Malformed client input never crashes the proxy.

  "No byte sequence sent by a client, during the handshake or as a command,
   terminates the proxy process, hangs it, or affects other sessions; the
   client receives an error or its connection is closed."

  The theorems are about `Model/Crash.lean` (decoders with Go's index / slice
  semantics and an explicit `panic` outcome, the command loop of `Session.Run`,
  the goroutine of a connection, several connections in one process); the tie
  to /repo is the correspondence `gvh run C38` (real `Session.Handshake` /
  `Session.Run` on scripted connections, and in the thorough tier the real
  `Server` accept loop over TCP) plus the translator facts of
  `harness/extract/c38.go`, which the theorems of the first section mention.

  Main theorems (all for every byte string / packet sequence / interleaving,
  no bound):
    readHandshakeResponse_never_panics   handshake decoding is panic-free
    checkHashPassword_panics_iff         exactly when CheckHashPassword panics
    executeCommand_never_panics, run_never_panics
                                         with the DATE/TIME/DATETIME length check in place the command
                                         phase is panic-free (statement-table invariant `WF`)
    executeCommand_panic_only_in_execute without it, only COM_STMT_EXECUTE can panic
    malformed_answered_with_error        protocol-level malformed packets get an error answer
    decoders_panic_free                  the same for the current tree, its two guards being translator facts
    decoders_contained                   for the current tree's goroutine roots (translator facts) no
                                         input makes a connection's goroutine terminate the process,
                                         for every variant of the decoders
    sessions_isolated                    in every interleaving of several connections each connection
                                         gets exactly what it would get alone, and the process lives
  Second part (namespace GaeaVerif.C38.Own, about `Model/BufOwn.lean`): the
  pooled packet buffers that all connections of the process share
  (mysql.bufPool), for every interleaving of the atomic steps of any number of
  sessions and every arrival of client bytes:
    buffers_held_once                    no buffer is ever in the pool twice, held by two connections, or
                                         held by a connection and in the pool — whatever program the
                                         sessions run on top of mysql.Conn's ephemeral-buffer functions
    recycled_buffer_never_read           with the programs of the repaired source (readHandshakeResponse,
                                         handleHandshakeResponse, Session.Handshake, Session.Run) every
                                         pooled buffer a session reads is the one its connection holds at
                                         that moment: not in the pool, not held by anybody else
    sessions_isolated_on_shared_buffers  hence, in every interleaving, everything a session lets the outside see
                                         (decoded handshake, the auth response as the password check finds it,
                                         answers, statements sent to the backend) is exactly what it shows when
                                         it runs alone in a process of its own, on the same client bytes
    pool_get_put_never_panic             bufPool.Get / Put never panic (the bucket exists, the buffer fits)
    current_tree_*                       the same for the three decisions as the translator finds them
    *_witness                            each of the three decisions matters (the repaired defects and the
                                         seeded double put)
  Not proved here (`…_partial` in spirit, see tools/claimed/C38.json): absence of
  hangs and of Go-runtime fatal errors; the SQL layer behind `handleQuery`.
-/
namespace GaeaVerif.C38
open GaeaVerif GaeaVerif.LenEnc GaeaVerif.Crash

/-! ### facts of the current source tree (translator, regenerated on every run) -/

/-- The goroutine roots of a connection as the current source has them. -/
def treeRoots : Roots := ⟨Gen.c38OnConnRecovers, Gen.c38RunRecovers⟩

/-- `Server.onConn`, `Session.Run` and `SessionExecutor.handleQuery` each install a deferred `recover()`. -/
theorem goroutine_roots_recover :
    Gen.c38OnConnRecovers = true ∧ Gen.c38RunRecovers = true ∧ Gen.c38HandleQueryRecovers = true := by decide

/-- Every `go` statement of the session path starts a goroutine in which a panic is stopped. -/
theorem every_session_path_goroutine_is_stopped :
    Gen.c38Roots.all (fun r => r.2 == "recover" || r.2 == "delegated") = true := by decide

/-- The accept loop starts `onConn` (the root of everything a client's bytes reach) with a recover. -/
theorem accept_loop_starts_onConn_with_recover :
    ("server.go:Server.Run:onConn", "recover") ∈ Gen.c38Roots := by decide

/-- Nothing on the path calls `os.Exit` / `log.Fatal`-that-exits. -/
theorem no_process_exit_calls : Gen.c38ExitCalls = [] := by decide

/-- The modelled decoders assign to no package-level variable: what they write
    is the session's own state (the premise of the shape of `World.step`). -/
theorem decoders_write_only_session_state : Gen.c38SharedWrites = [] := by decide

/-- The command bytes and capability bits of the model are those of mysql/constants.go. -/
theorem constants_match :
    comQuit.toNat = Gen.c38ComQuit ∧ comInitDB.toNat = Gen.c38ComInitDB ∧ comQuery.toNat = Gen.c38ComQuery ∧
    comFieldList.toNat = Gen.c38ComFieldList ∧ comPing.toNat = Gen.c38ComPing ∧
    comStmtPrepare.toNat = Gen.c38ComStmtPrepare ∧ comStmtExecute.toNat = Gen.c38ComStmtExecute ∧
    comStmtSendLongData.toNat = Gen.c38ComStmtSendLongData ∧ comStmtClose.toNat = Gen.c38ComStmtClose ∧
    comStmtReset.toNat = Gen.c38ComStmtReset ∧ comSetOption.toNat = Gen.c38ComSetOption ∧
    clientConnectWithDB = Gen.c38ClientConnectWithDB ∧ clientProtocol41 = Gen.c38ClientProtocol41 ∧
    clientSecureConnection = Gen.c38ClientSecureConnection ∧ clientPluginAuth = Gen.c38ClientPluginAuth ∧
    clientPluginAuthLenencClientData = Gen.c38ClientPluginAuthLenencClientData := by decide

/-! ### the handshake: `readHandshakeResponse` and `CheckHashPassword` -/

theorem readLenEncStringAsBytes_ne_panic (d : Bytes) (pos : Int) : readLenEncStringAsBytes d pos ≠ .panic :=
  C12.not_panic_of_inBounds (C12.readLenEncStringAsBytes_in_bounds d pos)

theorem hsPluginPart_ne_panic (pp : Bytes) (second : Option Bytes) (cap coll : Nat) (user auth db data : Bytes) (pos : Int) :
    hsPluginPart pp second cap coll user auth db data pos ≠ .panic := by
  unfold hsPluginPart
  split
  · split
    · exact absurd ‹_› (C12.readNull_ne_panic data pos)
    · nofun
    · split
      · split <;> nofun
      · nofun
  · nofun

theorem hsDbPart_ne_panic (pp : Bytes) (second : Option Bytes) (cap coll : Nat) (user auth data : Bytes) (pos : Int) :
    hsDbPart pp second cap coll user auth data pos ≠ .panic := by
  unfold hsDbPart
  split
  · split
    · exact absurd ‹_› (C12.readNull_ne_panic data pos)
    · nofun
    · exact hsPluginPart_ne_panic _ _ _ _ _ _ _ _ _
  · exact hsPluginPart_ne_panic _ _ _ _ _ _ _ _ _

/-- **C38 (handshake decoding).** -/
theorem readHandshakeResponse_never_panics (pp data : Bytes) (second : Option Bytes) :
    readHandshakeResponse pp data second ≠ .panic := by
  unfold readHandshakeResponse
  split
  · exact absurd ‹_› (C12.readUintN_ne_panic _ _ _)
  · simp
  · split
    · simp
    · split
      · exact absurd ‹_› (C12.readUintN_ne_panic _ _ _)
      · simp
      · split
        · exact absurd ‹_› (C12.readByte_ne_panic _ _)
        · simp
        · simp only
          split
          · exact absurd ‹_› (C12.readNull_ne_panic _ _)
          · simp
          · split
            · exact absurd ‹_› (C12.readLenEncInt_ne_panic _ _)
            · simp
            · split
              · rename_i h
                split at h
                · exact absurd h (C12.readBytes_ne_panic _ _ _)
                · exact absurd h (C12.readNull_ne_panic _ _)
              · simp
              · exact hsDbPart_ne_panic _ _ _ _ _ _ _ _

theorem xorLoop_spec (hash resp : Bytes) (i : Nat) (hi : i ≤ hash.length) :
    xorLoop hash resp i = if i + resp.length ≤ hash.length then .ok () else .panic := by
  induction resp generalizing i with
  | nil => simp [xorLoop, hi]
  | cons b rest ih =>
    simp only [xorLoop, goIdx_nat, List.length_cons]
    by_cases h : i < hash.length
    · simp only [h, if_true, ih (i + 1) (by omega)]
      rw [show i + 1 + rest.length = i + (rest.length + 1) by omega]
    · rw [if_neg h, if_neg (by omega)]

theorem checkHashPassword_panics_iff (v : Variant) (resp hash : Bytes) (encLen : Nat) (hh : hash.length = sha1Len) :
    checkHashPassword v resp hash encLen = .panic ↔
      (encLen ≠ 0 ∧ v.hashLenGuard = false ∧ resp.length > sha1Len) := by
  unfold checkHashPassword
  simp only [xorLoop_spec hash resp 0 (by omega), hh, Nat.zero_add]
  by_cases h0 : encLen = 0
  · simp [h0]
  · cases hg : v.hashLenGuard
    · by_cases h2 : resp.length ≤ sha1Len
      · simp [h0, h2]
      · simp [h0, h2]; omega
    · by_cases h3 : resp.length = sha1Len
      · simp [h0, h3]
      · simp [h0, h3]

theorem checkHashPassword_guarded_never_panics (v : Variant) (resp hash : Bytes) (encLen : Nat)
    (hh : hash.length = sha1Len) (hg : v.hashLenGuard = true) : checkHashPassword v resp hash encLen ≠ .panic := by
  intro h
  have := (checkHashPassword_panics_iff v resp hash encLen hh).mp h
  simp [hg] at this

/-- the defect of the pinned tree, on the model: a 21-byte response for a user with a stored hash -/
theorem checkHashPassword_witness :
    checkHashPassword ⟨false, false, false⟩ (List.replicate 21 0) (List.replicate 20 0) 40 = .panic := by decide

theorem goIdx_ok_iff (d : Bytes) (i : Int) : (∃ b, goIdx d i = .ok b) ↔ (0 ≤ i ∧ i < d.length) := by
  unfold goIdx
  by_cases h : 0 ≤ i ∧ i < d.length
  · simp [h]
  · simp [h]

theorem goSlice_length {d s : Bytes} {lo hi : Int} (h : goSlice d lo hi = .ok s) : (s.length : Int) = hi - lo :=
  GaeaVerif.goSlice_length h

/-! ### FormatBinary…: no panic on a payload of the announced length -/

theorem formatBinaryDate_ne_panic (n : Nat) (d : Bytes) (h : d.length = n) : formatBinaryDate n d ≠ .panic := by
  fun_cases formatBinaryDate n d
  -- an arm that reads is taken for a length that covers its reads
  all_goals first
    | (intro h; cases h)
    | (simp only [beq_iff_eq, Bool.or_eq_true] at *
       simp (disch := omega) only [goSlice_ok, goIdx_of_bounds, R.bind_ok]
       nofun)

theorem formatBinaryDateTime_ne_panic (n : Nat) (d : Bytes) (h : d.length = n) : formatBinaryDateTime n d ≠ .panic := by
  fun_cases formatBinaryDateTime n d
  all_goals first
    | (intro h; cases h)
    | (simp only [beq_iff_eq] at *
       simp (disch := omega) only [goSlice_ok, goIdx_of_bounds, R.bind_ok]
       nofun)

theorem formatBinaryTime_ne_panic (n : Nat) (d : Bytes) (h : d.length = n) : formatBinaryTime n d ≠ .panic := by
  unfold formatBinaryTime
  simp only [bind, R.bind]
  split
  · simp
  · rename_i h0
    have hn : 0 < n := by
      have : n ≠ 0 := by simpa using h0
      omega
    rw [goIdx_of_bounds d 0 (by omega)]
    simp only
    split
    · simp
    · split
      · rename_i h8
        have : n = 8 := by simpa using h8
        rw [goIdx_of_bounds d 1 (by omega), goIdx_of_bounds d 5 (by omega), goIdx_of_bounds d 6 (by omega),
          goIdx_of_bounds d 7 (by omega)]
        simp
      · split
        · rename_i h8 h12
          have : n = 12 := by simpa using h12
          rw [goIdx_of_bounds d 1 (by omega), goIdx_of_bounds d 5 (by omega), goIdx_of_bounds d 6 (by omega),
            goIdx_of_bounds d 7 (by omega), goSlice_ok d 8 12 (by omega)]
          simp
        · simp

theorem temporal_format_ne_panic (t : Temporal) (n : Nat) (d : Bytes) (h : d.length = n) : t.format n d ≠ .panic := by
  cases t
  · exact formatBinaryDate_ne_panic n d h
  · exact formatBinaryTime_ne_panic n d h
  · exact formatBinaryDateTime_ne_panic n d h

/-- What the no-panic induction needs of a decoded value. -/
def ValGood (pos : Int) : ValEnd → Prop
  | .ok _ p => pos ≤ p
  | .err _ => True
  | .panic => False

theorem bindFixed_good (pv : Bytes) (pos : Int) (w : Nat) (hp : 0 ≤ pos) : ValGood pos (bindFixed pv pos w) := by
  unfold bindFixed
  split
  · trivial
  · rename_i h
    rw [goSlice_ok pv pos (pos + w) (by omega)]
    simp only [ValGood]; omega

theorem bindFloat_good (pv : Bytes) (pos : Int) (w : Nat) (hp : 0 ≤ pos) : ValGood pos (bindFloat pv pos w) := by
  unfold bindFloat
  split
  · trivial
  · rename_i h
    rw [goSlice_ok pv pos (pos + w) (by omega)]
    simp only
    split
    · trivial
    · simp only [ValGood]; omega

theorem bindTemporal_good (v : Variant) (hd : v.dateGuard = true) (t : Temporal) (pv : Bytes) (pos : Int)
    (hp : 0 ≤ pos) : ValGood pos (bindTemporal v t pv pos) := by
  unfold bindTemporal
  split
  · trivial
  · rename_i h
    rw [goIdx_of_bounds pv pos (by omega)]
    simp only [hd, Bool.true_and]
    split
    · trivial
    · rename_i h2
      have h2' : ¬ ((pv.length : Int) < pos + 1 + ((pv.getD pos.toNat 0).toNat : Int)) := by simpa using h2
      obtain ⟨d, hs, hl⟩ := goSlice_some pv (pos + 1) (pos + 1 + ((pv.getD pos.toNat 0).toNat : Int)) (by omega)
      rw [hs]
      simp only
      have := temporal_format_ne_panic t (pv.getD pos.toNat 0).toNat d (by omega)
      split
      · simp only [ValGood]; omega
      · trivial
      · contradiction

theorem bindStr_good (pv : Bytes) (pos : Int) : ValGood pos (bindStr pv pos) := by
  unfold bindStr
  split
  · trivial
  · have hb := C12.readLenEncStringAsBytes_in_bounds pv pos
    split
    · rename_i h; rw [h] at hb; exact hb
    · trivial
    · rename_i h; rw [h] at hb
      exact hb.of_ok.2.1

theorem bindValue_good (v : Variant) (hd : v.dateGuard = true) (tc : TypeClass) (pv : Bytes) (pos : Int)
    (hp : 0 ≤ pos) : ValGood pos (bindValue v tc pv pos) := by
  unfold bindValue
  cases tc with
  | null => simp [ValGood]
  | fixed w => exact bindFixed_good pv pos w hp
  | float w => exact bindFloat_good pv pos w hp
  | temporal t => exact bindTemporal_good v hd t pv pos hp
  | str => exact bindStr_good pv pos
  | unknown => trivial

/-- What one iteration of the binding loop guarantees with the date guard. -/
def StepGood (pos : Int) : Except (List Arg × BindEnd) (List Arg × Int) → Prop
  | .ok (_, p) => pos ≤ p
  | .error (_, e) => e ≠ .panic

/-- … and for any variant. -/
def StepLen (n : Nat) : Except (List Arg × BindEnd) (List Arg × Int) → Prop
  | .ok (a, _) => a.length = n
  | .error (a, _) => a.length = n

theorem setArg_length {args a' : List Arg} {i : Nat} {a : Arg} (h : setArg args i a = some a') :
    a'.length = args.length := by
  unfold setArg at h
  split at h
  · cases h; simp
  · cases h

theorem setArg_some (args : List Arg) (i : Nat) (a : Arg) (h : i < args.length) :
    setArg args i a = some (args.set i a) := by
  unfold setArg; simp [h]

theorem storeArg_good (args : List Arg) (i : Nat) (a : Arg) (pos p : Int) (hi : i < args.length) (hp : pos ≤ p) :
    StepGood pos (storeArg args i a p) := by
  unfold storeArg
  rw [setArg_some args i a hi]
  exact hp

theorem storeArg_len (args : List Arg) (i : Nat) (a : Arg) (p : Int) : StepLen args.length (storeArg args i a p) := by
  unfold storeArg
  split
  · simp [StepLen]
  · rename_i h; simp [StepLen, setArg_length h]

theorem bindOne_len (v : Variant) (nb pt pv : Bytes) (args : List Arg) (i : Nat) (pos : Int) :
    StepLen args.length (bindOne v nb pt pv args i pos) := by
  fun_cases bindOne v nb pt pv args i pos <;> first | exact storeArg_len .. | rfl

theorem bindOne_good (v : Variant) (hd : v.dateGuard = true) (nb pt pv : Bytes) (args : List Arg) (i : Nat) (pos : Int)
    (hi : i < args.length) (hnb : i / 8 < nb.length) (hp : 0 ≤ pos) :
    StepGood pos (bindOne v nb pt pv args i pos) := by
  unfold bindOne
  have e1 : ((i : Int) / 8) = ((i / 8 : Nat) : Int) := by omega
  rw [e1, goIdx_of_bounds nb _ (by omega)]
  simp only
  split
  · exact storeArg_good args i .none pos pos hi (by omega)
  · split
    · nofun
    · rename_i hlen
      rw [goIdx_of_bounds pt (2 * (i : Int)) (by omega), goIdx_of_bounds pt (2 * (i : Int) + 1) (by omega)]
      simp only
      split
      · rename_i hnone
        have : args[i]? ≠ none := by simp [hi]
        contradiction
      · have hv := bindValue_good v hd (typeClass (pt.getD (2 * (i : Int)).toNat 0)) pv pos hp
        split
        · rename_i a p heq
          rw [heq] at hv
          exact storeArg_good args i a pos p hi hv
        · nofun
        · rename_i heq; rw [heq] at hv; exact hv.elim
      · exact Int.le_refl pos

theorem bindLoop_safe (v : Variant) (nb pt pv : Bytes) (k i : Nat) (args : List Arg) (pos : Int) :
    (bindLoop v nb pt pv k i args pos).1.length = args.length ∧
    (v.dateGuard = true → i + k ≤ args.length → i + k ≤ 8 * nb.length → 0 ≤ pos →
      (bindLoop v nb pt pv k i args pos).2 ≠ .panic) := by
  induction k generalizing i args pos with
  | zero => exact ⟨rfl, fun _ _ _ _ => nofun⟩
  | succ k ih =>
    simp only [bindLoop]
    have h1 := bindOne_len v nb pt pv args i pos
    have h2 := fun hd (hl : i + (k + 1) ≤ args.length) (hn : i + (k + 1) ≤ 8 * nb.length) =>
      bindOne_good v hd nb pt pv args i pos (by omega) (by omega)
    split
    · rename_i e heq
      rw [heq] at h1 h2
      exact ⟨h1, fun hd hl hn hp => h2 hd hl hn hp⟩
    · rename_i a p heq
      rw [heq] at h1 h2
      obtain ⟨ih1, ih2⟩ := ih (i + 1) a p
      have h1 : a.length = args.length := h1
      exact ⟨ih1.trans h1, fun hd hl hn hp =>
        ih2 hd (by omega) (by omega) (Int.le_trans hp (h2 hd hl hn hp))⟩

/-- the invariant of the statement table: `len(s.args) == s.paramCount` -/
def WFStmt (s : Stmt) : Prop := s.args.length = s.paramCount

theorem reset_wf (s : Stmt) : WFStmt s.reset := by simp [WFStmt, Stmt.reset]

theorem afterFailed_wf (v : Variant) (s : Stmt) (h : WFStmt s) : WFStmt (afterFailedExecute v s) := by
  unfold afterFailedExecute; split
  · exact reset_wf s
  · exact h

theorem executeBind_safe (v : Variant) (s : Stmt) (nb pv : Bytes) (h : WFStmt s) :
    WFStmt (executeBind v s nb pv).1 ∧
    (v.dateGuard = true → s.paramCount ≤ 8 * nb.length → (executeBind v s nb pv).2 ≠ .panic) := by
  unfold executeBind bindStmtArgs
  obtain ⟨hl, hg⟩ := bindLoop_safe v nb s.paramTypes pv s.paramCount 0 s.args 0
  have hg := fun hd (hnb : s.paramCount ≤ 8 * nb.length) =>
    hg hd (by simp only [WFStmt] at h; omega) (by omega) (Int.le_refl 0)
  split <;> rename_i heq <;> rw [heq] at hl hg
  · exact ⟨reset_wf _, fun _ _ => nofun⟩
  · exact ⟨afterFailed_wf v _ (hl.trans h), fun _ _ => nofun⟩
  · exact ⟨hl.trans h, fun hd hnb => (hg hd hnb rfl).elim⟩

theorem executeParams_safe (v : Variant) (s : Stmt) (data : Bytes) (h : WFStmt s) :
    WFStmt (executeParams v s data).1 ∧ (v.dateGuard = true → (executeParams v s data).2 ≠ .panic) := by
  unfold executeParams
  simp only
  split
  · exact ⟨afterFailed_wf v s h, fun _ => nofun⟩
  · obtain ⟨nb, hs, hl⟩ := goSlice_some data 9 (9 + (((s.paramCount + 7) / 8 : Nat) : Int)) (by omega)
    rw [hs, goIdx_of_bounds data (9 + (((s.paramCount + 7) / 8 : Nat) : Int)) (by omega)]
    simp only
    -- the null bitmap has a bit for every parameter, with the old types or with new ones
    have hnb : s.paramCount ≤ 8 * nb.length := by omega
    have hb := fun pt pv => (executeBind_safe v ⟨s.paramCount, s.args, pt⟩ nb pv h).imp_right fun f hd => f hd hnb
    split
    · split
      · exact ⟨afterFailed_wf v s h, fun _ => nofun⟩
      · rw [goSlice_ok data _ _ (by omega), goSlice_ok data _ _ (by omega)]
        exact hb _ _
    · rw [goSlice_ok data _ _ (by omega)]
      exact hb _ _

theorem executeStmt_safe (v : Variant) (s : Stmt) (data : Bytes) (h : WFStmt s) (hl : 9 ≤ data.length) :
    WFStmt (executeStmt v s data).1 ∧ (v.dateGuard = true → (executeStmt v s data).2 ≠ .panic) := by
  unfold executeStmt
  rw [goIdx_of_bounds data 4 (by omega)]
  simp only
  split
  · exact ⟨afterFailed_wf v s h, fun _ => nofun⟩
  · split
    · exact executeParams_safe v s data h
    · exact ⟨reset_wf s, fun _ => nofun⟩

/-- Invariant of a session: every prepared statement's argument vector has one slot per parameter. -/
def WF (st : Sess) : Prop := ∀ p ∈ st.stmts, WFStmt p.2

theorem wf_init : WF Sess.init := by intro p hp; cases hp

/-! the statement table -/

theorem mem_of_lookupStmt {m : List (Nat × Stmt)} {id : Nat} {s : Stmt} (h : lookupStmt m id = some s) : (id, s) ∈ m := by
  induction m with
  | nil => cases h
  | cons p rest ih =>
    obtain ⟨k, s'⟩ := p
    simp only [lookupStmt] at h
    split at h
    · cases h; subst k; exact List.mem_cons_self
    · exact List.mem_cons_of_mem _ (ih h)

theorem lookup_none_of_not_mem (m : List (Nat × Stmt)) (id : Nat) (h : (m.map Prod.fst).contains id = false) :
    lookupStmt m id = none := by
  induction m with
  | nil => rfl
  | cons p rest ih =>
    obtain ⟨k, s⟩ := p
    simp only [List.map_cons, List.contains_cons, Bool.or_eq_false_iff, beq_eq_false_iff_ne] at h
    simp only [lookupStmt]
    rw [if_neg (fun e => h.1 e.symm)]
    exact ih h.2

theorem mem_storeStmt {m : List (Nat × Stmt)} {id : Nat} {s : Stmt} {p : Nat × Stmt} (h : p ∈ storeStmt m id s) :
    p = (id, s) ∨ p ∈ m := by
  induction m with
  | nil => exact .inl (List.mem_singleton.mp h)
  | cons q rest ih =>
    obtain ⟨k, s'⟩ := q
    simp only [storeStmt] at h
    split at h
    · exact (List.mem_cons.mp h).imp_right (List.mem_cons_of_mem _)
    · rcases List.mem_cons.mp h with h | h
      · exact .inr (h ▸ List.mem_cons_self)
      · exact (ih h).imp_right (List.mem_cons_of_mem _)

theorem mem_deleteStmt {m : List (Nat × Stmt)} {id : Nat} {p : Nat × Stmt} (h : p ∈ deleteStmt m id) : p ∈ m := by
  induction m with
  | nil => cases h
  | cons q rest ih =>
    obtain ⟨k, s'⟩ := q
    simp only [deleteStmt] at h
    split at h
    · exact List.mem_cons_of_mem _ h
    · exact (List.mem_cons.mp h).elim (· ▸ List.mem_cons_self) fun h => List.mem_cons_of_mem _ (ih h)

theorem store_wf {m : List (Nat × Stmt)} (id : Nat) {s : Stmt} (hm : ∀ p ∈ m, WFStmt p.2) (hs : WFStmt s) :
    ∀ p ∈ storeStmt m id s, WFStmt p.2 :=
  fun p hp => (mem_storeStmt hp).elim (· ▸ hs) (hm p)

/-! ### the handlers -/

theorem handleStmtExecute_safe (v : Variant) (st : Sess) (data : Bytes) (h : WF st) :
    WF (handleStmtExecute v st data).1 ∧ (v.dateGuard = true → (handleStmtExecute v st data).2 ≠ .panic) := by
  unfold handleStmtExecute
  split
  · exact ⟨h, fun _ => nofun⟩
  · rw [goSlice_ok data 0 4 (by omega)]
    simp only
    split
    · exact ⟨h, fun _ => nofun⟩
    · rename_i s hs
      have := executeStmt_safe v s data (h _ (mem_of_lookupStmt hs)) (by omega)
      exact ⟨store_wf _ h this.1, this.2⟩

theorem handleStmtSendLongData_safe (st : Sess) (data : Bytes) (h : WF st) :
    WF (handleStmtSendLongData st data).1 ∧ (handleStmtSendLongData st data).2 ≠ .panic := by
  unfold handleStmtSendLongData
  split
  · exact ⟨h, nofun⟩
  · obtain ⟨idb, h1, _⟩ := goSlice_some data 0 4 (by omega)
    obtain ⟨pb, h2, _⟩ := goSlice_some data 4 6 (by omega)
    rw [h1, h2]
    simp only
    split
    · exact ⟨h, nofun⟩
    · rename_i s hs
      have hw : s.args.length = s.paramCount := h _ (mem_of_lookupStmt hs)
      split
      · exact ⟨h, nofun⟩
      · have : s.paramCount % 65536 ≤ s.paramCount := Nat.mod_le _ _
        rw [goSlice_ok data 6 data.length (by omega)]
        split
        · rename_i hnone
          have := List.getElem?_eq_none_iff.mp hnone
          omega
        · -- the long data is stored: one slot of the vector is overwritten
          exact ⟨store_wf _ h (by simpa only [WFStmt, List.length_set] using hw), nofun⟩
        · exact ⟨h, nofun⟩
        · exact ⟨h, nofun⟩

theorem handleStmtReset_safe (st : Sess) (data : Bytes) (h : WF st) :
    WF (handleStmtReset st data).1 ∧ (handleStmtReset st data).2 ≠ .panic := by
  unfold handleStmtReset
  split
  · exact ⟨h, nofun⟩
  · rw [goSlice_ok data 0 4 (by omega)]
    simp only
    split
    · exact ⟨h, nofun⟩
    · exact ⟨store_wf _ h (reset_wf _), nofun⟩

theorem handleStmtClose_safe (st : Sess) (data : Bytes) (h : WF st) :
    WF (handleStmtClose st data).1 ∧ (handleStmtClose st data).2 ≠ .panic := by
  unfold handleStmtClose
  split
  · exact ⟨h, nofun⟩
  · rw [goSlice_ok data 0 4 (by omega)]
    exact ⟨fun p hp => h p (mem_deleteStmt hp), nofun⟩

theorem handleStmtPrepare_safe (st : Sess) (sql : Bytes) (h : WF st) :
    WF (handleStmtPrepare st sql).1 ∧ (handleStmtPrepare st sql).2 ≠ .panic := by
  unfold handleStmtPrepare
  split
  · exact ⟨h, nofun⟩
  · exact ⟨store_wf _ h (by simp [WFStmt]), nofun⟩

theorem handleFieldList_ne_panic (data : Bytes) : handleFieldList data ≠ .panic := by
  unfold handleFieldList indexByteZero
  split
  · simp
  · rename_i index hi
    have := C12.indexZero_lt data index hi
    rw [goSlice_ok data 0 index (by omega), goSlice_ok data (index + 1) data.length (by omega)]
    simp

theorem handleUseDB_ne_panic (allowed : List Bytes) (db : Bytes) : handleUseDB allowed db ≠ .panic := by
  unfold handleUseDB
  split
  · simp
  · split <;> simp

/-! ### ExecuteCommand -/

theorem executeCommand_safe (v : Variant) (allowed : List Bytes) (st : Sess) (cmd : UInt8) (data : Bytes) (h : WF st) :
    WF (executeCommand v allowed st cmd data).1 ∧
    ((executeCommand v allowed st cmd data).2 = .panic → cmd = comStmtExecute ∧ v.dateGuard = false) := by
  fun_cases executeCommand v allowed st cmd data
  -- `case<n>` is the n-th arm of the chain: 4 COM_INIT_DB, 5 COM_FIELD_LIST, then the statement commands in its order
  case case4 => exact ⟨h, fun hp => absurd hp (handleUseDB_ne_panic allowed data)⟩
  case case5 => exact ⟨h, fun hp => absurd hp (handleFieldList_ne_panic data)⟩
  case case6 => exact (handleStmtPrepare_safe st data h).imp_right fun hn hp => absurd hp hn
  case case7 hc =>
    obtain ⟨hw, hn⟩ := handleStmtExecute_safe v st data h
    refine ⟨hw, fun hp => ⟨by simpa using hc, ?_⟩⟩
    cases hd : v.dateGuard
    · rfl
    · exact absurd hp (hn hd)
  case case8 => exact (handleStmtClose_safe st data h).imp_right fun hn hp => absurd hp hn
  case case9 => exact (handleStmtSendLongData_safe st data h).imp_right fun hn hp => absurd hp hn
  case case10 => exact (handleStmtReset_safe st data h).imp_right fun hn hp => absurd hp hn
  -- the arms that answer without looking at the packet
  all_goals exact ⟨h, nofun⟩

theorem executeCommand_wf (v : Variant) (allowed : List Bytes) (st : Sess) (cmd : UInt8) (data : Bytes) (h : WF st) :
    WF (executeCommand v allowed st cmd data).1 :=
  (executeCommand_safe v allowed st cmd data h).1

theorem executeCommand_panic_only_in_execute (v : Variant) (allowed : List Bytes) (st : Sess) (cmd : UInt8) (data : Bytes)
    (h : WF st) (hp : (executeCommand v allowed st cmd data).2 = .panic) : cmd = comStmtExecute :=
  ((executeCommand_safe v allowed st cmd data h).2 hp).1

theorem executeCommand_never_panics (v : Variant) (hd : v.dateGuard = true) (allowed : List Bytes) (st : Sess)
    (cmd : UInt8) (data : Bytes) (h : WF st) : (executeCommand v allowed st cmd data).2 ≠ .panic := fun hp =>
  Bool.noConfusion (hd.symm.trans ((executeCommand_safe v allowed st cmd data h).2 hp).2)

/-- What the commands of the history preserve (`Q`: what is known of each of them) holds after the run, and a run
    that panics does so in one of those commands, from a state in which it holds. -/
theorem run_inv (v : Variant) (allowed : List Bytes) {P : Sess → Prop} {Q : UInt8 → Bytes → Prop}
    (step : ∀ st cmd data, P st → Q cmd data → P (executeCommand v allowed st cmd data).1) (st : Sess) (pkts : List Bytes)
    (h : P st) (hq : ∀ cmd data, cmd :: data ∈ pkts → Q cmd data) :
    P (run v allowed st pkts).1 ∧ ((run v allowed st pkts).2.2 = .panicked →
      ∃ st' cmd data, P st' ∧ Q cmd data ∧ (executeCommand v allowed st' cmd data).2 = .panic) := by
  induction pkts generalizing st with
  | nil => exact ⟨h, nofun⟩
  | cons p rest ih =>
    have hq' := fun cmd data hm => hq cmd data (.tail p hm)
    cases p with
    | nil => exact ih st h hq'
    | cons cmd data =>
      simp only [run]
      have hc := hq cmd data (.head rest)
      have hw := step st cmd data h hc
      split
      · rename_i st' heq
        rw [heq] at hw
        exact ⟨hw, fun _ => ⟨st, cmd, data, h, hc, by rw [heq]⟩⟩
      · rename_i st' r hnp heq
        rw [heq] at hw
        split
        · exact ⟨hw, nofun⟩
        · exact ih st' hw hq'

theorem run_wf (v : Variant) (allowed : List Bytes) (st : Sess) (pkts : List Bytes) (h : WF st) :
    WF (run v allowed st pkts).1 :=
  (run_inv v allowed (Q := fun _ _ => True) (fun st cmd data h _ => executeCommand_wf v allowed st cmd data h) st pkts h
    fun _ _ _ => trivial).1

/-- **C38 (command phase, repaired decoders).** `WF st` holds after whatever
    history: `wf_init`, `run_wf`. -/
theorem run_never_panics (v : Variant) (hd : v.dateGuard = true) (allowed : List Bytes) (st : Sess) (pkts : List Bytes)
    (h : WF st) : (run v allowed st pkts).2.2 ≠ .panicked := fun hp =>
  let ⟨st', cmd, data, hw, _, he⟩ := (run_inv v allowed (Q := fun _ _ => True)
    (fun st cmd data h _ => executeCommand_wf v allowed st cmd data h) st pkts h fun _ _ _ => trivial).2 hp
  executeCommand_never_panics v hd allowed st' cmd data hw he

/-- **C38 (containment, command phase).** -/
theorem command_phase_contained (roots : Roots) (hr : roots.sessionRun = true ∨ roots.onConn = true) (v : Variant)
    (allowed : List Bytes) (st : Sess) (pkts : List Bytes) :
    (connCommandPhase roots v allowed st pkts).2.2 ≠ .crash := by
  unfold connCommandPhase
  split
  · simp
  · simp
  · have : (roots.sessionRun || roots.onConn) = true := by rcases hr with h | h <;> simp [h]
    simp [this]

/-- With the repaired decoders the recover is never needed in the command phase. -/
theorem command_phase_never_recovers (roots : Roots) (v : Variant) (hd : v.dateGuard = true) (allowed : List Bytes)
    (st : Sess) (pkts : List Bytes) (h : WF st) :
    (connCommandPhase roots v allowed st pkts).2.2 = .open ∨ (connCommandPhase roots v allowed st pkts).2.2 = .closed := by
  unfold connCommandPhase
  have := run_never_panics v hd allowed st pkts h
  split
  · simp
  · simp
  · rename_i heq; rw [heq] at this; exact (this rfl).elim

theorem handleHandshakeAuth_guarded (v : Variant) (hg : v.hashLenGuard = true) (known hashed : Bytes → Bool) (i : HsInfo) :
    handleHandshakeAuth v known hashed i ≠ .panic := by
  unfold handleHandshakeAuth
  split
  · nofun
  · split
    · split
      · nofun
      · split
        · exact checkHashPassword_guarded_never_panics v _ _ 40 (List.length_replicate ..) hg
        · nofun
    · nofun

/-- **C38 (containment, handshake).** -/
theorem handshake_phase_contained (roots : Roots) (hr : roots.onConn = true) (v : Variant) (known hashed : Bytes → Bool)
    (pp data : Bytes) (second : Option Bytes) :
    (connHandshakePhase roots v known hashed pp data second).2 ≠ .crash := by
  unfold connHandshakePhase
  rw [hr]
  split
  · nofun
  · nofun
  · split <;> nofun

theorem handshake_phase_never_panics (roots : Roots) (v : Variant) (hg : v.hashLenGuard = true)
    (known hashed : Bytes → Bool) (pp data : Bytes) (second : Option Bytes) :
    (connHandshakePhase roots v known hashed pp data second).1 ≠ .panic := by
  unfold connHandshakePhase
  have h1 := readHandshakeResponse_never_panics pp data second
  split
  · contradiction
  · simp
  · rename_i i hi
    have h2 := handleHandshakeAuth_guarded v hg known hashed i
    split
    · contradiction
    · simp

/-! ### isolation -/

theorem stepConn_no_panic_flag_of_ended (v : Variant) (allowed : List Bytes) (c : Conn) (p : Bytes) (h : c.ended = true) :
    stepConn v allowed c p = (c, none, false) := by
  unfold stepConn; simp [h]

/-- the packets of connection `j` in an interleaving -/
def packetsOf (j : Nat) (evs : List (Nat × Bytes)) : List Bytes :=
  evs.filterMap (fun e => if e.1 = j then some e.2 else none)

theorem world_step_crashed (roots : Roots) (hr : roots.sessionRun = true ∨ roots.onConn = true) (v : Variant)
    (allowed : List Bytes) (w : World) (i : Nat) (p : Bytes) (hc : w.crashed = false) :
    (World.step roots v allowed w i p).crashed = false := by
  unfold World.step
  have : (roots.sessionRun || roots.onConn) = true := by rcases hr with h | h <;> simp [h]
  simp [hc, this]

/-- **C38 (other sessions are not affected).** In any interleaving of the
    packets of any number of connections, if a goroutine root recovers, the
    process never terminates and every connection ends in the state, and has
    been sent exactly the answers, it would have got with its own packets alone. -/
theorem sessions_isolated (roots : Roots) (hr : roots.sessionRun = true ∨ roots.onConn = true) (v : Variant)
    (allowed : List Bytes) (w : World) (hc : w.crashed = false) (evs : List (Nat × Bytes)) (j : Nat) :
    (World.run roots v allowed w evs).crashed = false ∧
    ((World.run roots v allowed w evs).conns j, (World.run roots v allowed w evs).sent j)
      = aloneRun v allowed (w.conns j) (w.sent j) (packetsOf j evs) := by
  induction evs generalizing w with
  | nil => simp [World.run, packetsOf, aloneRun, hc]
  | cons e rest ih =>
    obtain ⟨i, p⟩ := e
    simp only [World.run]
    have hc' := world_step_crashed roots hr v allowed w i p hc
    have := ih (World.step roots v allowed w i p) hc'
    refine ⟨this.1, ?_⟩
    rw [this.2]
    by_cases hij : i = j
    · subst hij
      simp only [packetsOf, List.filterMap_cons, if_true, aloneRun]
      unfold World.step
      simp only [hc, Bool.false_eq_true, if_false]
      rcases hs : stepConn v allowed (w.conns i) p with ⟨c', out, pk⟩
      cases out with
      | none => simp
      | some r => simp
    · have h1 : packetsOf j ((i, p) :: rest) = packetsOf j rest := by
        simp [packetsOf, hij]
      rw [h1]
      unfold World.step
      simp only [hc, Bool.false_eq_true, if_false]
      have hji : ¬ j = i := fun h => hij h.symm
      simp [hji]

theorem stepConn_err {v : Variant} {allowed : List Bytes} {st : Sess} {c : UInt8} {d : Bytes} {t : ErrTag}
    (h : (executeCommand v allowed st c d).2 = .err t) : (stepConn v allowed ⟨st, false⟩ (c :: d)).2.1 = some (.err t) := by
  simp only [stepConn, Bool.false_eq_true, if_false]
  rcases he : executeCommand v allowed st c d with ⟨st', r⟩
  rw [he] at h
  cases h
  rfl

theorem executeCommand_unknown (v : Variant) (allowed : List Bytes) (st : Sess) (c : UInt8) (d : Bytes)
    (hk : knownCommand c = false) : executeCommand v allowed st c d = (st, .err .unknowncmd) := by
  -- none of the eleven tests of the dispatcher succeeds
  simp only [knownCommand, Bool.or_eq_false_iff] at hk
  simp only [executeCommand, hk, Bool.false_eq_true, if_false]

theorem handleStmtExecute_err (v : Variant) (st : Sess) (d : Bytes)
    (h : d.length < 9 ∨ lookupStmt st.stmts (leNat (d.take 4)) = none) : ∃ t, (handleStmtExecute v st d).2 = .err t := by
  unfold handleStmtExecute
  by_cases hl : d.length < 9
  · exact ⟨.malform, by rw [if_pos hl]⟩
  · rw [if_neg hl, show goSlice d 0 4 = _ from goSlice_take d 4 (by omega)]
    simp only
    rw [h.resolve_left hl]
    exact ⟨.nostmt, rfl⟩

theorem handleStmtReset_err (st : Sess) (d : Bytes)
    (h : d.length < 4 ∨ lookupStmt st.stmts (leNat (d.take 4)) = none) : ∃ t, (handleStmtReset st d).2 = .err t := by
  unfold handleStmtReset
  by_cases hl : d.length < 4
  · exact ⟨.malform, by rw [if_pos hl]⟩
  · rw [if_neg hl, show goSlice d 0 4 = _ from goSlice_take d 4 (by omega)]
    simp only
    rw [h.resolve_left hl]
    exact ⟨.nostmt, rfl⟩

theorem specMalformed_cons {live : List Nat} {c : UInt8} {d : Bytes} (h : specMalformed live (c :: d) = true) :
    knownCommand c = false ∨
    c = comStmtExecute ∧ (d.length < 9 ∨ live.contains (leNat (d.take 4)) = false) ∨
    c = comStmtReset ∧ (d.length < 4 ∨ live.contains (leNat (d.take 4)) = false) ∨
    c = comFieldList ∧ d.contains 0 = false := by
  simp only [specMalformed] at h
  split at h
  · exact .inl (by simpa using ‹(!knownCommand c) = true›)
  split at h
  · exact .inr (.inl ⟨by simpa using ‹(c == comStmtExecute) = true›, by simpa using h⟩)
  split at h
  · exact .inr (.inr (.inl ⟨by simpa using ‹(c == comStmtReset) = true›, by simpa using h⟩))
  split at h
  · exact .inr (.inr (.inr ⟨by simpa using ‹(c == comFieldList) = true›, by simpa using h⟩))
  · cases h

/-- **C38 (malformed input is answered with an error).** A packet that the wire
    protocol alone makes malformed gets an error answer from a live session,
    whatever the variant and the session's history. -/
theorem malformed_answered_with_error (v : Variant) (allowed : List Bytes) (st : Sess) (p : Bytes)
    (hm : specMalformed (st.stmts.map Prod.fst) p = true) :
    ∃ t, (stepConn v allowed ⟨st, false⟩ p).2.1 = some (.err t) := by
  cases p with
  | nil => exact ⟨.malform, rfl⟩
  | cons c d =>
    suffices h : ∃ t, (executeCommand v allowed st c d).2 = .err t from h.imp fun _ => stepConn_err
    rcases specMalformed_cons hm with hk | ⟨rfl, h⟩ | ⟨rfl, h⟩ | ⟨rfl, h⟩
    · exact ⟨_, by rw [executeCommand_unknown v allowed st c d hk]⟩
    · exact handleStmtExecute_err v st d (h.imp_right (lookup_none_of_not_mem _ _))
    · exact handleStmtReset_err st d (h.imp_right (lookup_none_of_not_mem _ _))
    · show ∃ t, handleFieldList d = .err t
      rw [handleFieldList, indexByteZero, C12.indexZero_none d h]
      exact ⟨_, rfl⟩

/-! ### the current tree -/

/-- **C38 (decoders_contained).** For the goroutine roots the current source
    has, no packet sequence, after any history and for any variant of the three
    decoders under repair, makes a connection's goroutine terminate the
    process; neither does any handshake response. -/
theorem decoders_contained (v : Variant) (allowed : List Bytes) (st : Sess) (pkts : List Bytes)
    (known hashed : Bytes → Bool) (pp data : Bytes) (second : Option Bytes) :
    (connCommandPhase treeRoots v allowed st pkts).2.2 ≠ .crash ∧
    (connHandshakePhase treeRoots v known hashed pp data second).2 ≠ .crash :=
  ⟨command_phase_contained treeRoots (Or.inr (by decide)) v allowed st pkts,
   handshake_phase_contained treeRoots (by decide) v known hashed pp data second⟩

/-- **C38 (sessions_isolated, current tree).** -/
theorem sessions_isolated_current_tree (v : Variant) (allowed : List Bytes) (w : World) (hc : w.crashed = false)
    (evs : List (Nat × Bytes)) (j : Nat) :
    (World.run treeRoots v allowed w evs).crashed = false ∧
    ((World.run treeRoots v allowed w evs).conns j, (World.run treeRoots v allowed w evs).sent j)
      = aloneRun v allowed (w.conns j) (w.sent j) (packetsOf j evs) :=
  sessions_isolated treeRoots (Or.inr (by decide)) v allowed w hc evs j

/-- The three decoders under repair as the current source has them. -/
def treeVariant : Variant := ⟨Gen.c38DateGuard, Gen.c38ResetEarly, Gen.c38HashLenGuard⟩

/-- **C38 (decoders_panic_free).** With the length check of bindStmtArgs
    (`Gen.c38DateGuard`) and the length guard of CheckHashPassword
    (`Gen.c38HashLenGuard`) in the tree — translator facts; the guards are other
    properties' `fix:` commits — no handshake response and no packet sequence
    panics at all: the recovers are never exercised by these decoders. -/
theorem decoders_panic_free (hd : Gen.c38DateGuard = true) (hg : Gen.c38HashLenGuard = true)
    (allowed : List Bytes) (st : Sess) (hwf : WF st) (pkts : List Bytes)
    (known hashed : Bytes → Bool) (pp data : Bytes) (second : Option Bytes) :
    (run treeVariant allowed st pkts).2.2 ≠ .panicked ∧
    (connHandshakePhase treeRoots treeVariant known hashed pp data second).1 ≠ .panic :=
  ⟨run_never_panics treeVariant hd allowed st pkts hwf,
   handshake_phase_never_panics treeRoots treeVariant hg known hashed pp data second⟩

/-! ### witnesses: the premises matter, and the defects other properties repair -/

/-- `COM_STMT_PREPARE "select ?"` -/
def wPrepare : Bytes := [22, 0x73, 0x65, 0x6c, 0x65, 0x63, 0x74, 0x20, 0x3f]
/-- `COM_STMT_EXECUTE` of statement 0 with one DATE parameter whose length byte says 2 and whose payload is missing -/
def wExecute : Bytes := [23, 0, 0, 0, 0, 0, 1, 0, 0, 0, 0, 1, 10, 0, 2]
def wPing : Bytes := [14]

/-- Without the length check a truncated DATE parameter panics in bindStmtArgs
    (the pinned tree; repaired under C16 by another `fix:` commit). -/
theorem truncated_date_witness :
    (run ⟨false, false, false⟩ [] Sess.init [wPrepare, wExecute, wPing]).2 = ([.prep 0 1], .panicked) := by decide

/-- … and with it the same packet is answered with an error and the session goes on. -/
theorem truncated_date_repaired :
    (run ⟨true, false, false⟩ [] Sess.init [wPrepare, wExecute, wPing]).2
      = ([.prep 0 1, .err .malform, .ok], .open) := by decide

/-- If neither goroutine root recovered, that packet would terminate the process … -/
theorem crash_without_recover_witness :
    (connCommandPhase ⟨false, false⟩ ⟨false, false, false⟩ [] Sess.init [wPrepare, wExecute, wPing]).2.2 = .crash := by
  decide

/-- … and with it every other connection. -/
theorem isolation_needs_recover_witness :
    (World.run ⟨false, false⟩ ⟨false, false, false⟩ [] ⟨fun _ => ⟨Sess.init, false⟩, fun _ => [], false⟩
      [(1, wPrepare), (2, wPing), (1, wExecute)]).crashed = true := by decide

/-! ### non-vacuity -/

/-- the invariant holds initially and after real traffic -/
example : WF Sess.init := wf_init
example : WF (run ⟨true, true, true⟩ [] Sess.init [wPrepare, wExecute, wPing]).1 := run_wf _ _ _ _ wf_init
/-- `run_never_panics` applies to a non-trivial run (a statement is prepared and an execute is rejected) -/
example : (run ⟨true, true, true⟩ [] Sess.init [wPrepare, wExecute, wPing]).2.2 ≠ .panicked :=
  run_never_panics ⟨true, true, true⟩ rfl [] Sess.init _ wf_init
/-- the hypothesis of `command_phase_contained` / `sessions_isolated` holds of the current tree -/
example : treeRoots.sessionRun = true ∨ treeRoots.onConn = true := Or.inr (by decide)
/-- a spec-malformed packet in a session that holds a statement: an execute naming another id -/
example : specMalformed ((run ⟨true, true, true⟩ [] Sess.init [wPrepare]).1.stmts.map Prod.fst)
    [23, 7, 0, 0, 0, 0, 1, 0, 0, 0] = true := by decide
/-- a handshake response that is decoded (protocol 4.1, secure connection, user `u`, 1-byte auth) -/
example : readHandshakeResponse [] ([0, 0x82, 0, 0, 0, 0, 0, 0, 33] ++ List.replicate 23 0 ++ [0x75, 0, 1, 9]) none
    = .info ⟨33280, 33, [0x75], [9], [], []⟩ := by decide
/-- `checkHashPassword_panics_iff`: both sides are inhabited -/
example : checkHashPassword ⟨false, false, false⟩ (List.replicate 20 0) (List.replicate 20 0) 40 = .ok () := by decide

end GaeaVerif.C38

/-!
  ## The packet buffers all connections share (Model/BufOwn.lean)

  `Sys.run cfg w evs` is any interleaving: `evs` names, step by step, which
  session moves and how (an atomic action of its goroutine, the start of a
  goroutine, the arrival of a header / of body bytes / of the end of its
  client's stream).
-/
namespace GaeaVerif.C38.Own
open GaeaVerif GaeaVerif.BufOwn

/-- the three decisions as the current source takes them (translator, harness/extract/c38own.go) -/
def treeVariant : Variant := ⟨Gen.c38CopySwitchResponse, Gen.c38CopyNullAuth, Gen.c38RecycleClears⟩

/-- the constants of the bucket arithmetic are those of the source -/
theorem pool_constants_match : minSize = Gen.c38MinPacketSize ∧ maxSize = Gen.maxPacketSize := by decide

/-- `ExecuteCommand` hands the packet's bytes to the handlers as a copy (`string`, `copy`), as their
    length, or to one of the three handlers that only read them while the command runs -/
theorem execute_command_copies_the_packet :
    ∀ u ∈ Gen.c38ExecuteCommandData, u.2 = "string" ∨ u.2 = "copy" ∨ u.2 = "len" ∨ u.2 = "se.handleFieldList" ∨
      u.2 = "se.handleStmtClose" ∨ u.2 = "se.handleStmtReset" := by decide

/-- **C38/C11 (every buffer has one holder).**  For every number of sessions,
    every program they run on top of the ephemeral-buffer functions of
    mysql.Conn and every interleaving, provided RecycleReadPacket clears the
    pointer to the buffer it has put back: at every moment no bucket holds a
    buffer twice, no two buckets hold the same buffer, a buffer a connection
    holds is not in the pool and is large enough for the packet it was taken
    for, and no two connections hold the same buffer. -/
theorem buffers_held_once (cfg : Cfg) (hv : cfg.v.recycleClears = true) (n : Nat) (evs : List (Nat × Ev)) :
    Own (Sys.run cfg (Sys.init n) evs).1 :=
  run_own cfg hv (Sys.init n) (own_init n) evs

/-- … spelled out for two connections and for a connection and the pool. -/
theorem buffers_held_once' (cfg : Cfg) (hv : cfg.v.recycleClears = true) (n : Nat) (evs : List (Nat × Ev))
    (i j : Nat) (s t : Sess) (x : Nat)
    (hi : (Sys.run cfg (Sys.init n) evs).1.sess[i]? = some s) (hj : (Sys.run cfg (Sys.init n) evs).1.sess[j]? = some t)
    (hx : s.conn.cur = some x) :
    (i ≠ j → t.conn.cur ≠ some x) ∧ ¬ InPool (Sys.run cfg (Sys.init n) evs).1.mem x :=
  have h := buffers_held_once cfg hv n evs
  ⟨fun hij => h.distinct i j s t x hij hi hj hx, ((h.held i s hi).cur x hx).1⟩

/-- **C38 (a recycled buffer is never read again).**  With the copies the
    repaired source makes (auth switch response, NUL-terminated auth response)
    and the pointer cleared by RecycleReadPacket, for every number of sessions
    running the goroutines of the proxy (initial handshake, readHandshakeResponse,
    the password check, Session.Handshake, Session.Run) in any interleaving and
    with any client bytes: whenever a session's next step reads a pooled buffer
    — the packet it has just read, or the auth response it has kept — that
    buffer is the one its connection holds; it is not in the pool and no other
    connection holds it, so nobody else can have written to it since the
    session's own client filled it. -/
theorem recycled_buffer_never_read (cfg : Cfg) (hv : cfg.v = Variant.fixed) (n : Nat) (evs : List (Nat × Ev))
    (he : ∀ e ∈ evs, RealEv cfg e.2) (i : Nat) (s : Sess)
    (hi : (Sys.run cfg (Sys.init n) evs).1.sess[i]? = some s) (id : Nat) (hid : id ∈ stepReads s) :
    s.conn.cur = some id ∧ ¬ InPool (Sys.run cfg (Sys.init n) evs).1.mem id ∧
    ∀ (j : Nat) (t : Sess), j ≠ i → (Sys.run cfg (Sys.init n) evs).1.sess[j]? = some t → t.conn.cur ≠ some id := by
  obtain ⟨h1, h2, h3⟩ := fixed_flags hv
  have hg := run_good cfg h1 h2 (Sys.init n) (goodSys_init n) evs he i s hi
  have ho := buffers_held_once cfg h3 n evs
  have hc := good_reads_held hg id hid
  exact ⟨hc, ((ho.held i s hi).cur id hc).1, fun j t hji hj => ho.distinct i j s t id (fun e => hji e.symm) hi hj hc⟩

/-- … and what the session keeps of a handshake response is never a slice of a pooled buffer. -/
theorem kept_auth_response_is_a_copy (cfg : Cfg) (hv : cfg.v = Variant.fixed) (n : Nat) (evs : List (Nat × Ev))
    (he : ∀ e ∈ evs, RealEv cfg e.2) (i : Nat) (s : Sess)
    (hi : (Sys.run cfg (Sys.init n) evs).1.sess[i]? = some s) : s.hs.buf = none := by
  obtain ⟨h1, h2, _⟩ := fixed_flags hv
  exact (run_good cfg h1 h2 (Sys.init n) (goodSys_init n) evs he i s hi).noAlias

/-- **C38 (a session's input never affects another session through the shared
    packet buffers).**  With the repaired source, for every number of sessions
    running the goroutines of the proxy in any interleaving of their atomic
    steps and with any client bytes arriving in any fragmentation: what session
    `j` lets the outside see — the decoded handshake response, the auth response
    as the password check finds it, the answer to every command, the
    statements it sends to the backend, the end of its goroutine — is, item by
    item, what it shows in a process of its own that is given only `j`'s events
    (`projEvs j evs`).  The sessions share the heap of packet buffers and the
    buckets of mysql.bufPool, with sync.Pool's reuse order; the proof is a
    simulation that survives because of `buffers_held_once` (nobody else writes
    to a buffer a connection holds) and `recycled_buffer_never_read` (a session
    looks at a buffer only while its connection holds it, after its own client
    has filled the part it looks at). -/
theorem sessions_isolated_on_shared_buffers (cfg : Cfg) (hv : cfg.v = Variant.fixed) (n j : Nat) (hj : j < n)
    (evs : List (Nat × Ev)) (he : ∀ e ∈ evs, RealEv cfg e.2) :
    obsFor j (Sys.run cfg (Sys.init n) evs).2 = obsFor 0 (Sys.run cfg (Sys.init 1) (projEvs j evs)).2 :=
  sim_run cfg hv j evs _ _ (sim_init n j hj) he

/-- **bufPool.Get and bufPool.Put never panic** in any state an interleaving
    reaches: the bucket `findPool` selects exists, a pooled buffer is as large
    as its bucket and the bucket is large enough for the requested size
    (`findPool_fits`), and a buffer that is put back is one the heap knows. -/
theorem pool_get_put_never_panic (cfg : Cfg) (hv : cfg.v.recycleClears = true) (n : Nat) (evs : List (Nat × Ev)) :
    (∀ size, ∃ r, poolGet (Sys.run cfg (Sys.init n) evs).1.mem size = some r) ∧
    (∀ (i : Nat) (s : Sess) (x : Nat), (Sys.run cfg (Sys.init n) evs).1.sess[i]? = some s → s.conn.cur = some x →
      ∃ m', poolPut (Sys.run cfg (Sys.init n) evs).1.mem x = some m') := by
  have h := buffers_held_once cfg hv n evs
  exact ⟨fun size => poolGet_some h.pool size, fun i s x hi hx => (h.held i s hi).put h.pool hx⟩

/-! ### the current tree -/

theorem current_tree_is_repaired : treeVariant = Variant.fixed := by decide

/-- `buffers_held_once` for the source as it is. -/
theorem current_tree_buffers_held_once (cfg : Cfg) (hc : cfg.v = treeVariant) (n : Nat) (evs : List (Nat × Ev)) :
    Own (Sys.run cfg (Sys.init n) evs).1 :=
  buffers_held_once cfg (by rw [hc]; decide) n evs

/-- `recycled_buffer_never_read` for the source as it is. -/
theorem current_tree_recycled_buffer_never_read (cfg : Cfg) (hc : cfg.v = treeVariant) (n : Nat) (evs : List (Nat × Ev))
    (he : ∀ e ∈ evs, RealEv cfg e.2) (i : Nat) (s : Sess)
    (hi : (Sys.run cfg (Sys.init n) evs).1.sess[i]? = some s) (id : Nat) (hid : id ∈ stepReads s) :
    s.conn.cur = some id ∧ ¬ InPool (Sys.run cfg (Sys.init n) evs).1.mem id ∧
    ∀ (j : Nat) (t : Sess), j ≠ i → (Sys.run cfg (Sys.init n) evs).1.sess[j]? = some t → t.conn.cur ≠ some id :=
  recycled_buffer_never_read cfg (by rw [hc]; exact current_tree_is_repaired) n evs he i s hi id hid

/-- `sessions_isolated_on_shared_buffers` for the source as it is. -/
theorem current_tree_sessions_isolated_on_shared_buffers (cfg : Cfg) (hc : cfg.v = treeVariant) (n j : Nat) (hj : j < n)
    (evs : List (Nat × Ev)) (he : ∀ e ∈ evs, RealEv cfg e.2) :
    obsFor j (Sys.run cfg (Sys.init n) evs).2 = obsFor 0 (Sys.run cfg (Sys.init 1) (projEvs j evs)).2 :=
  sessions_isolated_on_shared_buffers cfg (by rw [hc]; exact current_tree_is_repaired) n j hj evs he

/-! ### witnesses: each of the three decisions matters -/

/-- a configuration for the witnesses: server plugin "", every user known, none hashed -/
def wCfg (v : Variant) : Cfg :=
  { v := v, cv := ⟨true, true, true⟩, plugin := [], allowed := [], known := fun _ => true, hashed := fun _ => false, versionLen := 11 }

/-- handshake response: protocol 4.1 + secure connection + plugin auth, user `u`, empty auth response, plugin `x`
    (not the server's: the server asks the client to switch) -/
def wSwitchHs : Bytes := [0x00, 0x82, 0x08, 0x00, 0, 0, 0, 1, 33] ++ List.replicate 23 0 ++ [0x75, 0, 0, 0x78, 0]
/-- handshake response without CLIENT_SECURE_CONNECTION: the auth response `aa ab` is NUL-terminated -/
def wNullHs : Bytes := [0x00, 0x02, 0x00, 0x00, 0, 0, 0, 1, 33] ++ List.replicate 23 0 ++ [0x75, 0, 2, 0xaa, 0xab, 0]
/-- COM_STMT_CLOSE of statement 7: a command that is not answered -/
def wClose : Bytes := [25, 7, 0, 0, 0]

/-- the observations of a script (the schedules of the harness) -/
def obsOf (cfg : Cfg) (n : Nat) (ops : List (Nat × Op)) : List (List Obs) :=
  (runScript cfg (Sys.init n) (List.replicate n none) ops).map (·.1)

/-- The defect repaired by 184812e: when the auth switch response is kept as a
    slice of the packet buffer, the password check of session 0 sees the bytes
    another session's client sent in between (`ee ef`), not its own (`aa ab`). -/
theorem auth_switch_alias_witness :
    obsOf (wCfg ⟨false, true, true⟩) 2
      [(0, .resp), (0, .pkt wSwitchHs), (0, .pkt [0xaa, 0xab]), (1, .run), (1, .pkt [0xee, 0xef]), (0, .check)]
    = [[.blocked], [.blocked], [.doneResp (.info ⟨557568, 33, [0x75], [0xaa, 0xab], [], []⟩)], [.blocked],
       [.resp (.err .unknowncmd), .blocked], [.doneCheck (some [0xee, 0xef])]] := by decide +kernel

/-- … and with the copy it sees its own. -/
theorem auth_switch_repaired :
    obsOf (wCfg Variant.fixed) 2
      [(0, .resp), (0, .pkt wSwitchHs), (0, .pkt [0xaa, 0xab]), (1, .run), (1, .pkt [0xee, 0xef]), (0, .check)]
    = [[.blocked], [.blocked], [.doneResp (.info ⟨557568, 33, [0x75], [0xaa, 0xab], [], []⟩)], [.blocked],
       [.resp (.err .unknowncmd), .blocked], [.doneCheck (some [0xaa, 0xab])]] := by decide +kernel

/-- The defect repaired by 89c3059: a NUL-terminated auth response kept as a
    slice of the packet buffer is overwritten by another session's packet. -/
theorem null_auth_alias_witness :
    obsOf (wCfg ⟨true, false, true⟩) 2
      [(0, .resp), (0, .pkt wNullHs), (1, .run), (1, .pkt (List.replicate 40 0xee)), (0, .check)]
    = [[.blocked], [.doneResp (.info ⟨512, 33, [0x75], [0xaa, 0xab], [], []⟩)], [.blocked],
       [.resp (.err .unknowncmd), .blocked], [.doneCheck (some [0xee, 0xee])]] := by decide +kernel

theorem null_auth_repaired :
    obsOf (wCfg Variant.fixed) 2
      [(0, .resp), (0, .pkt wNullHs), (1, .run), (1, .pkt (List.replicate 40 0xee)), (0, .check)]
    = [[.blocked], [.doneResp (.info ⟨512, 33, [0x75], [0xaa, 0xab], [], []⟩)], [.blocked],
       [.resp (.err .unknowncmd), .blocked], [.doneCheck (some [0xaa, 0xab])]] := by decide +kernel

/-- the state a script leaves -/
def stateOf (cfg : Cfg) (n : Nat) (ops : List (Nat × Op)) : Option Sys :=
  ((runScript cfg (Sys.init n) (List.replicate n none) ops).getLast?).map (·.2)

/-- If RecycleReadPacket kept the pointer to the buffer it has put back, a
    command without answer followed by a zero-length packet would put the
    buffer into the pool a second time … -/
theorem double_put_witness :
    (stateOf (wCfg ⟨true, true, false⟩) 1 [(0, .run), (0, .pkt wClose), (0, .pkt [])]).map (fun w => free w.mem)
      = some [0, 0] := by decide +kernel

/-- … and two other sessions would then read their packets into the same
    buffer: session 1 has sent `16 73 65` of a COM_STMT_PREPARE "se1" when
    session 2's COM_QUERY arrives; what session 1 executes is session 2's
    command byte with its own last byte. -/
theorem double_put_crosses_sessions_witness :
    (obsOf (wCfg ⟨true, true, false⟩) 3
      [(0, .run), (0, .pkt wClose), (0, .pkt []), (1, .run), (2, .run),
       (1, .part [22, 0x73, 0x65, 0x31] 3), (2, .pkt [3, 0x73, 0x65, 0x32]), (1, .rest)]).getLast?
    = some [.resp .q, .blocked] := by decide +kernel

/-- … whereas the source as it is answers session 1's prepare. -/
theorem double_put_repaired :
    (obsOf (wCfg Variant.fixed) 3
      [(0, .run), (0, .pkt wClose), (0, .pkt []), (1, .run), (2, .run),
       (1, .part [22, 0x73, 0x65, 0x31] 3), (2, .pkt [3, 0x73, 0x65, 0x32]), (1, .rest)]).getLast?
    = some [.resp (.prep 0 0), .blocked] ∧
    (stateOf (wCfg Variant.fixed) 1 [(0, .run), (0, .pkt wClose), (0, .pkt [])]).map (fun w => free w.mem) = some [0] := by
  decide +kernel

/-! ### non-vacuity -/

/-- the invariant holds initially and in a state with a buffer held and a buffer pooled -/
example : Own (Sys.init 3) := own_init 3
example : (stateOf (wCfg Variant.fixed) 2 [(0, .run), (1, .run), (1, .part [3, 0x73] 1), (0, .pkt [14])]).map
    (fun w => (owned w.sess, free w.mem)) = some ([0], [1]) := by decide +kernel
/-- `recycled_buffer_never_read` speaks about states in which a step does read a buffer: Session.Run
    about to look at a packet it has read into buffer 0 -/
example : (Sys.run (wCfg Variant.fixed) (Sys.init 1)
    [(0, .start progRun), (0, .tick), (0, .tick), (0, .hdr 1), (0, .body [14])]).1.sess.map stepReads = [[0]] := by decide +kernel
/-- its hypotheses are satisfiable: every event of that run is a `RealEv` -/
example : ∀ e ∈ [((0 : Nat), Ev.start progRun), (0, .tick), (0, .tick), (0, .hdr 1), (0, .body [14])],
    RealEv (wCfg Variant.fixed) e.2 := by
  intro e he
  simp only [List.mem_cons, List.mem_nil_iff, or_false] at he
  rcases he with rfl | rfl | rfl | rfl | rfl <;> simp [RealEv, RealProg]
/-- `sessions_isolated_on_shared_buffers` on a run in which session 1 observes something while session 0 is in
    the middle of a packet: both sides are the non-empty list `[resp ok]` -/
example : obsFor 1 (Sys.run (wCfg Variant.fixed) (Sys.init 2)
    [(0, .start progRun), (1, .start progRun), (0, .tick), (0, .tick), (1, .tick), (1, .tick), (0, .hdr 2), (0, .body [3]),
     (1, .hdr 1), (1, .body [14]), (1, .tick)]).2 = [.resp .ok] := by decide +kernel
/-- the current tree satisfies the premises -/
example : treeVariant.recycleClears = true := by decide

end GaeaVerif.C38.Own
